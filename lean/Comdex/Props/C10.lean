import Comdex.Lemmas.DutchV1Lend
import Comdex.Lemmas.DutchV1LendBook
import Comdex.Lemmas.DutchV2W
import Comdex.Lemmas.DutchBand
/-!
# C10 — Dutch auctions settle completely and sell at the posted, falling price

Models: `Model/DutchPrice.lean` (price functions), `Model/DutchV2.lean` (second-generation bid path: vault / lend / external),
`Model/DutchV1.lean` (`dutch.go`), `Model/DutchV1Lend.lean` (`dutch_lend.go`), `Model/DutchV1LendBook.lean` (with the lend records).

Property clause → theorem, price functions and second-generation bid path:

* "start price (oracle price times premium)" → `start_price_is_oracle_times_premium`; posted at elapsed time 0: `price_at_zero`
* "between restarts the posted price is non-increasing in time" → `price_nonincreasing` (any `tau > 0`), `price_nonincreasing_v2`,
  `price_nonincreasing_v1`
* "stays between the start price …" → `price_le_start`, `price_le_start_v2/_v1`
* "… and the configured end price" → FALSE of the code at the last second of the window (`price_ge_end_counterexample`, DESIGN §7 D8);
  proved with explicit slack `(top−end)/tau + 1 ulp`: `price_ge_end_minus_slack_v2/_v1`; `window_within_time_to_zero` (`T ≤ tau`: the
  window never outlasts the time-to-zero)
* "bidders pay in total no more than the target debt" → `bidders_pay_le_target_partial`
* "… and receive in total no more than the seized collateral" → `bidders_receive_le_collateral_partial`
  both over ALL sequences of market bids by any bidders, price updates, restarts, reserve top-ups, limit deposits and limit-bid fills
  with at most one limit bid per premium; FALSE with two limit bids at one premium: `bidders_pay_le_target_counterexample`,
  `bidders_receive_le_collateral_counterexample` (DESIGN §7 D7)
  (with equality while the auction is open: `open_books_exact`; what "pay"/"receive" mean in bank terms: `bid_moves_exactly`)
* "each bid exchanges at the posted price, up to one smallest unit" → `bid_at_posted_price` (collateral not exhausted),
  `bid_at_posted_price_exhausted` (collateral exhausted: against the amount charged + 2 debt units),
  `bid_at_posted_price_exhausted_requested` (against the amount the bidder asked to pay, no slack)
* "when the auction ends the proceeds are fully distributed …" → `close_proceeds_distributed` (burn + collector + keeper + initiator +
  pool + booked fees = target, unsold collateral to the owner); one theorem per distribution branch of the close path, each with "no
  unaccounted remainder stays in custody": `vault_close_distributes` (bid.go:89-101,161-190), `external_close_distributes`
  (bid.go:122-158), `lend_close_distributes` (bid.go:191-202 → liquidate.go:721-813, + `lend_close_split`)
* the band in EVERY reachable state, emergency shutdown included → `price_in_band_every_reachable_state` (+ what the shutdown iterator
  does per initiator kind: `esm_leaves_nonvault_auction_untouched_past_end`, `trigger_esm_moves`, `esm_trigger_repeats_counterexample`)
* "… and no unaccounted remainder stays in auction custody" → `debt_custody_every_history` (every history, D7 / D23 / D24 included: the
  remainder is exactly `paid + need − target`), `close_custody_accounted` (identity with the explicit shortfall term),
  `close_distributes_all_partial` (exact when no reserve shortfall happened), `close_distributes_all_counterexample` (reserve shortfall
  is silently taken from other users' funds in the module account)

First-generation bid path for seized vaults — ledger, custody, distribution, shutdown wind-down, posted price; these hold without
exception: `v1_bidders_pay_le_target_and_receive_le_collateral`, `v1_custody_exact`, `v1_bid_moves_and_close_distributes`,
`v1_esm_winddown_empties_custody`, `v1_bid_at_posted_price`.

First-generation lend auctions: `l1_bidders_pay_le_target_and_receive_le_seized`, `l1_bid_moves_and_close_distributes`,
`l1_close_custody_partial` ("no unaccounted remainder" is FALSE: the unpaid part of the bonus pot stays in the module account,
`l1_close_custody_counterexample`, D32), `l1_close_distributes_all` (the closing bid with pool, reserve and the lend records).
-/
namespace Comdex.C10
open Comdex.Dec Comdex.DutchPrice Comdex.DutchV2

-- `Dec.fits` compares with 2^315; let `decide` evaluate it in the concrete witnesses below
set_option exponentiation.threshold 512

/-- the start price is exactly `premium × oracle price` (no rounding: the oracle price is an integer) -/
theorem start_price_is_oracle_times_premium (twa : Int) (premium p : Int) (h : startPrice twa premium = .ok p) :
    p = premium * twa := startPrice_ok h

example : startPrice 1400000 1200000000000000000 = .ok 1680000000000000000000000 := by decide

/-- **non-increasing**: for every start price ≥ 0, every positive time-to-zero and all elapsed times `d1 ≤ d2`
(no bound on either), a later posted price is never above an earlier one. -/
theorem price_nonincreasing (top : Int) (tau d1 d2 : Int) (p1 p2 : Int)
    (htop : (0 : Int) ≤ top) (ht : 0 < tau) (hd : d1 ≤ d2)
    (h1 : linear top tau d1 = .ok p1) (h2 : linear top tau d2 = .ok p2) : (p2 : Int) ≤ p1 := by
  rw [(linear_ok h1).1, (linear_ok h2).1]
  exact linearVal_antitone top tau d1 d2 htop ht hd

example : linear 1200000000000000000 33 3 = .ok 1090909090909090909 ∧ linear 1200000000000000000 33 4 = .ok 1054545454545454545 := by
  decide

def ValidWindow (top endP : Int) : Prop := (0 : Int) ≤ endP ∧ (endP : Int) < top

theorem ValidWindow.gap {top endP : Int} (hv : ValidWindow top endP) : 0 < top - endP := Int.sub_pos.mpr hv.2

theorem ValidWindow.top_nonneg {top endP : Int} (hv : ValidWindow top endP) : 0 ≤ top :=
  Int.le_trans hv.1 (Int.le_of_lt hv.2)

theorem tau_pos_of_valid (top endP : Int) (T : Int) (hv : ValidWindow top endP) (hT : 0 ≤ T)
    (hne : tauVal top endP T ≠ 0) : 0 < tauVal top endP T :=
  lt_of_le_of_ne (Int.le_trans hT (tauVal_ge_T top endP T hv.1 hv.gap hT)) (Ne.symm hne)

/-- the window never outlasts the time-to-zero (`T ≤ tau`) -/
theorem window_within_time_to_zero (top endP : Int) (T t : Int) (hv : ValidWindow top endP) (hT : 0 ≤ T)
    (h : tau top endP T = .ok t) : T ≤ t := by
  rw [(tau_ok h).1]
  exact tauVal_ge_T top endP T hv.1 hv.gap hT

/-- first generation (`dutch.go:495-503`): stored end price -/
theorem price_nonincreasing_v1 (top endP : Int) (T d1 d2 : Int) (p1 p2 : Int)
    (hv : ValidWindow top endP) (hT : 0 ≤ T) (hd : d1 ≤ d2)
    (h1 : priceV1 top endP T d1 = .ok p1) (h2 : priceV1 top endP T d2 = .ok p2) : (p2 : Int) ≤ p1 := by
  obtain ⟨e1, hne, -⟩ := priceV1_ok h1
  rw [e1, (priceV1_ok h2).1]
  exact linearVal_antitone top _ d1 d2 hv.top_nonneg (tau_pos_of_valid top endP T hv hT hne) hd

/-- second generation (`auctions.go:287-335`): end price recomputed from the app's `Discount` -/
theorem price_nonincreasing_v2 (top disc : Int) (T d1 d2 : Int) (p1 p2 : Int)
    (hv : ValidWindow top (Dec.mul top disc)) (hT : 0 ≤ T) (hd : d1 ≤ d2)
    (h1 : priceV2 top disc T d1 = .ok p1) (h2 : priceV2 top disc T d2 = .ok p2) : (p2 : Int) ≤ p1 :=
  price_nonincreasing_v1 top _ T d1 d2 p1 p2 hv hT hd (priceV2_priceV1 h1) (priceV2_priceV1 h2)

/-- **never above the start price** -/
theorem price_le_start (top : Int) (tau dur : Int) (p : Int) (htop : (0 : Int) ≤ top) (ht : 0 < tau) (hd : 0 ≤ dur)
    (h : linear top tau dur = .ok p) : (p : Int) ≤ top := by
  rw [(linear_ok h).1]; exact linearVal_le_top top tau dur htop ht hd

theorem price_le_start_v1 (top endP : Int) (T dur : Int) (p : Int) (hv : ValidWindow top endP) (hT : 0 ≤ T)
    (hd : 0 ≤ dur) (h : priceV1 top endP T dur = .ok p) : (p : Int) ≤ top := by
  obtain ⟨e1, hne, -⟩ := priceV1_ok h
  rw [e1]
  exact linearVal_le_top top _ dur hv.top_nonneg (tau_pos_of_valid top endP T hv hT hne) hd

theorem price_le_start_v2 (top disc : Int) (T dur : Int) (p : Int) (hv : ValidWindow top (Dec.mul top disc)) (hT : 0 ≤ T)
    (hd : 0 ≤ dur) (h : priceV2 top disc T dur = .ok p) : (p : Int) ≤ top :=
  price_le_start_v1 top _ T dur p hv hT hd (priceV2_priceV1 h)

theorem price_at_zero (top : Int) (tau : Int) (p : Int) (h : linear top tau 0 = .ok p) : p = top := by
  obtain ⟨e, hne⟩ := linear_ok h
  rw [e]; exact linearVal_zero top tau hne

/-- **lower bound with explicit slack** (first generation): inside the window
`price ≥ end − (start − end)/tau − 10⁻¹⁸`, stated cross-multiplied by `tau`. -/
theorem price_ge_end_minus_slack_v1 (top endP : Int) (T dur t : Int) (p : Int) (hv : ValidWindow top endP)
    (hT : 0 < T) (hd : dur ≤ T) (ht : tau top endP T = .ok t) (h : priceV1 top endP T dur = .ok p) :
    (endP : Int) * t - (top - endP) ≤ (p + 1) * t := by
  rw [(priceV1_ok h).1, (tau_ok ht).1]
  exact linearVal_ge_end_slack top endP T dur hv.1 hv.gap hT hd

theorem price_ge_end_minus_slack_v2 (top disc : Int) (T dur t : Int) (p : Int) (hv : ValidWindow top (Dec.mul top disc))
    (hT : 0 < T) (hd : dur ≤ T) (ht : tau top (Dec.mul top disc) T = .ok t) (h : priceV2 top disc T dur = .ok p) :
    (Dec.mul top disc : Int) * t - (top - Dec.mul top disc) ≤ (p + 1) * t :=
  price_ge_end_minus_slack_v1 top _ T dur t p hv hT hd ht (priceV2_priceV1 h)

/-- **the exact lower bound is false of the code** (DESIGN §7 D8): start 1.2, discount 0.7, window 10 s.
`tau = ⌊12/0.36⌋ = 33`, so at the last second of the window the posted price is 1.2·23/33 = 0.8363… < 0.84.
Replayed on both real keepers by the harness (`TestC10`, price functions). -/
theorem price_ge_end_counterexample :
    endPrice 1200000000000000000 700000000000000000 = .ok 840000000000000000 ∧
    priceV2 1200000000000000000 700000000000000000 10 10 = .ok 836363636363636364 ∧
    priceV1 1200000000000000000 840000000000000000 10 10 = .ok 836363636363636364 ∧
    (836363636363636364 : Int) < 840000000000000000 := by decide

/-- the auction record `DutchAuctionActivator` writes for a seized position -/
structure Start (e : Env) (a : Auc) : Prop where
  coll : a.coll = e.coll0
  debt : a.debt = e.target
  bonus : a.bonus = e.bonus0
  target_nonneg : 0 ≤ e.target
  coll_nonneg : 0 ≤ e.coll0
  bonus_nonneg : 0 ≤ e.bonus0
  price_nonneg : (0 : Int) ≤ a.price
  init_nonneg : (0 : Int) ≤ a.init
  window : a.end_ = a.start + e.T

theorem init_inv (e : Env) (a : Auc) (b : Bank) (r : Option Int) (hs : Start e a) : Inv e (initSt e a b r) := by
  have h1 := hs.target_nonneg; have h2 := hs.coll_nonneg; have h3 := hs.bonus_nonneg
  refine Inv.of_open rfl (Int.le_refl 0) (Int.le_refl 0)
    { paid := ?_, recv := ?_, debt_nonneg := hs.debt ▸ h1, coll_nonneg := hs.coll ▸ h2, bonus_nonneg := hs.bonus ▸ h3,
      price_nonneg := hs.price_nonneg, init_nonneg := hs.init_nonneg, window := hs.window, custody_coll := ?_, custody_debt := ?_ }
  · show 0 + a.debt = e.target; rw [hs.debt, Int.zero_add]
  · show 0 + a.coll = e.coll0; rw [hs.coll, Int.zero_add]
  · show b.get .auction .coll = b.get .auction .coll - e.coll0 + a.coll; rw [hs.coll, Int.sub_add_cancel]
  · show b.get .auction .debt + 0 = b.get .auction .debt + 0 + 0; omega

/-- **bidders pay in total no more than the target debt** — for every configuration, every initial bank, every finite
sequence of market bids (any bidders, any amounts), price updates / restarts with any oracle path, reserve top-ups, limit
deposits and limit-bid fills with at most one limit bid per premium bucket.  `_partial`: with two limit bids in one
bucket the statement is false of the code (`bidders_pay_le_target_counterexample`). -/
theorem bidders_pay_le_target_partial (e : Env) (hw : WfEnv e) (a : Auc) (b : Bank) (r : Option Int) (hs : Start e a)
    (ops : List Op) (hops : ∀ op ∈ ops, WfOp e op) :
    0 ≤ (run e (initSt e a b r) ops).paid ∧ (run e (initSt e a b r) ops).paid ≤ e.target := by
  have hi := run_inv hw ops _ (init_inv e a b r hs) hops
  exact ⟨hi.paid_nonneg, hi.paid_le⟩

/-- **bidders receive in total no more than the seized collateral** (same quantification) -/
theorem bidders_receive_le_collateral_partial (e : Env) (hw : WfEnv e) (a : Auc) (b : Bank) (r : Option Int) (hs : Start e a)
    (ops : List Op) (hops : ∀ op ∈ ops, WfOp e op) :
    0 ≤ (run e (initSt e a b r) ops).recv ∧ (run e (initSt e a b r) ops).recv ≤ e.coll0 := by
  have hi := run_inv hw ops _ (init_inv e a b r hs) hops
  exact ⟨hi.recv_nonneg, hi.recv_le⟩

/-- while the auction is open the books are exact: paid + remaining target = target, received + remaining collateral = seized -/
theorem open_books_exact (e : Env) (hw : WfEnv e) (a : Auc) (b : Bank) (r : Option Int) (hs : Start e a)
    (ops : List Op) (hops : ∀ op ∈ ops, WfOp e op) (a' : Auc) (h : (run e (initSt e a b r) ops).auc = some a') :
    (run e (initSt e a b r) ops).paid + a'.debt = e.target ∧ (run e (initSt e a b r) ops).recv + a'.coll = e.coll0 ∧
    0 ≤ a'.debt ∧ 0 ≤ a'.coll ∧ (0 : Int) ≤ a'.price := by
  have hi := run_inv hw ops _ (init_inv e a b r hs) hops
  have o := hi.opened h
  exact ⟨o.paid, o.recv, o.debt_nonneg, o.coll_nonneg, o.price_nonneg⟩

/-- what `paid` / `recv` mean: an accepted market bid debits exactly `Δpaid` of the debt denom from the bidder and credits
exactly `Δrecv` collateral to him; no other bidder's balance moves. -/
theorem bid_moves_exactly (e : Env) (hw : WfEnv e) (s s' : St) (who : Nat) (amt dt : Int) (hi : Inv e s) (hdt : 0 ≤ dt)
    (h : bidE e s who amt dt = .ok s') :
    s'.bank.get (.bidder who) .debt = s.bank.get (.bidder who) .debt - (s'.paid - s.paid) ∧
    s'.bank.get (.bidder who) .coll = s.bank.get (.bidder who) .coll + (s'.recv - s.recv) ∧
    0 ≤ s'.paid - s.paid ∧ 0 ≤ s'.recv - s.recv ∧
    ∀ n, n ≠ who → s'.bank.get (.bidder n) .coll = s.bank.get (.bidder n) .coll ∧
                   s'.bank.get (.bidder n) .debt = s.bank.get (.bidder n) .debt := by
  obtain ⟨-, a, p, g, -, hp, e1, e2, -, hb⟩ := bidE_effect hw hi hdt h
  have h1 := hp.pay_nonneg; have h2 := hp.total_nonneg
  refine ⟨?_, ?_, by omega, by omega, fun n hn => ⟨?_, ?_⟩⟩
  all_goals
    rw [hb, distBank_bidder]
    split <;> simp [xfer, *] <;> omega

/-- **each bid exchanges at the posted price, up to one smallest unit** (collateral not exhausted): the collateral handed
out is at most one unit above what the amount paid plus the advertised bonus buys at the posted price,
`recv ≤ (paid + bonus)·p_debt·dec_c / (dec_d·p_coll) + 1`, provided `roundingSmall`: one unit of collateral is worth more than
its price has ulps (`dec_c·(p_coll + 10¹⁸) ≤ p_coll·10¹⁸`; checked on every real bid by the driver). -/
theorem bid_at_posted_price (e : Env) (hw : WfEnv e) (a : Auc) (amt0 dt : Int) (p : Plan)
    (hb : 0 ≤ a.bonus) (hpr : (0 : Int) ≤ a.price) (hdt : 0 ≤ dt)
    (hs : roundingSmall a.price e.decC = true)
    (h : plan e a amt0 (debtPrice e dt) = .ok p) (hnc : p.clipped = false) :
    monPosted p.total p.pay a.bonus (debtPrice e dt) e.decD a.price e.decC = true := by
  exact monPosted_iff.mpr
    (plan_posted h hb (debtPrice_nonneg e dt hdt) hw.decD_pos hpr hw.decC_pos (roundingSmall_iff.mp hs).2.2 hnc)

/-- collateral exhausted (`bid.go:54-69`): the bidder receives all that is left, which is less than what the amount he
asked to pay (clipped to the remaining target) plus the bonus buys at the posted price. -/
theorem bid_at_posted_price_exhausted_requested (e : Env) (hw : WfEnv e) (a : Auc) (amt0 dt : Int) (p : Plan)
    (ha0 : 0 ≤ amt0) (hd0 : 0 ≤ a.debt) (hb : 0 ≤ a.bonus) (hpr : (0 : Int) ≤ a.price) (hdt : 0 ≤ dt)
    (hs : roundingSmall a.price e.decC = true)
    (h : plan e a amt0 (debtPrice e dt) = .ok p) (hc : p.clipped = true) :
    p.total = a.coll ∧
    p.total * (e.decD * a.price) ≤ ((if amt0 ≥ a.debt then a.debt else amt0) + a.bonus) * (debtPrice e dt) * e.decC := by
  exact plan_clipped_bound h ha0 hd0 hb (debtPrice_nonneg e dt hdt) hw.decD_pos hpr hw.decC_pos (roundingSmall_iff.mp hs).2.2 hc

/-- **collateral exhausted, against the amount finally charged**: the bidder receives all that is left and that is at most one
collateral unit above what `paid + 2` debt units plus the bonus buy at the posted price (one debt unit for the truncation of
the recomputed bid `bid.go:57`, one for the half-even roundings of the intermediate values; side condition on the debt side
`roundingSmallBack`, checked on every real bid). -/
theorem bid_at_posted_price_exhausted (e : Env) (hw : WfEnv e) (a : Auc) (amt0 dt : Int) (p : Plan)
    (hb : 0 ≤ a.bonus) (hpr : (0 : Int) ≤ a.price)
    (hs : roundingSmall a.price e.decC = true) (hsb : roundingSmallBack (debtPrice e dt) e.decD = true)
    (h : plan e a amt0 (debtPrice e dt) = .ok p) (hc : p.clipped = true) :
    p.total = a.coll ∧ monPosted p.total (p.pay + 2) a.bonus (debtPrice e dt) e.decD a.price e.decC = true := by
  obtain ⟨hdp, hsb⟩ := roundingSmallBack_iff.mp hsb
  exact ⟨((plan_ok h hb (Int.le_of_lt hdp) hw.decD_pos hpr hw.decC_pos).clipped_close hc).2.2,
    monPosted_iff.mpr (plan_clipped_posted h hb hdp hw.decD_pos hpr hw.decC_pos (roundingSmall_iff.mp hs).2.2 hsb hc)⟩

/-- **the proceeds are fully distributed**: the bid that closes the auction (any kind: vault / lend / external) sends
exactly `target` out of the module account — burned + fee collector + keeper + external initiator + lending pool + booked
as auction-module fees — and the unsold collateral to the owner. -/
theorem close_proceeds_distributed (e : Env) (hw : WfEnv e) (s s' : St) (a : Auc) (who : Nat) (amt dt : Int)
    (hi : Inv e s) (hdt : 0 ≤ dt) (ha : s.auc = some a) (h : bidE e s who amt dt = .ok s') (hc : s'.auc = none) :
    (s'.burned - s.burned) + (s'.bank.get .collector .debt - s.bank.get .collector .debt)
      + (s'.bank.get .keeper .debt - s.bank.get .keeper .debt)
      + (s'.bank.get .initiator .debt - s.bank.get .initiator .debt)
      + (s'.bank.get .pool .debt - s.bank.get .pool .debt) + (s'.bank.get .lendres .debt - s.bank.get .lendres .debt)
      + (s'.booked - s.booked) = e.target ∧
    s'.bank.get .owner .coll - s.bank.get .owner .coll = e.coll0 - s'.recv := by
  obtain ⟨-, a', p, g, ha', hp, -, e2, hcl, hb⟩ := bidE_effect hw hi hdt h
  cases ha.symm.trans ha'
  obtain ⟨hclose, -, k1, -, -, k4⟩ := hcl hc
  have o2 := (hi.opened ha).recv
  have hsum := distBank_sum e
  refine ⟨?_, ?_⟩
  · simp [hb, hclose, xfer]; omega
  · simp [hb, hclose, xfer, distBank_coll]; omega

/-- **vault-initiated close, branch `bid.go:89-101,161-190`** — the closing bid burns `target − penalty`, pays the keeper of a
keeper-initiated liquidation `⌊incentive·penalty⌋`, sends the rest of the penalty to the collector (and adds it to the collector's
net-fee record), moves nothing to initiator / pool / lend reserve, books nothing — **and no unaccounted remainder stays in
custody**: afterwards the module account holds exactly the collateral that is not this auction's, and of the debt denomination
exactly what is not this auction's plus the booked fees (minus reserve draws that were silently skipped, `short`). -/
theorem vault_close_distributes (e : Env) (hw : WfEnv e) (hk : e.kind = .vault) (s s' : St) (who : Nat) (amt dt : Int)
    (hi : Inv e s) (hdt : 0 ≤ dt) (h : bidE e s who amt dt = .ok s') (hc : s'.auc = none) :
    s'.burned = s.burned + (e.target - e.fee) ∧
    s'.bank.get .keeper .debt = s.bank.get .keeper .debt + cutOf e e.isKeeper ∧
    s'.bank.get .collector .debt = s.bank.get .collector .debt + (e.fee - cutOf e e.isKeeper) ∧
    s'.netFees = s.netFees + (e.fee - cutOf e e.isKeeper) ∧
    0 ≤ cutOf e e.isKeeper ∧ cutOf e e.isKeeper ≤ e.fee ∧
    s'.bank.get .initiator .debt = s.bank.get .initiator .debt ∧ s'.bank.get .pool .debt = s.bank.get .pool .debt ∧
    s'.bank.get .lendres .debt = s.bank.get .lendres .debt ∧ s'.booked = s.booked ∧ s'.extFees = s.extFees ∧
    s'.bank.get .auction .coll = s'.otherC ∧ s'.bank.get .auction .debt + s'.short = s'.otherD + s'.booked := by
  obtain ⟨hinv, a, p, g, -, -, -, -, hcl, hb⟩ := bidE_effect hw hi hdt h
  obtain ⟨hclose, ⟨-, hcut⟩, k1, k2, k3, k4⟩ := hcl hc
  obtain ⟨-, -, c3, c4⟩ := hinv.closed hc
  simp only [distBurn, distFee, distBooked, hk] at hcut k1 k2 k3 k4
  refine ⟨k1, ?_, ?_, k2, cutOf_nonneg _ _, hcut, ?_, ?_, ?_, by omega, by omega, c3, c4⟩
  all_goals simp [hb, hclose, distBank, hk, xfer]

/-- **externally initiated close, branch `bid.go:122-158`** — the closing bid returns the principal `target − penalty` to the
external initiator; the penalty STAYS in the module account and is booked as the module's own fee data (`extFees`, ghost `booked`);
an accepted close pays no keeper incentive (a non-zero incentive makes every closing bid fail: the transfer goes to the empty
keeper address); nothing is burned, collector / pool / lend reserve get nothing — **and no unaccounted remainder stays in custody**:
the debt denomination left in the module account is exactly what is not this auction's plus the booked fees. -/
theorem external_close_distributes (e : Env) (hw : WfEnv e) (hk : e.kind = .external) (s s' : St) (who : Nat) (amt dt : Int)
    (hi : Inv e s) (hdt : 0 ≤ dt) (h : bidE e s who amt dt = .ok s') (hc : s'.auc = none) :
    s'.bank.get .initiator .debt = s.bank.get .initiator .debt + (e.target - e.fee) ∧
    s'.booked = s.booked + e.fee ∧ s'.extFees = s.extFees + e.fee ∧ cutOf e true = 0 ∧
    s'.burned = s.burned ∧ s'.netFees = s.netFees ∧
    s'.bank.get .collector .debt = s.bank.get .collector .debt ∧ s'.bank.get .keeper .debt = s.bank.get .keeper .debt ∧
    s'.bank.get .pool .debt = s.bank.get .pool .debt ∧ s'.bank.get .lendres .debt = s.bank.get .lendres .debt ∧
    s'.bank.get .auction .coll = s'.otherC ∧ s'.bank.get .auction .debt + s'.short = s'.otherD + s'.booked := by
  obtain ⟨hinv, a, p, g, -, -, -, -, hcl, hb⟩ := bidE_effect hw hi hdt h
  obtain ⟨hclose, ⟨-, hcut⟩, k1, k2, k3, k4⟩ := hcl hc
  obtain ⟨-, -, c3, c4⟩ := hinv.closed hc
  simp only [distBurn, distFee, distBooked, hk, Int.add_zero] at hcut k1 k2 k3 k4
  refine ⟨?_, k4, k3, hcut.2, k1, k2, ?_, ?_, ?_, ?_, c3, c4⟩
  all_goals simp [hb, hclose, distBank, hk, xfer]

/-- **second-generation lend close, the split** (`liquidate.go:721-813`): of the target handed over by the auction module the
debt pool keeps `target − penalty − reserve interest`, the lend reserve receives `penalty + reserve interest`, the bridge asset of a
cross-pool borrow returns to the pool the collateral was lent to; no collateral moves, nothing is burned, no fee is booked. -/
theorem lend_close_split (e : Env) (s s3 : St) (hk : e.kind = .lend) (h : distribute e s = .ok s3) :
    s3.bank.get .auction .debt = s.bank.get .auction .debt - e.target ∧
    s3.bank.get .pool .debt = s.bank.get .pool .debt + e.target - e.lendPen - DutchV2.posPart e.lendInt ∧
    s3.bank.get .lendres .debt = s.bank.get .lendres .debt + e.lendPen + DutchV2.posPart e.lendInt ∧
    s3.bank.get .pool .transit = s.bank.get .pool .transit - DutchV2.posPart e.bridged ∧
    s3.bank.get .poolIn .transit = s.bank.get .poolIn .transit + DutchV2.posPart e.bridged ∧
    s3.bank.get .auction .transit = s.bank.get .auction .transit ∧
    (∀ a, s3.bank.get a .coll = s.bank.get a .coll) ∧ s3.burned = s.burned ∧ s3.netFees = s.netFees ∧ s3.extFees = s.extFees := by
  obtain ⟨-, b, hb, rfl⟩ := distribute_effect h
  refine ⟨?_, ?_, ?_, ?_, ?_, ?_, fun a => ?_, ?_, ?_, ?_⟩
  all_goals simp [hb, distBank, distBurn, distFee, distBooked, hk, xfer] <;> omega

/-- **lend-initiated close, branch `bid.go:191-202` → `MsgCloseDutchAuctionForBorrow`** — the closing bid hands the whole target to
the debt pool; from there the liquidation penalty and the reserve's share of the interest go to the lend reserve and the bridge
asset of a cross-pool borrow returns to the collateral's pool (`lend_close_split`); nothing is burned, nothing booked, collector /
keeper / initiator get nothing — **and no unaccounted remainder stays in custody**. -/
theorem lend_close_distributes (e : Env) (hw : WfEnv e) (hk : e.kind = .lend) (s s' : St) (who : Nat) (amt dt : Int)
    (hi : Inv e s) (hdt : 0 ≤ dt) (h : bidE e s who amt dt = .ok s') (hc : s'.auc = none) :
    s'.bank.get .pool .debt = s.bank.get .pool .debt + e.target - e.lendPen - DutchV2.posPart e.lendInt ∧
    s'.bank.get .lendres .debt = s.bank.get .lendres .debt + e.lendPen + DutchV2.posPart e.lendInt ∧
    s'.bank.get .pool .transit = s.bank.get .pool .transit - DutchV2.posPart e.bridged ∧
    s'.bank.get .poolIn .transit = s.bank.get .poolIn .transit + DutchV2.posPart e.bridged ∧
    s'.burned = s.burned ∧ s'.netFees = s.netFees ∧ s'.extFees = s.extFees ∧ s'.booked = s.booked ∧
    s'.bank.get .auction .coll = s'.otherC ∧ s'.bank.get .auction .debt + s'.short = s'.otherD + s'.booked := by
  obtain ⟨hinv, a, p, g, -, -, -, -, hcl, hb⟩ := bidE_effect hw hi hdt h
  obtain ⟨hclose, -, k1, k2, k3, k4⟩ := hcl hc
  obtain ⟨-, -, c3, c4⟩ := hinv.closed hc
  simp only [distBurn, distFee, distBooked, hk, Int.add_zero] at k1 k2 k3 k4
  refine ⟨?_, ?_, ?_, ?_, k1, k2, k3, k4, c3, c4⟩
  all_goals simp [hb, hclose, distBank, hk, xfer] <;> omega

/-- **custody**: after ANY sequence of operations (as in `bidders_pay_le_target_partial`), once the auction is closed the
module account holds, of the collateral, exactly what does not belong to this auction, and of the debt denom exactly what
does not belong to it plus the penalty an external auction books as module fees — MINUS every reserve draw that was
needed but silently skipped (`short`, written only at `liquidate.go:611-617` when the reserve record is too small). -/
theorem close_custody_accounted (e : Env) (hw : WfEnv e) (a : Auc) (b : Bank) (r : Option Int) (hs : Start e a)
    (ops : List Op) (hops : ∀ op ∈ ops, WfOp e op) (hc : (run e (initSt e a b r) ops).auc = none) :
    let s := run e (initSt e a b r) ops
    s.bank.get .auction .coll = s.otherC ∧ s.bank.get .auction .debt + s.short = s.otherD + s.booked := by
  have hi := run_inv hw ops _ (init_inv e a b r hs) hops
  obtain ⟨_, _, c3, c4⟩ := hi.closed hc
  exact ⟨c3, c4⟩

/-- `_partial`: nothing unaccounted stays in (or leaves) custody, PROVIDED no reserve shortfall was skipped -/
theorem close_distributes_all_partial (e : Env) (hw : WfEnv e) (a : Auc) (b : Bank) (r : Option Int) (hs : Start e a)
    (ops : List Op) (hops : ∀ op ∈ ops, WfOp e op) (hc : (run e (initSt e a b r) ops).auc = none)
    (hshort : (run e (initSt e a b r) ops).short = 0) :
    let s := run e (initSt e a b r) ops
    s.bank.get .auction .coll = s.otherC ∧ s.bank.get .auction .debt = s.otherD + s.booked := by
  have := close_custody_accounted e hw a b r hs ops hops hc
  simp only at this ⊢
  rw [hshort] at this
  exact ⟨this.1, by omega⟩

/-- **The posted price stays between the start price and the end price (minus the proved slack) in EVERY reachable state** of a
second-generation auction of any initiator kind: after any sequence of market bids, limit fills, reserve top-ups, limit deposits,
ordinary blocks (price update inside the window, restart after it) and blocks under emergency shutdown of the app (`tickEsm`:
price update inside the window; past its end `TriggerEsm` for a vault-initiated auction, NOTHING for a lend- / externally initiated
one).  Hypotheses: the activator posted the start price, block times do not run backwards, oracle prices are unsigned.
The band of the record: `price ≤ start` and `(price + 1)·tau ≥ end·tau − (start − end)` with `end`, `tau` recomputed from the
record's start price as the code does — exactly what the driver evaluates on every REAL record after every REAL block
(`price_in_range`, `price_in_range_slack`).  An iterator that keeps updating past the end of the window (`seeded/s81`: a
non-vault auction under shutdown) leaves this band after `tau − T` more seconds. -/
theorem price_in_band_every_reachable_state (e : Env) (hw : WfEnv e) (a : Auc) (b : Bank) (r : Option Int) (hs : Start e a)
    (hp : a.price = a.init) (t0 : Int) (ht0 : a.start ≤ t0) (ops : List Op) (hc : Chrono t0 ops)
    (a' : Auc) (h : (run e (initSt e a b r) ops).auc = some a') :
    (a'.price : Int) ≤ a'.init ∧ monBand e a' = true ∧
    ∀ endP t, DutchPrice.endPrice a'.init e.discount = .ok endP → DutchPrice.tau a'.init endP e.T = .ok t →
      (endP : Int) * t - (a'.init - endP) ≤ (a'.price + 1) * t := by
  have h0 : BandInv e (initSt e a b r) t0 := by
    intro a'' ha''
    simp only [initSt, Option.some.injEq] at ha''
    subst ha''
    exact ⟨band_at_start hw hs.init_nonneg hp hs.window, ht0⟩
  obtain ⟨hb, _⟩ := run_band hw ops _ t0 h0 hc a' h
  exact ⟨hb.le_start, monBand_of_band hb, hb.ge_end⟩

def bandEnv : Env := { kind := .lend, target := 1000, coll0 := 1000, T := 3600, premium := 1200000000000000000, discount := 700000000000000000 }
def bandAuc : Auc := { coll := 1000, debt := 1000, bonus := 0, price := 2400000000000000000000000, init := 2400000000000000000000000,
                       orc := 2000000000000000000000000, ord := 1000000000000000000000000, start := 0, end_ := 3600 }
def bandOps : List Op := [.tickEsm 1800 2000000 true 1000000 true [], .tickEsm 3600 2000000 true 1000000 true [],
                          .tickEsm 5400 2000000 true 1000000 true [], .tickEsm 20000 2000000 true 1000000 true []]

/-- non-vacuity: a lend-initiated auction, shutdown switched on, blocks inside the window, at its end and far past it: the record
is updated twice and then frozen at the last posted price -/
example : Chrono 0 bandOps ∧ bandAuc.price = bandAuc.init ∧
    ((run bandEnv (initSt bandEnv bandAuc [] none) bandOps).auc.map fun x => (x.price, x.start)) = some (1680000000000000000000000, 0) := by
  refine ⟨by simp [Chrono, bandOps], rfl, by decide⟩

/-- **emergency shutdown, lend- / externally initiated auction, window over: nothing happens** — no price update, no restart, no
money moves (auctions.go:160-173: only a vault-initiated auction is handed to `TriggerEsm`) -/
theorem esm_leaves_nonvault_auction_untouched_past_end (e : Env) (s : St) (a : Auc) (now twaC twaD : Int) (actC actD : Bool)
    (hk : e.kind ≠ .vault) (ha : s.auc = some a) (hn : now > a.end_) : tickIterEsm e s now twaC actC twaD actD = s := by
  unfold tickIterEsm
  rw [ha]
  cases hkk : e.kind with
  | vault => exact absurd hkk hk
  | lend => simp [hn]
  | external => simp [hn]

/-- **what `TriggerEsm` moves** (vault-initiated auction under shutdown, window over): exactly what the auction has collected so
far, `target − remaining debt`, leaves the module account — burned or sent to the collector; no collateral moves and the auction
record stays as it is (so the next block does it again: `esm_trigger_repeats_counterexample`) -/
theorem trigger_esm_moves (e : Env) (s s' : St) (a : Auc) (h : triggerEsm e s a = .ok s') :
    s'.auc = s.auc ∧ 0 ≤ e.target - a.debt ∧
    s'.bank.get .auction .debt = s.bank.get .auction .debt - (e.target - a.debt) ∧
    (s'.burned - s.burned) + (s'.bank.get .collector .debt - s.bank.get .collector .debt) = e.target - a.debt ∧
    (∀ x, s'.bank.get x .coll = s.bank.get x .coll) ∧ s'.esmOut = s.esmOut + (e.target - a.debt) ∧
    s'.paid = s.paid ∧ s'.recv = s.recv := by
  obtain ⟨b, toBurn, fee, h0, h1, hsum, hb, rfl⟩ := triggerEsm_ok h
  refine ⟨rfl, by omega, ?_, ?_, fun x => ?_, by show s.esmOut + toBurn + fee = _; omega, rfl, rfl⟩
  all_goals simp [hb, xfer]
  all_goals omega

theorem init_invW (e : Env) (a : Auc) (b : Bank) (r : Option Int) (hs : Start e a) : InvW e (initSt e a b r) := by
  refine ⟨Int.le_refl 0, Int.le_refl 0, Int.le_refl 0, Int.le_refl 0, Int.le_refl 0, fun a' ha' => ?_, fun hn => by cases hn⟩
  cases ha'
  have h1 := hs.target_nonneg; have h3 := hs.bonus_nonneg
  refine ⟨rfl, ⟨?_, hs.debt ▸ h1, hs.bonus ▸ h3, hs.price_nonneg, hs.init_nonneg, hs.window⟩, rfl⟩
  show e.target ≤ 0 + a.debt; rw [hs.debt, Int.zero_add]

/-- **custody of the debt side, for every history** — no hypothesis on the limit bids or the initiator: any number of bidders may
wait at one premium (D7), the collateral may be exhausted by a limit fill (D24), the reserve may be short (D23), the app may be
under emergency shutdown (`TriggerEsm` may run any number of times, D39).  While the auction is open, what the bidders paid is in
the module account except for what `TriggerEsm` sent away (`esmOut`); once it is closed the module account holds, beyond what is
not this auction's and the booked fees, exactly `paid + need − target ≥ 0`: what was collected (and asked from the reserve) beyond
the target — 0 under the hypotheses of `close_custody_accounted`, the second collection of D7 otherwise — minus the reserve draw
that was silently skipped (`short ≤ need`) and minus `esmOut`. -/
theorem debt_custody_every_history (e : Env) (hw : WfEnv e) (a : Auc) (b : Bank) (r : Option Int) (hs : Start e a)
    (ops : List Op) (hops : ∀ op ∈ ops, WfOpW e op) :
    let s := run e (initSt e a b r) ops
    0 ≤ s.paid ∧ 0 ≤ s.short ∧ s.short ≤ s.need ∧ 0 ≤ s.booked ∧ 0 ≤ s.esmOut ∧
    (∀ a', s.auc = some a' → s.need = 0 ∧ e.target ≤ s.paid + a'.debt ∧
        s.bank.get .auction .debt + s.short + s.esmOut = s.otherD + s.booked + s.paid) ∧
    (s.auc = none → e.target ≤ s.paid + s.need ∧
        s.bank.get .auction .debt + s.short + s.esmOut = s.otherD + s.booked + (s.paid + s.need - e.target)) := by
  have hi := run_w hw ops _ (init_invW e a b r hs) hops
  simp only
  refine ⟨hi.paid_nonneg, hi.short_nonneg, hi.short_le, hi.booked_nonneg, hi.esm_nonneg, ?_, ?_⟩
  · intro a' ha'
    obtain ⟨o1, o2, o3⟩ := hi.open_ a' ha'
    exact ⟨o1, o2.cover, o3⟩
  · intro hn
    obtain ⟨c1, c2⟩ := hi.closed hn
    exact ⟨c1, by omega⟩

/-! ### concrete witnesses (replayed on the real keepers by the harness: `TestC10`, corpus 1–4) -/

def wEnv : Env := { kind := .vault, decC := 1000000, decD := 1000000, target := 1120000, fee := 120000, bonus0 := 0, coll0 := 1000000, isKeeper := true, incentive := 100000000000000000, minUsd := 100000, T := 3600, premium := 1200000000000000000, discount := 700000000000000000, cmst := true }

def wAuc (price orc : Dec) : Auc := { coll := 1000000, debt := 1120000, bonus := 0, price := price, init := price, orc := orc, ord := 1000000000000000000000000, start := 0, end_ := 3600 }

def xEnv : Env := { wEnv with kind := .external, isKeeper := false, incentive := 0 }
def lEnv : Env := { wEnv with kind := .lend, isKeeper := false, lendPen := 50000, lendInt := 700 }
def cBank : Bank := [((.auction, .coll), 1000000), ((.bidder 1, .debt), 10000000)]

def cClose (e : Env) : St := run e (initSt e (wAuc 1680000000000000000000000 1400000000000000000000000) cBank none) [.bid 1 5000000 1000000]

/-- non-vacuity of the three branch theorems: a keeper-initiated vault position, an external one and a lend one (penalty 50 000,
reserve interest 700) are each closed by one market bid -/
example :
    (cClose wEnv).auc = none ∧ (cClose wEnv).burned = 1000000 ∧ (cClose wEnv).bank.get .keeper .debt = 12000 ∧
    (cClose wEnv).bank.get .collector .debt = 108000 ∧ (cClose wEnv).netFees = 108000 ∧ (cClose wEnv).bank.get .auction .debt = 0 ∧
    (cClose xEnv).auc = none ∧ (cClose xEnv).bank.get .initiator .debt = 1000000 ∧ (cClose xEnv).booked = 120000 ∧
    (cClose xEnv).extFees = 120000 ∧ (cClose xEnv).burned = 0 ∧ (cClose xEnv).bank.get .auction .debt = 120000 ∧
    (cClose lEnv).auc = none ∧ (cClose lEnv).bank.get .pool .debt = 1069300 ∧ (cClose lEnv).bank.get .lendres .debt = 50700 ∧
    (cClose lEnv).burned = 0 ∧ (cClose lEnv).booked = 0 ∧ (cClose lEnv).bank.get .auction .debt = 0 := by decide

def d7Bank : Bank := [((.auction, .coll), 2000000), ((.bidder 1, .debt), 10000000), ((.bidder 2, .debt), 10000000), ((.bidder 4, .debt), 10000000)]
def d7Ops : List Op := [.limit 1 9 400000, .limit 2 9 400000, .tick 2950 1400000 true 1000000 true [(9, 1, 400000), (9, 2, 400000)], .bid 4 5000000 1000000]
def d7Final : St := run wEnv (initSt wEnv (wAuc 1680000000000000000000000 1400000000000000000000000) d7Bank none) d7Ops

/-- the D7 run evaluated once; the three statements below are readings of it -/
theorem d7Final_reads :
    d7Final.paid = 1520000 ∧ d7Final.recv = 1199683 ∧ d7Final.need = 0 ∧ d7Final.auc = none ∧
      d7Final.bank.get .auction .debt = 400000 ∧ d7Final.otherD = 0 := by decide

/-- **D7** (corpus 1): two limit bidders (400 000 each) wait at premium 9; a second seized position of the same pair shares the
module account.  `LimitOrderBid` fills both bidders against the auction value it read before the loop; the second fill
overwrites the first one's bookkeeping, the remaining target is collected a second time: 1 520 000 paid for a target of 1 120 000. -/
theorem bidders_pay_le_target_counterexample : d7Final.paid = 1520000 ∧ wEnv.target = 1120000 ∧ d7Final.auc = none :=
  ⟨d7Final_reads.1, rfl, d7Final_reads.2.2.2.1⟩

/-- … and 1 199 683 units of collateral handed out of 1 000 000 seized (the rest comes from the other position's custody) -/
theorem bidders_receive_le_collateral_counterexample : d7Final.recv = 1199683 ∧ wEnv.coll0 = 1000000 :=
  ⟨d7Final_reads.2.1, rfl⟩

/-- the D7 run satisfies the all-history ledger: after the close the module still holds the 400 000 it collected twice -/
example : (∀ op ∈ d7Ops, WfOpW wEnv op) ∧ d7Final.paid + d7Final.need - wEnv.target = 400000 ∧
    d7Final.bank.get .auction .debt = d7Final.otherD + 400000 := by
  obtain ⟨h1, -, h3, -, h5, h6⟩ := d7Final_reads
  refine ⟨?_, ?_, ?_⟩
  · intro op hop
    simp only [d7Ops, List.mem_cons, List.mem_nil_iff, or_false] at hop
    rcases hop with h | h | h | h <;> subst h <;> simp [WfOpW]
  · rw [h1, h3]; rfl
  · rw [h5, h6]; rfl

def esmBank : Bank := [((.auction, .coll), 1000000), ((.bidder 1, .debt), 10000000), ((.bidder 4, .debt), 10000000)]
def esmOps : List Op := [.bid 1 100000 1000000, .limit 4 30 250000, .tickEsm 3660 1400000 true 1000000 true [(30, 4, 250000)],
  .tickEsm 3720 1400000 true 1000000 true [(30, 4, 250000)], .tickEsm 3780 1400000 true 1000000 true [(30, 4, 250000)],
  .tickEsm 3840 1400000 true 1000000 true [(30, 4, 250000)]]
def esmFinal : St := run wEnv (initSt wEnv (wAuc 1680000000000000000000000 1400000000000000000000000) esmBank none) esmOps

/-- **`TriggerEsm` repeats** (auctions.go:160-173, 487-533; corpus 4).  Emergency shutdown, a vault-initiated auction whose window
is over: bidder 1 has paid 100 000, a stranger's limit deposit of 250 000 sits in the module account.  `TriggerEsm` forwards what the auction collected but deletes neither the auction
nor the locked vault, so every further block under shutdown forwards the same 100 000 again — here three times, 200 000 of it out
of the stranger's deposit (50 000 left of 250 000; the fourth transfer fails); the auction is still open, its collateral still in
the module account. -/
theorem esm_trigger_repeats_counterexample :
    esmFinal.paid = 100000 ∧ esmFinal.esmOut = 300000 ∧ esmFinal.bank.get .collector .debt = 300000 ∧
    esmFinal.otherD = 250000 ∧ esmFinal.bank.get .auction .debt = 50000 ∧ esmFinal.auc.isSome = true ∧
    esmFinal.bank.get .auction .coll = 1000000 - esmFinal.recv := by decide

example : (∀ op ∈ esmOps, WfOpW wEnv op) := by
  intro op hop
  simp only [esmOps, List.mem_cons, List.mem_nil_iff, or_false] at hop
  rcases hop with h | h | h | h | h | h <;> subst h <;> simp [WfOpW]

def rsBank : Bank := [((.auction, .coll), 1000000), ((.bidder 1, .debt), 10000000), ((.bidder 4, .debt), 10000000), ((.reserve, .debt), 10)]
def rsOps : List Op := [.limit 4 30 700000, .tick 1800 1000000 true 1000000 true [(30, 4, 700000)], .bid 1 5000000 1000000]
def rsFinal : St := run wEnv (initSt wEnv (wAuc 1200000000000000000000000 1000000000000000000000000) rsBank (some 10)) rsOps

/-- **reserve shortfall** (`liquidate.go:611-617`; corpus 2): the collateral is worth less than the remaining target, the reserve
record holds 10, a stranger's limit deposit of 700 000 sits in the module account.  The closing bid needs 100 000 from the app reserve,
`WithdrawAppReserveFundsFn` transfers nothing and returns no error; the close then burns and pays the full target out of
the module account: 100 000 of the stranger's 700 000 deposit are gone (600 000 left), the reserve record goes negative. -/
theorem close_distributes_all_counterexample :
    rsFinal.auc = none ∧ rsFinal.otherD = 700000 ∧ rsFinal.bank.get .auction .debt = 600000 ∧ rsFinal.short = 100000 ∧
    rsFinal.reserve = some (-99990) ∧ rsFinal.paid = 1020000 := by decide


namespace V1

/-- the record `StartDutchAuction` writes -/
structure Start (e : DutchV1.Env) (a : DutchV1.Auc) : Prop where
  out : a.outCur = e.coll0
  inn : a.inCur = 0
  target_nonneg : 0 ≤ e.target
  coll_nonneg : 0 ≤ e.coll0
  principal_nonneg : 0 ≤ e.principal

end V1

/-- **first generation: bidders pay ≤ target and receive ≤ the seized collateral**, for every sequence of bids (any bidders,
any amounts incl. zero/negative/over-sized) and block hooks (price updates, restarts, emergency-shutdown wind-down, any oracle path) -/
theorem v1_bidders_pay_le_target_and_receive_le_collateral (e : DutchV1.Env) (a : DutchV1.Auc) (b : Bank) (nf : Option Int)
    (hs : V1.Start e a) (ops : List DutchV1.Op) :
    let s := DutchV1.run e (DutchV1.initSt e a b nf) ops
    0 ≤ s.paid ∧ s.paid ≤ e.target ∧ 0 ≤ s.recv ∧ s.recv ≤ e.coll0 := by
  have hi := DutchV1.run_inv hs.principal_nonneg ops _ (DutchV1.init_inv b nf hs.out hs.inn hs.target_nonneg hs.coll_nonneg)
  exact ⟨hi.paid_nonneg, hi.paid_le, hi.recv_nonneg, hi.recv_le⟩

/-- **first generation: custody** — while open the module account holds exactly the unsold collateral and the debt collected so
far on top of what does not belong to the auction; once closed it holds nothing of the auction -/
theorem v1_custody_exact (e : DutchV1.Env) (a : DutchV1.Auc) (b : Bank) (nf : Option Int) (hs : V1.Start e a)
    (ops : List DutchV1.Op) :
    let s := DutchV1.run e (DutchV1.initSt e a b nf) ops
    (∀ a', s.auc = some a' → s.bank.get .auction .coll = s.otherC + a'.outCur ∧ s.bank.get .auction .debt = s.otherD + a'.inCur) ∧
    (s.auc = none → s.bank.get .auction .coll = s.otherC ∧ s.bank.get .auction .debt = s.otherD) := by
  have hi := DutchV1.run_inv hs.principal_nonneg ops _ (DutchV1.init_inv b nf hs.out hs.inn hs.target_nonneg hs.coll_nonneg)
  simp only
  refine ⟨?_, ?_⟩
  · intro a' ha'
    exact ⟨(hi.opened ha').custody_coll, (hi.opened ha').custody_debt⟩
  · intro hn
    obtain ⟨_, _, c3, c4⟩ := hi.closed hn
    exact ⟨c3, c4⟩

/-- **first generation: what a bid moves and how the close distributes**: an accepted bid debits exactly `Δpaid` from the bidder
and credits exactly `Δrecv` collateral to him, touches no other bidder; if it closes the auction then everything the bidders
paid over the auction's life has been burned or sent to the collector (net of what the collector had to add when the collateral
was sold out below the target) and the unsold collateral went to the owner. -/
theorem v1_bid_moves_and_close_distributes (e : DutchV1.Env) (s s' : DutchV1.St) (who : Nat) (sl : Int)
    (hpr : 0 ≤ e.principal) (hi : DutchV1.Inv e s) (h : DutchV1.bidE e s who sl = .ok s') :
    s'.bank.get (.bidder who) .debt = s.bank.get (.bidder who) .debt - (s'.paid - s.paid) ∧
    s'.bank.get (.bidder who) .coll = s.bank.get (.bidder who) .coll + (s'.recv - s.recv) ∧
    0 ≤ s'.paid - s.paid ∧ 0 ≤ s'.recv - s.recv ∧
    (∀ n, n ≠ who → s'.bank.get (.bidder n) .coll = s.bank.get (.bidder n) .coll ∧
                    s'.bank.get (.bidder n) .debt = s.bank.get (.bidder n) .debt) ∧
    (s'.auc = none →
      (s'.burned - s.burned) + (s'.bank.get .collector .debt - s.bank.get .collector .debt) = s'.paid ∧
      s'.bank.get .owner .coll - s.bank.get .owner .coll = e.coll0 - s'.recv) := by
  obtain ⟨a, p, ha, hp, h⟩ := DutchV1.bidE_ok h
  have hpo := DutchV1.plan_ok hp
  have m := DutchV1.apply_moves hpr hi ha hpo h
  rw [m.bidder_debt, m.bidder_coll, show s'.paid - s.paid = p.inAmt by rw [m.paid]; omega,
    show s'.recv - s.recv = p.slice by rw [m.recv]; omega]
  exact ⟨rfl, rfl, hpo.in_nonneg, hpo.slice_nonneg, m.others, m.closed⟩

/-- **first generation, emergency-shutdown wind-down** (`dutch.go:515-637`): when the block hook finds the window over and the app's
ESM on, the auction is closed and NOTHING of it stays in auction custody: the unsold collateral leaves to the vault module (if less
than the principal was collected: the vault is re-created / topped up) or to the ESM module (otherwise), everything collected is
burned except the excess over the principal, which is the penalty for the collector. -/
theorem v1_esm_winddown_empties_custody (e : DutchV1.Env) (s s' : DutchV1.St) (a : DutchV1.Auc) (snapshot : Bool)
    (hpr : 0 ≤ e.principal) (hi : DutchV1.Inv e s) (ha : s.auc = some a) (h : DutchV1.windDown e s a snapshot = .ok s') :
    s'.auc = none ∧ s'.bank.get .auction .coll = s'.otherC ∧ s'.bank.get .auction .debt = s'.otherD ∧
    (s'.bank.get .vaultMod .coll - s.bank.get .vaultMod .coll) + (s'.bank.get .esm .coll - s.bank.get .esm .coll) = e.coll0 - s.recv ∧
    (s'.burned - s.burned) + (s'.bank.get .collector .debt - s.bank.get .collector .debt) = s.paid ∧
    (a.inCur < e.principal → s'.bank.get .vaultMod .coll = s.bank.get .vaultMod .coll + a.outCur ∧ s'.burned = s.burned + a.inCur) ∧
    (e.principal ≤ a.inCur → s'.bank.get .esm .coll = s.bank.get .esm .coll + a.outCur ∧ s'.burned = s.burned + e.principal ∧
        s'.bank.get .collector .debt = s.bank.get .collector .debt + (a.inCur - e.principal)) := by
  have o := hi.opened ha
  have hpaid := o.paid; have hrecv := o.recv; have hcc := o.custody_coll; have hcd := o.custody_debt
  have hin0 : 0 ≤ a.inCur := by rw [← hpaid]; exact hi.paid_nonneg
  obtain ⟨w1, _, _, w4, w5, w6, w7, w8, w9, w10, w11⟩ := DutchV1.windDown_ok hpr o.out_nonneg hin0 h
  exact ⟨w1, by rw [w6, w4]; omega, by rw [w7, w5]; omega, by rw [w8]; omega, by rw [w9]; omega, w10, w11⟩

/-- **first generation: each bid at the posted price** (`recv ≤ (paid + 2)·p_debt·dec_c/(dec_d·p_coll) + 1`) -/
theorem v1_bid_at_posted_price (e : DutchV1.Env) (a : DutchV1.Auc) (slice0 : Int) (p : DutchV1.Plan)
    (hdC : 0 < e.decC) (hdD : 0 < e.decD) (hpr : (0 : Int) ≤ a.price)
    (hs : roundingSmall a.price e.decC = true) (hsb : roundingSmallBack a.inPrice e.decD = true)
    (h : DutchV1.plan e a slice0 = .ok p) :
    monPosted p.slice (p.inAmt + 2) 0 a.inPrice e.decD a.price e.decC = true := by
  obtain ⟨hip, hsb⟩ := roundingSmallBack_iff.mp hsb
  exact monPosted_iff.mpr (by rw [Int.add_zero]; exact DutchV1.plan_posted h hdC hdD hpr (Int.le_of_lt hip) (roundingSmall_iff.mp hs).2.2 hsb)


namespace L1

/-- the record `StartLendDutchAuction` writes, and what the liquidation moved into the module: the auctioned collateral plus a
bonus pot that covers the largest bonus payable on it -/
structure Start (e : DutchV1Lend.Env) (a : DutchV1Lend.Auc) : Prop where
  out : a.outCur = e.coll0
  inn : a.inCur = 0
  target_nonneg : 0 ≤ e.target
  coll_nonneg : 0 ≤ e.coll0
  bonus_nonneg : (0 : Int) ≤ e.bonus
  pot : e.coll0 + e.coll0 * e.bonus / P ≤ e.deposit

end L1

/-- **first-generation lend auctions: bidders pay ≤ target, receive (bonus included) ≤ what was seized into the module**, for every
sequence of bids and block hooks, every re-liquidation hand-over and every reserve balance -/
theorem l1_bidders_pay_le_target_and_receive_le_seized (e : DutchV1Lend.Env) (a : DutchV1Lend.Auc) (b : Bank)
    (hs : L1.Start e a) (ops : List DutchV1Lend.Op) :
    let s := DutchV1Lend.run e (DutchV1Lend.initSt e a b) ops
    0 ≤ s.paid ∧ s.paid ≤ e.target ∧ 0 ≤ s.recv ∧ s.recv ≤ e.deposit := by
  have hi := DutchV1Lend.run_inv hs.bonus_nonneg ops _ (DutchV1Lend.init_inv b hs.out hs.inn hs.target_nonneg hs.coll_nonneg)
  have hsold := hi.sold_le; have hbp := hi.bonusPaid_le hs.bonus_nonneg
  have h1 := hi.bonus_nonneg; have h2 := hi.sold_nonneg; have h3 := hs.pot
  exact ⟨hi.paid_nonneg, hi.paid_le, by omega, by omega⟩

/-- **the proceeds never rest in auction custody** (each bid forwards what it collected to the lending side in the same message),
and of the collateral the module holds exactly: what is still for sale + the unpaid part of the bonus pot (+ what is not this
auction's).  `_partial`: after the close the unpaid part of the bonus pot STAYS in the module account — the property's "no
unaccounted remainder" is false here (`l1_close_custody_counterexample`). -/
theorem l1_close_custody_partial (e : DutchV1Lend.Env) (a : DutchV1Lend.Auc) (b : Bank) (hs : L1.Start e a)
    (ops : List DutchV1Lend.Op) :
    let s := DutchV1Lend.run e (DutchV1Lend.initSt e a b) ops
    s.bank.get .auction .debt = s.otherD ∧
    (∀ a', s.auc = some a' → s.bank.get .auction .coll = s.otherC + a'.outCur + (e.deposit - e.coll0 - s.bonusPaid)) ∧
    (s.auc = none → s.bank.get .auction .coll = s.otherC + (e.deposit - e.coll0 - s.bonusPaid)) ∧
    0 ≤ e.deposit - e.coll0 - s.bonusPaid := by
  have hi := DutchV1Lend.run_inv hs.bonus_nonneg ops _ (DutchV1Lend.init_inv b hs.out hs.inn hs.target_nonneg hs.coll_nonneg)
  have hbp := hi.bonusPaid_le hs.bonus_nonneg
  have h3 := hs.pot
  exact ⟨hi.debt_custody, fun a' ha' => (hi.opened ha').custody_coll, fun hn => (hi.closed hn).2.2, by omega⟩

/-- what one accepted bid moves: the bidder pays exactly `Δpaid` and receives exactly `Δrecv` (slice + bonus), no other bidder
moves, the lending side receives exactly `Δpaid`, and a closing bid hands the unsold collateral to the borrower -/
theorem l1_bid_moves_and_close_distributes (e : DutchV1Lend.Env) (s s' : DutchV1Lend.St) (who : Nat) (sl redep resBal : Int)
    (hb : (0 : Int) ≤ e.bonus) (hi : DutchV1Lend.Inv e s) (h : DutchV1Lend.bidE e s who sl redep resBal = .ok s') :
    s'.bank.get (.bidder who) .debt = s.bank.get (.bidder who) .debt - (s'.paid - s.paid) ∧
    s'.bank.get (.bidder who) .coll = s.bank.get (.bidder who) .coll + (s'.recv - s.recv) ∧
    (∀ n, n ≠ who → s'.bank.get (.bidder n) .coll = s.bank.get (.bidder n) .coll ∧
                    s'.bank.get (.bidder n) .debt = s.bank.get (.bidder n) .debt) ∧
    s'.bank.get .pool .debt = s.bank.get .pool .debt + (s'.paid - s.paid) ∧
    (s'.auc = none → s'.bank.get .owner .coll - s.bank.get .owner .coll = e.coll0 - (s'.recv - s'.bonusPaid)) := by
  obtain ⟨a, p, ha, hp, h⟩ := DutchV1Lend.bidE_ok h
  have m := DutchV1Lend.apply_moves hi ha (DutchV1Lend.plan_ok hb hp) h
  rw [m.paid, m.recv, m.bidder_debt, m.bidder_coll, m.pool_debt, show s.paid + p.inAmt - s.paid = p.inAmt by omega,
    show s.recv + (p.slice + p.bonusAmt) - s.recv = p.slice + p.bonusAmt by omega]
  exact ⟨rfl, rfl, m.others, rfl, by have := m.owner_coll; rwa [m.recv] at this⟩

def l1Env : DutchV1Lend.Env := { decC := 1000000, decD := 1000000, target := 30434782, coll0 := 33816425, deposit := 35507246, bonus := 50000000000000000, dust := 1000000, T := 3600, buffer := 1200000000000000000, cusp := 700000000000000000 }
def l1Auc : DutchV1Lend.Auc := { outCur := 33816425, inCur := 0, price := 2160000000000000000000000, init := 2160000000000000000000000, endP := 1512000000000000000000000, inPrice := 2000000000000000000000000, start := 0, end_ := 3600 }
def l1Bank : Bank := [((.auction, .coll), 35507246), ((.bidder 1, .debt), 100000000), ((.bidder 2, .debt), 100000000)]
def l1Final : DutchV1Lend.St := DutchV1Lend.run l1Env (DutchV1Lend.initSt l1Env l1Auc l1Bank)
  [.bid 1 1000000 0 0, .tick 1200 1800000 true 2000000 true, .bid 2 32816425 0 0]

/-- **the bonus on the unsold collateral is stranded** (D32): 33 816 425 auctioned, 35 507 246 moved in, bonus 5 %; the target is reached with 2 616 032 units unsold (returned to the borrower);
the 5 % bonus pot that was seized for them — 130 802 units — stays in the auction module account, claimed by nothing. -/
theorem l1_close_custody_counterexample :
    l1Final.auc = none ∧ l1Final.paid = 30434782 ∧ l1Final.bank.get .owner .coll = 2616032 ∧
    l1Final.bank.get .auction .coll = 130802 ∧ l1Final.otherC = 0 := by decide

section LendBook
open Comdex.DutchV1LendBook

/-- **The close of a first-generation lend auction, pool and lend module accounts included** (`Model/DutchV1LendBook.lean`).  The bid that closes the
auction (target reached, or collateral sold out with the reserve paying the rest) does, and only does, the following.

*Debt denomination.*  The bidder pays `p.inAmt`; nothing of it rests in the auction module (`Inv`: module debt balance = what is
not this auction's).  The pool receives it, plus `req` from the reserve when the collateral was sold out below the target
(`req = target − collected`, else 0), minus the reserve's share of the borrow's interest `⌊ReservePoolInterest⌋`, which goes to the
lend module: pool and reserve TOGETHER gain exactly what the bidder paid.

*Collateral.*  The bidder gets slice + bonus, the borrower the unsold rest (`coll0 − sold`); the pool loses exactly what a
re-liquidation hands to the auction module for the follow-up auction (`cp.redep`, booked as not this auction's) plus that
re-liquidation's penalty `cp.pen2`, which the reserve gains.  In the auction module stays, of this auction, exactly the unpaid part of
the bonus pot (`Inv.closed` — the stranded remainder of D32, `l1_close_custody_counterexample`).

*Records.*  cTokens of the debt asset minted to the pool: `⌊InterestAccumulated − ReservePoolInterest⌋`; and one of five outcomes for
locked vault / borrow / collateral cTokens (`Outcome`): repaid in full (records deleted, the cTokens `AmountIn` returned to the
borrower), no collateral left (records deleted), healthy again (borrow restored with `AmountIn`, `AmountOut − target`), still
unhealthy (liquidated again: `deduction` cTokens burned and taken off the locked vault), or stuck (a price went inactive). -/
theorem l1_close_distributes_all (e : DutchV1Lend.Env) (r : Rates) (s s' : BSt) (who : Nat) (slice : Int) (x : Ext) (a : DutchV1Lend.Auc)
    (hb : (0 : Int) ≤ e.bonus) (hi : DutchV1Lend.Inv e s.s) (ha : s.s.auc = some a)
    (h : DutchV1LendBook.bidE e r s who slice x = .ok s') (hc : s'.s.auc = none) :
    ∃ p cp lv0 req, DutchV1Lend.plan e a slice = .ok p ∧ closeBook e r s.k x = .ok cp ∧ s.k.lv = some lv0 ∧ Outcome e s.k lv0 cp ∧
      -- debt
      s'.s.bank.get .auction .debt = s'.s.otherD ∧ s'.s.otherD = s.s.otherD ∧
      s'.s.bank.get (.bidder who) .debt = s.s.bank.get (.bidder who) .debt - p.inAmt ∧
      0 ≤ req ∧ (a.inCur + p.inAmt ≥ e.target → req = 0) ∧ (a.inCur + p.inAmt < e.target → req = e.target - (a.inCur + p.inAmt)) ∧
      s'.s.bank.get .pool .debt = s.s.bank.get .pool .debt + p.inAmt + req - riOf s.k ∧
      s'.s.bank.get .lendres .debt = s.s.bank.get .lendres .debt - req + riOf s.k ∧
      -- collateral
      s'.s.bank.get .owner .coll - s.s.bank.get .owner .coll = e.coll0 - (s'.s.recv - s'.s.bonusPaid) ∧
      s'.s.bank.get .pool .coll = s.s.bank.get .pool .coll - cp.redep - cp.pen2 ∧
      s'.s.bank.get .lendres .coll = s.s.bank.get .lendres .coll + cp.pen2 ∧
      s'.s.bank.get .auction .coll = s.s.otherC + cp.redep + (e.deposit - e.coll0 - s'.s.bonusPaid) ∧
      -- records
      s'.k.lv = cp.k.lv ∧ s'.k.borrow = cp.k.borrow ∧ s'.k.liquidated = cp.k.liquidated ∧
      s'.k.cPoolDebt = s.k.cPoolDebt + mintOf s.k ∧ s'.k.cPoolColl = cp.k.cPoolColl ∧ s'.k.cOwnerColl = cp.k.cOwnerColl := by
  obtain ⟨a2, p, ha2, hp, hcase⟩ := DutchV1LendBook.bidE_ok h
  obtain rfl : a = a2 := Option.some.inj (ha.symm.trans ha2)
  have hpo := DutchV1Lend.plan_ok hb hp
  rcases hcase with ⟨-, cp, s1, req, b1, b2, b3, hcp, hs1, hreq, hb1, hb2, hb3, rfl⟩ | ⟨hnc, s1, hs1, rfl⟩
  · have hs1c : s1.auc = none := hc
    obtain ⟨lv0, hlv, c1, -, c3, c4, -, -, -, -, -, hout⟩ := closeBook_ok hcp
    have i1 := DutchV1Lend.apply_inv hi ha hpo hs1
    have m := DutchV1Lend.apply_moves hi ha hpo hs1
    obtain ⟨-, r1, r2⟩ := m.closed hs1c
    have hreq0 : 0 ≤ req := by rw [hreq]; split <;> omega
    -- the reserve's three transfers pass the auction module, the bidders and the owner by
    have t := reserve_sends hb1 hb2 hb3 hreq0 (c1 ▸ riOf_nonneg _) c3
    rw [c1] at t
    refine ⟨p, cp, lv0, req, hp, hcp, hlv, hout, ?_, m.otherD, ?_, hreq0, fun hge => by rw [hreq, if_pos hge],
      fun hlt => by rw [hreq, if_neg (Int.not_le.mpr hlt)], ?_, ?_, ?_, ?_, ?_, ?_, rfl, rfl, rfl, c4, rfl, rfl⟩
    · show b3.get .auction .debt = s1.otherD
      rw [← i1.debt_custody]; simp [t, xfer]
    · show b3.get (.bidder who) .debt = _
      rw [← m.bidder_debt]; simp [t, xfer]
    · show b3.get .pool .debt = _
      rw [← m.pool_debt]; simp [t, xfer]; omega
    · show b3.get .lendres .debt = _
      rw [← m.lendres]; simp [t, xfer]; omega
    · show b3.get .owner .coll - _ = _
      rw [← m.owner_coll hs1c]; simp [t, xfer]
    · show b3.get .pool .coll = _
      rw [← r1]; simp [t, xfer]; omega
    · show b3.get .lendres .coll = _
      rw [← m.lendres]; simp [t, xfer]
    · show b3.get .auction .coll = _
      rw [← r2, ← (i1.closed hs1c).2.2]; simp [t, xfer]
  · exact absurd hc ((DutchV1Lend.apply_moves hi ha hpo hs1).stays_open hnc)

def lbRates : Rates := { ltv := 700000000000000000, pen := 50000000000000000, thr := 750000000000000000 }
def lbLv : LV := { amtIn := 62801933, amtOut := 70000000, updOut := 70570809 }
def lbBook : Book := { lv := some lbLv, borrow := some (62801933, 70000000), intAcc := 570809034907615000000000, resInt := 114161806981523000000000, cPoolDebt := 10100000000, cPoolColl := 11062801933, cOwnerColl := 2900000000 }
def lbBank : Bank := [((.auction, .coll), 35507246), ((.bidder 1, .debt), 100000000), ((.bidder 2, .debt), 100000000),
  ((.pool, .coll), 13000000000), ((.pool, .debt), 20000000000), ((.lendres, .debt), 500)]
def lbX (twaC : Int) : Ext := { twaC := twaC, actC := true, twaD := 2000000, actD := true }
def lbRun (k : Book) (twaC : Int) : BSt := DutchV1LendBook.run l1Env lbRates { s := DutchV1Lend.initSt l1Env l1Auc lbBank, k := k }
  [.bid 1 1000000 (lbX 1800000), .tick 1200 1800000 true 2000000 true, .bid 2 32816425 (lbX twaC)]

/-- non-vacuity of `l1_close_distributes_all`, the three outcomes that move anything, on the borrow of the D32 witness with a year
of interest (570 809.03 accrued, 114 161.80 of it the reserve's).  Healthy again: the reserve gets 114 161, 456 647 cTokens are
minted, the borrow is restored with 39 565 218 owed -/
example :
    (lbRun lbBook 1800000).s.auc = none ∧ (lbRun lbBook 1800000).k.lv = none ∧ (lbRun lbBook 1800000).k.borrow = some (62801933, 39565218) ∧
    (lbRun lbBook 1800000).k.cPoolDebt = 10100456647 ∧ (lbRun lbBook 1800000).s.bank.get .lendres .debt = 114661 ∧
    (lbRun lbBook 1800000).s.bank.get .pool .debt = 20030320621 ∧ (lbRun lbBook 1800000).s.bank.get .auction .coll = 130802 := by decide

/-- a smaller debt is repaid in full: 62 801 933 cTokens go back to the borrower -/
example :
    let k2 : Book := { lbBook with lv := some { lbLv with amtOut := 30434782, updOut := 30434782 }, borrow := some (62801933, 30434782) }
    (lbRun k2 1800000).s.auc = none ∧ (lbRun k2 1800000).k.lv = none ∧ (lbRun k2 1800000).k.borrow = none ∧
    (lbRun k2 1800000).k.cOwnerColl = 2962801933 ∧ (lbRun k2 1800000).k.cPoolColl = 11000000000 := by decide

/-- the collateral price has halved — liquidated again: 206 483 951 collateral to the auction module, 9 832 569 to the reserve -/
example :
    (lbRun lbBook 900000).s.auc = none ∧ (lbRun lbBook 900000).k.lv = some { amtIn := 0, amtOut := 39565218, updOut := 40136027 } ∧
    (lbRun lbBook 900000).k.redep = 206483951 ∧ (lbRun lbBook 900000).k.pen2 = 9832569 ∧ (lbRun lbBook 900000).s.otherC = 206483951 ∧
    (lbRun lbBook 900000).s.bank.get .pool .coll = 12783683480 ∧ (lbRun lbBook 900000).s.bank.get .lendres .coll = 9832569 := by decide

end LendBook

end Comdex.C10