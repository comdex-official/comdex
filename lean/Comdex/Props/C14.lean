import Comdex.Props.C12
/-! # C14 — emergency controls fail closed: breaker and shutdown stop position changes

Clause → theorem

| property clause | theorem |
|---|---|
| breaker on ∧ breaker guard on the way ⇒ error ∧ state unchanged | `breaker_blocks` |
| ESM executed ∧ ESM guard on the way ⇒ error ∧ state unchanged | `esm_blocks` |
| needed price missing/inactive ∧ price lookup on the way ⇒ error ∧ state unchanged | `inactive_price_fails_closed` |
| collateral withdrawal after ESM only until the cool-off ends | `withdraw_refused_after_cooloff`, `withdraw_only_until_cooloff` (both directions) |
| every handler the text names (open / enlarge / draw of vault, locker, lend, borrow; vault repay/close/withdraw) has the breaker guard on every route, before its first write | `breaker_list_guarded` (+ `breaker_rejected_on_every_route`) |
| every debt-minting handler has the ESM guard on every route, before its first write | `esm_list_guarded` (+ `esm_rejected_on_every_route`) |
| vault withdraw has the cool-off guard before its first write | `cooloff_list_guarded`, `cooloff_guarded_pinned`, `spot_vault_withdraw`, `cooloff_rejected_on_every_route` |
| no price-lookup error is swallowed into a success or overwritten before it is tested; which handlers look prices up | `no_price_error_swallowed`, `price_errors_never_overwritten`, `price_errors_ignored_pinned`, `price_calls_checked_pinned`, `price_swallow_reviewed_tight`, `price_guard_pinned`, `price_needed_have_lookup`, `price_dominates_pinned`, `price_rejected_on_every_route`, `priceLookup_inactive_errors`, `priceLookup_missing_errors` |
| … after ExecuteESM the vault module and the redemption code read the price snapshot of the esm BeginBlocker: it is only ever taken from active feeds | `Props/C14Snapshot.lean` (its own table) |
| a TWA record read directly is activity-tested on the same variable | `twa_reads_test_own_activity`, `twa_reads_found_checked`, `twa_reads_pinned` |
| sweeps / auction starters skip controlled apps | `sweeps_skip_controlled`, `sweeps_pinned` |
| what the code guards beyond the text | `breaker_guarded_pinned`, `esm_guarded_pinned` |
| the liquidated vault is tied to the app whose breaker / ESM status was checked (gen-1 sweep, MsgLiquidateVault) | `liquidation_vault_tied_to_checked_app`, `app_ties_pinned` |
| SCOPE: every message of ANY module that can write a vault / locker / lend / borrow record (regenerated inventory) is breaker-guarded on every route or reviewed; the text's operations are among the writers; non-message writers pinned | `position_writers_breaker_guarded`, `breaker_unguarded_writers_tight`, `breaker_list_writes_positions`, `nonmsg_position_writers_pinned` |

The expected lists are written out here from the property text (`breakerRefused`, `esmRefused`, `coolOffRefused`,
`priceNeeded`) and proved equal to the `Spec.*` lists the driver's monitors use (`spec_lists`). -/
namespace Comdex.C14
open Comdex.Guards Comdex.Gen.Guards

theorem breaker_blocks {σ : Type} (steps : List (Step σ)) (e : Env) (s : σ)
    (hg : stdGuard .breakerEnabled ∈ steps) (hon : e.breakerOn = true) : deliver steps e s = (s, false) :=
  stdGuard_blocks _ steps e s hg (breakerEnabled_fails hon)

theorem esm_blocks {σ : Type} (steps : List (Step σ)) (e : Env) (s : σ)
    (hg : stdGuard .esmExecuted ∈ steps) (hon : e.esmExecuted = true) : deliver steps e s = (s, false) :=
  stdGuard_blocks _ steps e s hg (esmExecuted_fails hon)

/-- a price lookup whose error is returned is on the way and the price is missing / inactive ⇒ the operation fails and
changes nothing — even when state writes precede the lookup (message cache) -/
theorem inactive_price_fails_closed {σ : Type} (steps : List (Step σ)) (e : Env) (s : σ)
    (hg : stdGuard .priceLookup ∈ steps) (hoff : e.priceActive = false) : deliver steps e s = (s, false) :=
  stdGuard_blocks _ steps e s hg (priceLookup_fails hoff)

/-- `GetLatestPrice` / `CalcAssetPrice` (x/market/keeper/oracle.go:149-170) in two lines; the valuation the handlers go
through is modelled in `Model/Twa.lean` (C17) -/
def priceLookup (found active : Bool) (twa : Nat) : Except Unit Nat := if found && active then .ok twa else .error ()

theorem priceLookup_inactive_errors (found : Bool) (twa : Nat) : priceLookup found false twa = .error () := by
  simp [priceLookup]

theorem priceLookup_missing_errors (active : Bool) (twa : Nat) : priceLookup false active twa = .error () := by
  simp [priceLookup]

/-- after ESM: a handler with the cool-off guard is refused once the cool-off period has passed … -/
theorem withdraw_refused_after_cooloff {σ : Type} (steps : List (Step σ)) (e : Env) (s : σ)
    (hg : stdGuard .coolOff ∈ steps) (hesm : e.esmExecuted = true) (hpast : e.coolOffPassed = true) :
    deliver steps e s = (s, false) :=
  stdGuard_blocks _ steps e s hg (coolOff_fails hesm hpast)

/-- … and is possible until then: with the guards of vault.MsgWithdraw (breaker, cool-off, owner: `spot_vault_withdraw`) an
owner's withdrawal after ESM and before the end of the cool-off period runs its body; after the end it is refused. -/
theorem withdraw_only_until_cooloff {σ : Type} (body : σ → σ) (s : σ) (e : Env)
    (hown : e.signerIsOwner = true) (hbrk : e.breakerOn = false) (hesm : e.esmExecuted = true) :
    deliver (simple [.breakerEnabled, .coolOff, .ownerEq] body) e s =
      (if e.coolOffPassed then (s, false) else (body s, true)) := by
  simp only [deliver, applyIfNoError, C12.run_simple]
  cases hp : e.coolOffPassed <;> simp [List.find?, GClass.fails, hown, hbrk, hesm, hp]

example : deliver (simple [.breakerEnabled, .coolOff, .ownerEq] (fun (n : Nat) => n - 1))
    { esmExecuted := true, coolOffPassed := false } 5 = (4, true) := rfl
example : deliver (simple [.breakerEnabled, .coolOff, .ownerEq] (fun (n : Nat) => n - 1))
    { esmExecuted := true, coolOffPassed := true } 5 = (5, false) := rfl
example : deliver (simple [.esmExecuted, .breakerEnabled] (fun (n : Nat) => n + 1)) { breakerOn := true } 5 = (5, false) := rfl

/-- "no message can open, enlarge or draw from a vault, locker or lending/borrowing position of that app, vault
repay/close/withdraw are refused" — open: create vault / stable-mint vault / locker / lend / borrow (both forms); enlarge:
deposit into vault / stable-mint vault / locker / lend / borrow collateral; draw: vault draw (also deposit-and-draw),
borrow draw; vault repay, close, withdraw (both vault kinds). -/
def breakerRefused : List String := [
  "vault.MsgCreate", "vault.MsgDeposit", "vault.MsgWithdraw", "vault.MsgDraw", "vault.MsgRepay", "vault.MsgClose",
  "vault.MsgDepositAndDraw", "vault.MsgCreateStableMint", "vault.MsgDepositStableMint", "vault.MsgWithdrawStableMint",
  "locker.MsgCreateLocker", "locker.MsgDepositAsset",
  "lend.Lend", "lend.Deposit", "lend.Borrow", "lend.DepositBorrow", "lend.Draw", "lend.BorrowAlternate"]

/-- "after emergency shutdown has been executed for an app no message can mint new debt for it" — the handlers that call
`MintCoins` of the debt asset -/
def esmRefused : List String := [
  "vault.MsgCreate", "vault.MsgDraw", "vault.MsgDepositAndDraw", "vault.MsgCreateStableMint", "vault.MsgDepositStableMint"]

/-- "collateral withdrawal is possible only until the cool-off period ends" -/
def coolOffRefused : List String := ["vault.MsgWithdraw"]

/-- "whenever the oracle price needed by an operation is missing or inactive …": the operations that value an amount in
dollars while ESM has not been executed (collateral ratio of vault create / withdraw / draw, supply cap of lend / deposit, LTV of
borrow / draw) -/
def priceNeeded : List String := [
  "vault.MsgCreate", "vault.MsgWithdraw", "vault.MsgDraw", "vault.MsgDepositAndDraw",
  "lend.Lend", "lend.Deposit", "lend.Borrow", "lend.Draw", "lend.BorrowAlternate"]

theorem spec_lists : Spec.breakerRefused = breakerRefused ∧ Spec.esmRefused = esmRefused ∧ Spec.coolOffRefused = coolOffRefused ∧
    Spec.priceNeeded = priceNeeded :=
  ⟨rfl, rfl, rfl, rfl⟩

/-- what the code guards with the breaker (superset of the expected list: also lend withdraw / close / repay, liquidation) -/
theorem breaker_guarded_pinned :
    (handlers.filter (guarded 3 true)).map qname =
      ["vault.MsgCreate", "vault.MsgDeposit", "vault.MsgWithdraw", "vault.MsgDraw", "vault.MsgRepay", "vault.MsgClose",
       "vault.MsgDepositAndDraw", "vault.MsgCreateStableMint", "vault.MsgDepositStableMint", "vault.MsgWithdrawStableMint",
       "locker.MsgCreateLocker", "locker.MsgDepositAsset", "lend.Lend", "lend.Withdraw", "lend.Deposit", "lend.CloseLend",
       "lend.Borrow", "lend.Repay", "lend.DepositBorrow", "lend.Draw", "lend.CloseBorrow", "lend.BorrowAlternate",
       "lend.RepayWithdraw", "liquidation.MsgLiquidateVault",
       "rewards.ExternalRewardsLockers", "rewards.ExternalRewardsVault", "rewards.ExternalRewardsLend",
       "rewards.ExternalRewardsStableMint"] :=
  (C12.pin_of_col .breaker).trans rfl

theorem esm_guarded_pinned :
    (handlers.filter (guarded 2 true)).map qname =
      ["vault.MsgCreate", "vault.MsgDeposit", "vault.MsgDraw", "vault.MsgRepay", "vault.MsgClose", "vault.MsgDepositAndDraw",
       "vault.MsgCreateStableMint", "vault.MsgDepositStableMint", "vault.MsgWithdrawStableMint", "locker.MsgCreateLocker",
       "locker.MsgDepositAsset", "esm.ExecuteESM", "liquidation.MsgLiquidateVault",
       "rewards.ExternalRewardsLockers", "rewards.ExternalRewardsVault", "rewards.ExternalRewardsLend",
       "rewards.ExternalRewardsStableMint"] :=
  (C12.pin_of_col .esm).trans rfl

theorem cooloff_guarded_pinned : (handlers.filter (guarded 4 false)).map qname = ["vault.MsgWithdraw"] :=
  (C12.pin_of_col .coolOff).trans rfl

theorem breaker_list_guarded : ∀ q ∈ breakerRefused, ∃ h ∈ handlers, qname h = q ∧ guarded 3 true h = true :=
  exists_of_subset_pin breaker_guarded_pinned (by decide +kernel)

theorem esm_list_guarded : ∀ q ∈ esmRefused, ∃ h ∈ handlers, qname h = q ∧ guarded 2 true h = true :=
  exists_of_subset_pin esm_guarded_pinned (by decide +kernel)

/-- `clean = true`, which the pin above (`guarded 4 false`, as its statement stands) does not say: the one handler is evaluated -/
theorem cooloff_list_guarded : ∀ q ∈ coolOffRefused, ∃ h ∈ handlers, qname h = q ∧ guarded 4 true h = true := by
  simp only [guarded_eq_scan]; decide +kernel

/-- vault.MsgWithdraw tests `BlockTime().After(EndTime) && status` (refused AFTER the cool-off), breaker first -/
theorem spot_vault_withdraw :
    ((find? "vault.MsgWithdraw").map fun h =>
      (h.items.filter fun it => it.kind == 0 && it.cls != 0 && it.cls < 7 && !it.cond && it.path == []).map fun it => (it.cls, it.wb, it.detail)) =
    some [(3, false, "breakerEnabled: killSwitchParams.BreakerEnable"),
          (4, false, "coolOff: after: ctx.BlockTime().After(esmStatus.EndTime) && status"),
          (1, false, "ownerEq: userVault.Owner != msg.From")] := by decide +kernel

/-- Reviewed exception (gen-1 x/auction message server): settling a lend Dutch
bid calls `UnLiquidateLockedBorrows`, which logs and drops the error of `UpdateLockedBorrows` (liquidate_borrow.go:474,532,589);
that callee reaches `CalcAssetPrice` only at call sites that discard the error themselves (`price_errors_ignored_pinned`), so
no price error is lost here that was not already ignored. -/
def priceSwallowReviewed : List String := ["auction.MsgPlaceDutchLendBid"]

theorem price_swallow_reviewed_tight :
    (handlers.filter swallowsPrice).map qname = priceSwallowReviewed :=
  (C12.pin_of_col .swallowsPrice).trans rfl

/-- price lookups: never swallowed into a success (an `if err != nil` branch returning ok, or — `swallow` items of class
priceLookup are also emitted for this — an error variable overwritten before it was tested) -/
theorem no_price_error_swallowed :
    ∀ h ∈ handlers, swallowsPrice h = false ∨ qname h ∈ priceSwallowReviewed := by
  intro h hh
  cases hb : swallowsPrice h
  · exact .inl rfl
  · exact .inr (mem_of_pin price_swallow_reviewed_tight hh hb)

/-- Nor is a price error lost by OVERWRITING: at no call site of `CalcAssetPrice` / `GetLatestPrice` in keeper code is the returned error
assigned again before it was tested (`a, err := price(x); b, err := price(y); if err != nil` loses the first error and
lets `x` be valued at zero). Every call site is either `checked` or explicitly `ignored` (`_`). -/
theorem price_errors_never_overwritten :
    ∀ c ∈ priceCalls, c.status = "checked" ∨ c.status = "ignored" := by decide +kernel

/-- the call sites that discard the error on purpose (`value, _ := …`), reviewed: none of them is on the way of a user
message of the vault / locker / lend handlers — `CreteNewBorrow` (lend: re-creating a borrow after an auction),
`UpdateLockedBorrows` (liquidation bookkeeping after the position is locked), liquidity reward / fee weighting (a zero weight
for an un-priced pool), vault query handlers. -/
theorem price_errors_ignored_pinned :
    (priceCalls.filter fun c => c.status == "ignored").map (fun c => (c.file, c.fn)) =
      [("x/lend/keeper/keeper.go", "CreteNewBorrow"), ("x/lend/keeper/keeper.go", "CreteNewBorrow"),
       ("x/lend/keeper/keeper.go", "CreteNewBorrow"),
       ("x/liquidation/keeper/liquidate_borrow.go", "UpdateLockedBorrows"),
       ("x/liquidation/keeper/liquidate_borrow.go", "UpdateLockedBorrows"),
       ("x/liquidation/keeper/liquidate_borrow.go", "UpdateLockedBorrows"),
       ("x/liquidity/keeper/pool.go", "TransferFundsForSwapFeeDistribution"),
       ("x/liquidity/keeper/pool.go", "TransferFundsForSwapFeeDistribution"),
       ("x/liquidity/keeper/rewards.go", "GetAggregatedChildPoolContributions"),
       ("x/liquidity/keeper/rewards.go", "GetFarmingRewardsData"),
       ("x/vault/keeper/query_server.go", "QueryTVLByApp"), ("x/vault/keeper/query_server.go", "QueryUserMyPositionByApp"),
       ("x/vault/keeper/query_server.go", "QueryUserMyPositionByApp")] := rfl

/-- the checked call sites, by function (the valuation functions every price-dependent handler goes through) -/
theorem price_calls_checked_pinned :
    (priceCalls.filter fun c => c.status == "checked").map (fun c => (c.fn, c.asset)) =
      [("LendDutchActivator", "assetIn.Id"), ("LendDutchActivator", "assetOut.Id"), ("CheckSupplyCap", "assetID"),
       ("BorrowAsset", "pair.AssetOut"), ("BorrowAsset", "lendPos.AssetID"), ("BorrowAsset", "firstTransitAssetID"),
       ("BorrowAsset", "secondTransitAssetID"), ("DepositBorrowAsset", "pair.AssetIn"),
       ("DepositBorrowAsset", "firstTransitAssetID"), ("DepositBorrowAsset", "secondTransitAssetID"),
       ("CalculateCollateralizationRatio", "assetIn.Id"), ("CalculateCollateralizationRatio", "assetOut.Id"),
       ("LiquidateVaults", "assetIn.Id"), ("MsgLiquidateVault", "assetIn.Id"),
       ("CalculateCollateralizationRatio", "assetInData.Id"), ("CalculateCollateralizationRatio", "assetOutData.Id")] := rfl

/-- Direct reads of a TWA record (`x, found := ….GetTwa(ctx, id)`, outside the market module): the activity test that follows
is on the SAME variable that was just read. `if !found || !twaOther.IsPriceActive` after reading `twaThis` (status `other`) lets an
operation run on an inactive feed; it is excluded for every read site. The two reads that are not activity-tested at all are
listed and reviewed:
* `x/liquidity/keeper/rewards.go CalcAssetPrice` — the liquidity module's own valuation helper accepts any record with
  `Twa > 0`; it is only used to weight rewards / fees (its callers discard the error, see `price_errors_ignored_pinned`).
* `x/auctionsV2/keeper/bid.go PlaceDutchAuctionBid` — the bid reads the debt asset's TWA with `debtToken, _ :=` and no test
  (notes/C14.md, observation). -/
def twaUntestedReviewed : List (String × String) := [
  ("x/auctionsV2/keeper/bid.go", "PlaceDutchAuctionBid"), ("x/liquidity/keeper/rewards.go", "CalcAssetPrice")]

theorem twa_reads_test_own_activity :
    ∀ r ∈ twaReads, r.status = "own" ∨ (r.status = "untested" ∧ (r.file, r.fn) ∈ twaUntestedReviewed) := by decide +kernel

theorem twa_reads_found_checked :
    ∀ r ∈ twaReads, r.status = "own" → r.foundChecked = true := by decide +kernel

theorem twa_reads_pinned :
    twaReads.length = 20 ∧ (twaReads.filter fun r => r.status == "own").length = 18 ∧
    (twaReads.filter fun r => r.status == "other").length = 0 ∧
    (twaReads.filter fun r => r.status == "own").map (fun r => (r.fn, r.var, r.asset)) =
      [("StartDutchAuction", "twaData", "assetOutID"), ("StartDutchAuction", "twaData", "assetInID"),
       ("RestartDutchAuctions", "twaData", "dutchAuction.AssetInId"), ("RestartDutchAuctions", "twaData", "dutchAuction.AssetOutId"),
       ("StartLendDutchAuction", "twaInData", "assetInID"), ("StartLendDutchAuction", "twaData", "assetOutID"),
       ("RestartDutchLendAuctions", "twaData", "dutchAuction.AssetInId"),
       ("RestartDutchLendAuctions", "twaData", "dutchAuction.AssetOutId"),
       ("DutchAuctionActivator", "twaDataCollateral", "liquidationData.CollateralAssetId"),
       ("DutchAuctionActivator", "twaDataDebt", "liquidationData.DebtAssetId"),
       ("RestartDutchAuction", "twaDataCollateral", "dutchAuction.CollateralAssetId"),
       ("RestartDutchAuction", "twaDataDebt", "dutchAuction.DebtAssetId"),
       ("UpdateDutchAuction", "twaDataCollateral", "dutchAuction.CollateralAssetId"),
       ("UpdateDutchAuction", "twaDataDebt", "dutchAuction.DebtAssetId"),
       ("SnapshotOfPrices", "price", "a.Id"), ("OraclePrice", "price", "asset.Id"), ("OraclePrice", "price", "asset.Id"),
       ("OraclePriceForRewards", "price", "asset.Id")] := ⟨rfl, rfl, rfl, rfl⟩

theorem price_guard_pinned :
    (handlers.filter hasPriceGuard).map qname =
      ["vault.MsgCreate", "vault.MsgWithdraw", "vault.MsgDraw", "vault.MsgDepositAndDraw", "lend.Lend", "lend.Deposit",
       "lend.Borrow", "lend.DepositBorrow", "lend.Draw", "lend.BorrowAlternate", "liquidation.MsgLiquidateVault",
       "liquidation.MsgLiquidateBorrow", "liquidationsV2.MsgLiquidateInternalKeeper"] :=
  (C12.pin_of_col .priceGuard).trans rfl

/-- every operation of the expected list is among them (the lookup is conditional in the vault module: after ESM the snapshot
price is used instead) -/
theorem price_needed_have_lookup : ∀ q ∈ priceNeeded, ∃ h ∈ handlers, qname h = q ∧ hasPriceGuard h = true :=
  exists_of_subset_pin price_guard_pinned (by decide +kernel)

/-- the handlers where an unconditional price lookup dominates every exit (for the others the lookup is conditional: the vault
module reads the ESM price snapshot instead of the oracle after shutdown; lend inter-pool borrows price the transit assets) -/
theorem price_dominates_pinned :
    (handlers.filter (guarded 5 false)).map qname =
      ["lend.Lend", "lend.Deposit", "lend.Borrow", "lend.BorrowAlternate", "liquidation.MsgLiquidateVault"] :=
  (C12.pin_of_col .priceDominates).trans rfl

/-- every liquidation sweep and surplus/debt auction starter tests the breaker flag in the skipping direction before any write -/
theorem sweeps_skip_controlled : ∀ s ∈ sweeps, skipsControlled s = true := by decide +kernel

/-- per sweep: what the test guards (`skip` the app / `start` the auction), how the flags are joined (`atom` = breaker alone),
each flag tested as it stands (`pos`), negated (`neg`) or not at all (`none`); `skipsControlled` reads these -/
theorem sweeps_pinned :
    sweeps.map (fun s => (s.module, s.fn, s.action, s.conn, s.breaker, s.esm)) =
      [("liquidation", "LiquidateVaults", "skip", "or", "pos", "pos"),
       ("liquidation", "LiquidateBorrows", "skip", "atom", "pos", "none"),
       ("liquidationsV2", "LiquidateIndividualVault", "skip", "or", "pos", "pos"),
       ("liquidationsV2", "LiquidateIndividualBorrow", "skip", "atom", "pos", "none"),
       ("liquidationsV2", "LiquidateForSurplusAndDebt", "start", "and", "neg", "none"),
       ("auction", "SurplusActivator", "start", "and", "neg", "neg"),
       ("auction", "DebtActivator", "start", "and", "neg", "neg"),
       ("rewards", "DistributeExtRewardLocker", "skip", "atom", "pos", "none"),
       ("rewards", "DistributeExtRewardVault", "skip", "atom", "pos", "none"),
       ("rewards", "DistributeExtRewardLend", "skip", "atom", "pos", "none")] := rfl

theorem breaker_rejected_on_every_route {σ : Type} :
    ∀ q ∈ breakerRefused, ∃ h ∈ handlers, qname h = q ∧ ∀ p ∈ exits h.items,
      ∀ (sem : Sem σ) (e : Env) (s : σ), e.breakerOn = true → deliver (stepsOf sem (routeOf p.1 p.2)) e s = (s, false) := by
  intro q hq
  obtain ⟨h, hh, hn, hg⟩ := breaker_list_guarded q hq
  exact ⟨h, hh, hn, fun p hp sem e s hon =>
    guarded_rejects .breakerEnabled hg (by decide) p hp sem e s (breakerEnabled_fails hon)⟩

theorem esm_rejected_on_every_route {σ : Type} :
    ∀ q ∈ esmRefused, ∃ h ∈ handlers, qname h = q ∧ ∀ p ∈ exits h.items,
      ∀ (sem : Sem σ) (e : Env) (s : σ), e.esmExecuted = true → deliver (stepsOf sem (routeOf p.1 p.2)) e s = (s, false) := by
  intro q hq
  obtain ⟨h, hh, hn, hg⟩ := esm_list_guarded q hq
  exact ⟨h, hh, hn, fun p hp sem e s hon =>
    guarded_rejects .esmExecuted hg (by decide) p hp sem e s (esmExecuted_fails hon)⟩

theorem cooloff_rejected_on_every_route {σ : Type} :
    ∀ q ∈ coolOffRefused, ∃ h ∈ handlers, qname h = q ∧ ∀ p ∈ exits h.items,
      ∀ (sem : Sem σ) (e : Env) (s : σ), e.esmExecuted = true → e.coolOffPassed = true →
        deliver (stepsOf sem (routeOf p.1 p.2)) e s = (s, false) := by
  intro q hq
  obtain ⟨h, hh, hn, hg⟩ := cooloff_list_guarded q hq
  exact ⟨h, hh, hn, fun p hp sem e s hon hpast =>
    guarded_rejects .coolOff hg (by decide) p hp sem e s (coolOff_fails hon hpast)⟩

theorem price_rejected_on_every_route {σ : Type} :
    ∀ h ∈ handlers, guarded 5 false h = true → ∀ p ∈ exits h.items,
      ∀ (sem : Sem σ) (e : Env) (s : σ), e.priceActive = false → deliver (stepsOf sem (routeOf p.1 p.2)) e s = (s, false) := by
  intro h _ hg p hp sem e s hoff
  exact guarded_rejects .priceLookup hg (by decide) p hp sem e s (priceLookup_fails hoff)

/-- Message entry points that reach a setter / deleter of a vault, stable-mint vault, locker, lend or borrow record and are NOT
breaker-guarded on every route — reviewed:
* `auction.MsgPlaceDutchLendBid`, `auctionsV2.MsgPlaceMarketBid` — bids on a running auction of an ALREADY liquidated position; the
  position record is written to settle the auction / return the remainder (starting auctions is what the sweeps' breaker test stops).
* `lend.CalculateInterestAndRewards`, `vault.MsgVaultInterestCalc`, `locker.MsgLockerRewardCalc` — accrual only (nothing is opened,
  enlarged or drawn).
* `lend.FundReserveAccounts` — the signer funds the reserve; its tail `RemoveFaultyAuctions` (keeper.go:1619) un-locks borrows that
  are stuck in faulty gen-1 lend auctions.
* `liquidation.MsgLiquidateBorrow`, `liquidationsV2.MsgLiquidateInternalKeeper` — the breaker test sits inside the per-position
  function (`sweeps` table: `LiquidateIndividualVault/Borrow`, action skip) and is exercised by the harness (the driver's
  monitor `breaker_closed` is not demanded of them by the text; its monitor `sweep_skips` is).
* `locker.MsgWithdrawAsset`, `locker.MsgCloseLocker` — the reading of "draw from" (notes/C14.md): not guarded, recorded. -/
def breakerUnguardedWriters : List String := [
  "auction.MsgPlaceDutchLendBid", "auctionsV2.MsgPlaceMarketBid", "lend.CalculateInterestAndRewards", "lend.FundReserveAccounts",
  "liquidation.MsgLiquidateBorrow", "liquidationsV2.MsgLiquidateInternalKeeper", "locker.MsgWithdrawAsset", "locker.MsgCloseLocker",
  "locker.MsgLockerRewardCalc", "vault.MsgVaultInterestCalc"]

theorem breaker_unguarded_writers_tight :
    ((entryPoints.filter fun e => e.kind == "msg" && e.posWrites &&
        !(handlers.any fun h => qname h == epName e && guarded 3 true h)).map epName) = breakerUnguardedWriters := by
  -- a breaker-guarded handler of that name exists iff the name is in the list `breaker_guarded_pinned` pins
  simp only [any_eq_contains_of_pin breaker_guarded_pinned]; decide +kernel

/-- **every message of ANY module that can write a position record has the breaker guard on every route to success before its
first write, or is on the reviewed list** — a new handler (or an existing one that starts writing positions) fails here -/
theorem position_writers_breaker_guarded :
    ∀ e ∈ entryPoints, e.kind = "msg" → e.posWrites = true →
      (∃ h ∈ handlers, qname h = epName e ∧ guarded 3 true h = true) ∨ epName e ∈ breakerUnguardedWriters := by
  intro e he hk hw
  cases hb : handlers.any fun h => qname h == epName e && guarded 3 true h
  · exact .inr (mem_of_pin breaker_unguarded_writers_tight he (by simp [hk, hw, hb]))
  · obtain ⟨h, hh, hp⟩ := List.any_eq_true.mp hb
    simp only [Bool.and_eq_true, beq_iff_eq] at hp
    exact .inl ⟨h, hh, hp⟩

/-- the expected breaker list is inside the set of position writers (the text's operations do write positions) -/
theorem breaker_list_writes_positions :
    ∀ q ∈ breakerRefused, ∃ e ∈ entryPoints, e.kind = "msg" ∧ epName e = q ∧ e.posWrites = true := by decide +kernel

/-- position writers that are not messages: the two contract-only re-parametrisations (they accrue every vault / locker of the
pair before changing its rates) and the block hooks; of the hooks only auctionsV2, esm and liquidationsV2 are wired
(`C12.unwired_entry_points_pinned`), their control tests are the `sweeps` table, `Props/C14Snapshot` and the begin-block units -/
theorem nonmsg_position_writers_pinned :
    ((entryPoints.filter fun e => e.kind != "msg" && e.posWrites).map fun e => (e.kind, epName e, e.registered)) =
      [("wasm", "wasm.MsgUpdatePairsVault", true), ("wasm", "wasm.MsgUpdateCollectorLookupTable", true),
       ("blocker", "auction.BeginBlocker", false), ("blocker", "auctionsV2.BeginBlocker", true), ("blocker", "esm.BeginBlocker", true),
       ("blocker", "liquidation.BeginBlocker", false), ("blocker", "liquidationsV2.BeginBlocker", true)] := by decide +kernel

example : (entryPoints.filter fun e => e.kind == "msg" && e.posWrites).length = 34 := by decide +kernel

/-- In the gen-1 sweep `LiquidateVaults` and in `MsgLiquidateVault` the breaker / ESM status is read for ONE app id expression
(`appIds[i]` resp. `appID`); the vault that is then liquidated is tied to exactly that expression by a failing comparison
`vault.AppId != <that expression>`. Comparing the vault's app with anything else (its extended pair's app, …) lets a controlled
app's vault be liquidated during another app's iteration or by a message that names another app (seeded/s115). -/
theorem liquidation_vault_tied_to_checked_app : ∀ t ∈ appTies, t.found = true ∧ t.tied = true := by decide +kernel

theorem app_ties_pinned :
    appTies.map (fun t => (t.module, t.fn, t.checked, t.lhs, t.rhs)) =
      [("liquidation", "LiquidateVaults", "appIds[i]", "vault.AppId", "appIds[i]"),
       ("liquidation", "MsgLiquidateVault", "appID", "vault.AppId", "appID")] := rfl

end Comdex.C14
