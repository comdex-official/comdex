import Comdex.Gen.Pure
import Comdex.Lemmas.PureTwa
import Comdex.Lemmas.ListSum
/-!
# C17 — the window mean of the model IS the arithmetic of the current Go source

`Gen.Pure.calculateTwa` is regenerated on every run by `extract/pure` from `x/market/keeper/oracle.go: CalculateTwa`
(a 128-bit accumulation of the first `twaBatch` samples with `bits.Add64`, the mean with `bits.Div64`; the
struct parameter `twa` is flattened to the two fields the function uses; the event emission at the end is declared
effect-only and replaced by a comment, see notes/PURE.md).  `Twa.calcTwa` is the hand-written model of the C17 theorems.

Go function → theorem
* `CalculateTwa` → `pure_calculateTwa_eq_model`: for every window of `uint64` samples and every batch size below 2^63
  (the loop bound is `int(twaBatch)`) the translation returns the model's mean `⌊Σ/N⌋` — the 128-bit accumulator never
  loses a carry and `Div64`'s precondition `hi < N` always holds — and it panics exactly where the model does
  (`N = 0`: divide error; fewer than `N` samples: index out of range).

Trusted: the translator's reading of Go and `Base/GoSem.lean`; kernel-checked: the equality with the model.
-/
namespace Comdex.C17
open Comdex.GoSem Comdex.PureTwa

local notation "W" => (18446744073709551616 : Nat)

theorem pure_calculateTwa_eq_model (old : Nat) (vs : List Nat) (N : Nat)
    (hN : N < 9223372036854775808) (hv : ∀ v ∈ vs, v < W) :
    Gen.Pure.calculateTwa old vs N = twaOutcome (Twa.calcTwa vs N) := by
  unfold Gen.Pure.calculateTwa Twa.calcTwa
  simp only []
  change (forIn (rangeI64 0 (u64ToI64 N)) (0, 0, 0) (twaBody vs) >>= _) = _
  have hr : rangeI64 0 (u64ToI64 N) = (List.range' 0 N).map (fun (k : Nat) => (k : Int)) := by
    unfold rangeI64 u64ToI64
    rw [wrapI64_of_fits (by omega) (by omega), Int.sub_zero, Int.toNat_natCast, List.range_eq_range']
    apply List.map_congr_left
    intro k _
    exact Int.zero_add _
  rw [hr]
  obtain ⟨hS, hF⟩ := twaLoop vs hv N 0 0 0 0 (by decide) (by omega)
  by_cases h0 : N = 0
  · subst h0
    simp only [if_true]
    rfl
  · by_cases hlen : vs.length < N
    · rw [hF (by omega) (by omega)]
      simp only [h0, hlen, if_false, if_true]
      rfl
    · obtain ⟨c', hc'⟩ := hS (by omega)
      rw [hc']
      simp only [h0, hlen, if_false, ok_bind, Nat.zero_mul, Nat.zero_add, List.drop_zero]
      have hsum := ListSum.sum_add_length_le W (vs.take N) (fun v hm => hv v (List.mem_of_mem_take hm))
      rw [List.length_take, Nat.min_eq_left (by omega)] at hsum
      generalize (vs.take N).sum = S at *
      have hhi : ¬ N ≤ S / W := by omega
      unfold bitsDiv64
      have e : S / W * two64 + S % W = S := by
        show S / W * W + S % W = S
        omega
      simp only [h0, hhi, if_false, e, ok_bind]
      split <;> rfl

/-! non-vacuity: a window whose sum needs 65 bits, a short window, batch size 0 -/
example : Gen.Pure.calculateTwa 0 [18446744073709551615, 18446744073709551615, 3] 3 = .ok 12297829382473034411 := by rfl
example : Twa.calcTwa [18446744073709551615, 18446744073709551615, 3] 3 = .ok 12297829382473034411 := by rfl
example : Gen.Pure.calculateTwa 7 [1, 2] 3 = .error .panic := by rfl
example : Gen.Pure.calculateTwa 7 [1, 2] 0 = .error .panic := by rfl

end Comdex.C17
