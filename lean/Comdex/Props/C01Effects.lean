import Comdex.Lemmas.VaultStep
import Comdex.Lemmas.Effects
import Comdex.Gen.Effects_vault
import Comdex.Gen.Effects_liquidationsV2
import Comdex.Gen.Effects_esm
/-!
# C01 (and C02, C03) — the EFFECT SKELETON of the vault handlers is the model's

`Gen/Effects_vault.lean` is regenerated from x/vault/keeper/msg_server.go (and what it calls) on every run: for each of the
eleven messages the ordered bank calls and record writes with their path conditions (extract/effects).  `Model/Vault.lean` has
the bank calls of each handler as DATA (`createOps`, `depositOps`, `withdrawOps`, `drawOps`, `repayOps`, `closeOps`,
`stableMintOps`, `stableWithdrawOps`, and of the hand-overs out of vault custody `seizeOps`, `esmVaultOps`, `esmStableOps`;
every handler is *defined through* its list).  Here the two are proved equal after
projection to (kind, from-party role, to-party role, denomination role, "only if its amount is positive"), for ALL inputs of
the model, on the path selected by the model's own branch condition.  Amount expressions are not compared — the
correspondence runs of C01/C02/C03 do that; what this adds is STATIC COMPLETENESS: a transfer that moved under another guard,
lost its guard, changed party or denomination, disappeared, or a new transfer, changes the regenerated table and one of the
theorems below no longer compiles — whatever states the generated population reaches.  ("seed sNN": `/verif/seeded/sNN-…`.)

## reviewed role table (Go text after normalisation ↦ model role)

| text | role |
|---|---|
| `"vaultV1"` (`types.ModuleName` in x/vault) | `vm` |
| `"collectorV1"` (`collectortypes.ModuleName`) | `cm` |
| `addr(msg.From)` (`sdk.AccAddressFromBech32(msg.From)`) | the signer `from_` |
| `asset.GetAsset(asset.GetPair(asset.GetPairsVault(msg.ExtendedPairVaultId).PairId).AssetIn).Denom` | `p.denomIn` (collateral) |
| `… .AssetOut).Denom` | `p.denomOut` (debt) |

## reviewed condition tables (`…Val`): Go condition ↦ the model's branch condition

| handler | Go condition | model |
|---|---|---|
| MsgCreate | `DrawDownFee.IsZero() && msg.AmountOut.GT(0)` | `p.drawDownFee = 0 ∧ amtOut > 0` (`mintAndSplit`) |
| MsgDraw / stable mint | `DrawDownFee.IsZero() && msg.Amount.GT(0)` | `p.drawDownFee = 0 ∧ amt > 0` (stable mint: the model tests the MINTED amount, which is positive whenever the mint before it succeeded — same truth value on every accepted run) |
| MsgDepositAndDraw | `DrawDownFee.IsZero() && calculateUserToken(…).GT(0)` | the same for the derived draw amount |
| MsgRepay | `msg.Amount.LTE(userVault.InterestAccumulated)` | `amt ≤ v.interest` (`repayOps`) |
| MsgRepay, stable mint | `msg.Amount.GT(0)` | true: the handler (msg_server.go:656) / ValidateBasic rejected `≤ 0` before; the model has `.send`, not `.sendPos`, there |
| MsgWithdrawStableMint | early `return nil, nil` when `GetAmountOfOtherToken` errs | not taken (the model's `otherToken` is total; the error case is excluded by the price inputs) |
| MsgWithdrawStableMint | `updatedAmount.GT(0)` | `amt − feeOf amt fee > 0` (`stableWithdrawOps`) |

`relaxAt`: in MsgWithdrawStableMint the collateral is returned by an UNGUARDED `SendCoinsFromModuleToAccount`
(msg_server.go:1366, 1408: once per fee branch) where the model has `.sendPos` (x/bank drops zero coins, the amount is
non-negative); so are the two esm hand-overs (esm.go:407, 442 and 520, 559: both branches of each).  These three transfers of
the model are the only places where the positivity class of model and code differ; `stableWithdraw_effects` and `esm_effects`
list them explicitly (`relaxAt` at one index each).

## clause → theorem

| clause | theorem |
|---|---|
| bank skeleton of MsgCreate = model | `create_effects` |
| … MsgDeposit / MsgWithdraw / MsgDraw | `deposit_effects`, `withdraw_effects`, `draw_effects` |
| … MsgRepay (both branches) | `repay_effects` |
| … MsgClose | `close_effects` |
| … MsgDepositAndDraw = deposit then draw | `depositAndDraw_effects` |
| … MsgCreateStableMint / MsgDepositStableMint / MsgWithdrawStableMint | `stableCreate_effects`, `stableDeposit_effects`, `stableWithdraw_effects` |
| MsgVaultInterestCalc makes no bank call | `interestCalc_effects` |
| liquidationsV2 `LiquidateIndividualVault` moves the collateral vault → auction custody, if positive = `seizeOps` | `seize_effects` (`custody_go_all`) |
| x/esm redemption of a vault / stable-mint vault: one unguarded transfer vault → esm per vault, both branches = `esmVaultOps` / `esmStableOps` up to the positivity class | `esm_effects` |
| the liquidation sweeps run each liquidation inside `ApplyFuncIfNoError` (seed s61) | `sweep_cached` |
| `MsgCollateralRedemption` / collector debt redemption: golden skeleton (the model has them as direct ledger edits) | `esm_pins` |
| the model's create / deposit / withdraw / draw / repay / close run exactly their lists, then only touch records (the other handlers: `Lemmas/VaultStep.lean`) | `close_runs_ops`, `repay_runs_ops`, `create_runs_ops`, `deposit_runs_ops`, `withdraw_runs_ops`, `draw_runs_ops` |
| every bank call of the eleven handlers is classified, no opaque call | `vault_all_classified` |
| the handler body writes its own records only after its last bank call (every path) | `vault_writes_after_bank` |
| which own records each handler writes, in order (golden list — weaker tie, the model's record update is not data) | `vault_own_writes` |
| table is not empty / has the expected shape | `vault_table_shape` |
-/
namespace Comdex.C01
open Comdex.Vault Comdex.Effects Comdex.Gen.Effects

inductive Role where
  | vm | cm | signer | am | em
  deriving DecidableEq, Repr

inductive DRole where
  | coll | debt
  deriving DecidableEq, Repr

abbrev VSkel := Skel Role DRole

def tIn : String := "asset.GetAsset(asset.GetPair(asset.GetPairsVault(msg.ExtendedPairVaultId).PairId).AssetIn).Denom"
def tOut : String := "asset.GetAsset(asset.GetPair(asset.GetPairsVault(msg.ExtendedPairVaultId).PairId).AssetOut).Denom"

def vaultRoles : Roles Role DRole where
  acct := fun t =>
    if t == "\"vaultV1\"" then some .vm
    else if t == "\"collectorV1\"" then some .cm
    else if t == "addr(msg.From)" then some .signer
    else none
  denom := fun t => if t == tIn then some .coll else if t == tOut then some .debt else none

def roleOf (from_ a : Nat) : Option Role :=
  if a = vm then some .vm else if a = cm then some .cm else if a = am then some .am else if a = em then some .em
  else if a = from_ then some .signer else none

def dRoleOf (p : Product) (d : Nat) : Option DRole :=
  if d = p.denomIn then some .coll else if d = p.denomOut then some .debt else none

def mk (k : BKind) (s d : Option Role) (dn : DRole) (pos : Bool) : VSkel := ⟨k, s, d, dn, pos⟩

def opSkel (p : Product) (from_ : Nat) : BankOp → Option VSkel
  | .send a b d _ => match roleOf from_ a, roleOf from_ b, dRoleOf p d with
    | some x, some y, some z => some (mk .send (some x) (some y) z false) | _, _, _ => none
  | .sendPos a b d _ => match roleOf from_ a, roleOf from_ b, dRoleOf p d with
    | some x, some y, some z => some (mk .send (some x) (some y) z true) | _, _, _ => none
  | .mint d _ => (dRoleOf p d).map fun z => mk .mint none (some .vm) z false
  | .burn d _ => (dRoleOf p d).map fun z => mk .burn (some .vm) none z false
  | .burnPos d _ => (dRoleOf p d).map fun z => mk .burn (some .vm) none z true

/-- `skeleton : List BankOp → List Skel` (partial: `none` if an account or denomination has no role) -/
def modelSkel (p : Product) (from_ : Nat) : List BankOp → Option (List VSkel)
  | [] => some []
  | op :: rest => match opSkel p from_ op, modelSkel p from_ rest with
    | some a, some l => some (a :: l)
    | _, _ => none

/-- the signer is a user account, the two assets of the pair differ (x/asset AddPairsRecords rejects equal assets) -/
structure Wf (p : Product) (from_ : Nat) : Prop where
  nvm : from_ ≠ vm
  ncm : from_ ≠ cm
  nam : from_ ≠ am
  nem : from_ ≠ em
  nd  : p.denomIn ≠ p.denomOut

theorem role_vm (f : Nat) : roleOf f vm = some .vm := by simp [roleOf]
theorem role_cm (f : Nat) : roleOf f cm = some .cm := by simp [roleOf, cm, vm]
theorem role_am (f : Nat) : roleOf f am = some .am := by simp [roleOf, cm, vm, am]
theorem role_em (f : Nat) : roleOf f em = some .em := by simp [roleOf, cm, vm, am, em]
theorem role_from {p : Product} {f : Nat} (h : Wf p f) : roleOf f f = some .signer := by
  simp [roleOf, h.nvm, h.ncm, h.nam, h.nem]
theorem drole_in (p : Product) : dRoleOf p p.denomIn = some .coll := by simp [dRoleOf]
theorem drole_out {p : Product} {f : Nat} (h : Wf p f) : dRoleOf p p.denomOut = some .debt := by
  have : p.denomOut ≠ p.denomIn := fun e => h.nd e.symm
  simp [dRoleOf, this]

/-- positions at which the code sends unguarded where the model has `.sendPos` (see header) -/
def relaxAt : List Nat → List VSkel → List VSkel
  | _, [] => []
  | idx, x :: rest => (if idx.contains 0 then { x with pos := false } else x) :: relaxAt (idx.filterMap fun i => if i = 0 then none else some (i - 1)) rest

def cCreate : String := "asset.GetPairsVault(msg.ExtendedPairVaultId).DrawDownFee.IsZero() && msg.AmountOut.GT(0)"
def cDraw : String := "asset.GetPairsVault(msg.ExtendedPairVaultId).DrawDownFee.IsZero() && msg.Amount.GT(0)"
def cDepDraw : String := "asset.GetPairsVault(msg.ExtendedPairVaultId).DrawDownFee.IsZero() && vault.calculateUserToken(vault.GetVault(msg.UserVaultId), msg.Amount).GT(0)"
def cRepay : String := "msg.Amount.LTE(vault.GetVault(msg.UserVaultId).InterestAccumulated)"
def cAmtPos : String := "msg.Amount.GT(0)"
/-- `_, tokenOutAmount, err := k.GetAmountOfOtherToken(ctx, assetOutData.Id, 1, msg.Amount, assetInData.Id, 1); if err != nil { return nil, nil }`
(msg_server.go:1336-1339; long texts are printed head…hash of the whole text…tail by the extractor) -/
def cSwErr : String := "vault.GetAmountOfOtherToken(asset.GetAsset(asset.GetPair(asset.GetPairsVault(msg.ExtendedPairVau…47de1cbb…VaultId).PairId).AssetIn).Id, sdk.OneDec())#3 != nil"
def cSwUpd : String := "msg.Amount.Sub(sdk.NewDecFromInt(msg.Amount).Mul(asset.GetPairsVault(msg.ExtendedPairVaultId).DrawDownFee).TruncateInt()).GT(0)"

def sSig : Option Role := some .signer
def sVm : Option Role := some .vm
def sCm : Option Role := some .cm

/-- mint, then the whole amount to the user (zero draw-down fee) -/
def skMintFree : List VSkel := [mk .mint none sVm .debt false, mk .send sVm sSig .debt false]
/-- mint, fee to the collector if positive, rest to the user if positive -/
def skMintFee : List VSkel := [mk .mint none sVm .debt false, mk .send sVm sCm .debt true, mk .send sVm sSig .debt true]

abbrev goCreate (b : Bool) : Prop := GoIs vaultRoles (valOf [(cCreate, b)]) h_vault_MsgCreate
    (mk .send sSig sVm .coll true :: (if b then skMintFree else skMintFee))
abbrev goDeposit : Prop := GoIs vaultRoles (valOf []) h_vault_MsgDeposit [mk .send sSig sVm .coll true]
abbrev goWithdraw : Prop := GoIs vaultRoles (valOf []) h_vault_MsgWithdraw [mk .send sVm sSig .coll true]
abbrev goDraw (b : Bool) : Prop := GoIs vaultRoles (valOf [(cDraw, b)]) h_vault_MsgDraw
    (if b then skMintFree else skMintFee)
abbrev goRepay (b : Bool) : Prop := GoIs vaultRoles (valOf [(cRepay, b), (cAmtPos, true)]) h_vault_MsgRepay
    (if b then [mk .send sSig sVm .debt false, mk .send sVm sCm .debt false]
     else [mk .send sSig sVm .debt false, mk .burn sVm none .debt true, mk .send sVm sCm .debt true])
abbrev goClose : Prop := GoIs vaultRoles (valOf []) h_vault_MsgClose
    [mk .send sSig sVm .debt true, mk .send sVm sCm .debt true, mk .send sVm sCm .debt true,
     mk .burn sVm none .debt true, mk .send sVm sSig .coll true]
abbrev goDepositAndDraw (b : Bool) : Prop := GoIs vaultRoles (valOf [(cDepDraw, b)]) h_vault_MsgDepositAndDraw
    (mk .send sSig sVm .coll true :: (if b then skMintFree else skMintFee))
abbrev goStableCreate (b : Bool) : Prop :=
  GoIs vaultRoles (valOf [(cDraw, b), (cAmtPos, true)]) h_vault_MsgCreateStableMint
    (mk .send sSig sVm .coll false :: (if b then skMintFree else skMintFee))
abbrev goStableDeposit (b : Bool) : Prop :=
  GoIs vaultRoles (valOf [(cDraw, b), (cAmtPos, true)]) h_vault_MsgDepositStableMint
    (mk .send sSig sVm .coll false :: (if b then skMintFree else skMintFee))
abbrev goStableWithdraw (free upd : Bool) : Prop :=
  GoIs vaultRoles (valOf [(cSwErr, false), (cAmtPos, true), (cDraw, free), (cSwUpd, upd)]) h_vault_MsgWithdrawStableMint
    (if free then [mk .send sSig sVm .debt false, mk .burn sVm none .debt false, mk .send sVm sSig .coll false]
     else [mk .send sSig sVm .debt false, mk .send sVm sCm .debt true] ++
          (if upd then [mk .burn sVm none .debt false, mk .send sVm sSig .coll false] else []))
abbrev goInterestCalc : Prop := GoIs vaultRoles (valOf []) h_vault_MsgVaultInterestCalc []

def ownWritesExpected : List (String × List String) :=
    [("MsgCreate", ["vault.SetVault", "vault.SetIDForVault", "vault.SetLengthOfVault",
        "vault.UpdateAppExtendedPairVaultMappingDataOnMsgCreate", "vault.SetUserAppExtendedPairMappingData"]),
     ("MsgDeposit", ["vault.SetVault", "vault.UpdateCollateralLockedAmountLockerMapping"]),
     ("MsgWithdraw", ["vault.SetVault", "vault.UpdateCollateralLockedAmountLockerMapping"]),
     ("MsgDraw", ["vault.SetVault", "vault.UpdateTokenMintedAmountLockerMapping"]),
     ("MsgRepay", ["vault.SetVault", "vault.SetVault", "vault.UpdateTokenMintedAmountLockerMapping"]),
     ("MsgClose", ["vault.UpdateCollateralLockedAmountLockerMapping", "vault.UpdateTokenMintedAmountLockerMapping",
        "vault.DeleteAddressFromAppExtendedPairVaultMapping", "vault.DeleteUserVaultExtendedPairMapping",
        "vault.DeleteVault", "vault.SetLengthOfVault"]),
     ("MsgDepositAndDraw", []),
     ("MsgCreateStableMint", ["vault.SetStableMintVault", "vault.SetIDForStableVault",
        "vault.UpdateAppExtendedPairVaultMappingDataOnMsgCreateStableMintVault", "vault.SetStableMintVaultRewards"]),
     ("MsgDepositStableMint", ["vault.SetStableMintVault", "vault.UpdateCollateralLockedAmountLockerMapping",
        "vault.UpdateTokenMintedAmountLockerMapping", "vault.SetStableMintVaultRewards"]),
     ("MsgWithdrawStableMint", ["vault.SetStableMintVault", "vault.UpdateCollateralLockedAmountLockerMapping",
        "vault.UpdateTokenMintedAmountLockerMapping", "vault.DeleteUserStableRewardEntries"]),
     ("MsgVaultInterestCalc", [])]

/-- the table-wide checks and every path of every handler, in one statement so that the table is reduced once -/
theorem vault_go_all :
    (∀ h ∈ handlers_vault, allBankClassified vaultRoles h = true ∧ unknownBankOps h = [] ∧ opaqueCalls h = []) ∧
    (∀ h ∈ handlers_vault, ownWritesAfterBank h = true) ∧
    handlers_vault.map (fun h => (h.name, ownWrites h)) = ownWritesExpected ∧
    (∀ b, goCreate b) ∧ goDeposit ∧ goWithdraw ∧ (∀ b, goDraw b) ∧ (∀ b, goRepay b) ∧ goClose ∧ (∀ b, goDepositAndDraw b) ∧
    (∀ b, goStableCreate b) ∧ (∀ b, goStableDeposit b) ∧ (∀ free upd, goStableWithdraw free upd) ∧ goInterestCalc := by
  decide +kernel

structure VaultPaths : Prop where
  create : ∀ b, goCreate b
  deposit : goDeposit
  withdraw : goWithdraw
  draw : ∀ b, goDraw b
  repay : ∀ b, goRepay b
  close : goClose
  depositAndDraw : ∀ b, goDepositAndDraw b
  stableCreate : ∀ b, goStableCreate b
  stableDeposit : ∀ b, goStableDeposit b
  stableWithdraw : ∀ free upd, goStableWithdraw free upd
  interestCalc : goInterestCalc

theorem vault_paths : VaultPaths :=
  let ⟨_, _, _, cr, dp, wd, dr, rp, cl, dd, sc, sd, sw, ic⟩ := vault_go_all
  ⟨cr, dp, wd, dr, rp, cl, dd, sc, sd, sw, ic⟩

attribute [local simp] modelSkel opSkel role_vm role_cm role_am role_em drole_in mk sSig sVm sCm skMintFree skMintFee relaxAt

theorem mintAndSplit_skel {p : Product} {f : Nat} (h : Wf p f) (amt : Int) :
    modelSkel p f (mintAndSplit p f amt)
      = some (if decide (p.drawDownFee = 0 ∧ amt > 0) then skMintFree else skMintFee) := by
  by_cases c : p.drawDownFee = 0 ∧ amt > 0 <;> simp [mintAndSplit, c, role_from h, drole_out h]

theorem modelSkel_cons {p : Product} {f : Nat} {op : BankOp} {rest : List BankOp} {a : VSkel} {l : List VSkel}
    (h1 : opSkel p f op = some a) (h2 : modelSkel p f rest = some l) : modelSkel p f (op :: rest) = some (a :: l) := by
  rw [modelSkel, h1, h2]

theorem create_effects (p : Product) (from_ : Nat) (amtIn amtOut : Int) (h : Wf p from_) :
    goSkel vaultRoles (valOf [(cCreate, decide (p.drawDownFee = 0 ∧ amtOut > 0))]) h_vault_MsgCreate
      = modelSkel p from_ (createOps p from_ amtIn amtOut) := by
  exact (vault_paths.create _).trans (modelSkel_cons (by simp [role_from h]) (mintAndSplit_skel h amtOut)).symm

theorem deposit_effects (p : Product) (from_ : Nat) (amt : Int) (h : Wf p from_) :
    goSkel vaultRoles (valOf []) h_vault_MsgDeposit = modelSkel p from_ (depositOps p from_ amt) := by
  rw [vault_paths.deposit.eq]; simp [role_from h]

theorem withdraw_effects (p : Product) (from_ : Nat) (amt : Int) (h : Wf p from_) :
    goSkel vaultRoles (valOf []) h_vault_MsgWithdraw = modelSkel p from_ (withdrawOps p from_ amt) := by
  rw [vault_paths.withdraw.eq]; simp [role_from h]

theorem draw_effects (p : Product) (from_ : Nat) (amt : Int) (h : Wf p from_) :
    goSkel vaultRoles (valOf [(cDraw, decide (p.drawDownFee = 0 ∧ amt > 0))]) h_vault_MsgDraw
      = modelSkel p from_ (drawOps p from_ amt) := by
  rw [(vault_paths.draw _).eq, mintAndSplit_skel h]

/-- MsgRepay: which branch runs is decided by the model's own condition `amt ≤ v.interest` -/
theorem repay_effects (p : Product) (from_ : Nat) (v : VaultRec) (amt : Int) (h : Wf p from_) :
    goSkel vaultRoles (valOf [(cRepay, decide (amt ≤ v.interest)), (cAmtPos, true)]) h_vault_MsgRepay
      = modelSkel p from_ (repayOps p from_ v amt) := by
  rw [(vault_paths.repay _).eq]
  by_cases c : amt ≤ v.interest <;> simp [repayOps, c, role_from h, drole_out h]

/-- MsgClose: five transfers, each under the positivity test of ITS OWN amount (seed s71 merged two of them under one) -/
theorem close_effects (p : Product) (from_ : Nat) (v : VaultRec) (h : Wf p from_) :
    goSkel vaultRoles (valOf []) h_vault_MsgClose = modelSkel p from_ (closeOps p from_ v) := by
  rw [vault_paths.close.eq]; simp [role_from h, drole_out h]

/-- MsgDepositAndDraw = the deposit's calls followed by the draw's (the model composes `deposit` and `draw`) -/
theorem depositAndDraw_effects (p : Product) (from_ : Nat) (amt newAmt : Int) (h : Wf p from_) :
    goSkel vaultRoles (valOf [(cDepDraw, decide (p.drawDownFee = 0 ∧ newAmt > 0))]) h_vault_MsgDepositAndDraw
      = modelSkel p from_ (depositOps p from_ amt ++ drawOps p from_ newAmt) := by
  exact (vault_paths.depositAndDraw _).trans (modelSkel_cons (by simp [role_from h]) (mintAndSplit_skel h newAmt)).symm

theorem stableCreate_effects (p : Product) (from_ : Nat) (amt out : Int) (h : Wf p from_) :
    goSkel vaultRoles (valOf [(cDraw, decide (p.drawDownFee = 0 ∧ out > 0)), (cAmtPos, true)]) h_vault_MsgCreateStableMint
      = modelSkel p from_ (stableMintOps p from_ amt out) := by
  exact (vault_paths.stableCreate _).trans (modelSkel_cons (by simp [role_from h]) (mintAndSplit_skel h out)).symm

theorem stableDeposit_effects (p : Product) (from_ : Nat) (amt out : Int) (h : Wf p from_) :
    goSkel vaultRoles (valOf [(cDraw, decide (p.drawDownFee = 0 ∧ out > 0)), (cAmtPos, true)]) h_vault_MsgDepositStableMint
      = modelSkel p from_ (stableMintOps p from_ amt out) := by
  exact (vault_paths.stableDeposit _).trans (modelSkel_cons (by simp [role_from h]) (mintAndSplit_skel h out)).symm

/-- MsgWithdrawStableMint: equal up to the two unguarded collateral returns (`relaxAt`, see header) -/
theorem stableWithdraw_effects (p : Product) (from_ : Nat) (amt : Int) (h : Wf p from_) :
    goSkel vaultRoles (valOf [(cSwErr, false), (cAmtPos, true), (cDraw, decide (p.drawDownFee = 0)),
                              (cSwUpd, decide (amt - feeOf amt p.drawDownFee > 0))]) h_vault_MsgWithdrawStableMint
      = (modelSkel p from_ (stableWithdrawOps p from_ amt)).map
          (relaxAt (if p.drawDownFee = 0 then [2] else [3])) := by
  rw [(vault_paths.stableWithdraw _ _).eq]
  by_cases c : p.drawDownFee = 0
  · simp [stableWithdrawOps, c, role_from h, drole_out h]
  · by_cases u' : feeOf amt p.drawDownFee < amt <;> simp [stableWithdrawOps, c, u', role_from h, drole_out h]

/-- MsgVaultInterestCalc moves no coins (the model's `interestCalc` has no bank call) -/
theorem interestCalc_effects : goSkel vaultRoles (valOf []) h_vault_MsgVaultInterestCalc = some ([] : List VSkel) :=
  vault_paths.interestCalc

/-- role table of the hand-overs out of vault custody: liquidationsV2 `LiquidateIndividualVault`, x/esm
`SetUpCollateralRedemptionForVault` / `…ForStableVault` (exact match on the ABSTRACT texts) -/
def custodyRoles : Roles Role DRole where
  abstract := true
  acct := fun t =>
    if t == "\"vaultV1\"" then some .vm
    else if t == "\"auctionsV2\"" then some .am
    else if t == "\"esmV1\"" then some .em
    else none
  denom := fun t =>
    if t == "asset.GetAsset(asset.GetPair(…).AssetIn).Denom" then some .coll
    else none

/-- the vault is under-collateralised (liquidate.go:123: `CalculateCollateralizationRatio(…).LT(liquidation ratio)`).
Recognised by its beginning: the arguments are printed shortened. -/
def isLiquidatable (t : String) : Bool := t.startsWith "vault.CalculateCollateralizationRatio("

/-- condition table of the three hand-overs: the seizure happens when the ratio test holds; the esm steps run once per vault of
the app (`….AppId == appID`, inside `range vault.GetVaults()`), in either branch of "first redemption of this app?" -/
def custodyVal (first : Bool) : Val := fun t =>
  if isLiquidatable t then some true
  else if t == "range vault.GetVaults()" || t == "range vault.GetStableMintVaults()" then some true
  else if t == "each(vault.GetVaults()).AppId == appID" || t == "each(vault.GetStableMintVaults()).AppId == appID" then some true
  else if t == "!esm.GetDataAfterCoolOff(appID)#2" then some first
  else none

abbrev goCustody (first : Bool) : Prop :=
  GoIs custodyRoles (custodyVal first) h_liquidationsV2_LiquidateIndividualVault [mk .send sVm (some .am) .coll true] ∧
  GoIs custodyRoles (custodyVal first) h_esm_SetUpCollateralRedemptionForVault [mk .send sVm (some .em) .coll false] ∧
  GoIs custodyRoles (custodyVal first) h_esm_SetUpCollateralRedemptionForStableVault [mk .send sVm (some .em) .coll false]

theorem custody_go_all : ∀ first, goCustody first := by decide +kernel

/-- liquidationsV2 hand-over: one transfer vault → auction custody of the collateral, only if positive = `seizeOps` -/
theorem seize_effects (p : Product) (from_ : Nat) (v : VaultRec) (first : Bool) (h : Wf p from_) :
    goSkel custodyRoles (custodyVal first) h_liquidationsV2_LiquidateIndividualVault = modelSkel p from_ (seizeOps p v) := by
  obtain ⟨seize, -, -⟩ := custody_go_all first
  rw [seize.eq]; simp

/-- emergency redemption of a vault / a stable-mint vault: one transfer vault → esm account per vault of the app, in both
branches; the code sends UNGUARDED where the model has `.sendPos` (x/bank drops zero coins): `relaxAt [0]` -/
theorem esm_effects (p : Product) (from_ : Nat) (v : VaultRec) (amountIn : Int) (first : Bool) (h : Wf p from_) :
    goSkel custodyRoles (custodyVal first) h_esm_SetUpCollateralRedemptionForVault
      = (modelSkel p from_ (esmVaultOps p v)).map (relaxAt [0]) ∧
    goSkel custodyRoles (custodyVal first) h_esm_SetUpCollateralRedemptionForStableVault
      = (modelSkel p from_ (esmStableOps p amountIn)).map (relaxAt [0]) := by
  obtain ⟨-, vault, stable⟩ := custody_go_all first
  rw [vault.eq, stable.eq]; simp

/-- **The liquidation sweeps run every single liquidation inside `ApplyFuncIfNoError`** (liquidate.go:59, 251): everything
`LiquidateIndividualVault` / `LiquidateIndividualBorrow` do (the items written in other functions than the sweep itself) sits in
the cache-context closure, so a failure after the collateral has been moved leaves no half-applied step; only the sweep's own
offset record is written outside.  Seed s61 has a plain call + `continue` instead.  Of the borrow sweep only
the number of bank calls (all in `UpdateLockedBorrows`) is stated. -/
theorem sweep_cached :
    (∀ h ∈ [h_liquidationsV2_LiquidateVaults, h_liquidationsV2_LiquidateBorrows],
      (∀ it ∈ h.items, it.fn != h.name → it.cache = true ∧ it.inLoop = true) ∧
      (h.items.filter fun it => it.fn == h.name).map (fun it => (it.kind, it.op, it.cache))
        = [("write", "liquidationsV2.SetLiquidationOffsetHolder", false)]) ∧
    ((bankItems h_liquidationsV2_LiquidateVaults).map fun it => (it.op, it.srcA, it.dstA, it.cache))
      = [("SendCoinsFromModuleToModule", "\"vaultV1\"", "\"auctionsV2\"", true)] ∧
    (bankItems h_liquidationsV2_LiquidateBorrows).length = 6 := by
  decide +kernel

/-- golden skeleton (weaker tie) of the two emergency-redemption steps the model has as direct ledger edits (`esmBurn`,
`esmCollector`): `MsgCollateralRedemption` takes the holder's debt coins into the esm account, burns them there, and pays
collateral out of the esm account per registered collateral asset; the collector's net fees are burnt on the collector account -/
theorem esm_pins :
    apins h_esm_CalculateCollateral =
      [⟨"SendCoinsFromAccountToModule", "addr(from)", "\"esmV1\"", "amount.Denom", false, [], false, false⟩,
       ⟨"BurnCoins", "\"esmV1\"", "", "amount.Denom", false, [], false, false⟩,
       ⟨"SendCoinsFromModuleToAccount", "\"esmV1\"", "addr(from)", "asset.GetAsset(each(…).AssetID).Denom", false,
         [(true, 2380642168), (true, 1977368398)], true, false⟩] ∧
    apins h_esm_SetUpDebtRedemptionForCollector =
      [⟨"BurnCoins", "\"collectorV1\"", "", "asset.GetAsset(esm.GetAssetToAmount(…).AssetID).Denom", false,
         [(true, 3589708173), (true, 3850705579), (true, 1304039001)], true, false⟩] :=
  ⟨rfl, rfl⟩

/-! ## the model's handlers run exactly their lists (semantic anchor of the `…Ops` names) -/

theorem close_runs_ops (s s' : State) (p : Product) (e : Env) (from_ app prod vaultId : Nat)
    (h : close s p e from_ app prod vaultId = some s') :
    ∃ v s1, ownedVault s p e from_ app prod vaultId = some v ∧ runBank s (closeOps p from_ v) = some s1 ∧
      s'.bal = s1.bal ∧ s'.supply = s1.supply := by
  obtain ⟨-, -, v, hv, s1, hb, rfl⟩ := close_eq_some.mp h
  exact ⟨v, s1, hv, hb, rfl, rfl⟩

theorem repay_runs_ops (s s' : State) (p : Product) (e : Env) (from_ app prod vaultId : Nat) (amt : Int)
    (h : repay s p e from_ app prod vaultId amt = some s') :
    ∃ v s1, ownedVault s p e from_ app prod vaultId = some v ∧ runBank s (repayOps p from_ v amt) = some s1 ∧
      s'.bal = s1.bal ∧ s'.supply = s1.supply := by
  obtain ⟨v, hv, -, hr⟩ := repay_eq_some.mp h
  refine ⟨v, ?_⟩
  by_cases c : amt ≤ v.interest <;> simp only [repayOps, c, ↓reduceIte] at hr ⊢
  · obtain ⟨s1, hb, rfl⟩ := hr
    exact ⟨s1, hv, hb, rfl, rfl⟩
  · obtain ⟨-, s1, hb, rfl⟩ := hr
    exact ⟨s1, hv, hb, rfl, rfl⟩

theorem create_runs_ops (s s' : State) (p : Product) (e : Env) (from_ app prod : Nat) (amtIn amtOut : Int)
    (h : create s p e from_ app prod amtIn amtOut = some s') :
    ∃ s1, runBank s (createOps p from_ amtIn amtOut) = some s1 ∧ s'.bal = s1.bal ∧ s'.supply = s1.supply := by
  obtain ⟨-, s1, hb, rfl⟩ := create_eq_some.mp h
  exact ⟨s1, hb, rfl, rfl⟩

theorem deposit_runs_ops (s s' : State) (p : Product) (e : Env) (from_ app prod vaultId : Nat) (amt : Int)
    (h : deposit s p e from_ app prod vaultId amt = some s') :
    ∃ s1, runBank s (depositOps p from_ amt) = some s1 ∧ s'.bal = s1.bal ∧ s'.supply = s1.supply := by
  obtain ⟨-, -, -, s1, hb, rfl⟩ := deposit_eq_some.mp h
  exact ⟨s1, hb, rfl, rfl⟩

theorem withdraw_runs_ops (s s' : State) (p : Product) (e : Env) (from_ app prod vaultId : Nat) (amt : Int)
    (h : withdraw s p e from_ app prod vaultId amt = some s') :
    ∃ s1, runBank s (withdrawOps p from_ amt) = some s1 ∧ s'.bal = s1.bal ∧ s'.supply = s1.supply := by
  obtain ⟨-, -, -, s1, hb, rfl⟩ := withdraw_eq_some.mp h
  exact ⟨s1, hb, rfl, rfl⟩

theorem draw_runs_ops (s s' : State) (p : Product) (e : Env) (from_ app prod vaultId : Nat) (amt : Int)
    (h : draw s p e from_ app prod vaultId amt = some s') :
    ∃ s1, runBank s (drawOps p from_ amt) = some s1 ∧ s'.bal = s1.bal ∧ s'.supply = s1.supply := by
  obtain ⟨-, -, -, s1, hb, rfl⟩ := draw_eq_some.mp h
  exact ⟨s1, hb, rfl, rfl⟩

theorem vault_all_classified :
    ∀ h ∈ handlers_vault, allBankClassified vaultRoles h = true ∧ unknownBankOps h = [] ∧ opaqueCalls h = [] :=
  vault_go_all.1

/-- on every path the handler body writes its own records (`SetVault`, `DeleteVault`, the product totals, …) only after its last
bank call — the shape `(runBank s ops).map (record update)` of every model handler (`…_runs_ops`).  The accrual writes of
`CalculateVaultInterest` (before the bank calls, a different keeper) are the model's `ownedVault` step. -/
theorem vault_writes_after_bank : ∀ h ∈ handlers_vault, ownWritesAfterBank h = true := vault_go_all.2.1

/-- golden list (weaker tie): the own records each handler body writes, in source order -/
theorem vault_own_writes : handlers_vault.map (fun h => (h.name, ownWrites h)) = ownWritesExpected := vault_go_all.2.2.1

/-- shape of the regenerated table: eleven handlers, the number of bank calls of each, and that the collector's record is
written by the vault handlers that pay it (an extractor that returns nothing, or drops a file, fails here) -/
theorem vault_table_shape :
    handlers_vault.map (fun h => (h.name, (bankItems h).length)) =
      [("MsgCreate", 5), ("MsgDeposit", 1), ("MsgWithdraw", 1), ("MsgDraw", 4), ("MsgRepay", 5), ("MsgClose", 5),
       ("MsgDepositAndDraw", 5), ("MsgCreateStableMint", 5), ("MsgDepositStableMint", 5), ("MsgWithdrawStableMint", 6),
       ("MsgVaultInterestCalc", 0)] ∧
    (handlers_vault.filter fun h => (allWrites h).contains "collector.UpdateCollector").map (·.name) =
      ["MsgCreate", "MsgDraw", "MsgRepay", "MsgClose", "MsgDepositAndDraw", "MsgCreateStableMint", "MsgDepositStableMint",
       "MsgWithdrawStableMint"] := by decide +kernel

def pEx : Product :=
  { id := 1, app := 1, denomIn := 101, denomOut := 102, decIn := 1000000, decOut := 1000000, minCr := Dec.ofInt 2,
    debtFloor := 10, debtCeiling := 1000000, drawDownFee := Dec.P / 100, closingFee := 0, isStable := false, active := true,
    outOracle := false, outPrice := 1000000 }
def vEx : VaultRec := { id := 1, owner := 10, product := 1, amountIn := 500, amountOut := 100, interest := 7, closingFee := 3 }

theorem wf_pEx : Wf pEx 10 := ⟨by decide, by decide, by decide, by decide, by decide⟩

example : Wf pEx 10 := wf_pEx
example : modelSkel pEx 10 (closeOps pEx 10 vEx) = goSkel vaultRoles (valOf []) h_vault_MsgClose :=
  (close_effects pEx 10 vEx wf_pEx).symm
example : (modelSkel pEx 10 (closeOps pEx 10 vEx)).map (·.length) = some 5 := by decide +kernel
example : modelSkel pEx 10 (repayOps pEx 10 vEx 5) ≠ modelSkel pEx 10 (repayOps pEx 10 vEx 50) := by decide +kernel
example : modelSkel pEx 10 (createOps pEx 10 500 100) = some (mk .send sSig sVm .coll true :: skMintFee) := by decide +kernel
example : modelSkel { pEx with drawDownFee := 0 } 10 (drawOps { pEx with drawDownFee := 0 } 10 100) = some skMintFree := by
  decide +kernel
example : modelSkel pEx 10 (stableWithdrawOps pEx 10 100) ≠
    (modelSkel pEx 10 (stableWithdrawOps pEx 10 100)).map (relaxAt [3]) := by decide +kernel
/-- a skeleton in which the closing-fee transfer sits under the INTEREST guard (seed s71) is not the model's: the projection of
such a table has no value under the empty valuation -/
example : onPath (valOf []) ⟨"bank", "SendCoinsFromModuleToModule", "\"vaultV1\"", "\"collectorV1\"", tOut, "x", "", "", "", [],
    [⟨"if", true, "vault.GetVault(msg.UserVaultId).InterestAccumulated.GT(0)", 0⟩], false, false, "MsgClose", 0⟩ = none := by
  decide +kernel
example (s : State) : close s pEx {} 10 1 1 1 = none ∨ ∃ s', close s pEx {} 10 1 1 1 = some s' := by
  cases h : close s pEx {} 10 1 1 1 <;> simp

end Comdex.C01
