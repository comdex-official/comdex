import Comdex.Lemmas.LendLtv
import Comdex.Lemmas.LendAccrual
import Comdex.Lemmas.LendSteps
import Comdex.Lemmas.LendMigrate
/-!
# C08 — Lending books balance and borrowing is bounded by loan-to-value

Property clause → theorem. All statements are over `Model/Lend.lean` (the model of x/lend/keeper that the correspondence run compares
with the real keeper) and quantify over all configurations, initial banks, prices, op lists and external interest / reward amounts.

* "published total lent = Σ over lend positions of (available to borrow + collateral pledged to open borrows not handed over)"
    → `totalLend_eq` (histories without liquidation hand-overs), `totalLend_eq_partial` (every hand-over is clean: `CleanRun`,
      `HandoverClean`); with an arbitrary hand-over the identity is false of the code: `totalLend_handover_counterexample` (finding D19).
* "published totals borrowed (variable and stable) = Σ principal over open borrows of that asset not under liquidation"
    → `totalBorrowed_eq`, `totalStable_eq` (all histories).
* "a borrow or draw succeeds only if debt value (principal + accrued interest + new loan) ≤ collateral value × LTV at the prices in force"
    → decision form (the `Dec` ratio the chain computes is ≤ the LTV): `borrow_respects_ltv`, `draw_respects_ltv`, `borrow_msg_cases`
      (a borrow message opens a borrow or is a top-up followed by a draw), `borrow_respects_ltv_pledged` (the pledged cTokens are those of
      the pair's collateral asset, which is the asset of the debited lend position: `BorrowAsset` refuses any other pair — defect A of
      notes/C08.md);
      exact form: `ltv_exact`, `borrow_accepted_ltv_exact`, `draw_accepted_ltv_exact` (`ExactLtv`: the accept decision multiplied out
      over the integers with half an ulp of slack for each of the two `CalcAssetPrice` quotients and for the final `Quo`;
      `ExactLtvScales`: with decimal scales dividing 10¹⁸ only the final `Quo` rounds), `ltv_exact_tight` (the slack is attained);
      cross-pool: `interpool_borrow_respects_transit_ltv`, `interpool_borrow_ltv_exact` (second check on the bridged transit asset, and
      the three roundings between the pledged amount and the bridged quantity).
* "… and the pool actually holds the lent-out coins" → `borrow_requires_pool_funds`, `draw_requires_pool_funds`.
* "withdrawing or closing a lend position never releases collateral pledged to an open borrow"
    → `withdraw_never_releases_pledged`, `closeLend_never_releases_pledged`.
* accrued interest and rewards (computed by `Model/LendAccrual.lean` from the rates in force) are booked without loss
    → `accrual_split`, `accrual_zero_elapsed`, `reward_tracker_conserved`, `reward_source`, `repay_split` (`RepaySplit`), `closeBorrow_split`.
* the kill switch and the pool depreciation fail closed → `killswitch_rejects_lend_ops`, `killswitch_rejects_borrow_ops`,
  `guards_reject_new_positions`, `guards_reject_borrow`, `depreciation_rejects`, `rejected_no_change`.
* histories that go on after a hand-over (`bid`, `auctionClose`: x/auctionsV2 bid.go lend branch + `MsgCloseDutchAuctionForBorrow`): the
  identities above range over them; `auctionClose_books` (`CloseBooks`), `auctionBid_books`; a cross-pool borrow whose lend position the
  hand-over deleted can never be closed: `auctionClose_needs_lend`, `auctionClose_stuck_counterexample`.
* the id lists `PoolAssetLBMapping.{LendIds, BorrowIds}` → `ids_consistent`, `id_lists_ascending`, `delId_binary_search`,
  `delId_needs_ascending`, `lend_listed_exactly`, `borrow_listed_exactly`, `no_dangling_ids`.
* the reserve records against the reserve module balance → `reserve_ledger` (histories without block-hook runs: `SignersOk`),
  `reserve_halves_step`, `reserve_halves_drift_counterexample`; the x/lend block hook breaks the ledger and kills itself:
  `reserve_ledger_poolsweep_counterexample`, `beginBlock_dead_after_deletion`, `beginBlock_keeps_pending` (finding D36).
* the store migration 2 → 3 in the middle of a history → `books_across_migration`, `reserve_ledger_across_migration`,
  `migration_switches_off`, `migration_leak_counterexample` (finding D37).

Every history keeps the book invariants: `run_keeps` (by induction from `step_keeps`, `Lemmas/LendSteps.lean`); they hold at genesis:
`init_core`, `init_totalLend`, `init_ids`, `init_own`, `init_ledger`.
-/
namespace Comdex.C08
open Comdex.Lend

/-- every liquidation hand-over in the history is clean (see `HandoverClean`) -/
def CleanRun (cfg : Cfg) : State → List Op → Prop
  | _, [] => True
  | s, op :: ops => cleanStep s op ∧ CleanRun cfg (apply cfg s op) ops

def decCleanRun (cfg : Cfg) : (s : State) → (ops : List Op) → Decidable (CleanRun cfg s ops)
  | _, [] => isTrue trivial
  | s, op :: ops => @instDecidableAnd _ _ _ (decCleanRun cfg (apply cfg s op) ops)

instance (cfg : Cfg) (s : State) (ops : List Op) : Decidable (CleanRun cfg s ops) := decCleanRun cfg s ops

/-- every message of the list is accepted when replayed from `s` -/
def allAccepted (cfg : Cfg) : State → List Op → Bool
  | _, [] => true
  | s, op :: ops => (step cfg s op).toBool && allAccepted cfg (apply cfg s op) ops

theorem cleanRun_of_noHandover (cfg : Cfg) (ops : List Op) (s : State) (h : ∀ op ∈ ops, op.isHandover = false) : CleanRun cfg s ops := by
  induction ops generalizing s with
  | nil => trivial
  | cons op ops ih =>
    refine ⟨?_, ih _ (fun o ho => h o (by simp [ho]))⟩
    have := h op (by simp)
    cases op <;> trivial

/-- no message of the history is signed by the reserve module account (module accounts hold no key), and the history has no run of the
x/lend block hook (`beginBlock`: it sweeps a deleted pool's funds into the reserve with no flow record — `reserve_ledger_poolsweep_counterexample`) -/
def SignersOk (cfg : Cfg) (ops : List Op) : Prop := ∀ op ∈ ops, op.signer ≠ some cfg.reserveAcct ∧ op.isBeginBlock = false
instance (cfg : Cfg) (ops : List Op) : Decidable (SignersOk cfg ops) := by unfold SignersOk; infer_instance

/-- **every history** keeps the book invariants: the lent total when every hand-over is clean, the reserve ledger when no message is
signed by the reserve account and the block hook does not run -/
theorem run_keeps (cfg : Cfg) (ops : List Op) (s : State) : Keeps cfg (CleanRun cfg s ops) (SignersOk cfg ops) s (run cfg s ops) := by
  induction ops generalizing s with
  | nil => exact .refl _
  | cons op ops ih =>
    have a : Keeps cfg (cleanStep s op) (op.signer ≠ some cfg.reserveAcct ∧ op.isBeginBlock = false) s (apply cfg s op) := by
      unfold apply
      split
      · exact step_keeps ‹_›
      · exact .refl _
    exact (a.mono (·.1) (· op (by simp))).trans ((ih _).mono (·.2) fun h o ho => h o (by simp [ho]))

theorem init_stats {cfg : Cfg} {st : Stats} (h : st ∈ initStats cfg) :
    st.totalLend = 0 ∧ st.totalBorrowed = 0 ∧ st.totalStable = 0 ∧ st.lendIds = [] ∧ st.borrowIds = [] := by
  unfold initStats at h
  obtain ⟨p, _, hp⟩ := List.mem_flatMap.mp h
  obtain ⟨d, _, rfl⟩ := List.mem_map.mp hp
  exact ⟨rfl, rfl, rfl, rfl, rfl⟩

section genesis
variable (cfg : Cfg) (bank : Bank) (prices : List (Nat × Nat)) (ops : List Op)

theorem init_core : CoreS cfg (init cfg bank prices) :=
  { lendAsc := .nil, lendLe := (fun _ h => nomatch h), borrowAsc := .nil, borrowLe := (fun _ h => nomatch h),
    refLe := (fun _ h => nomatch h)
    borrowed := fun sf st hst => by
      obtain ⟨-, h1, h2, -⟩ := init_stats hst
      cases sf <;> simp [projB, h1, h2, borrowedSum, sumBy, init] }

theorem init_totalLend : TotalLendEq (init cfg bank prices) := fun _ hst => (init_stats hst).1

theorem init_ids : IdsS cfg (init cfg bank prices) :=
  { lists := fun _ hst => (init_stats hst).2.2.2, lendRec := (fun _ h => nomatch h), borrowRec := (fun _ h => nomatch h) }

theorem init_own : OwnS cfg (init cfg bank prices) := ⟨(fun _ h => nomatch h), (fun _ h => nomatch h), (fun _ h => nomatch h)⟩

theorem init_ledger : ResLedger cfg bank (init cfg bank prices) := fun a => by simp [init, getResv, Resv.flow]

theorem run_core : CoreS cfg (run cfg (init cfg bank prices) ops) := (run_keeps cfg ops _).core (init_core cfg bank prices)

end genesis

/-- **Total lent, with liquidation hand-overs** — strongest true form: the identity survives every history in which each hand-over
either leaves the lend position in place or takes everything that was left in it. -/
theorem totalLend_eq_partial (cfg : Cfg) (bank : Bank) (prices : List (Nat × Nat)) (ops : List Op)
    (h : CleanRun cfg (init cfg bank prices) ops) : TotalLendEq (run cfg (init cfg bank prices) ops) :=
  totalLendEq_iff.mpr <| (run_keeps cfg ops _).tl (init_core cfg bank prices) h (totalLendEq_iff.mp (init_totalLend cfg bank prices))

/-- **Total lent** — for every configuration, genesis bank, prices, and every history of user messages (any external reward and
interest amounts): every published total lent equals the sum over the lend positions of that pool and asset of
`availableToBorrow + Σ collateral pledged to their borrows that are not handed over to a liquidation auction`. -/
theorem totalLend_eq (cfg : Cfg) (bank : Bank) (prices : List (Nat × Nat)) (ops : List Op) (h : ∀ op ∈ ops, op.isHandover = false) :
    TotalLendEq (run cfg (init cfg bank prices) ops) :=
  totalLend_eq_partial cfg bank prices ops (cleanRun_of_noHandover cfg ops _ h)

/-- **Total borrowed (variable rate)** — all histories, hand-overs included. -/
theorem totalBorrowed_eq (cfg : Cfg) (bank : Bank) (prices : List (Nat × Nat)) (ops : List Op) :
    TotalBorrowedEq cfg (run cfg (init cfg bank prices) ops) :=
  (run_core cfg bank prices ops).borrowed.totalBorrowedEq

/-- **Total borrowed (stable rate)** — all histories, hand-overs included. -/
theorem totalStable_eq (cfg : Cfg) (bank : Bank) (prices : List (Nat × Nat)) (ops : List Op) :
    TotalStableEq cfg (run cfg (init cfg bank prices) ops) :=
  (run_core cfg bank prices ops).borrowed.totalStableEq

/-- **A new borrow respects the LTV** (decision form). Whenever `BorrowAsset` opens a borrow, the ratio the chain computes,
`Quo(value(loan), value(collateral))` at the oracle prices in force, is at most the applicable LTV. The collateral `aIn` is valued
as the asset of the lend position `l` that is debited. -/
theorem borrow_respects_ltv {cfg : Cfg} {s s' : State} {u : Nat} {l : Lend} {pair : PairCfg} {rates : RatesCfg} {stable : Bool}
    {dIn : Nat} {aIn : Int} {dOut : Nat} {aOut : Int} (h : borrowNew cfg s u l pair rates stable dIn aIn dOut aOut = .ok s') :
    ∃ r, collRatio cfg s.prices aIn l.asset aOut pair.assetOut = .ok r ∧ r ≤ ltvOf pair rates := by
  obtain ⟨e, -⟩ := borrowNew_ok h
  exact verifyCR_ok e.ltv

/-- The borrow message: either a new borrow is opened (`borrow_respects_ltv` applies), or the user already borrows on the pair and
the message is a collateral top-up followed by a draw on that borrow (`draw_respects_ltv` applies to the whole position). -/
theorem borrow_msg_cases {cfg : Cfg} {s s' : State} {u k pid : Nat} {stable : Bool} {dIn : Nat} {aIn : Int} {dOut : Nat} {aOut : Int} {e1 e2 : ExtB}
    (h : borrow cfg s u k pid stable dIn aIn dOut aOut e1 e2 = .ok s') :
    (∃ l pair rates, getLend s.lends k = some l ∧ cfg.pair? pid = some pair ∧ cfg.rates? pair.assetIn = some rates ∧
        dIn = rates.cAsset ∧ pair.assetIn = l.asset ∧
        findBorrowByPair s u pid = none ∧ borrowNew cfg s u l pair rates stable dIn aIn dOut aOut = .ok s') ∨
    (∃ b s1, findBorrowByPair s u pid = some b ∧ depositBorrow cfg s u b.id dIn aIn e1 = .ok s1 ∧ draw cfg s1 u b.id dOut aOut e2 = .ok s') := by
  obtain ⟨e, ⟨b, hb, s1, h1, h2⟩ | ⟨hn, h⟩⟩ := borrow_ok h
  · exact .inr ⟨b, s1, hb, h1, h2⟩
  · exact .inl ⟨e.l, e.pair, e.rates, e.get, e.hpair, e.hrates, e.denom, e.sameAsset, hn, h⟩

/-- **A draw respects the LTV** (decision form): principal + accrued interest (after the accrual the message itself performs) + the
new loan, against the whole pledged collateral. -/
theorem draw_respects_ltv {cfg : Cfg} {s s' : State} {u k d : Nat} {y : Int} {ext : ExtB} (h : draw cfg s u k d y ext = .ok s') :
    ∃ b0 l pair rates s1 b r, getBorrow s.borrows k = some b0 ∧ getLend s.lends b0.lendingId = some l ∧ cfg.pair? b0.pairId = some pair ∧
      cfg.rates? pair.assetIn = some rates ∧ iterBorrow s k ext = .ok s1 ∧ getBorrow s1.borrows k = some b ∧
      collRatio cfg s1.prices b.amountIn l.asset (b.amountOut + Dec.truncateInt b.interest + y) pair.assetOut = .ok r ∧ r ≤ ltvOf pair rates := by
  obtain ⟨e, -⟩ := draw_ok h
  obtain ⟨r, hcr, hle⟩ := verifyCR_ok e.ltv
  exact ⟨e.b0, e.l, e.pair, e.rates, e.s1, e.b, r, e.get0, e.lend, e.hpair, e.hrates, e.accrue, e.get, hcr, hle⟩

/-- **Exact form of the accept decision** — for two configured assets at the prices in force, non-negative amounts and `ltv ≥ 0`:
`ratio ≤ ltv` (what `VerifyCollateralizationRatio` accepts) implies `ExactLtv` — the inequality between the exact products
`debt·p_out`, `coll·p_in`, the decimal scales and the LTV with half an ulp of slack for each of the three roundings — and, when the
decimal scales divide `10^18` (every `10^k`, `k ≤ 18`), `ExactLtvScales`: only the final quotient rounds. -/
theorem ltv_exact {cfg : Cfg} {prices : List (Nat × Nat)} {aIn : Int} {assetIn : Nat} {aOut : Int} {assetOut : Nat} {r ltv : Dec}
    (h : collRatio cfg prices aIn assetIn aOut assetOut = .ok r) (hle : r ≤ ltv) (hc : 0 ≤ aIn) (hd : 0 ≤ aOut) (hl : 0 ≤ ltv) :
    ∃ ai pin ao pout, cfg.asset? assetIn = some ai ∧ prices.lookup assetIn = some pin ∧ cfg.asset? assetOut = some ao ∧
      prices.lookup assetOut = some pout ∧
      (0 < ai.decimals → 0 < ao.decimals → ExactLtv ltv aIn (pin : Int) ai.decimals aOut (pout : Int) ao.decimals) ∧
      (0 < ai.decimals → 0 < ao.decimals → ai.decimals ∣ Dec.P → ao.decimals ∣ Dec.P →
        ExactLtvScales ltv aIn (pin : Int) ai.decimals aOut (pout : Int) ao.decimals) := by
  obtain ⟨vin, vout, h1, h2, hne, rfl⟩ := collRatio_ok h
  obtain ⟨ai, pin, ha, hp, _, rfl⟩ := calcPrice_ok h1
  obtain ⟨ao, pout, hao, hpo, _, rfl⟩ := calcPrice_ok h2
  exact ⟨ai, pin, ao, pout, ha, hp, hao, hpo,
    fun hdi hdo => exactLtv_of_ratio ltv aIn aOut pin pout _ _ hdi hdo hc hd hl hne hle,
    fun hdi hdo hsi hso => exactLtvScales_of_ratio ltv aIn aOut pin pout _ _ hdi hdo hsi hso hc hne hle⟩

/-- an accepted new borrow: exact inequality between loan value and collateral value × LTV -/
theorem borrow_accepted_ltv_exact {cfg : Cfg} {s s' : State} {u : Nat} {l : Lend} {pair : PairCfg} {rates : RatesCfg} {stable : Bool}
    {dIn : Nat} {aIn : Int} {dOut : Nat} {aOut : Int} (h : borrowNew cfg s u l pair rates stable dIn aIn dOut aOut = .ok s')
    (hc : 0 ≤ aIn) (hd : 0 ≤ aOut) (hl : 0 ≤ ltvOf pair rates) :
    ∃ ai pin ao pout, cfg.asset? l.asset = some ai ∧ s.prices.lookup l.asset = some pin ∧ cfg.asset? pair.assetOut = some ao ∧
      s.prices.lookup pair.assetOut = some pout ∧
      (0 < ai.decimals → 0 < ao.decimals → ExactLtv (ltvOf pair rates) aIn (pin : Int) ai.decimals aOut (pout : Int) ao.decimals) ∧
      (0 < ai.decimals → 0 < ao.decimals → ai.decimals ∣ Dec.P → ao.decimals ∣ Dec.P →
        ExactLtvScales (ltvOf pair rates) aIn (pin : Int) ai.decimals aOut (pout : Int) ao.decimals) := by
  obtain ⟨r, hr, hle⟩ := borrow_respects_ltv h
  exact ltv_exact hr hle hc hd hl

/-- an accepted draw: exact inequality for debt = principal + accrued interest (after the accrual of the message) + the draw -/
theorem draw_accepted_ltv_exact {cfg : Cfg} {s s' : State} {u k d : Nat} {y : Int} {ext : ExtB} (h : draw cfg s u k d y ext = .ok s') :
    ∃ b0 l pair rates s1 b, getBorrow s.borrows k = some b0 ∧ getLend s.lends b0.lendingId = some l ∧ cfg.pair? b0.pairId = some pair ∧
      cfg.rates? pair.assetIn = some rates ∧ iterBorrow s k ext = .ok s1 ∧ getBorrow s1.borrows k = some b ∧
      (0 ≤ b.amountIn → 0 ≤ b.amountOut + Dec.truncateInt b.interest + y → 0 ≤ ltvOf pair rates →
        ∃ ai pin ao pout, cfg.asset? l.asset = some ai ∧ s.prices.lookup l.asset = some pin ∧ cfg.asset? pair.assetOut = some ao ∧
          s.prices.lookup pair.assetOut = some pout ∧
          (0 < ai.decimals → 0 < ao.decimals →
            ExactLtv (ltvOf pair rates) b.amountIn (pin : Int) ai.decimals (b.amountOut + Dec.truncateInt b.interest + y) (pout : Int) ao.decimals)) := by
  obtain ⟨b0, l, pair, rates, s1, b, r, h1, h2, h3, h4, h5, h6, hr, hle⟩ := draw_respects_ltv h
  refine ⟨b0, l, pair, rates, s1, b, h1, h2, h3, h4, h5, h6, fun hc hd hl => ?_⟩
  rw [(iterBorrow_frame h5).2.1] at hr
  obtain ⟨ai, pin, ao, pout, e1, e2, e3, e4, hx, _⟩ := ltv_exact hr hle hc hd hl
  exact ⟨ai, pin, ao, pout, e1, e2, e3, e4, hx⟩

/-- two assets with 18 decimals (`pricesT`: price 10⁶ each) -/
def cfgT : Cfg := { assets := [⟨1, 1000000000000000000⟩, ⟨2, 1000000000000000000⟩] }
def pricesT : List (Nat × Nat) := [(1, 1000000), (2, 1000000)]

/-- **The slack is real**: collateral 4·10¹⁸ units, debt 2·10¹⁸ + 1 units, same price and scale: the check accepts at LTV 0.5
(`Quo` rounds 0.500000000000000000 25 half-even down), the exact ratio is above 0.5, and `ExactLtvScales` holds. -/
theorem ltv_exact_tight :
    (verifyCR cfgT pricesT 4000000000000000000 1 2000000000000000001 2 500000000000000000).toBool = true ∧
    (2000000000000000001 : Int) * 1000000 * 1000000000000000000 * Dec.P > 500000000000000000 * (4000000000000000000 * 1000000 * 1000000000000000000) ∧
    ExactLtvScales 500000000000000000 4000000000000000000 1000000 1000000000000000000 2000000000000000001 1000000 1000000000000000000 := by
  decide

/-- **Cross-pool borrow**: besides the check on the pledged collateral, the bridged quantity `q` of the transit asset — the amount
recorded in the new borrow (`openBorrow … q …`) and moved to the lending-out pool — must itself cover the loan at the transit
asset's LTV. -/
theorem interpool_borrow_respects_transit_ltv {cfg : Cfg} {s s' : State} {u : Nat} {l : Lend} {pair : PairCfg} {rates : RatesCfg} {stable : Bool}
    {dIn : Nat} {aIn : Int} {dOut : Nat} {aOut : Int} (h : borrowNew cfg s u l pair rates stable dIn aIn dOut aOut = .ok s')
    (hi : pair.inter = true) :
    ∃ q transit rt r, cfg.rates? transit = some rt ∧ collRatio cfg s.prices q transit aOut pair.assetOut = .ok r ∧ r ≤ rt.ltv ∧
      ∃ brd bank', s' = openBorrow s l pair stable dIn aIn dOut aOut brd q bank' := by
  obtain ⟨v, unit, transit, rt, r, brd, bank', -, -, -, hrt, hr, hle, hs'⟩ := borrowNew_inter_shape h hi
  exact ⟨_, transit, rt, r, hrt, hr, hle, brd, bank', hs'⟩

/-- **Cross-pool borrow, exact form**: the bridged quantity `q` recorded in the borrow satisfies the exact LTV inequality of the
transit asset against the loan, and `q` itself is bounded through the three roundings that produce it from the pledged amount
(`tin = ⌊aIn·ltv⌋`, its `Dec` value `v`, `q = ⌊Quo(v, unit)⌋` with `unit` the `Dec` value of one unit of the transit asset). -/
theorem interpool_borrow_ltv_exact {cfg : Cfg} {s s' : State} {u : Nat} {l : Lend} {pair : PairCfg} {rates : RatesCfg} {stable : Bool}
    {dIn : Nat} {aIn : Int} {dOut : Nat} {aOut : Int} (h : borrowNew cfg s u l pair rates stable dIn aIn dOut aOut = .ok s')
    (hi : pair.inter = true) (hc : 0 ≤ aIn) (hd : 0 ≤ aOut) (hl : 0 ≤ ltvOf pair rates) :
    ∃ v unit transit rt brd bank' al pl,
      cfg.rates? transit = some rt ∧ cfg.asset? l.asset = some al ∧ s.prices.lookup l.asset = some pl ∧
      s' = openBorrow s l pair stable dIn aIn dOut aOut brd (Dec.truncateInt (Dec.quo v unit)) bank' ∧
      (0 < al.decimals → 0 < unit →
        let tin := Dec.truncateInt (Dec.mul (Dec.ofInt aIn) (ltvOf pair rates))
        let q := Dec.truncateInt (Dec.quo v unit)
        tin * Dec.P ≤ aIn * ltvOf pair rates ∧ 2 * al.decimals * Dec.P * v ≤ 2 * (tin * (pl : Int) * Dec.P * Dec.P) + al.decimals * Dec.P ∧
          0 ≤ q ∧ 2 * unit * Dec.P * q ≤ 2 * Dec.P * v + unit ∧
          (0 ≤ rt.ltv → ∃ atr pt ao pout, cfg.asset? transit = some atr ∧ s.prices.lookup transit = some pt ∧
            cfg.asset? pair.assetOut = some ao ∧ s.prices.lookup pair.assetOut = some pout ∧
            (0 < atr.decimals → 0 < ao.decimals → ExactLtv rt.ltv q (pt : Int) atr.decimals aOut (pout : Int) ao.decimals))) := by
  obtain ⟨v, unit, transit, rt, r, brd, bank', hv, _, _, hrt, hr, hle, hs'⟩ := borrowNew_inter_shape h hi
  obtain ⟨al, pl, hal, hpl, _, hveq⟩ := calcPrice_ok hv
  refine ⟨v, unit, transit, rt, brd, bank', al, pl, hrt, hal, hpl, hs', fun hdl hu => ?_⟩
  obtain ⟨h1, h2, h3, h4⟩ := bridged_chain aIn (ltvOf pair rates) pl al.decimals unit v hc hl hdl hu hveq
  refine ⟨h1, h2, h3, h4, fun hlt => ?_⟩
  obtain ⟨at', pt, ao, pout, e1, e2, e3, e4, hx, _⟩ := ltv_exact hr hle h3 hd hlt
  exact ⟨at', pt, ao, pout, e1, e2, e3, e4, hx⟩

/-- **A new borrow respects the LTV on the tokens actually pledged**: when a borrow message opens a borrow, the pledged denomination
is the cToken of the pair's collateral asset, that asset is the asset of the debited lend position, and the ratio of the loan value to
the value of the pledged amount (valued as that asset, at the prices in force) is at most the applicable LTV. -/
theorem borrow_respects_ltv_pledged {cfg : Cfg} {s s' : State} {u k pid : Nat} {stable : Bool} {dIn : Nat} {aIn : Int} {dOut : Nat} {aOut : Int}
    {e1 e2 : ExtB} (h : borrow cfg s u k pid stable dIn aIn dOut aOut e1 e2 = .ok s') (hnew : findBorrowByPair s u pid = none) :
    ∃ l pair rates r, getLend s.lends k = some l ∧ cfg.pair? pid = some pair ∧ cfg.rates? pair.assetIn = some rates ∧
      dIn = rates.cAsset ∧ l.asset = pair.assetIn ∧
      collRatio cfg s.prices aIn pair.assetIn aOut pair.assetOut = .ok r ∧ r ≤ ltvOf pair rates := by
  rcases borrow_msg_cases h with ⟨l, pair, rates, hl, hp, hr, hd, hsame, _, hb⟩ | ⟨b, _, hb, _⟩
  · obtain ⟨r, hr', hle⟩ := borrow_respects_ltv hb
    exact ⟨l, pair, rates, r, hl, hp, hr, hd, hsame.symm, by rw [hsame]; exact hr', hle⟩
  · rw [hnew] at hb; cases hb

/-! ### example: a pair registered for another asset of the pool (defect A of notes/C08.md) -/

/-- assets 1 (X, price 2), 2 (Y, price 1), 3 (Z, price 1), cTokens 4, 5, 6; one pool holding all three; pair 1 = (Y → Z). -/
def cfgF : Cfg :=
  { assets := [⟨1, 1⟩, ⟨2, 1⟩, ⟨3, 1⟩, ⟨4, 1⟩, ⟨5, 1⟩, ⟨6, 1⟩],
    rates := [⟨1, 700000000000000000, 0, 4, false, false, 0, 0⟩, ⟨2, 500000000000000000, 0, 5, false, false, 0, 0⟩, ⟨3, 800000000000000000, 0, 6, false, false, 0, 0⟩],
    pools := [⟨1, 101, [⟨1, 3, 1000000000000000000000000000000000000⟩, ⟨2, 1, 1000000000000000000000000000000000000⟩, ⟨3, 2, 1000000000000000000000000000000000000⟩]⟩],
    pairs := [⟨1, 2, 3, false, 1, false⟩],
    a2p := [⟨2, 1, [1]⟩],
    apps := [(1, true)] }
def bankF : Bank := [((1, 1), 1000), ((1, 2), 1000), ((101, 3), 1000)]
def pricesF : List (Nat × Nat) := [(1, 2000000), (2, 1000000), (3, 1000000)]
/-- user 1 lends 100 X (lend 1) and 100 Y (lend 2) -/
def stateF : State := run cfgF (init cfgF bankF pricesF) [.lend 1 1 1 100 1 1 0, .lend 1 2 2 100 1 1 0]
/-- … and tries to borrow 90 Z on the X lend through the (Y → Z) pair, pledging 100 cY: 100 cY (= 100) at LTV 0.5 do not cover 90, but
valued as the lend's asset (100 X = 200) they would -/
def opF : Op := .borrow 1 1 1 false 5 100 3 90 .err .err

/-- the foreign-pair borrow is refused; on the Y lend the same pair lends up to the LTV (50) and not one unit more -/
example : (step cfgF stateF opF).toBool = false ∧
    (step cfgF stateF (.borrow 1 2 1 false 5 100 3 50 .err .err)).toBool = true ∧
    (step cfgF stateF (.borrow 1 2 1 false 5 100 3 51 .err .err)).toBool = false := by decide

/-- **A new borrow is paid out of coins the lending-out pool holds**: the loan is at most the pool's balance of the loan denomination
at that moment. -/
theorem borrow_requires_pool_funds {cfg : Cfg} {s s' : State} {u : Nat} {l : Lend} {pair : PairCfg} {rates : RatesCfg} {stable : Bool}
    {dIn : Nat} {aIn : Int} {dOut : Nat} {aOut : Int} (h : borrowNew cfg s u l pair rates stable dIn aIn dOut aOut = .ok s') :
    ∃ outPool, cfg.pool? pair.outPool = some outPool ∧ aOut ≤ s.bank.get outPool.acct dOut := by
  obtain ⟨e, -⟩ := borrowNew_ok h
  exact ⟨e.outPool, e.hout, e.funds⟩

/-- **A draw is paid out of coins the pool holds** (the interest accrual that precedes the check does not touch the bank). -/
theorem draw_requires_pool_funds {cfg : Cfg} {s s' : State} {u k d : Nat} {y : Int} {ext : ExtB} (h : draw cfg s u k d y ext = .ok s') :
    ∃ b0 pair pool, getBorrow s.borrows k = some b0 ∧ cfg.pair? b0.pairId = some pair ∧ cfg.pool? pair.outPool = some pool ∧
      y ≤ s.bank.get pool.acct pair.assetOut := by
  obtain ⟨e, -⟩ := draw_ok h
  exact ⟨e.b0, e.pair, e.pool, e.get0, e.hpair, e.hpool, (iterBorrow_frame e.accrue).1 ▸ e.funds⟩

/-- **Closing a lend position releases exactly its availability and only when nothing is borrowed against it**; no borrow record
changes. (`l` is the position after the reward accrual the message itself performs.) -/
theorem closeLend_never_releases_pledged {cfg : Cfg} {s s' : State} {u k : Nat} {r : Int} (h : closeLend cfg s u k r = .ok s') :
    s'.borrows = s.borrows ∧ (∀ b ∈ s.borrows, b.lendingId ≠ k) ∧ getLend s'.lends k = none ∧
      ∃ s1 l, iterLends cfg s k r = .ok s1 ∧ getLend s1.lends k = some l ∧
        s'.stats = delLendId (addTotalLend s1.stats l.pool l.asset (-l.avail)) l.pool l.asset k := by
  obtain ⟨e, rfl⟩ := closeLend_ok h
  have hb := iterLends_borrows e.accrue
  exact ⟨hb, hb ▸ borrowsOfLend_empty e.unborrowed, getLend_delLend _ k, e.s1, e.l, e.accrue, e.get, rfl⟩

/-- **A withdrawal never exceeds `availableToBorrow`** (after the reward accrual), leaves every borrow record — hence every pledge —
untouched, and leaves a non-negative availability; or it is the close-lend shortcut. -/
theorem withdraw_never_releases_pledged {cfg : Cfg} {s s' : State} {u k d : Nat} {w r : Int} (h : withdraw cfg s u k d w r = .ok s') :
    s'.borrows = s.borrows ∧ (∀ j, pledgedOf s'.borrows j = pledgedOf s.borrows j) ∧
      (closeLend cfg s u k r = .ok s' ∨
       ∃ s1 l l', iterLends cfg s k r = .ok s1 ∧ getLend s1.lends k = some l ∧ w ≤ l.avail ∧
         getLend s'.lends k = some l' ∧ l'.avail = l.avail - w ∧ 0 ≤ l'.avail) := by
  obtain ⟨_, -, -, h⟩ | ⟨e, rfl⟩ := withdraw_ok h
  · have e := (closeLend_never_releases_pledged h).1
    exact ⟨e, fun j => by rw [e], .inl h⟩
  · have hb := iterLends_borrows e.accrue
    exact ⟨hb, fun j => by rw [show e.post.borrows = s.borrows from hb],
      .inr ⟨e.s1, e.l, _, e.accrue, e.get, e.within, getLend_setLend e.get rfl, rfl, Int.sub_nonneg_of_le e.within⟩⟩

/-! ## Witness: liquidation hand-over (defect B of notes/C08.md, finding D19) -/

/-- assets 1 (A), 2 (B), both price 1; cTokens 3, 4; one pool; pair 1 = (A → B). -/
def cfgH : Cfg :=
  { assets := [⟨1, 1⟩, ⟨2, 1⟩, ⟨3, 1⟩, ⟨4, 1⟩],
    rates := [⟨1, 500000000000000000, 0, 3, false, false, 0, 0⟩, ⟨2, 500000000000000000, 0, 4, false, false, 0, 0⟩],
    pools := [⟨1, 101, [⟨1, 1, 1000000000000000000000000000000000000⟩, ⟨2, 2, 1000000000000000000000000000000000000⟩]⟩],
    pairs := [⟨1, 1, 2, false, 1, false⟩],
    a2p := [⟨1, 1, [1]⟩],
    apps := [(1, true)] }
def bankH : Bank := [((1, 1), 1000), ((101, 2), 1000), ((99, 1), 10)]
def pricesH : List (Nat × Nat) := [(1, 1000000), (2, 1000000)]
/-- lend 100 A; a reward of 5 is credited (availableToBorrow 105, AmountIn 100, total lent 105); the whole principal (100 cA) is
pledged for a loan of 10 B; the borrow is handed over to the liquidation auction. -/
def opsH : List Op :=
  [.lend 1 1 1 100 1 1 0, .calcAll 1 [] [(1, 5)], .borrow 1 1 1 false 3 100 2 10 .err .err, .handover 1 0]

/-- **Counterexample (hand-over)**: every step is accepted; afterwards the pool publishes a total lent of 5 for asset A while no lend
position is left: `UpdateLockedBorrows` (x/liquidationsV2/keeper/liquidate.go:392-401) subtracts the pledge from `AmountIn`, which
counts principal only, and deletes the position as soon as that is ≤ 0 — here with `availableToBorrow = 5` still in it. -/
theorem totalLend_handover_counterexample :
    allAccepted cfgH (init cfgH bankH pricesH) opsH = true ∧
    (run cfgH (init cfgH bankH pricesH) opsH).lends = [] ∧
    ((run cfgH (init cfgH bankH pricesH) opsH).stats.map fun st => (st.pool, st.asset, st.totalLend)) = [(1, 1, 5), (1, 2, 0)] ∧
    ¬ TotalLendEq (run cfgH (init cfgH bankH pricesH) opsH) ∧
    ¬ CleanRun cfgH (init cfgH bankH pricesH) opsH := by decide

/-- `totalLend_eq`: a hand-over-free history with two lends and an open borrow -/
example : (∀ op ∈ [Op.lend 1 1 1 100 1 1 0, .lend 1 2 2 100 1 1 0, .borrow 1 2 1 false 5 100 3 50 .err .err], op.isHandover = false) ∧
    (run cfgF (init cfgF bankF pricesF) [.lend 1 1 1 100 1 1 0, .lend 1 2 2 100 1 1 0, .borrow 1 2 1 false 5 100 3 50 .err .err]).borrows.length = 1 := by
  decide

/-- `totalLend_eq_partial`: a history with a clean hand-over (60 of 100 pledged, the position survives with 40) -/
example : CleanRun cfgH (init cfgH bankH pricesH) [.lend 1 1 1 100 1 1 0, .borrow 1 1 1 false 3 60 2 10 .err .err, .handover 1 0] ∧
    allAccepted cfgH (init cfgH bankH pricesH) [.lend 1 1 1 100 1 1 0, .borrow 1 1 1 false 3 60 2 10 .err .err, .handover 1 0] = true ∧
    (run cfgH (init cfgH bankH pricesH) [.lend 1 1 1 100 1 1 0, .borrow 1 1 1 false 3 60 2 10 .err .err, .handover 1 0]).lends.length = 1 := by
  decide

/-- the state after `lend 100 A; borrow 10 B against 60 cA` -/
def stateE : State := run cfgH (init cfgH bankH pricesH) [.lend 1 1 1 100 1 1 0, .borrow 1 1 1 false 3 60 2 10 .err .err]

/-- `borrow_respects_ltv`, `borrow_requires_pool_funds`, `borrow_respects_ltv_pledged`: an accepted new borrow on a regular pair -/
example : (borrowNew cfgH (run cfgH (init cfgH bankH pricesH) [.lend 1 1 1 100 1 1 0]) 1 ⟨1, 1, 1, 1, 100, 100, 1⟩ ⟨1, 1, 2, false, 1, false⟩
    ⟨1, 500000000000000000, 0, 3, false, false, 0, 0⟩ false 3 60 2 10).toBool = true ∧ (⟨1, 1, 2, false, 1, false⟩ : PairCfg).assetIn = (⟨1, 1, 1, 1, 100, 100, 1⟩ : Lend).asset := by
  decide

/-- `draw_respects_ltv`, `draw_requires_pool_funds`: an accepted draw with accrued interest (external increments 2.5 and 0.5) -/
example : (draw cfgH stateE 1 1 2 15 (.val 2500000000000000000 500000000000000000)).toBool = true := by decide

/-- … and the draw one unit above the LTV limit (60·0.5 = 30 = 10 + 2 + 18) is refused -/
example : (draw cfgH stateE 1 1 2 18 (.val 2500000000000000000 500000000000000000)).toBool = true ∧
    (draw cfgH stateE 1 1 2 19 (.val 2500000000000000000 500000000000000000)).toBool = false := by decide

/-- `withdraw_never_releases_pledged`: 40 of 100 are available; 40 can be withdrawn, 41 cannot -/
example : (withdraw cfgH stateE 1 1 1 40 0).toBool = true ∧ (withdraw cfgH stateE 1 1 1 41 0).toBool = false := by decide

/-- `closeLend_never_releases_pledged`: refused while a borrow is open, accepted on a fresh position -/
example : (closeLend cfgH stateE 1 1 0).toBool = false ∧
    (closeLend cfgH (run cfgH (init cfgH bankH pricesH) [.lend 1 1 1 100 1 1 0]) 1 1 0).toBool = true := by decide

/-! ## Where the interest goes: every repayment is split without loss -/

/-- how a partial repayment `p` on borrow `b` (as it stands after the accrual of the message) is booked: `bs'` is the borrow store afterwards -/
def RepaySplit (b : Borrow) (p : Int) (bs bs' : List Borrow) : Prop :=
  ∃ toReserve toLenders cut dust,
    p = toReserve + toLenders + cut + dust ∧
    (0 ≤ b.reserveInt → b.reserveInt ≤ b.interest → 0 ≤ dust ∧ dust ≤ 1) ∧
    bs' = setBorrow bs { b with amountOut := b.amountOut - cut,
                                interest := b.interest - Dec.ofInt (toReserve + toLenders + dust),
                                reserveInt := b.reserveInt - Dec.ofInt toReserve }

theorem repaySplit_reserve (b : Borrow) (p : Int) (bs : List Borrow) :
    RepaySplit b p bs (setBorrow bs { b with reserveInt := b.reserveInt - Dec.ofInt p, interest := b.interest - Dec.ofInt p }) :=
  ⟨p, 0, 0, 0, by omega, fun _ _ => ⟨by omega, by omega⟩, by simp⟩

theorem repaySplit_interest (b : Borrow) (p : Int) (bs : List Borrow) :
    RepaySplit b p bs (setBorrow bs { b with reserveInt := b.reserveInt - Dec.ofInt b.reserveShare, interest := b.interest - Dec.ofInt p }) := by
  refine ⟨b.reserveShare, p - b.reserveShare, 0, 0, by omega, fun _ _ => ⟨by omega, by omega⟩, ?_⟩
  simp

theorem repaySplit_principal (b : Borrow) (p : Int) (bs : List Borrow) :
    RepaySplit b p bs (setBorrow bs { b with reserveInt := b.reserveInt - Dec.ofInt b.reserveShare,
                                             amountOut := b.amountOut - (p - Dec.truncateInt b.interest),
                                             interest := b.interest - Dec.ofInt (Dec.truncateInt b.interest) }) := by
  refine ⟨b.reserveShare, b.lendersShare, p - Dec.truncateInt b.interest, Dec.truncateInt b.interest - b.reserveShare - b.lendersShare,
    by omega, ?_, ?_⟩
  · intro h0 hle
    obtain ⟨dust, d0, d1, e⟩ := interest_split b.interest b.reserveInt h0 hle
    unfold Borrow.reserveShare Borrow.lendersShare
    omega
  · have : b.reserveShare + b.lendersShare + (Dec.truncateInt b.interest - b.reserveShare - b.lendersShare) = Dec.truncateInt b.interest := by
      omega
    simp [this]

/-- **Repayment split** — an accepted partial repayment `p` (not the close shortcut) is split into a reserve share, a lender share
(minted as cTokens into `totalInterestAccumulated`), a principal cut and at most one token of dust:
`p = toReserve + toLenders + cut + dust`; the borrow's principal falls by `cut`, its accrued interest by exactly the whole tokens
`toReserve + toLenders + dust`, its reserve tracker by `toReserve`; with `0 ≤ reserveShare ≤ interest` the dust is 0 or 1 token (it is the
`⌊a⌋ − ⌊b⌋ − ⌊a−b⌋` of the two truncations and stays in the pool). -/
theorem repay_split {cfg : Cfg} {s s' : State} {u k d : Nat} {p : Int} {ext : ExtB} (h : repay cfg s u k d p ext = .ok s') :
    closeBorrow cfg s u k ext = .ok s' ∨
    ∃ s1 b, iterBorrow s k ext = .ok s1 ∧ getBorrow s1.borrows k = some b ∧ RepaySplit b p s1.borrows s'.borrows := by
  obtain ⟨_, -, -, -, h⟩ | ⟨e, hs⟩ := repay_ok h
  · exact .inl h
  · refine .inr ⟨e.s1, e.b, e.accrue, e.get, ?_⟩
    obtain ⟨-, _, -, rfl⟩ | ⟨-, ⟨-, _, -, -, _, -, rfl⟩ | ⟨-, _, -, -, _, -, -, rfl⟩⟩ := hs
    · exact repaySplit_reserve _ _ _
    · exact repaySplit_interest _ _ _
    · exact repaySplit_principal _ _ _

/-- **Closing a borrow**: the borrower pays principal + whole tokens of interest; of the interest the whole tokens of the reserve share
go to the reserve, the whole tokens of the rest are minted as cTokens and booked on `totalInterestAccumulated` (the lenders' share),
at most one token of dust stays in the pool: `⌊interest⌋ = ⌊reserve⌋ + ⌊interest − reserve⌋ + dust`, `dust ∈ {0, 1}`. -/
theorem closeBorrow_split {cfg : Cfg} {s s' : State} {u k : Nat} {ext : ExtB} (h : closeBorrow cfg s u k ext = .ok s') :
    ∃ s1 b pair, iterBorrow s k ext = .ok s1 ∧ getBorrow s1.borrows k = some b ∧ cfg.pair? b.pairId = some pair ∧
      s'.stats = delBorrowId (addBorrowed (if Dec.truncateInt (b.interest - b.reserveInt) > 0
                              then addTotalInterest s1.stats pair.outPool pair.assetOut (Dec.truncateInt (b.interest - b.reserveInt))
                              else s1.stats) pair.outPool pair.assetOut b.stable (-b.amountOut)) pair.outPool pair.assetOut k ∧
      (0 ≤ b.reserveInt → b.reserveInt ≤ b.interest → ∃ dust, 0 ≤ dust ∧ dust ≤ 1 ∧
        Dec.truncateInt b.interest = Dec.truncateInt b.reserveInt + Dec.truncateInt (b.interest - b.reserveInt) + dust) := by
  obtain ⟨e, rfl⟩ := closeBorrow_ok h
  exact ⟨e.s1, e.b, e.pair, e.accrue, e.get, e.pairId ▸ e.hpair, rfl, fun h0 hle => interest_split _ _ h0 hle⟩

/-! ## Emergency guards fail closed: kill switch (per app) and pool depreciation -/

/-- a rejected message leaves every record, total and balance unchanged -/
theorem rejected_no_change (cfg : Cfg) (s : State) (op : Op) (h : (step cfg s op).toBool = false) : apply cfg s op = s := by
  unfold apply
  cases hs : step cfg s op with
  | ok s' => rw [hs] at h; cases h
  | error e => rfl

/-- **Kill switch on ⇒ every message on a lend position of that app is rejected**: deposit, withdraw, close-lend -/
theorem killswitch_rejects_lend_ops (cfg : Cfg) (s : State) (u k d : Nat) (amt r : Int) (l : Lend)
    (hl : getLend s.lends k = some l) (hk : s.isKilled l.app = true) :
    (deposit cfg s u k d amt r).toBool = false ∧ (withdraw cfg s u k d amt r).toBool = false ∧ (closeLend cfg s u k r).toBool = false := by
  have on : OnLend cfg s k r → False := fun c => by
    cases hl.symm.trans c.get0; cases hk.symm.trans c.alive
  have hc : ∀ s', closeLend cfg s u k r ≠ .ok s' := fun s' h => by
    obtain ⟨e, -⟩ := closeLend_ok h; exact on e.toOnLend
  refine ⟨toBool_false fun s' h => ?_, toBool_false fun s' h => ?_, toBool_false hc⟩
  · obtain ⟨e, -⟩ := deposit_ok h; exact on e.toOnLend
  · obtain ⟨_, -, -, h⟩ | ⟨e, -⟩ := withdraw_ok h
    · exact hc _ h
    · exact on e.toOnLend

/-- **Kill switch on ⇒ every message on a borrow of a lend position of that app is rejected**: deposit-borrow, draw, repay,
close-borrow, repay-withdraw (and the liquidation hand-over) -/
theorem killswitch_rejects_borrow_ops (cfg : Cfg) (s : State) (u k d : Nat) (amt r : Int) (ext : ExtB) (ni : Dec) (b : Borrow) (l : Lend)
    (hb : getBorrow s.borrows k = some b) (hl : getLend s.lends b.lendingId = some l) (hk : s.isKilled l.app = true) :
    (depositBorrow cfg s u k d amt ext).toBool = false ∧ (draw cfg s u k d amt ext).toBool = false ∧
    (repay cfg s u k d amt ext).toBool = false ∧ (closeBorrow cfg s u k ext).toBool = false ∧
    (repayWithdraw cfg s u k ext r).toBool = false ∧ (handover cfg s k ni).toBool = false := by
  have on : OnBorrow s u k ext → False := fun c => by
    cases hb.symm.trans c.get0; cases hl.symm.trans c.lend; cases hk.symm.trans c.alive
  have hcb : ∀ s', closeBorrow cfg s u k ext ≠ .ok s' := fun s' h => by
    obtain ⟨e, -⟩ := closeBorrow_ok h; exact on e.toOnBorrow
  refine ⟨toBool_false fun s' h => ?_, toBool_false fun s' h => ?_, toBool_false fun s' h => ?_, toBool_false hcb,
    toBool_false fun s' h => ?_, toBool_false fun s' h => ?_⟩
  · obtain ⟨e, -⟩ := depositBorrow_ok h; exact on e.toOnBorrow
  · obtain ⟨e, -⟩ := draw_ok h; exact on e.toOnBorrow
  · obtain ⟨_, -, -, -, h⟩ | ⟨e, -⟩ := repay_ok h
    · exact hcb _ h
    · exact on e.toOnBorrow
  · obtain ⟨_, -, _, h, -⟩ := repayWithdraw_ok h; exact hcb _ h
  · obtain ⟨e, -⟩ := handover_ok h
    cases hb.symm.trans e.get; cases hl.symm.trans e.lend; cases hk.symm.trans e.alive

/-- **Kill switch / depreciation on ⇒ no new lend, no borrow-alternate on that app / pool; no borrow message on a lend position of that
app / pool** -/
theorem guards_reject_new_positions (cfg : Cfg) (s : State) (u a d : Nat) (amt : Int) (p app : Nat) (r : Int) (pid : Nat) (st : Bool)
    (dOut : Nat) (aOut : Int) (e1 e2 : ExtB) (h : s.isKilled app = true ∨ s.isDep p = true) :
    (lend cfg s u a d amt p app r).toBool = false ∧
    (borrowAlternate cfg s u a p d amt pid st dOut aOut app r e1 e2).toBool = false := by
  have hg : ∀ pc, lendGuards cfg s a d amt p app ≠ .ok pc := fun pc hh => by
    rcases h with h | h
    · cases h.symm.trans (lendGuards_ok hh).alive
    · cases h.symm.trans (lendGuards_ok hh).notDep
  refine ⟨toBool_false fun s' hh => ?_, toBool_false fun s' hh => ?_⟩
  · obtain ⟨pc, hg', -⟩ := lend_ok hh; exact hg pc hg'
  · obtain ⟨pc, hg', -⟩ := borrowAlternate_ok hh; exact hg pc hg'

theorem guards_reject_borrow (cfg : Cfg) (s : State) (u k pid : Nat) (st : Bool) (dIn : Nat) (aIn : Int) (dOut : Nat) (aOut : Int) (e1 e2 : ExtB)
    (l : Lend) (hl : getLend s.lends k = some l) (h : s.isKilled l.app = true ∨ s.isDep l.pool = true) :
    (borrow cfg s u k pid st dIn aIn dOut aOut e1 e2).toBool = false := by
  refine toBool_false fun s' hh => ?_
  obtain ⟨e, -⟩ := borrow_ok hh
  cases hl.symm.trans e.get
  rcases h with h | h
  · cases h.symm.trans e.alive
  · cases h.symm.trans e.notDep

/-- **Depreciated pool ⇒ no deposit, no further pledge, no draw on its positions** (withdraw, close, repay stay possible: users can exit) -/
theorem depreciation_rejects (cfg : Cfg) (s : State) (u k d : Nat) (amt r : Int) (l : Lend)
    (hl : getLend s.lends k = some l) (hd : s.isDep l.pool = true) :
    (deposit cfg s u k d amt r).toBool = false ∧
    (∀ kb ext b, getBorrow s.borrows kb = some b → b.lendingId = k →
      (depositBorrow cfg s u kb d amt ext).toBool = false ∧ (draw cfg s u kb d amt ext).toBool = false) := by
  refine ⟨toBool_false fun s' hh => ?_, fun kb ext b hb hbk => ?_⟩
  · obtain ⟨e, -⟩ := deposit_ok hh
    cases hl.symm.trans e.get0; cases hd.symm.trans e.notDep
  · have on : ∀ c : OnBorrow s u kb ext, s.isDep c.l.pool = false → False := fun c hd' => by
      cases hb.symm.trans c.get0; cases (hbk ▸ hl).symm.trans c.lend; cases hd.symm.trans hd'
    refine ⟨toBool_false fun s' hh => ?_, toBool_false fun s' hh => ?_⟩
    · obtain ⟨e, -⟩ := depositBorrow_ok hh; exact on e.toOnBorrow e.notDep
    · obtain ⟨e, -⟩ := draw_ok hh; exact on e.toOnBorrow e.notDep

/-- non-vacuity: with the switch of app 1 on, the open position of `stateE` can be neither drawn on nor repaid nor withdrawn from; with
it off again all three work; a depreciated pool still lets the user repay and withdraw but not draw or deposit -/
example :
    (step cfgH (setKill stateE 1 true) (.draw 1 1 2 5 (.val 0 0))).toBool = false ∧
    (step cfgH (setKill stateE 1 true) (.repay 1 1 2 5 (.val 0 0))).toBool = false ∧
    (step cfgH (setKill stateE 1 true) (.withdraw 1 1 1 5 0)).toBool = false ∧
    (step cfgH (setKill (setKill stateE 1 true) 1 false) (.draw 1 1 2 5 (.val 0 0))).toBool = true ∧
    (step cfgH (setDepreciated stateE 1) (.draw 1 1 2 5 (.val 0 0))).toBool = false ∧
    (step cfgH (setDepreciated stateE 1) (.deposit 1 1 1 5 0)).toBool = false ∧
    (step cfgH (setDepreciated stateE 1) (.repay 1 1 2 5 (.val 0 0))).toBool = true ∧
    (step cfgH (setDepreciated stateE 1) (.withdraw 1 1 1 5 0)).toBool = true := by decide

/-- **One accrual, in the ledger**: `IterateBorrow` charges `dI` to the borrower and earmarks `dR` (when positive) for the reserve; the
lenders' share of the accrued interest, `interest − reserve share`, grows by exactly `dI − dR`; no coin moves and no total changes. -/
theorem accrual_split {s s1 : State} {k : Nat} {dI dR : Dec} {b0 b : Borrow} (h : iterBorrow s k (.val dI dR) = .ok s1)
    (h0 : getBorrow s.borrows k = some b0) (h1 : getBorrow s1.borrows k = some b) :
    b.interest = b0.interest + dI ∧ b.reserveInt = b0.reserveInt + (if dR > 0 then dR else 0) ∧
      (b.interest - b.reserveInt) - (b0.interest - b0.reserveInt) = dI - (if dR > 0 then dR else 0) ∧
      s1.bank = s.bank ∧ s1.stats = s.stats ∧ s1.lends = s.lends := by
  obtain ⟨dI', dR', e, rfl, rfl⟩ := iterBorrow_get h h0 h1
  cases e
  refine ⟨rfl, ?_, ?_, rfl, rfl, rfl⟩ <;> by_cases hd : dR > 0 <;> simp [hd]
  ring

/-- **A second accrual in the same block is the identity** (deposit-and-draw accrues twice): nothing is charged, the indices stay. -/
theorem accrual_zero_elapsed (a : AccB) (amountOut : Int) (stable : Bool) (apr rr : Dec) (now : Int)
    (hgi : 0 < a.gi) (hrgi : 0 < a.rgi) (ham : 0 ≤ amountOut) (hsr : 0 ≤ a.stableRate) (hnow : LendRates.elapsed now a.last = 0) :
    accrueBorrow a amountOut stable apr (some rr) now = { ext := .val 0 0, gi := a.gi, rgi := a.rgi } :=
  accrueBorrow_zero_elapsed a amountOut stable apr rr now hgi hrgi ham hsr hnow

/-- **The reward tracker loses nothing**: whole tokens paid + fraction carried = fraction before + reward accrued; the carried
fraction stays in `[0, 1)`. -/
theorem reward_tracker_conserved (a : AccL) (amountIn : Int) (apr : Dec) (now : Int) (per gi' : Dec) (r : LendAccrual)
    (h : LendRates.lendReward amountIn apr a.gi now a.last = .ok [per, gi']) (hr : accrueLend a amountIn apr now = r) :
    Dec.ofInt r.reward + r.tracker = a.tracker + per ∧ r.gi = gi' ∧ r.panicked = false ∧
      (0 ≤ a.tracker + per → 0 ≤ r.reward ∧ 0 ≤ r.tracker ∧ r.tracker < Dec.one) := by
  subst hr
  rw [accrueLend_ok a amountIn apr now per gi' h]
  exact ⟨Accrual.trackerStep_sum _ _, rfl, rfl, fun h0 => let ⟨p, t0, t1, _⟩ := Accrual.trackerStep_spec a.tracker per h0; ⟨p, t0, t1⟩⟩

/-- **Where a lend reward comes from**: from the lenders' share accumulated by repayments when that suffices (it is reduced by the
reward), otherwise from the reserve, which must hold the coins. -/
theorem reward_source {cfg : Cfg} {s s' : State} {k : Nat} {r : Int} (h : iterLends cfg s k r = .ok s') (hr : r > 0) :
    ∃ l st, getLend s.lends k = some l ∧ getStats s.stats l.pool l.asset = some st ∧
      ((r ≤ st.totalInterest ∧ s'.stats = addTotalLend (addTotalInterest s.stats l.pool l.asset (-r)) l.pool l.asset r) ∨
       (st.totalInterest < r ∧ r ≤ s.bank.get cfg.reserveAcct l.asset ∧ s'.stats = addTotalLend s.stats l.pool l.asset r)) := by
  obtain ⟨l, hl, ⟨-, pool, -, rates, -, st, hst, ⟨hgt, hf, _, -, _, -, _, -, rfl⟩ | ⟨hle, _, -, rfl⟩⟩ | ⟨h0, -⟩⟩ := iterLends_ok h
  · exact ⟨l, st, hl, hst, .inr ⟨hgt, hf, rfl⟩⟩
  · exact ⟨l, st, hl, hst, .inl ⟨hle, rfl⟩⟩
  · omega

/-- non-vacuity: one year at 5 % on a principal of 1000 with index 1, reserve rate 1 %: 50 charged, 10 of it for the reserve; and the
tracker example: 0.7 carried + 0.6 accrued pays 1 token and carries 0.3 -/
example :
    (accrueBorrow ⟨1, Dec.one, Dec.one, 1700000000, 0⟩ 1000 false 50000000000000000 (some 10000000000000000) (1700000000 + 31557600)).ext
      = .val 50000000000000000000 10000000000000000000 ∧
    (accrueLend ⟨1, Dec.one, 1700000000, 700000000000000000⟩ 6 100000000000000000 (1700000000 + 31557600)).reward = 1 ∧
    (accrueLend ⟨1, Dec.one, 1700000000, 700000000000000000⟩ 6 100000000000000000 (1700000000 + 31557600)).tracker = 300000000000000000 := by
  decide

/-! ## The id lists of the pool-asset records (`LendIds`, `BorrowIds`) — what the liquidation sweeps and the interest queries iterate -/

theorem run_ids (cfg : Cfg) (bank : Bank) (prices : List (Nat × Nat)) (ops : List Op) : IdsS cfg (run cfg (init cfg bank prices) ops) :=
  (run_keeps cfg ops _).ids (init_core cfg bank prices) (init_ids cfg bank prices)

/-- **Id lists are exact** — for every configuration, genesis and history (user messages, hand-overs, bids, auction closes): every
pool-asset record lists exactly the ids of the lend positions of its pool and asset, and exactly the ids of the borrows whose pair
lends out its asset from its pool (handed-over borrows included until the auction close deletes them), in creation order. -/
theorem ids_consistent (cfg : Cfg) (bank : Bank) (prices : List (Nat × Nat)) (ops : List Op) :
    IdsOk cfg (run cfg (init cfg bank prices) ops) :=
  idsOk_iff.mpr (run_ids cfg bank prices ops).lists

/-- **Id lists ascend** — which is what the binary search of `DeleteIDFromAssetStatsMapping` relies on (`delId_binary_search`). -/
theorem id_lists_ascending (cfg : Cfg) (bank : Bank) (prices : List (Nat × Nat)) (ops : List Op) :
    ∀ st ∈ (run cfg (init cfg bank prices) ops).stats, Asc st.lendIds ∧ Asc st.borrowIds := by
  intro st hst
  have c := run_core cfg bank prices ops
  obtain ⟨h1, h2⟩ := (run_ids cfg bank prices ops).lists st hst
  rw [h1, h2]
  exact ⟨asc_lendIdsOf c.lendAsc _ _, asc_borrowIdsOf c.borrowAsc _ _⟩

/-- **Removal by binary search is removal** on an ascending list; on an unsorted one it can miss the id (`[5, 3]`, id `3`). -/
theorem delId_binary_search (ids : List Nat) (h : Asc ids) (k : Nat) : delId ids k = ids.filter (· != k) := delId_eq_filter ids h k
theorem delId_needs_ascending : delId [5, 3] 3 = [5, 3] := by decide

/-- **Every live lend position is in exactly the list of its pool and asset**: the record exists, lists the id, and any record that
lists the id is one of that pool and asset. -/
theorem lend_listed_exactly (cfg : Cfg) (bank : Bank) (prices : List (Nat × Nat)) (ops : List Op) (l : Lend)
    (hl : l ∈ (run cfg (init cfg bank prices) ops).lends) :
    (∃ st ∈ (run cfg (init cfg bank prices) ops).stats, st.pool = l.pool ∧ st.asset = l.asset ∧ l.id ∈ st.lendIds) ∧
    (∀ st ∈ (run cfg (init cfg bank prices) ops).stats, l.id ∈ st.lendIds → st.pool = l.pool ∧ st.asset = l.asset) := by
  have i := run_ids cfg bank prices ops
  have hu := (run_core cfg bank prices ops).lendUniq
  obtain ⟨st, hst, h1, h2⟩ := i.lendRec l hl
  exact ⟨⟨st, hst, h1, h2, (i.lend_listed hu hl hst).mpr ⟨h1.symm, h2.symm⟩⟩,
    fun st hst hk => ((i.lend_listed hu hl hst).mp hk).imp Eq.symm Eq.symm⟩

/-- **Every live borrow is in exactly the list of its pair's out pool and asset** (so `GetBorrows`, the list the liquidation sweeps of
both generations walk, reaches it). -/
theorem borrow_listed_exactly (cfg : Cfg) (bank : Bank) (prices : List (Nat × Nat)) (ops : List Op) (b : Borrow)
    (hb : b ∈ (run cfg (init cfg bank prices) ops).borrows) :
    (∃ st ∈ (run cfg (init cfg bank prices) ops).stats, cfg.pairOut b.pairId = some (st.pool, st.asset) ∧ b.id ∈ st.borrowIds) ∧
    (∀ st ∈ (run cfg (init cfg bank prices) ops).stats, b.id ∈ st.borrowIds → cfg.pairOut b.pairId = some (st.pool, st.asset)) := by
  have i := run_ids cfg bank prices ops
  have hu := (run_core cfg bank prices ops).borrowUniq
  obtain ⟨p, a, hpa, st, hst, rfl, rfl⟩ := i.borrowRec b hb
  exact ⟨⟨st, hst, hpa, (i.borrow_listed hu hb hst).mpr hpa⟩, fun st hst => (i.borrow_listed hu hb hst).mp⟩

/-- **No dangling id**: an id in a list is the id of a live position of that record's pool and asset / out pool and asset. -/
theorem no_dangling_ids (cfg : Cfg) (bank : Bank) (prices : List (Nat × Nat)) (ops : List Op) :
    ∀ st ∈ (run cfg (init cfg bank prices) ops).stats,
      (∀ k ∈ st.lendIds, ∃ l ∈ (run cfg (init cfg bank prices) ops).lends, l.id = k ∧ l.pool = st.pool ∧ l.asset = st.asset) ∧
      (∀ k ∈ st.borrowIds, ∃ b ∈ (run cfg (init cfg bank prices) ops).borrows, b.id = k ∧ cfg.pairOut b.pairId = some (st.pool, st.asset)) := by
  intro st hst
  have i := run_ids cfg bank prices ops
  obtain ⟨h1, h2⟩ := i.lists st hst
  exact ⟨fun k hk => mem_lendIdsOf.mp (h1 ▸ hk), fun k hk => mem_borrowIdsOf.mp (h2 ▸ hk)⟩

/-! ## Life after the hand-over: bids and the close of the second-generation auction -/

/-- the principal totals and the lent total of a record are those of the record with the same key before -/
def SameTotals (ss ss' : List Stats) : Prop :=
  ∀ st' ∈ ss', ∃ st ∈ ss, st.pool = st'.pool ∧ st.asset = st'.asset ∧ st.totalLend = st'.totalLend ∧
    st.totalBorrowed = st'.totalBorrowed ∧ st.totalStable = st'.totalStable

theorem sameTotals_mod (ss : List Stats) (p a : Nat) {f : Stats → Stats} {gl gb : List Nat → List Nat} (m : Moves f 0 (fun _ => 0) gl gb) :
    SameTotals ss (modStats ss p a f) := by
  intro st' hst'
  obtain ⟨s0, hs0, rfl⟩ := mem_modStats hst'
  refine ⟨s0, hs0, ?_⟩
  split
  · have hB := m.borrowed false s0
    have hS := m.borrowed true s0
    simp [projB] at hB hS
    exact ⟨(m.key s0).1.symm, (m.key s0).2.symm, by rw [m.lent]; omega, by omega, by omega⟩
  · exact ⟨rfl, rfl, rfl, rfl, rfl⟩

theorem SameTotals.trans {a b c : List Stats} (h1 : SameTotals a b) (h2 : SameTotals b c) : SameTotals a c := by
  intro st hst
  obtain ⟨s1, hs1, e1, e2, e3, e4, e5⟩ := h2 st hst
  obtain ⟨s0, hs0, f1, f2, f3, f4, f5⟩ := h1 s1 hs1
  exact ⟨s0, hs0, f1.trans e1, f2.trans e2, f3.trans e3, f4.trans e4, f5.trans e5⟩

theorem SameTotals.refl (a : List Stats) : SameTotals a a := fun st hst => ⟨st, hst, rfl, rfl, rfl, rfl, rfl⟩

theorem sameTotals_bookInterest (ss : List Stats) (p a : Nat) (x : Int) : SameTotals ss (bookInterest ss p a x) := by
  unfold bookInterest; split
  · exact sameTotals_mod ss p a (moves_totalInterest x)
  · exact .refl _

/-- what an accepted closing bid does to the books (see `auctionClose_books`) -/
def CloseBooks (cfg : Cfg) (s s' : State) (k : Nat) : Prop :=
  ∃ b pair, getBorrow s.borrows k = some b ∧ b.liq = true ∧ cfg.pair? b.pairId = some pair ∧
    s'.borrows = delBorrow s.borrows k ∧ getBorrow s'.borrows k = none ∧ getLocked s'.locked k = none ∧
    s'.lends = s.lends ∧ s'.lendCtr = s.lendCtr ∧ s'.borrowCtr = s.borrowCtr ∧ SameTotals s.stats s'.stats ∧
    s'.stats = delBorrowId (if Dec.truncateInt (b.interest - b.reserveInt) > 0
                            then addTotalInterest s.stats pair.outPool pair.assetOut (Dec.truncateInt (b.interest - b.reserveInt))
                            else s.stats) pair.outPool pair.assetOut k

/-- **The auction close on the books**: an accepted closing bid deletes the handed-over borrow and its locked vault; no lend position
changes (the position was debited at the hand-over and stays debited); no published principal or lent total changes (they were
reduced at the hand-over); the lenders' share of the accrued interest, `⌊interest − reserve share⌋`, is added to
`totalInterestAccumulated` of the debt pool's record. A partial fill changes nothing but balances (`auctionBid_books`). -/
theorem auctionClose_books {cfg : Cfg} {s s' : State} {u k : Nat} {paid recv left topUp : Int}
    (h : auctionClose cfg s u k paid recv left topUp = .ok s') : CloseBooks cfg s s' k := by
  obtain ⟨e, rfl⟩ := auctionClose_ok h
  exact ⟨e.b, e.pair, e.get, e.liq, e.hpair, rfl, find_del borrowKey _ k,
    List.find?_eq_none.mpr fun x hx => by simpa [delLocked] using (List.mem_filter.mp hx).2, rfl, rfl, rfl,
    (sameTotals_bookInterest _ _ _ _).trans (sameTotals_mod _ _ _ (moves_borrowIds (delId · k))), rfl⟩

theorem auctionBid_books {cfg : Cfg} {s s' : State} {u k : Nat} {paid recv : Int} (h : auctionBid cfg s u k paid recv = .ok s') :
    s'.lends = s.lends ∧ s'.borrows = s.borrows ∧ s'.stats = s.stats ∧ s'.resv = s.resv ∧ s'.locked = s.locked := by
  obtain ⟨_, -, -, -, _, -, _, -, _, -, rfl⟩ := auctionBid_ok h
  exact ⟨rfl, rfl, rfl, rfl, rfl⟩

/-- **The close needs the lend position of a cross-pool borrow**: `MsgCloseDutchAuctionForBorrow` reads the collateral's pool from the
lend position to send the bridged transit asset back; when the hand-over deleted that position (`UpdateLockedBorrows` deletes it as
soon as `AmountIn − pledge ≤ 0`) no closing bid can ever succeed, whatever the amounts and whoever bids. -/
theorem auctionClose_needs_lend {cfg : Cfg} {s : State} {k : Nat} {b : Borrow} (hb : getBorrow s.borrows k = some b) (hbr : b.bridged > 0)
    (hl : getLend s.lends b.lendingId = none) (u : Nat) (paid recv left topUp : Int) :
    (auctionClose cfg s u k paid recv left topUp).toBool = false := by
  refine toBool_false fun s' h => ?_
  obtain ⟨e, -⟩ := auctionClose_ok h
  cases hb.symm.trans e.get
  obtain ⟨-, l, hl', -⟩ | ⟨hle, -⟩ := e.bridgeBack
  · cases hl.symm.trans hl'
  · omega

/-- cross-pool world: assets A = 1, B = 2, T = 3 (cTokens 4, 5, 6); pool 1 {A (second transit asset), T (first transit asset)}, pool 2 {B, T, A};
pair 1 = (A → B of pool 2), cross-pool; liquidation penalty 5 % -/
def cfgX : Cfg :=
  { assets := [⟨1, 1⟩, ⟨2, 1⟩, ⟨3, 1⟩, ⟨4, 1⟩, ⟨5, 1⟩, ⟨6, 1⟩],
    rates := [⟨1, 500000000000000000, 0, 4, false, false, 50000000000000000, 0⟩, ⟨2, 500000000000000000, 0, 5, false, false, 50000000000000000, 0⟩,
              ⟨3, 800000000000000000, 0, 6, false, false, 50000000000000000, 0⟩],
    pools := [⟨1, 101, [⟨1, 3, 1000000000000000000000000000000000000⟩, ⟨3, 2, 1000000000000000000000000000000000000⟩]⟩,
              ⟨2, 102, [⟨2, 1, 1000000000000000000000000000000000000⟩, ⟨3, 2, 1000000000000000000000000000000000000⟩, ⟨1, 3, 1000000000000000000000000000000000000⟩]⟩],
    pairs := [⟨1, 1, 2, true, 2, false⟩],
    a2p := [⟨1, 1, [1]⟩],
    apps := [(1, true)] }
def bankX : Bank := [((1, 1), 1000), ((101, 3), 1000), ((102, 2), 1000), ((7, 2), 1000)]
def pricesX : List (Nat × Nat) := [(1, 1000000), (2, 1000000), (3, 1000000)]
/-- user 1 lends 100 A and pledges ALL of it for a cross-pool loan of 30 B (50 T are bridged to pool 2); the borrow is handed over: the
lend position is deleted (`AmountIn − pledge = 0`) -/
def opsX : List Op := [.lend 1 1 1 100 1 1 0, .borrow 1 1 1 false 4 100 2 30 .err .err, .handover 1 0]

/-- **Witness (stuck auction)**: every step is accepted; afterwards the borrow is under liquidation with 50 T bridged and its lend
position is gone — by `auctionClose_needs_lend` no bid can close the auction (here: the bid that pays the whole target is refused),
the collateral stays in the auction module and the 50 T stay in pool 2. -/
theorem auctionClose_stuck_counterexample :
    allAccepted cfgX (init cfgX bankX pricesX) opsX = true ∧
    (run cfgX (init cfgX bankX pricesX) opsX).lends = [] ∧
    ((run cfgX (init cfgX bankX pricesX) opsX).borrows.map fun b => (b.id, b.liq, b.bridged)) = [(1, true, 50)] ∧
    ((run cfgX (init cfgX bankX pricesX) opsX).locked.map fun k => (k.borrowId, k.target)) = [(1, 31)] ∧
    (step cfgX (run cfgX (init cfgX bankX pricesX) opsX) (.auctionClose 7 1 31 100 0 0)).toBool = false := by decide

/-- `cfgH` with a liquidation penalty of 10 % on both assets -/
def cfgP : Cfg := { cfgH with rates := [⟨1, 500000000000000000, 0, 3, false, false, 100000000000000000, 0⟩,
                                        ⟨2, 500000000000000000, 0, 4, false, false, 100000000000000000, 0⟩] }
def bankP : Bank := [((1, 1), 1000), ((101, 2), 1000), ((99, 1), 10), ((7, 2), 100)]
/-- lend 100 A; borrow 10 B against 60 cA; 2.5 B of interest accrue, 1.5 of it the reserve's; hand-over (target 10 + 1 penalty); a
partial fill by account 7 (4 B for 20 A); its closing bid (7 B for 30 A, 10 A back to the owner) -/
def opsC : List Op :=
  [.lend 1 1 1 100 1 1 0, .borrow 1 1 1 false 3 60 2 10 .err .err, .calcAll 1 [(1, .val 2500000000000000000 1500000000000000000)] [(1, 0)],
   .handover 1 2500000000000000000, .bid 7 1 4 20, .auctionClose 7 1 7 30 10 0]

/-- non-vacuity (`auctionClose_books`, `auctionBid_books`, `ids_consistent` with a deletion, the reserve records): every step of `opsC`
is accepted; afterwards the borrow, its id and its locked vault are gone, the lend keeps 40 (principal and availability), the lent and
borrowed totals are 40 / 0, one cToken of B is minted into `totalInterestAccumulated` (⌊2.5 − 1.5⌋), the reserve has received the
penalty 1 and the whole token of its interest share 1 — recorded as such, both halves ⌊1/2⌋ + ⌊1/2⌋ = 0 — and holds 2 B -/
example :
    allAccepted cfgP (init cfgP bankP pricesH) opsC = true ∧
    ((run cfgP (init cfgP bankP pricesH) opsC).stats.map fun st => (st.asset, st.totalLend, st.totalBorrowed, st.totalInterest)) = [(1, 40, 0, 0), (2, 0, 0, 1)] ∧
    ((run cfgP (init cfgP bankP pricesH) opsC).stats.map fun st => (st.lendIds, st.borrowIds)) = [([1], ([] : List Nat)), ([], [])] ∧
    ((run cfgP (init cfgP bankP pricesH) opsC).lends.map fun l => (l.amountIn, l.avail)) = [(40, 40)] ∧
    (run cfgP (init cfgP bankP pricesH) opsC).borrows = [] ∧ (run cfgP (init cfgP bankP pricesH) opsC).locked = [] ∧
    ((run cfgP (init cfgP bankP pricesH) opsC).resv.map fun r => (r.asset, r.reserve, r.buyback, r.inPenalty, r.inRepay)) = [(2, 0, 0, 1, 1)] ∧
    (run cfgP (init cfgP bankP pricesH) opsC).bank.get 99 2 = 2 := by
  decide

/-! ## The reserve ledger: reserve module balance vs the book-keeping records -/

/-- **Reserve ledger** — for every configuration whose module accounts are distinct accounts, every genesis bank and prices, and every
history (user messages not signed by the reserve account, hand-overs, bids, auction closes): for every asset the balance of the
reserve module account is its genesis balance plus the inflows the records name (`FundReserveBal` entries, `AmountInFromLiqPenalty`,
`AmountInFromRepayments`) minus the outflows they name (`AmountOutFromReserveToLenders`, `AmountOutFromReserveForAuction`). -/
theorem reserve_ledger (cfg : Cfg) (ok : CfgOk cfg) (bank : Bank) (prices : List (Nat × Nat)) (ops : List Op) (hs : SignersOk cfg ops) :
    ResLedger cfg bank (run cfg (init cfg bank prices) ops) :=
  resLedger_step (init_ledger cfg bank prices) ((run_keeps cfg ops _).bal ok hs (init_own cfg bank prices))

/-- **One reserve transfer, on the records**: `UpdateReserveBalances` moves BOTH halves (`ReserveAmount`, `BuybackAmount`) by `⌊x/2⌋`
while the bank moves `x`: the halves stay equal, and after an inflow `x` their sum lags the coins by `x mod 2`. -/
theorem reserve_halves_step (r : Resv) (x : Int) (inc : Bool) (h : r.reserve = r.buyback) (hx : 0 ≤ x) :
    (r.halves x inc).reserve = (r.halves x inc).buyback ∧ (r.halves x inc).flow = r.flow ∧
      ((r.halves x true).reserve + (r.halves x true).buyback = r.reserve + r.buyback + x - x % 2) := by
  refine ⟨halves_keep_equal r x inc h, halves_flow r x inc, ?_⟩
  simp only [Resv.halves, if_true]
  rw [Int.tdiv_eq_ediv_of_nonneg hx]
  omega

/-- **The halves are no ledger**: two inflows of 1 and one outflow of 2 leave `ReserveAmount = BuybackAmount = −1` with an empty
account — the records round every transfer separately (`⌊1/2⌋ + ⌊1/2⌋ − ⌊2/2⌋`). -/
theorem reserve_halves_drift_counterexample :
    ((({ asset := 1 } : Resv).halves 1 true).halves 1 true).halves 2 false = { asset := 1, reserve := -1, buyback := -1 } := by decide

/-- non-vacuity (`reserve_ledger`): `cfgP` has distinct module accounts, the history `opsC` (with the auction close paying penalty and
interest share into the reserve) is signed by users only, and it does move the reserve: 2 B in, recorded as 1 + 1 -/
example : CfgOk cfgP ∧ SignersOk cfgP opsC ∧
    (run cfgP (init cfgP bankP pricesH) opsC).bank.get cfgP.reserveAcct 2 = 2 ∧
    (getResv (run cfgP (init cfgP bankP pricesH) opsC).resv 2).flow = 2 := by
  refine ⟨⟨by decide, by decide⟩, by decide, by decide, by decide⟩

/-! ## The block hook of x/lend: pool deletion -/

/-- **The hook is dead after its first pool deletion**: the deleted pool's entry stays pending (the flag is set on a copy of the
entry, pair.go:655-657), the next run reads the deleted pool as a zero record and panics on the empty denomination — so the whole
hook, with every other pending entry, is rolled back, at every later run. -/
theorem beginBlock_dead_after_deletion (cfg : Cfg) (s : State) (p : Nat) (hp : p ∈ s.depPending) (hd : s.delPools.contains p = true) :
    (beginBlock cfg s).toBool = false := sweepPools_dead s.depPending hp hd

/-- a pending entry stays pending, whatever the hook does (and a deleted pool stays deleted: `sweepPool_frame`) -/
theorem beginBlock_keeps_pending {cfg : Cfg} {s s' : State} (h : beginBlock cfg s = .ok s') : s'.depPending = s.depPending :=
  sweepPools_induction (R := fun s s' => s'.depPending = s.depPending) (fun _ => rfl) (fun a b => b.trans a) (sweepPool_frame · |>.2.1) _ h

/-- one pool (id 2) with assets A = 2 (main), B = 3, C = 4 and cTokens 5, 6, 7 -/
def cfgD : Cfg :=
  { assets := [⟨1, 1⟩, ⟨2, 1⟩, ⟨3, 1⟩, ⟨4, 1⟩, ⟨5, 1⟩, ⟨6, 1⟩, ⟨7, 1⟩],
    rates := [⟨2, 500000000000000000, 0, 5, false, false, 0, 0⟩, ⟨3, 500000000000000000, 0, 6, false, false, 0, 0⟩, ⟨4, 500000000000000000, 0, 7, false, false, 0, 0⟩],
    pools := [⟨2, 102, [⟨2, 1, 1000000000000000000000000000000000000⟩, ⟨3, 2, 1000000000000000000000000000000000000⟩, ⟨4, 3, 1000000000000000000000000000000000000⟩]⟩],
    apps := [(1, true)] }
def bankD : Bank := [((1, 2), 100), ((1, 3), 100)]
def pricesD : List (Nat × Nat) := [(2, 1000000), (3, 1000000), (4, 1000000)]
/-- user 1 lends 50 A and closes; a funding message leaves 7 B in the pool; the pool is depreciated; the block hook runs -/
def opsD : List Op := [.lend 1 2 2 50 2 1 0, .fundModule 1 2 3 3 7, .closeLend 1 1 0, .setDepreciated 2 false, .beginBlock]

/-- **Counterexample (pool sweep)**: every step is accepted; the hook moves the 7 B the pool still holds into the reserve — both record
halves move by ⌊7/2⌋ = 3 — but no flow record names them: the reserve holds 7 B while genesis + recorded net inflow is 0; the pool is
deleted, its entry is still pending, and the next run of the hook fails. -/
theorem reserve_ledger_poolsweep_counterexample :
    allAccepted cfgD (init cfgD bankD pricesD) opsD = true ∧
    (run cfgD (init cfgD bankD pricesD) opsD).bank.get cfgD.reserveAcct 3 = 7 ∧
    (getResv (run cfgD (init cfgD bankD pricesD) opsD).resv 3).flow = 0 ∧
    (getResv (run cfgD (init cfgD bankD pricesD) opsD).resv 3).reserve = 3 ∧
    ¬ resLedgerOn cfgD bankD (run cfgD (init cfgD bankD pricesD) opsD) [3] = true ∧
    (run cfgD (init cfgD bankD pricesD) opsD).delPools = [2] ∧ (run cfgD (init cfgD bankD pricesD) opsD).depPending = [2] ∧
    (step cfgD (run cfgD (init cfgD bankD pricesD) opsD) .beginBlock).toBool = false := by decide

/-! ## The store migration 2 → 3 of x/lend, run in the middle of a history -/

/-- **The books survive the migration** — for every configuration, genesis, history before and history after the migration (the
messages after it run under the migrated configuration): the borrowed totals (variable and stable) and the id lists are right at the
end; so is the lent total when every hand-over of both parts is clean. The migration touches no position, total, balance or record. -/
theorem books_across_migration (cfg : Cfg) (bank : Bank) (prices : List (Nat × Nat)) (ops1 ops2 : List Op) :
    let s1 := run cfg (init cfg bank prices) ops1
    let s2 := run (migrateCfg cfg) s1 ops2
    TotalBorrowedEq (migrateCfg cfg) s2 ∧ TotalStableEq (migrateCfg cfg) s2 ∧ IdsOk (migrateCfg cfg) s2 ∧
      (CleanRun cfg (init cfg bank prices) ops1 → CleanRun (migrateCfg cfg) s1 ops2 → TotalLendEq s2) := by
  intro s1 s2
  have k1 := run_keeps cfg ops1 (init cfg bank prices)
  have k2 := run_keeps (migrateCfg cfg) ops2 s1
  have c1 := migrate_core (k1.core (init_core cfg bank prices))
  have c2 := k2.core c1
  exact ⟨c2.borrowed.totalBorrowedEq, c2.borrowed.totalStableEq,
    idsOk_iff.mpr (k2.ids c1 (migrate_ids (k1.ids (init_core cfg bank prices) (init_ids cfg bank prices)))).lists,
    fun h1 h2 => totalLendEq_iff.mpr (k2.tl c1 h2 (k1.tl (init_core cfg bank prices) h1 (totalLendEq_iff.mp (init_totalLend cfg bank prices))))⟩

/-- **The reserve ledger survives the migration** (same side conditions as `reserve_ledger` for both parts) -/
theorem reserve_ledger_across_migration (cfg : Cfg) (ok : CfgOk cfg) (bank : Bank) (prices : List (Nat × Nat)) (ops1 ops2 : List Op)
    (h1 : SignersOk cfg ops1) (h2 : SignersOk (migrateCfg cfg) ops2) :
    ResLedger (migrateCfg cfg) bank (run (migrateCfg cfg) (run cfg (init cfg bank prices) ops1) ops2) := by
  have k1 := run_keeps cfg ops1 (init cfg bank prices)
  have o := init_own cfg bank prices
  exact resLedger_step (migrate_ledger (resLedger_step (init_ledger cfg bank prices) (k1.bal ok h1 o)))
    ((run_keeps (migrateCfg cfg) ops2 _).bal (migrate_cfgOk ok) h2 (migrate_own (k1.own h1 o)))

/-- **What the migration switches off**: afterwards no pair is an e-mode pair, no asset is isolated collateral, every e-LTV and
e-penalty is zero — a borrow opened above the normal LTV on an e-mode pair is over its limit from that block on. -/
theorem migration_switches_off (cfg : Cfg) :
    (∀ p ∈ (migrateCfg cfg).pairs, p.eMode = false) ∧ (∀ r ∈ (migrateCfg cfg).rates, r.isolated = false ∧ r.eLtv = 0 ∧ r.eLiqPenalty = 0) :=
  ⟨fun _ h => mem_migratePairs h, fun _ h => mem_migrateRates h⟩

/-- **Counterexample (migration leak)**: two asset-rates records, the first with stable borrowing enabled, the second without; two
pairs, the first cross-pool, the second same-pool. After `Migrate2to3` the second asset has stable borrowing ENABLED and the second
pair is CROSS-POOL: the loop decodes every record into one variable that `Unmarshal` does not reset, so a `false` (absent on the wire)
keeps the previous record's `true` (migrate.go:152-164, 189-205). Written record by record (`migrateCfgSpec`) both stay `false`. -/
theorem migration_leak_counterexample :
    let cfg : Cfg := { rates := [⟨3, 800000000000000000, 0, 7, false, true, 0, 0⟩, ⟨4, 600000000000000000, 0, 8, false, false, 0, 0⟩],
                       pairs := [⟨1, 3, 4, true, 2, false⟩, ⟨2, 4, 3, false, 2, false⟩] }
    ((migrateCfg cfg).rates.map fun r => (r.asset, r.stableOk)) = [(3, true), (4, true)] ∧
    ((migrateCfgSpec cfg).rates.map fun r => (r.asset, r.stableOk)) = [(3, true), (4, false)] ∧
    ((migrateCfg cfg).pairs.map fun p => (p.id, p.inter)) = [(1, true), (2, true)] ∧
    ((migrateCfgSpec cfg).pairs.map fun p => (p.id, p.inter)) = [(1, true), (2, false)] := by decide

/-- non-vacuity (`books_across_migration`): a borrow on an e-mode pair before the migration, a repayment after it -/
example :
    let cfg : Cfg := { cfgH with pairs := [⟨1, 1, 2, false, 1, true⟩],
                                 rates := [⟨1, 500000000000000000, 900000000000000000, 3, false, false, 0, 0⟩, ⟨2, 500000000000000000, 0, 4, false, false, 0, 0⟩] }
    allAccepted cfg (init cfg bankH pricesH) [.lend 1 1 1 100 1 1 0, .borrow 1 1 1 false 3 60 2 50 .err .err] = true ∧
    allAccepted (migrateCfg cfg) (run cfg (init cfg bankH pricesH) [.lend 1 1 1 100 1 1 0, .borrow 1 1 1 false 3 60 2 50 .err .err])
      [.repay 1 1 2 5 (.val 0 0), .draw 1 1 2 1 (.val 0 0)] = false ∧
    (step (migrateCfg cfg) (run cfg (init cfg bankH pricesH) [.lend 1 1 1 100 1 1 0, .borrow 1 1 1 false 3 60 2 50 .err .err]) (.repay 1 1 2 5 (.val 0 0))).toBool = true := by
  decide

end Comdex.C08
