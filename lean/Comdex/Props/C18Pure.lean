import Comdex.Gen.Pure
import Comdex.Lemmas.GoSem
import Comdex.Model.LendRates
/-!
# C18 — the lend rate formulas of the model ARE the arithmetic of the current Go source

Regenerated on every run by `extract/pure` from `x/lend/keeper/maths.go`.  The three functions are "read records,
then arithmetic": the keeper reads (`GetPool`, `GetAsset`, `ModuleBalance`, `GetAssetStatsByPoolIDAndAssetID`,
`GetAssetRatesParams`, and the calls of the other two rate functions) are declared state reads in the translator's spec —
their results become PARAMETERS of the Lean function, struct results are flattened to the fields used (notes/PURE.md);
`error` results are `Bool` ("is not nil").

| Go function                              | translation            | model                     | theorem |
|------------------------------------------|------------------------|---------------------------|---------|
| `GetUtilisationRatioByPoolIDAndAssetID`  | `lendUtilisationRatio` | `LendRates.utilisation`   | `pure_lendUtilisationRatio_eq_model` |
| `GetBorrowAPRByAssetID`                  | `lendBorrowAPR`        | `LendRates.borrowRate`    | `pure_lendBorrowAPR_eq_model` |
| `GetLendAPRByAssetIDAndPoolID`           | `lendLendAPR`          | `LendRates.lendRate`      | `pure_lendLendAPR_eq_model` |
| (not-found / error hand-on paths)        |                        |                           | `pure_lend_error_paths` |

Relation `GoSem.Agrees g m` (the model has no 315-bit overflow checks): whenever the translated function RETURNS it
returns the model's value and no error; where it panics by a division by zero (`uOpt = 0`, `1 − uOpt = 0`) the model says
`none`; an overflow-class panic of the code (a 315-bit `Dec` overflow, or `Int64()` out of range — where the model of `utilisation`
says `none` as well) is not constrained.  For ALL parameter values.

Trusted: the translator's reading of Go (incl. the `reads` declarations) and `Base/GoSem.lean`; kernel-checked: the relation.
-/
set_option exponentiation.threshold 512 -- `Dec.fits`, `Dec.fitsInt` compare with `2 ^ 315`, `2 ^ 256`
namespace Comdex.C18
open Comdex.GoSem Comdex.LendRates

theorem fitsI64_eq (a : Int) : GoSem.fitsI64 a = isInt64 a := rfl

theorem pure_lendUtilisationRatio_eq_model (bal tb tsb : Int) :
    Agrees (Gen.Pure.lendUtilisationRatio bal tb tsb true)
      ((utilisation bal (tb + tsb)).map fun r => (r, false)) := by
  unfold Gen.Pure.lendUtilisationRatio utilisation
  simp only [agrees, fitsI64_eq, not_true_eq_false, if_false]
  -- the two `Int64()` calls pass: outside int64 the code's panic is overflow-class, any model agrees.  The hypotheses
  -- come in the order of the translation's checks: a change of the translator's layout shows here first
  intro (hbal : isInt64 bal = true) (_ : Dec.fitsInt (tb + tsb) = true) (hbor : isInt64 (tb + tsb) = true)
    (_ : Dec.fits (Dec.ofInt bal + Dec.ofInt (tb + tsb)) = true)
  simp only [hbal, hbor, Bool.not_true, Bool.or_false, Bool.false_eq_true, if_false]
  -- the code tests the sum against zero, re-computes it and tests it again as the divisor
  split <;> intros <;> rfl

theorem pure_lendBorrowAPR_eq_model (p : Params) (stable : Bool) (u : Dec) :
    Agrees (Gen.Pure.lendBorrowAPR stable p.uOpt p.base p.slope1 p.slope2 p.stableBase p.stableSlope1 p.stableSlope2 true u false)
      ((borrowRate p stable u).map fun r => (r, false)) := by
  unfold Gen.Pure.lendBorrowAPR borrowRate kinked belowKink aboveKink
  -- four straight-line blocks (variable / stable, below / above the kink), each left as: overflow hypotheses, then
  -- `if divisor = 0 then m = none else (… → m = some v)` with the divisor `uOpt` resp. `1 − uOpt` that `kinked` guards too
  cases stable <;> by_cases hlt : u < p.uOpt <;>
    simp only [agrees, hlt, not_true_eq_false, not_false_eq_true, Bool.false_eq_true, if_true, if_false]
  all_goals (intros; split <;> intros <;> rfl)

theorem pure_lendLendAPR_eq_model (p : Params) (u b : Dec) (hb : borrowRate p false u = some b) :
    Agrees (Gen.Pure.lendLendAPR p.reserveFactor true b false u false)
      ((lendRate p u).map fun r => (r, false)) := by
  unfold Gen.Pure.lendLendAPR lendRate
  rw [hb]
  simp only [agrees, not_true_eq_false, Bool.false_eq_true, if_false]
  intros; rfl

theorem pure_lend_error_paths (p : Params) (stable : Bool) (u b : Dec) (bal tb tsb : Int) :
    Gen.Pure.lendUtilisationRatio bal tb tsb false = .ok (0, true) ∧
    Gen.Pure.lendBorrowAPR stable p.uOpt p.base p.slope1 p.slope2 p.stableBase p.stableSlope1 p.stableSlope2 false u false = .ok (0, true) ∧
    Gen.Pure.lendBorrowAPR stable p.uOpt p.base p.slope1 p.slope2 p.stableBase p.stableSlope1 p.stableSlope2 true u true = .ok (0, true) ∧
    Gen.Pure.lendLendAPR p.reserveFactor false b false u false = .ok (0, true) ∧
    Gen.Pure.lendLendAPR p.reserveFactor true b true u false = .ok (0, true) ∧
    Gen.Pure.lendLendAPR p.reserveFactor true b false u true = .ok (0, true) := by
  refine ⟨rfl, rfl, rfl, rfl, rfl, rfl⟩

/-! non-vacuity: uOpt 0.8, base 0.02, slope1 0.05, slope2 1.0; utilisation 0.4 (below the kink) and 0.9 (above) -/
def pEx : Params where
  uOpt := 800000000000000000
  base := 20000000000000000
  slope1 := 50000000000000000
  slope2 := 1000000000000000000
  stableBase := 40000000000000000
  stableSlope1 := 60000000000000000
  stableSlope2 := 1200000000000000000
  reserveFactor := 100000000000000000
example : Gen.Pure.lendUtilisationRatio 600 300 100 true = .ok (400000000000000000, false) := by rfl
example : utilisation 600 400 = some 400000000000000000 := by rfl
example : Gen.Pure.lendBorrowAPR false pEx.uOpt pEx.base pEx.slope1 pEx.slope2 pEx.stableBase pEx.stableSlope1 pEx.stableSlope2
    true 400000000000000000 false = .ok (45000000000000000, false) := by rfl
example : borrowRate pEx false 400000000000000000 = some 45000000000000000 := by rfl
example : Gen.Pure.lendBorrowAPR true pEx.uOpt pEx.base pEx.slope1 pEx.slope2 pEx.stableBase pEx.stableSlope1 pEx.stableSlope2
    true 900000000000000000 false = .ok (700000000000000000, false) := by rfl
example : Gen.Pure.lendLendAPR pEx.reserveFactor true 45000000000000000 false 400000000000000000 false
    = .ok (16200000000000000, false) := by rfl
-- uOpt = 1: the branch above the kink divides by zero
example : Gen.Pure.lendBorrowAPR false 1000000000000000000 0 0 0 0 0 0 true 1000000000000000000 false = .error .panic := by rfl

end Comdex.C18
