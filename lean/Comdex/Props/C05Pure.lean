import Comdex.Gen.Pure
import Comdex.Lemmas.GoSem
import Comdex.Model.AmmMatch
/-!
# C05 — `OfferCoinAmount` of the model IS the arithmetic of the current Go source

`Gen.Pure.ammOfferCoinAmount` is regenerated on every run by `extract/pure` from `x/liquidity/amm/util.go:
OfferCoinAmount` (a `switch` on the named integer type `OrderDirection`: `Buy = 1`, `Sell = 2`, anything else panics).
`Amm.offerCoinAmount` is the hand-written model (`Model/AmmMatch.lean`).

Go function → theorem
* `OfferCoinAmount` → `pure_ammOfferCoinAmount_eq_model`: for both directions, every price and amount, whenever the
  translated function returns it returns the model's amount (`GoSem.Agrees`: the model has no 315/256-bit overflow checks)
  and it never panics otherwise; `pure_ammOfferCoinAmount_bad_direction`: any other direction value panics.

NOT translated: `MatchableAmount` and `FillOrder` — see notes/PURE.md (the translator's definite-assignment analysis rejects
`MatchableAmount`: for a direction other than Buy/Sell its named result stays nil and `price.MulInt(nil)` dereferences
nil; nil values are not modelled; `FillOrder` calls setters of an interface value).

Trusted: the translator's reading of Go and `Base/GoSem.lean`; kernel-checked: the relation.
-/
set_option exponentiation.threshold 512 -- `Dec.fits`, `Dec.fitsInt` compare with `2 ^ 315`, `2 ^ 256`
namespace Comdex.C05
open Comdex.GoSem Comdex.Amm

/-- the Go constant of a direction (`Buy OrderDirection = iota + 1`, `Sell`) -/
def dirCode : Dir → Int
  | .buy => 1
  | .sell => 2

theorem pure_ammOfferCoinAmount_eq_model (d : Dir) (p a : Int) :
    Agrees (Gen.Pure.ammOfferCoinAmount (dirCode d) p a) (some (offerCoinAmount d p a)) := by
  unfold Gen.Pure.ammOfferCoinAmount
  cases d
  · simp only [agrees, dirCode, if_true]
    intros; rfl
  · rfl

theorem pure_ammOfferCoinAmount_bad_direction (dir p a : Int) (h1 : dir ≠ 1) (h2 : dir ≠ 2) :
    Gen.Pure.ammOfferCoinAmount dir p a = .error .panic := by
  unfold Gen.Pure.ammOfferCoinAmount
  simp only [h1, h2, if_false]
  rfl

example : Gen.Pure.ammOfferCoinAmount 1 1500000000000000000 3 = .ok 5 := by rfl      -- ceil(1.5 · 3) = 5
example : offerCoinAmount .buy 1500000000000000000 3 = 5 := by rfl
example : Gen.Pure.ammOfferCoinAmount 2 1500000000000000000 3 = .ok 3 := by rfl
example : Gen.Pure.ammOfferCoinAmount 0 1 1 = .error .panic := by rfl

end Comdex.C05
