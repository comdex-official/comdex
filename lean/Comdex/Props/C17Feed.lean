import Comdex.Lemmas.Feed
/-!
# C17, the feed around the window: x/market/abci.go and x/bandoracle/abci.go

The theorems of `Props/C17.lean` are about ONE asset's window under an arbitrary sample sequence. Here: how the chain
produces those sample sequences — every 20th block, from the band oracle's last result, one rate per oracle-priced
asset **by rank in asset-id order** — and what it does when the feed is not validated.

* the market begin-blocker never panics and keeps every window well-formed, for any result list (shorter or longer
  than the asset list), any asset list with distinct ids, any positive block height, `N ≥ 1` → `market_begin_total`
* with a validated feed in a sampling block every oracle-priced asset receives exactly one `UpdatePriceList` with the
  rate at its rank; every other window is untouched (per-asset independence)             → `validated_feed_assigns_by_rank`,
                                                                                            `fedWith_eq_rank`
* a pending discard clears every window before the samples are applied                    → `discard_clears_every_window_first`
* outside sampling blocks a validated feed changes nothing                                → `no_sampling_block_changes_nothing`
* with an unvalidated feed every listed asset's price is switched off, hence refused to consumers
                                                                                          → `unvalidated_feed_refuses_every_valuation`
* the band side: a feed is validated iff a NEW request id was acknowledged since the last check; a discard is ordered
  only when the feed comes back after an outage of at least the accepted height gap      → `band_validation_iff_new_request`,
                                                                                            `band_discard_only_after_long_outage`,
                                                                                            `band_discard_when_long_outage`, `band_short_outage_forgotten`
-/
namespace Comdex.C17
open Comdex.Twa Comdex.Feed

/-- **No panic, for any feed**: the market begin-blocker runs to completion and keeps every window well-formed —
for every result list (missing, empty, shorter or longer than the list of oracle-priced assets), every asset list with
distinct ids, every positive height, every band state. -/
theorem market_begin_total (b : Band) (N : Nat) (hN : N ≥ 1) (acc height : Int) (hh : height > 0)
    (assets : List (Nat × Bool)) (hnd : (assets.map (·.1)).Nodup) (bk : Books) (hwf : BooksWf N bk) :
    ∃ b' bk', marketBegin b N acc height assets bk = .ok (b', bk') ∧ BooksWf N bk' := by
  obtain ⟨b', bk', h, hw, -⟩ := marketBegin_window b N hN acc height hh assets hnd bk hwf
  exact ⟨b', bk', h, hw⟩

/-- **One sample per oracle-priced asset, by rank; everything else untouched.** Validated feed, sampling block, no
pending discard, a non-empty result for the last acknowledged request. -/
theorem validated_feed_assigns_by_rank (b : Band) (N : Nat) (hN : N ≥ 1) (acc height : Int) (hh : height > 0)
    (assets : List (Nat × Bool)) (hnd : (assets.map (·.1)).Nodup) (bk : Books) (hwf : BooksWf N bk)
    (hv : b.validation = true) (hs : sampling b height = true) (hd : b.discardBool = false)
    (r0 : Nat) (rs : List Nat) (hr : b.result b.lastId = some (r0 :: rs)) :
    ∃ bk', marketBegin b N acc height assets bk = .ok (b, bk') ∧ BooksWf N bk' ∧
      ∀ id, match fedWith assets (r0 :: rs) 0 id with
            | some rate => update (bk.get id) rate N height acc = .ok (bk'.get id)
            | none => bk'.get id = bk.get id := by
  obtain ⟨bk', h1, h2, h3⟩ := feedLoop_spec N hN acc height hh (r0 :: rs) assets hnd 0 bk hwf
  refine ⟨bk', ?_, h2, h3⟩
  simp [marketBegin, afterDiscard, hv, hs, hd, hr, h1, Except.map]

/-- a pending discard (ordered by the band side after a long outage) clears EVERY window, is consumed, and the samples of
this block are then applied to the cleared windows -/
theorem discard_clears_every_window_first (b : Band) (N : Nat) (hN : N ≥ 1) (acc height : Int) (hh : height > 0)
    (assets : List (Nat × Bool)) (hnd : (assets.map (·.1)).Nodup) (bk : Books) (hwf : BooksWf N bk)
    (hv : b.validation = true) (hs : sampling b height = true) (hd : b.discardBool = true)
    (r0 : Nat) (rs : List Nat) (hr : b.result b.lastId = some (r0 :: rs)) :
    ∃ bk', marketBegin b N acc height assets bk = .ok ({ b with discardBool := false }, bk') ∧ BooksWf N bk' ∧
      ∀ id, match fedWith assets (r0 :: rs) 0 id with
            | some rate => update ((clearAll bk).get id) rate N height acc = .ok (bk'.get id)
            | none => bk'.get id = (clearAll bk).get id := by
  obtain ⟨bk', h1, h2, h3⟩ := feedLoop_spec N hN acc height hh (r0 :: rs) assets hnd 0 _ (clearAll_wf N bk hwf)
  refine ⟨bk', ?_, h2, h3⟩
  simp [marketBegin, afterDiscard, hv, hs, hd, hr, h1, Except.map]

theorem no_sampling_block_changes_nothing (b : Band) (N : Nat) (acc height : Int) (assets : List (Nat × Bool)) (bk : Books)
    (hv : b.validation = true) (hs : sampling b height = false) :
    marketBegin b N acc height assets bk = .ok (b, bk) := by
  simp [marketBegin, hv, hs]

/-- the rate an oracle-priced asset receives is the one at its RANK among the oracle-priced assets before it in asset-id
order; an asset that is not oracle-priced, or not listed, receives none -/
theorem fedWith_eq_rank (assets : List (Nat × Bool)) (rates : List Nat) (id : Nat) (hnd : (assets.map (·.1)).Nodup) :
    ∀ rank, fedWith assets rates rank id =
      if (id, true) ∈ assets then rates[rank + rankOf assets id]? else none := by
  induction assets with
  | nil => intro rank; simp [fedWith]
  | cons a t ih =>
    obtain ⟨aid, req⟩ := a
    simp only [List.map_cons, List.nodup_cons] at hnd
    intro rank
    by_cases e : aid = id
    · subst e
      have hnot : ∀ q, (aid, q) ∉ t := fun q hm => hnd.1 (List.mem_map.mpr ⟨(aid, q), hm, rfl⟩)
      cases req with
      | true => simp [fedWith, rankOf]
      | false => simp [fedWith, hnot true]
    · have e' : ¬ id = aid := fun h => e h.symm
      have hmem : ((id, true) ∈ (aid, req) :: t) ↔ (id, true) ∈ t := by
        simp [e']
      simp only [fedWith, e, if_false]
      rw [ih hnd.2]
      have hr : rankOf ((aid, req) :: t) id = (if req then 1 else 0) + rankOf t id := by
        simp only [rankOf, List.takeWhile_cons, ne_eq, e, not_false_eq_true, decide_true, if_true, List.filter_cons]
        cases req <;> simp <;> omega
      by_cases hm : (id, true) ∈ t
      · simp only [hmem.mpr hm, hm, if_true, hr]
        cases req <;> simp <;> congr 1 <;> omega
      · simp [hm, hmem]

/-- **Unvalidated feed ⇒ every listed asset is refused to consumers** (`CalcAssetPrice` returns an error): nothing is
valued at a stale price while the oracle is not answering. -/
theorem unvalidated_feed_refuses_every_valuation (b : Band) (N : Nat) (acc height : Int) (assets : List (Nat × Bool))
    (bk : Books) (hv : b.validation = false) :
    marketBegin b N acc height assets bk = .ok (b, switchOff assets bk) ∧
      ∀ id, (∃ q, (id, q) ∈ assets) → valuation ((switchOff assets bk).get id) = none := by
  refine ⟨(marketBegin_unvalidated b N acc height assets bk hv).1, ?_⟩
  intro id ⟨q, hq⟩
  have hany : assets.any (fun a => decide (a.1 = id)) = true := List.any_eq_true.mpr ⟨(id, q), hq, by simp⟩
  rw [get_switchOff, if_pos hany]
  cases bk.get id <;> rfl


/-- in a sampling block after the first one the feed counts as validated iff a NEW request id was acknowledged since the
previous check, and the id is remembered for the next check -/
theorem band_validation_iff_new_request (b : Band) (height acc : Int) (hs : sampling b height = true) (hc : b.checkFlag = true) :
    (bandBegin b height acc).validation = decide (b.lastId ≠ b.tempId) ∧ (bandBegin b height acc).tempId = b.lastId := by
  unfold bandBegin
  simp only [hs, hc, Bool.not_true, Bool.false_eq_true, if_false]
  trivial

/-- a discard of every window is ordered only when the feed comes back (`lastId ≠ tempId`) after an outage that began at
least `acc` blocks earlier (the start of an outage is the height of the first failed check: the `example` on `discardHeight` below) -/
theorem band_discard_only_after_long_outage (b : Band) (height acc : Int) (hd : b.discardBool = false)
    (h : (bandBegin b height acc).discardBool = true) :
    sampling b height = true ∧ b.checkFlag = true ∧ b.lastId ≠ b.tempId ∧ b.discardHeight > 0 ∧
      height - b.discardHeight ≥ acc :=
  ((bandBegin_discardBool b height acc).mp h).resolve_left (by simp [hd])

/-- … and it IS ordered then: when a new request is acknowledged at least `acc` blocks after the outage began, every
window will be cleared at the next sampling (fresh data "as configured") -/
theorem band_discard_when_long_outage (b : Band) (height acc : Int) (hs : sampling b height = true) (hc : b.checkFlag = true)
    (hne : b.lastId ≠ b.tempId) (hp : b.discardHeight > 0) (hg : height - b.discardHeight ≥ acc) :
    (bandBegin b height acc).discardBool = true ∧ (bandBegin b height acc).discardHeight = -1 := by
  unfold bandBegin
  have h1 : ¬ b.discardHeight < 0 := by omega
  have h3 : ¬ height - b.discardHeight < acc := by omega
  simp [hs, hc, hne, hp, h1, h3]

/-- a short outage (the feed is back within the accepted gap) is forgotten without clearing anything -/
theorem band_short_outage_forgotten (b : Band) (height acc : Int) (hs : sampling b height = true) (hc : b.checkFlag = true)
    (hne : b.lastId ≠ b.tempId) (hp : b.discardHeight > 0) (hg : height - b.discardHeight < acc) :
    (bandBegin b height acc).discardBool = b.discardBool ∧ (bandBegin b height acc).discardHeight = -1 := by
  unfold bandBegin
  have h1 : ¬ b.discardHeight < 0 := by omega
  simp [hs, hc, hne, hp, h1, hg]

def demoAssets : List (Nat × Bool) := [(1, true), (2, false), (3, true), (4, true)]
def demoBand : Band := { lastBlock := 10, checkFlag := true, tempId := 6, lastId := 7, results := [(7, [500, 0])], discardHeight := -1, validation := true }
example : sampling demoBand 40 = true ∧ fedWith demoAssets [500, 0] 0 3 = some 0 ∧ fedWith demoAssets [500, 0] 0 4 = none ∧
    fedWith demoAssets [500, 0] 0 2 = none ∧ rankOf demoAssets 3 = 1 := by decide +kernel
-- two samples of 500 activate asset 1 (N = 2); asset 3 got a zero sample, asset 4's rate is missing from the result
example : (marketBegin demoBand 2 60 40 demoAssets [] >>= fun r => marketBegin r.1 2 60 60 demoAssets r.2).map
    (fun r => (r.2.get 1).map (fun x => (x.active, x.twa))) = .ok (some (true, 500)) := by rfl
example : (bandBegin { demoBand with tempId := 7 } 40 60).validation = false ∧
    (bandBegin { demoBand with tempId := 7 } 40 60).discardHeight = 40 := by decide +kernel
example : (bandBegin { demoBand with discardHeight := 40 } 120 60).discardBool = true := by decide +kernel

end Comdex.C17
