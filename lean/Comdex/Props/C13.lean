import Comdex.Lemmas.LockerTimed
/-!
# C13 — Savings and fee books are backed: locker balances and collector net fees

Property clause → theorem
* "for every (app, asset) the locker deposited-amount total equals the sum of the net balances of its lockers"
                                                                  → `C13.deposited_eq_sum_netbalance`
* "the locker custody account holds at least that much"           → `C13.locker_custody_ge_deposited` (per asset, summed over
                                                                     apps) and `C13.locker_custody_ge_each_deposited` (per (app, asset))
* "a withdrawal or close pays the owner exactly the requested amount or the full net balance"
                                                                  → `C13.withdraw_pays_exactly`, `C13.close_pays_exactly`
* "the fee collector's custody account holds, for every asset, at least the sum over apps of the recorded net fees"
     FALSE of the code as it is (second-generation surplus / debt auction close, x/auctionsV2/keeper/auctions.go:367-438):
                                                                  → `C13.collector_custody_ge_sum_netfees_counterexample`,
                                                                    `C13.collector_custody_ge_sum_netfees_counterexample_debt`
     what IS true of every history                                → `C13.collector_shortfall_bounded` (shortfall ≤ Σ over the
                                                                    second-generation closes of 2·lot resp. recorded − received)
     and therefore, for histories without those two closes        → `C13.collector_custody_ge_sum_netfees_partial`
     the second-generation liquidation penalty arrives in the debt asset and is recorded under the debt asset: an exact inflow
     → `C13.v2_penalty_exact`; recording it under the collateral asset (finding D34, the code before commit d8b6c2e of /repo)
     → `C13.v2_penalty_before_fix_counterexample`
* "recorded net fees never go negative"                           → `C13.netfees_nonneg` (every history, including those closes)
* "increase exactly by the fees, interest and penalties paid in, and decrease exactly by what is paid out as locker savings,
   auction lots and debt cover"                                   → `C13.netfees_delta_exact_partial` (every op except the two closes,
                                                                    on backed books), `C13.decrease_exact`,
                                                                    `C13.netfees_delta_exact_counterexample`
* the two closes after the repair proposed in notes/C13.md        → `C13.repaired_surplus_close_exact`, `C13.repaired_debt_close_exact`

The savings reward, the auction start decision and the emergency guards, all computed INSIDE the model:
* the reward handed to the ledger is ≥ 1 whole unit, whatever `math.Pow` returned                → `C13.reward_paid_pos`
* accrued amount ≥ 0; zero for zero rate / zero elapsed time; monotone in the balance            → `C13.accrued_nonneg`, `C13.accrued_zero_rate`,
                                                              `C13.accrued_zero_time` + `C13.nothing_paid_for_zero_accrual`, `C13.accrued_mono_balance`
* never more than the collector's net fees of the (app, asset); unpayable ⇒ message rejected     → `C13.reward_le_netfees`,
                                                              `C13.reward_calc_le_netfees`, `C13.reward_unpayable_rejects`
* paying it keeps `deposited = Σ net` and custody ≥ Σ net fees — histories with the reward COMPUTED, no assumption about it
                                                            → `C13.reachableT_inv`, `C13.deposited_eq_sum_netbalance_timed`,
                                                              `C13.locker_custody_ge_deposited_timed`, `C13.netfees_nonneg_timed`,
                                                              `C13.collector_custody_timed_partial`
* a surplus auction starts only if net fees ≥ surplus threshold + lot and takes exactly the lot; a debt auction only if net fees ≤
  debt threshold − lot; nothing starts when switched off; a sweep keeps the books
                                                            → `C13.surplus_start_only_above_threshold`, `C13.debt_start_only_below_threshold`,
                                                              `C13.no_start_when_switched_off`, `C13.activation_sweep_keeps_books`
* emergency shutdown / kill switch on ⇒ create, deposit, whitelist rejected, nothing changes      → `C13.shutdown_blocks_create_deposit_whitelist`,
                                                              `C13.rejected_is_noop`
* first-generation surplus / debt auctions: every close path, the whole begin-blocker and the bids keep the books and are exact
                                                            → `C13.gen1_close_keeps_books`, `C13.gen1_close_collector_effect`,
                                                              `C13.gen1_begin_block_keeps_books`, `C13.gen1_bids_keep_books`

All statements quantify over every configuration (asset ids, app ids, collector lookup keys), every finite list of `Comdex.Locker.Op`
started from empty books, a rejected message leaving the state unchanged (`runSkip`), and every value of the external inputs subject
to `Op.extOk` (an accrued reward that is paid is ≥ 0 — a THEOREM for the computed reward; a raw decrease is ≥ 0; interest and closing
fee of a vault close are ≥ 0) — the driver checks these on every line.
-/
namespace Comdex.C13
open Comdex.Locker

def init (assets apps : List Nat) (collk : Store (Nat × Nat) CL) : State :=
  { assets := assets, apps := apps, collk := collk }

def ExtOk (ops : List Op) : Prop := ∀ op ∈ ops, op.extOk
def NoV2Close (ops : List Op) : Prop := ∀ op ∈ ops, op.isV2Close = false

/-- per-asset bound on the custody shortfall a history can have caused -/
def dmgTotal : List Op → Nat → Int
  | [] => fun _ => 0
  | op :: ops => fun a => op.dmg a + dmgTotal ops a

/-- One induction for `runSkip` and `runSkipT` (`run`, `tot` by their equations). A rejected step counts in `tot` too: hence `dmg ≥ 0`. -/
theorem inv_run {α : Type} {f : State → α → Option State} {dmg : α → Nat → Int} {ok : α → Prop}
    {run : State → List α → State} {tot : List α → Nat → Int} (hnn : ∀ x a, 0 ≤ dmg x a)
    (hstep : ∀ {D : Nat → Int} {s s' : State} {x : α}, LInv s → CInvD D s → ok x → f s x = some s' →
      LInv s' ∧ CInvD (fun a => D a + dmg x a) s')
    (run_nil : ∀ s, run s [] = s) (run_cons : ∀ s x xs, run s (x :: xs) = run ((f s x).getD s) xs)
    (tot_nil : ∀ a, tot [] a = 0) (tot_cons : ∀ x xs a, tot (x :: xs) a = dmg x a + tot xs a) :
    ∀ (xs : List α) (s : State) (D : Nat → Int), LInv s → CInvD D s → (∀ x ∈ xs, ok x) →
      LInv (run s xs) ∧ CInvD (fun a => D a + tot xs a) (run s xs) := by
  intro xs
  induction xs with
  | nil => intro s D hL hC _; rw [run_nil]; exact ⟨hL, hC.mono fun a => by rw [tot_nil]; omega⟩
  | cons x xs ih =>
    intro s D hL hC hok
    have hrest : ∀ y ∈ xs, ok y := fun y hy => hok y (List.mem_cons_of_mem _ hy)
    rw [run_cons]
    cases hs : f s x with
    | none =>
      obtain ⟨a, b⟩ := ih s D hL hC hrest
      exact ⟨a, b.mono fun a => by rw [tot_cons]; have := hnn x a; omega⟩
    | some s1 =>
      obtain ⟨hL1, hC1⟩ := hstep hL hC (hok x List.mem_cons_self) hs
      obtain ⟨a, b⟩ := ih s1 _ hL1 hC1 hrest
      exact ⟨a, b.mono fun a => by rw [tot_cons]; omega⟩

theorem tot_zero {α : Type} {dmg : α → Nat → Int} {tot : List α → Nat → Int} (tot_nil : ∀ a, tot [] a = 0)
    (tot_cons : ∀ x xs a, tot (x :: xs) a = dmg x a + tot xs a) (a : Nat) :
    ∀ xs : List α, (∀ x ∈ xs, dmg x a = 0) → tot xs a = 0 := by
  intro xs
  induction xs with
  | nil => intro _; exact tot_nil a
  | cons x xs ih =>
    intro h
    rw [tot_cons, h x List.mem_cons_self, ih fun y hy => h y (List.mem_cons_of_mem _ hy)]; rfl

theorem dmgTotal_zero {ops : List Op} (h : NoV2Close ops) (a : Nat) : dmgTotal ops a = 0 :=
  tot_zero (dmg := Op.dmg) (tot := dmgTotal) (fun _ => rfl) (fun _ _ _ => rfl) a ops fun op hop => Op.dmg_zero (h op hop) a

theorem inv_init (assets apps : List Nat) (collk : Store (Nat × Nat) CL) :
    LInv (init assets apps collk) ∧ CInvD (fun _ => 0) (init assets apps collk) :=
  ⟨⟨nofun, nofun, fun _ => rfl, fun _ => Int.le_refl 0, nofun, nofun⟩, ⟨nofun, fun _ => Int.le_refl 0⟩⟩

theorem reachable_inv (assets apps : List Nat) (collk : Store (Nat × Nat) CL) (ops : List Op) (h : ExtOk ops) :
    LInv (runSkip (init assets apps collk) ops) ∧ CInvD (dmgTotal ops) (runSkip (init assets apps collk) ops) := by
  obtain ⟨hL, hC⟩ := inv_init assets apps collk
  obtain ⟨a, b⟩ := inv_run (run := runSkip) (tot := dmgTotal) Op.dmg_nonneg step_invD (fun _ => rfl) (fun _ _ _ => rfl)
    (fun _ => rfl) (fun _ _ _ => rfl) ops _ _ hL hC h
  exact ⟨a, b.mono (fun x => by omega)⟩

/-- **Deposited total = Σ net balances**, for every (app, asset), after every history. -/
theorem deposited_eq_sum_netbalance (assets apps : List Nat) (collk : Store (Nat × Nat) CL) (ops : List Op) (h : ExtOk ops)
    (app asset : Nat) :
    dep (runSkip (init assets apps collk) ops) (app, asset) = lockSum (app, asset) (runSkip (init assets apps collk) ops).lockers :=
  (reachable_inv assets apps collk ops h).1.depEq (app, asset)

/-- **Locker custody**: per asset the custody account holds at least the deposited totals summed over all apps. -/
theorem locker_custody_ge_deposited (assets apps : List Nat) (collk : Store (Nat × Nat) CL) (ops : List Op) (h : ExtOk ops)
    (asset : Nat) :
    depAsset asset (runSkip (init assets apps collk) ops).lookup ≤ bal (runSkip (init assets apps collk) ops) .locker asset :=
  (reachable_inv assets apps collk ops h).1.custody asset

theorem locker_custody_ge_each_deposited (assets apps : List Nat) (collk : Store (Nat × Nat) CL) (ops : List Op) (h : ExtOk ops)
    (app asset : Nat) :
    dep (runSkip (init assets apps collk) ops) (app, asset) ≤ bal (runSkip (init assets apps collk) ops) .locker asset := by
  obtain ⟨hL, _⟩ := reachable_inv assets apps collk ops h
  exact Int.le_trans (dep_le_depAsset hL (app, asset)) (hL.custody asset)

/-- **A withdrawal pays exactly the requested amount**: in every reachable state, a successful `MsgWithdrawAsset` raises the
owner's balance by exactly `amt`, and the locker keeps `net + reward − amt`. -/
theorem withdraw_pays_exactly (assets apps : List Nat) (collk : Store (Nat × Nat) CL) (ops : List Op) (h : ExtOk ops)
    (u app asset id : Nat) (amt : Int) (rw : Rw) (hrw : rw.ok) (s' : State)
    (hstep : step (runSkip (init assets apps collk) ops) (.withdraw u app asset id amt rw) = some s') :
    bal s' (.user u) asset = bal (runSkip (init assets apps collk) ops) (.user u) asset + amt ∧
    ∃ l l', Store.get (runSkip (init assets apps collk) ops).lockers id = some l ∧ l.owner = u ∧
      Store.get s'.lockers id = some l' ∧ l'.net = l.net + rw.amount - amt :=
  withdraw_pays hrw hstep

/-- **A close pays exactly the full net balance** (the stored net balance plus the reward credited by the same message). -/
theorem close_pays_exactly (assets apps : List Nat) (collk : Store (Nat × Nat) CL) (ops : List Op) (h : ExtOk ops)
    (u app asset id : Nat) (rw : Rw) (hrw : rw.ok) (s' : State)
    (hstep : step (runSkip (init assets apps collk) ops) (.close u app asset id rw) = some s') :
    ∃ l, Store.get (runSkip (init assets apps collk) ops).lockers id = some l ∧ l.owner = u ∧
      bal s' (.user u) asset = bal (runSkip (init assets apps collk) ops) (.user u) asset + (l.net + rw.amount) := by
  exact close_pays (reachable_inv assets apps collk ops h).1 hrw hstep

/-- **Recorded net fees never go negative** — every history, the defective closes included. -/
theorem netfees_nonneg (assets apps : List Nat) (collk : Store (Nat × Nat) CL) (ops : List Op) (h : ExtOk ops) :
    ∀ p ∈ (runSkip (init assets apps collk) ops).fees, 0 ≤ p.2 :=
  (reachable_inv assets apps collk ops h).2.nonneg

/-- What is true of the collector custody after EVERY history: the shortfall of asset `a` is at most the damage done by the
second-generation closes (2·lot per surplus close, recorded − received per debt close). -/
theorem collector_shortfall_bounded (assets apps : List Nat) (collk : Store (Nat × Nat) CL) (ops : List Op) (h : ExtOk ops)
    (asset : Nat) :
    feeAsset asset (runSkip (init assets apps collk) ops).fees
      ≤ bal (runSkip (init assets apps collk) ops) .collector asset + dmgTotal ops asset :=
  (reachable_inv assets apps collk ops h).2.custody asset

/-- **Collector custody ≥ Σ over apps of recorded net fees**, per asset — for every history that contains no second-generation
surplus / debt auction close. (The unrestricted statement is false: see the two counterexamples.) -/
theorem collector_custody_ge_sum_netfees_partial (assets apps : List Nat) (collk : Store (Nat × Nat) CL) (ops : List Op)
    (h : ExtOk ops) (hv2 : NoV2Close ops) (asset : Nat) :
    feeAsset asset (runSkip (init assets apps collk) ops).fees ≤ bal (runSkip (init assets apps collk) ops) .collector asset := by
  have := collector_shortfall_bounded assets apps collk ops h asset
  rw [dmgTotal_zero hv2] at this
  omega

/-- witness 1 (reproduced on the real chain code by the harness): fees 20 are paid in and recorded; a surplus
auction of lot 2 starts (`GetAmountFromCollector`); its second-generation close takes the lot from the collector again and
ADDS it to the record ⇒ recorded 20, custody 16; the shortfall 4 = 2·lot attains the bound of `collector_shortfall_bounded`. -/
def witnessSurplus : List Op :=
  [.config (.amap 1 2 { surplus := true, active := true }), .feeVault 1 2 20, .getAmount 1 2 2, .v2SurplusClose 1 2 0 2]

/-- witness 2: fees 20; a second-generation debt auction closes with bid `c = 15` units of the OTHER asset for `d = 2` of this
asset: 2 arrive, 15 are recorded ⇒ recorded 35, custody 22. -/
def witnessDebt : List Op := [.config (.amap 1 2 { debt := true, active := true }), .feeVault 1 2 20, .v2DebtClose 1 2 15 2]

theorem collector_custody_ge_sum_netfees_counterexample :
    ExtOk witnessSurplus ∧
    feeAsset 2 (runSkip (init [1, 2] [1] [((1, 2), {})]) witnessSurplus).fees = 20 ∧
    bal (runSkip (init [1, 2] [1] [((1, 2), {})]) witnessSurplus) .collector 2 = 16 ∧
    ¬ (feeAsset 2 (runSkip (init [1, 2] [1] [((1, 2), {})]) witnessSurplus).fees
        ≤ bal (runSkip (init [1, 2] [1] [((1, 2), {})]) witnessSurplus) .collector 2) := by
  refine ⟨?_, by decide +kernel, by decide +kernel, by decide +kernel⟩
  intro op hop
  simp [witnessSurplus] at hop
  rcases hop with e | e | e | e <;> subst e <;> simp [Op.extOk]

theorem collector_custody_ge_sum_netfees_counterexample_debt :
    ExtOk witnessDebt ∧
    feeAsset 2 (runSkip (init [1, 2] [1] [((1, 2), {})]) witnessDebt).fees = 35 ∧
    bal (runSkip (init [1, 2] [1] [((1, 2), {})]) witnessDebt) .collector 2 = 22 := by
  refine ⟨?_, by decide +kernel, by decide +kernel⟩
  intro op hop
  simp [witnessDebt] at hop
  rcases hop with e | e | e <;> subst e <;> simp [Op.extOk]

/-- **The second-generation liquidation penalty is an ordinary exact inflow** (finding D34, repaired by commit d8b6c2e of /repo): the
penalty coins arrive in the debt asset and are recorded under the debt asset — every invariant is kept with the same shortfall and
record and custody move together. It is therefore covered by `collector_custody_ge_sum_netfees_partial` / `netfees_delta_exact_partial`
(it is not one of the two defective closes). -/
theorem v2_penalty_exact {D : Nat → Int} (s s' : State) (app coll debt : Nat) (x : Int) (hL : LInv s) (hC : CInvD D s)
    (h : step s (.v2Penalty app coll debt x) = some s') : LInv s' ∧ CInvD D s' ∧ Delta s s' :=
  (penalty_tr (app := app) (asset := debt) (x := x) h).keeps hL hC

/-- The booking of finding D34 (`v2PenaltyBeforeFix`: the code before commit d8b6c2e of /repo; the correspondence run reports a
revert to it): fees 20 recorded and held in asset
2; a penalty of 30 arrives in the debt asset 2 and is recorded under the collateral asset 1 ⇒ asset 1 has 30 recorded and 0 custody,
30 coins of asset 2 are unrecorded. -/
theorem v2_penalty_before_fix_counterexample :
    ∃ s', v2PenaltyBeforeFix (runSkip (init [1, 2] [1] [((1, 2), {})]) [.feeVault 1 2 20]) 1 1 2 30 = some s' ∧
      feeAsset 1 s'.fees = 30 ∧ bal s' .collector 1 = 0 ∧ feeAsset 2 s'.fees = 20 ∧ bal s' .collector 2 = 50 :=
  ⟨_, rfl, by decide +kernel, by decide +kernel, by decide +kernel, by decide +kernel⟩

/-- **Net fees move exactly with the coins**: on backed books (no second-generation close so far) every successful operation
other than those two closes and a bare `DecreaseNetFeeCollectedData` changes, for every asset, the sum of the recorded net
fees by exactly the change of the collector's custody balance — fees, interest, penalties, returned lots and debt-auction
proceeds in; locker savings, auction lots, debt cover and surplus funds out. -/
theorem netfees_delta_exact_partial (assets apps : List Nat) (collk : Store (Nat × Nat) CL) (ops : List Op)
    (h : ExtOk ops) (hv2 : NoV2Close ops) (op : Op) (hop : op.extOk) (hopv2 : op.isV2Close = false)
    (hraw : op.isRawDecrease = false) (s' : State) (hstep : step (runSkip (init assets apps collk) ops) op = some s')
    (asset : Nat) :
    feeAsset asset s'.fees - feeAsset asset (runSkip (init assets apps collk) ops).fees
      = bal s' .collector asset - bal (runSkip (init assets apps collk) ops) .collector asset := by
  obtain ⟨hL, hC⟩ := reachable_inv assets apps collk ops h
  obtain ⟨_, _, hD⟩ := step_inv hL hC hop hopv2 hstep
  have := hD hraw (dmgTotal_zero hv2) asset
  omega

/-- only the addressed record moves: a bare decrease lowers exactly its own record by exactly `x`. -/
theorem decrease_exact (s s' : State) (app asset : Nat) (x : Int) (h : step s (.decreaseNetFee app asset x) = some s') :
    fee s' (app, asset) = fee s (app, asset) - x ∧ ∀ k, k ≠ (app, asset) → fee s' k = fee s k := by
  obtain ⟨_, _, rfl⟩ := decNetFee_spec (k := (app, asset)) h
  refine ⟨by simp [fee, Store.get_put_self], fun k hk => ?_⟩
  simp only [fee]
  rw [Store.get_put_ne _ _ (fun e => hk e.symm)]

/-- the second-generation surplus close pays the lot OUT of the collector and moves the record UP by the lot. -/
theorem netfees_delta_exact_counterexample :
    ∃ s s', step s (.v2SurplusClose 1 2 0 2) = some s' ∧
      feeAsset 2 s'.fees - feeAsset 2 s.fees = 2 ∧ bal s' .collector 2 - bal s .collector 2 = -2 :=
  ⟨runSkip (init [1, 2] [1] [((1, 2), {})]) [.config (.amap 1 2 { surplus := true, active := true }), .feeVault 1 2 20, .getAmount 1 2 2],
   runSkip (init [1, 2] [1] [((1, 2), {})]) witnessSurplus, by decide +kernel, by decide +kernel, by decide +kernel⟩

/-- After the small repair proposed in notes/C13.md the two closes are exact like every other operation: the invariants are
preserved without any shortfall (`D` unchanged), so `collector_custody_ge_sum_netfees_partial` then covers them as well. -/
theorem repaired_surplus_close_exact {D : Nat → Int} (s s' : State) (app asset u : Nat) (lot : Int) (hL : LInv s) (hC : CInvD D s)
    (h : stepRepaired s (.v2SurplusClose app asset u lot) = some s') : LInv s' ∧ CInvD D s' ∧ Delta s s' :=
  (repairedSurplusClose_tr h).keeps hL hC

theorem repaired_debt_close_exact {D : Nat → Int} (s s' : State) (app asset : Nat) (c d : Int) (hL : LInv s) (hC : CInvD D s)
    (h : stepRepaired s (.v2DebtClose app asset c d) = some s') : LInv s' ∧ CInvD D s' ∧ Delta s s' :=
  (repairedDebtClose_tr h).keeps hL hC

/-- on the surplus witness the repaired close leaves record and custody equal (18 = 18) -/
example : ((stepRepaired (runSkip (init [1, 2] [1] [((1, 2), {})]) [.config (.amap 1 2 { surplus := true, active := true }), .feeVault 1 2 20, .getAmount 1 2 2]) (.v2SurplusClose 1 2 0 2)).map
    fun s => (feeAsset 2 s.fees, bal s .collector 2, bal s (.user 0) 2)) = some (18, 18, 2) := by decide +kernel

/-! ## the savings reward, computed inside the model

`accrue` is the model of `CalculateLockerRewards` up to the ledger code: elapsed time from the locker's (or, for block height 0, the
collector entry's) time stamp, `CalculationOfRewards` = exact IEEE-754 arithmetic around one `math.Pow` call (`Comdex.Accrual`,
the value `pw` of that call is the only input), tracker accumulation, whole units handed on. Timed histories
(`runSkipT`, ops `OpT`) need NO assumption about the reward: admissibility is a theorem (`reward_paid_pos`). -/

/-- **A paid reward is at least one whole unit** (in particular ≥ 0), whatever `math.Pow` returned. -/
theorem reward_paid_pos (s : State) (ctx : Ctx) (app asset id : Nat) (pw : Option Int) (ρ : Int)
    (h : (accrue s ctx app asset id pw).1 = .pay ρ) : 1 ≤ ρ :=
  accrue_pay_pos s ctx app asset id pw ρ h

/-- **The accrued amount is ≥ 0** for a non-negative balance whenever the power value is ≥ 1.0 (`U`; checked on every real call). -/
theorem accrued_nonneg (n : Int) (lsr : Dec) (secs : Int) (p : Int) (x : Dec) (hn : 0 ≤ n) (hp : (Accrual.U : Int) ≤ p)
    (h : Accrual.calcRewards n lsr secs (some p) = .ok x) : 0 ≤ x := by
  rw [(Accrual.calcRewards_eq_ok _ _ _ _ _ h).1]
  exact Accrual.interestOfPow_nonneg p _ hp (Accrual.aF_nonneg n hn)

/-- **Zero saving rate ⇒ nothing accrues and nothing is paid** (the function returns before touching anything). -/
theorem accrued_zero_rate (s : State) (ctx : Ctx) (app asset id : Nat) (pw : Option Int) (c : CL)
    (hc : Store.get s.collk (app, asset) = some c) (h0 : c.lsr = 0) :
    accrue s ctx app asset id pw = (.none, none) := by
  unfold accrue
  split
  · rfl
  · simp [hc, h0]

/-- **Zero elapsed time ⇒ nothing accrues**: `math.Pow(x, 0) = 1.0` (IEEE-754 / Go specification; checked on every real call with
zero elapsed time) gives an accrued amount of exactly 0. -/
theorem accrued_zero_time (n : Int) (lsr : Dec) (hn : Accrual.isInt64 n = true) :
    Accrual.calcRewards n lsr 0 (some (Accrual.U : Int)) = .ok 0 := by
  unfold Accrual.calcRewards
  have h1 : Accrual.productOfPow (Accrual.U : Int) (Accrual.aF n) = 0 := by
    unfold Accrual.productOfPow; rw [Accrual.fsub_self]; exact Accrual.fmul_zero_left _
  simp [hn, h1, Accrual.finite, Accrual.fmt18_zero, Accrual.maxU, Dec.fits]

/-- The arithmetic of the tracker for an accrued amount of 0: a tracker below one whole unit stays below it (the guard under
which `accrue` pays) and is unchanged. -/
theorem nothing_paid_for_zero_accrual (tr : Dec) (h : tr < Dec.one) :
    ¬ (Dec.one ≤ tr + 0) ∧ tr + 0 = tr := by
  simp only [Dec, Dec.one, Dec.P] at *; omega

/-- **Monotone in the balance**: for the same rate and elapsed time (hence the same power value ≥ 1.0) a larger balance accrues at
least as much. (Monotonicity in time or rate is NOT true of the code: `math.Pow` is not monotone — C18, D-C18.) -/
theorem accrued_mono_balance (n n' : Int) (lsr : Dec) (secs : Int) (p : Int) (x x' : Dec) (hn : 0 ≤ n) (hnn : n ≤ n')
    (hp : (Accrual.U : Int) ≤ p) (h : Accrual.calcRewards n lsr secs (some p) = .ok x)
    (h' : Accrual.calcRewards n' lsr secs (some p) = .ok x') : x ≤ x' := by
  rw [(Accrual.calcRewards_eq_ok _ _ _ _ _ h).1, (Accrual.calcRewards_eq_ok _ _ _ _ _ h').1]
  exact Accrual.interestOfPow_mono p p _ _ hp (Int.le_refl p) (Accrual.aF_nonneg n hn) (Accrual.aF_mono n n' hn hnn)

/-- **Never more than the collector's recorded net fees** for that (app, asset): a deposit, withdraw or close message that pays a
reward `ρ` succeeds only if `ρ ≤ netFees(app, asset)`. (The contrapositive is `reward_unpayable_rejects`; the reward-calculation
message, and that the record drops by exactly `ρ`, is `reward_calc_le_netfees`.) -/
theorem reward_le_netfees (s s' : State) (ctx : Ctx) (u app asset id : Nat) (amt : Int) (pw : Option Int) (ρ : Int)
    (hpay : (accrue s ctx app asset id pw).1 = .pay ρ)
    (h : stepT s ctx (.deposit u app asset id amt pw) = some s' ∨ stepT s ctx (.withdraw u app asset id amt pw) = some s' ∨
         stepT s ctx (.close u app asset id pw) = some s') :
    ρ ≤ fee s (app, asset) := by
  have key : ∀ {l : Locker} {s1 : State}, lockerGuards s u app asset id = some l → reward s id app asset (.pay ρ) = some s1 →
      ρ ≤ fee s (app, asset) := fun hg hr =>
    (reward_pay_le_fee (lockerGuards_spec hg).1 (lockerGuards_spec hg).2.1 hr).1
  rcases h with h | h | h <;> simp only [stepT, Option.map_eq_some_iff] at h <;> obtain ⟨s1, hs, _⟩ := h <;> rw [hpay] at hs
  · obtain ⟨_, _, _, _, _, _, _, hg, hr, _⟩ := deposit_spec hs; exact key hg hr
  · obtain ⟨_, _, _, _, _, hg, _, hr, _⟩ := withdraw_spec hs; exact key hg hr
  · obtain ⟨_, _, _, _, hg, hr, _⟩ := close_spec hs; exact key hg hr

theorem reward_unpayable_rejects (s : State) (ctx : Ctx) (u app asset id : Nat) (amt : Int) (pw : Option Int) (ρ : Int)
    (hpay : (accrue s ctx app asset id pw).1 = .pay ρ) (hshort : fee s (app, asset) < ρ) :
    stepT s ctx (.deposit u app asset id amt pw) = none ∧ stepT s ctx (.withdraw u app asset id amt pw) = none ∧
    stepT s ctx (.close u app asset id pw) = none := by
  have no : ∀ {o : Option State}, (∀ s', o = some s' → ρ ≤ fee s (app, asset)) → o = none := fun hle =>
    Option.eq_none_iff_forall_ne_some.mpr fun s' hs => absurd (hle s' hs) (Int.not_le.mpr hshort)
  have le := fun s' => reward_le_netfees s s' ctx u app asset id amt pw ρ hpay
  exact ⟨no fun s' h => le s' (.inl h), no fun s' h => le s' (.inr (.inl h)), no fun s' h => le s' (.inr (.inr h))⟩

/-- the reward-calculation message: same bound, and the record drops by exactly the paid reward -/
theorem reward_calc_le_netfees (s s' : State) (ctx : Ctx) (app id : Nat) (pw : Option Int) (l : Locker) (ρ : Int)
    (hl : Store.get s.lockers id = some l) (hpay : (accrue s ctx app l.asset id pw).1 = .pay ρ)
    (h : stepT s ctx (.rewardCalc app id pw) = some s') :
    ρ ≤ fee s (app, l.asset) ∧ fee s' (app, l.asset) = fee s (app, l.asset) - ρ := by
  simp only [stepT, hl, Option.map_eq_some_iff] at h
  obtain ⟨s1, hs, hs'⟩ := h
  rw [hpay] at hs
  obtain ⟨l0, hl0, _, hr⟩ := rewardCalc_spec hs
  rw [hl] at hl0; cases hl0
  obtain ⟨a, b⟩ := reward_pay_le_fee hl rfl hr
  refine ⟨a, ?_⟩
  rw [← b, ← hs']
  split <;> rfl

def ExtOkT (h : List (Ctx × OpT)) : Prop := ∀ p ∈ h, p.2.extOk
def dmgTotalT : List (Ctx × OpT) → Nat → Int
  | [] => fun _ => 0
  | p :: ps => fun a => p.2.dmg a + dmgTotalT ps a
def NoV2CloseT (h : List (Ctx × OpT)) : Prop := ∀ p ∈ h, ∀ a, p.2.dmg a = 0

/-- **Paying the computed reward keeps the books**: after every timed history (locker messages with the reward computed from
balance, rate, time stamps, tracker and the `math.Pow` value; saving-rate updates iterating over all lockers; every other
operation) `deposited = Σ net balances`, locker custody ≥ Σ deposited, net fees ≥ 0, and collector custody ≥ Σ net fees up to the
bounded shortfall of the second-generation closes. -/
theorem reachableT_inv (assets apps : List Nat) (collk : Store (Nat × Nat) CL) (h : List (Ctx × OpT)) (hext : ExtOkT h) :
    LInv (runSkipT (init assets apps collk) h) ∧ CInvD (dmgTotalT h) (runSkipT (init assets apps collk) h) := by
  obtain ⟨hL, hC⟩ := inv_init assets apps collk
  obtain ⟨a, b⟩ := inv_run (α := Ctx × OpT) (f := fun s p => stepT s p.1 p.2) (dmg := fun p => p.2.dmg) (ok := fun p => p.2.extOk)
    (run := runSkipT) (tot := dmgTotalT) (fun p a => OpT.dmg_nonneg p.2 a) (fun hL hC ho hs => stepT_inv hL hC ho hs)
    (fun _ => rfl) (fun _ _ _ => rfl) (fun _ => rfl) (fun _ _ _ => rfl) h _ _ hL hC hext
  exact ⟨a, b.mono (fun x => by omega)⟩

theorem deposited_eq_sum_netbalance_timed (assets apps : List Nat) (collk : Store (Nat × Nat) CL) (h : List (Ctx × OpT))
    (hext : ExtOkT h) (app asset : Nat) :
    dep (runSkipT (init assets apps collk) h) (app, asset) = lockSum (app, asset) (runSkipT (init assets apps collk) h).lockers :=
  (reachableT_inv assets apps collk h hext).1.depEq (app, asset)

theorem locker_custody_ge_deposited_timed (assets apps : List Nat) (collk : Store (Nat × Nat) CL) (h : List (Ctx × OpT))
    (hext : ExtOkT h) (asset : Nat) :
    depAsset asset (runSkipT (init assets apps collk) h).lookup ≤ bal (runSkipT (init assets apps collk) h) .locker asset :=
  (reachableT_inv assets apps collk h hext).1.custody asset

theorem netfees_nonneg_timed (assets apps : List Nat) (collk : Store (Nat × Nat) CL) (h : List (Ctx × OpT)) (hext : ExtOkT h) :
    ∀ p ∈ (runSkipT (init assets apps collk) h).fees, 0 ≤ p.2 :=
  (reachableT_inv assets apps collk h hext).2.nonneg

theorem collector_custody_timed_partial (assets apps : List Nat) (collk : Store (Nat × Nat) CL) (h : List (Ctx × OpT))
    (hext : ExtOkT h) (hv2 : NoV2CloseT h) (asset : Nat) :
    feeAsset asset (runSkipT (init assets apps collk) h).fees ≤ bal (runSkipT (init assets apps collk) h) .collector asset := by
  have := (reachableT_inv assets apps collk h hext).2.custody asset
  rw [tot_zero (dmg := fun p : Ctx × OpT => p.2.dmg) (tot := dmgTotalT) (fun _ => rfl) (fun _ _ _ => rfl) asset h
    fun p hp => hv2 p hp asset] at this
  omega

/-- a timed history: fees 50 in, a locker of 4·10⁸, one year at 10 % with the power value 1.1 (bits 0x3FF199999999999A) -/
def cl10 : CL := { lsr := 100000000000000000, bt := 1000 }
def pow11 : Option Int := Accrual.ofBits 0x3FF199999999999A
def demoT : List (Ctx × OpT) :=
  [(⟨1000, 1⟩, .plain (.fund 7 2 1000000000)), (⟨1000, 1⟩, .plain (.whitelist 1 2)), (⟨1000, 1⟩, .wlReward 1 2),
   (⟨1000, 1⟩, .create 7 1 2 400000000), (⟨2000, 2⟩, .plain (.feeVault 1 2 50000000)),
   (⟨1000 + 31557600, 9⟩, .rewardCalc 1 1 pow11)]

/-- one year at 10 % on 400 000 000 pays 40 000 000 (the float product is 40000000.00000003…, whole units are paid) -/
example : (runSkipT (init [2] [1] [((1, 2), cl10)]) demoT).lockers = [(1, { owner := 7, app := 1, asset := 2, net := 440000000, ret := 40000000 })] := by
  decide +kernel
example : fee (runSkipT (init [2] [1] [((1, 2), cl10)]) demoT) (1, 2) = 10000000 := by decide +kernel
/-- a second year would accrue 44 000 000 > 10 000 000 recorded: the withdrawal is rejected as a whole -/
example : stepT (runSkipT (init [2] [1] [((1, 2), cl10)]) demoT) ⟨1000 + 2 * 31557600, 20⟩ (.withdraw 7 1 2 1 5 pow11) = none := by
  decide +kernel

/-- **A surplus auction starts only above the threshold and takes exactly the lot.** Whenever the begin-block start decision of
either generation changes anything for a surplus entry, `netFees ≥ surplusThreshold + lotSize` held, the record and the collector's
custody both dropped by exactly `lotSize`, and the lot sits in the first-generation auction account. -/
theorem surplus_start_only_above_threshold (s : State) (gen2 : Bool) (k : Nat × Nat) (m : AMap)
    (hm : Store.get s.amap k = some m) (hs : m.surplus = true) (hd : m.debt = false)
    (hch : (activateOne s gen2 k).1 ≠ s) :
    ∃ c, Store.get s.collk k = some c ∧ c.surplusThr + c.lot ≤ fee s k ∧ m.active = false ∧
      fee (activateOne s gen2 k).1 k = fee s k - c.lot ∧
      bal (activateOne s gen2 k).1 .collector k.2 = bal s .collector k.2 - c.lot ∧
      bal (activateOne s gen2 k).1 .auction k.2 = bal s .auction k.2 + c.lot := by
  rcases activateOne_spec s gen2 k with h | ⟨m', c, hm', hc, hact, _, _, h⟩
  · exact absurd h hch
  · rw [hm] at hm'; cases hm'
    rcases h with ⟨hdebt, _⟩ | ⟨_, hthr, s1, hg, hres⟩
    · rw [hd] at hdebt; cases hdebt
    · obtain ⟨_, _, b, hS, rfl⟩ := getAmount_spec hg
      rw [hres]
      exact ⟨c, hc, hthr, hact, by simp only [setActive, fee, Store.get_put_self, Option.getD_some],
        (hS.at_src nofun k.2).trans (by simp [bal, Int.sub_eq_add_neg]),
        (hS.at_dst nofun k.2).trans (by simp [bal])⟩

/-- **A debt auction starts only at or below `debtThreshold − lotSize`** (hence below the debt threshold for a non-negative lot), and
starting it moves nothing: only the active flag is raised. -/
theorem debt_start_only_below_threshold (s : State) (gen2 : Bool) (k : Nat × Nat) (m : AMap)
    (hm : Store.get s.amap k = some m) (hd : m.debt = true) (hs : m.surplus = false)
    (hch : (activateOne s gen2 k).1 ≠ s) :
    ∃ c, Store.get s.collk k = some c ∧ fee s k ≤ c.debtThr - c.lot ∧ (0 ≤ c.lot → fee s k ≤ c.debtThr) ∧
      (activateOne s gen2 k).1 = setActive s k m ∧
      (activateOne s gen2 k).1.fees = s.fees ∧ (activateOne s gen2 k).1.bank = s.bank := by
  rcases activateOne_spec s gen2 k with h | ⟨m', c, hm', hc, _, _, _, h⟩
  · exact absurd h hch
  · rw [hm] at hm'; cases hm'
    rcases h with ⟨_, hthr, hres⟩ | ⟨hsur, _⟩
    · exact ⟨c, hc, hthr, fun h0 => by omega, hres, by rw [hres]; rfl, by rw [hres]; rfl⟩
    · rw [hs] at hsur; cases hsur

/-- **Switched off ⇒ no start**: with the kill switch on (either generation) or after an emergency shutdown (first generation)
the start decision changes nothing; an entry whose auction is already active is left alone as well. -/
theorem no_start_when_switched_off (s : State) (gen2 : Bool) (k : Nat × Nat)
    (h : k.1 ∈ s.killOn ∨ (gen2 = false ∧ k.1 ∈ s.esmOn) ∨ ∃ m, Store.get s.amap k = some m ∧ m.active = true) :
    activateOne s gen2 k = (s, false) := by
  unfold activateOne
  split
  · rfl
  · rename_i m hm
    have : (m.active || decide (k.1 ∈ s.killOn) || (!gen2 && decide (k.1 ∈ s.esmOn))) = true := by
      rcases h with h | ⟨h1, h2⟩ | ⟨m', hm', ha⟩
      · simp [h]
      · simp [h1, h2]
      · rw [hm] at hm'; cases hm'; simp [ha]
    simp [this]

/-- a whole begin-block sweep keeps every invariant and is delta-exact (it only ever calls `GetAmountFromCollector`) -/
theorem activation_sweep_keeps_books {D : Nat → Int} (s : State) (gen2 : Bool) (keys : List (Nat × Nat)) (hL : LInv s) (hC : CInvD D s) :
    LInv (activate s gen2 keys) ∧ CInvD D (activate s gen2 keys) ∧ Delta s (activate s gen2 keys) :=
  (activate_tr gen2 keys).keeps hL hC

/-- books holding `fees` with surplus threshold 10 000 000 and lot 2 000 000; `eng`: English auctions activated for the app -/
def actDemo (fees : Int) (eng : Bool) : State :=
  runSkip (init [2, 3] [1] [((1, 2), { surplusThr := 10000000, debtThr := 5000000, lot := 2000000, debtLot := 1 })])
    [.penalty 1 2 fees, .config (.amap 1 2 { surplus := true }), .config (.english 1 eng)]
/-- exactly at the boundary (12 000 000) the auction starts -/
example : fee (activate (actDemo 12000000 true) true [(1, 2)]) (1, 2) = 10000000 := by decide +kernel
example : Store.get (activate (actDemo 12000000 true) false [(1, 2)]).amap (1, 2) = some { surplus := true, active := true } := by decide +kernel
/-- one unit below the boundary it does not -/
example : activate (actDemo 11999999 true) true [(1, 2)] = actDemo 11999999 true := by decide +kernel
example : activate (actDemo 11999999 true) false [(1, 2)] = actDemo 11999999 true := by decide +kernel
/-- In the second generation, when English auctions are not activated for the app, the kick-off fails AFTER the lot has left the
collector; the unit is rolled back (commit 6f0df35 of /repo): nothing moves, the entry stays inactive, and later entries of the
sweep are still looked at. -/
example : activate (activate (actDemo 14000000 false) true [(1, 2)]) true [(1, 2)] = actDemo 14000000 false := by decide +kernel

/-- **Every close path keeps the books and is exact**: winner, no bids, emergency shutdown with and without a standing bid, for
surplus and debt auctions alike — locker books untouched, collector custody ≥ Σ net fees per asset preserved (same shortfall `D`),
and per asset the recorded net fees move by exactly what entered or left the collector account. -/
theorem gen1_close_keeps_books {D : Nat → Int} (s s' : State) (a : Auc1) (esm : Bool) (hL : LInv s) (hC : CInvD D s)
    (h : closeAuc s a esm = some s') : LInv s' ∧ CInvD D s' ∧ Delta s s' :=
  (closeAuc_tr h).keeps hL hC

/-- which record moves by how much, and which coins enter the collector, path by path:
the lot comes BACK to the collector and is recorded under the auction's own (app, asset) exactly when
 (surplus auction: no bid, or emergency shutdown with a standing bid — the bid is refunded)  or
 (debt auction: a winner and no shutdown — his payment is what arrives);
on every other path (surplus winner: lot to the winner, bid burnt; debt shutdown: payment refunded; debt without bids) no record
and no collector balance moves. -/
theorem gen1_close_collector_effect {D : Nat → Int} (s s' : State) (a : Auc1) (esm : Bool) (hL : LInv s) (hC : CInvD D s)
    (h : closeMoves s a esm = some s') :
    let back := (a.surplus = true ∧ (a.bidder = none ∨ esm = true)) ∨ (a.surplus = false ∧ a.bidder ≠ none ∧ esm = false)
    (back → fee s' (a.app, a.asset) = fee s (a.app, a.asset) + a.lot ∧
            bal s' .collector a.asset = bal s .collector a.asset + a.lot) ∧
    (¬ back → s'.fees = s.fees ∧ ∀ d, bal s' .collector d = bal s .collector d) := by
  rcases closeMoves_spec h with ⟨hb, _, b, hS, rfl⟩ | ⟨hb, b, _, hc, rfl⟩
  · exact ⟨fun _ => ⟨by simp only [fee, Store.get_put_self, Option.getD_some],
      (hS.at_dst nofun a.asset).trans (by simp [bal])⟩, fun hn => absurd hb hn⟩
  · exact ⟨fun hy => absurd hy hb, fun _ => ⟨rfl, hc⟩⟩

/-- the whole first-generation begin-blocker (starts, restarts, closes of every entry) keeps the books and is exact -/
theorem gen1_begin_block_keeps_books {D : Nat → Int} (s : State) (now : Int) (keys : List (Nat × Nat)) (hL : LInv s) (hC : CInvD D s) :
    LInv (begin1Loop s s.amap now keys) ∧ CInvD D (begin1Loop s s.amap now keys) ∧ Delta s (begin1Loop s s.amap now keys) :=
  (begin1Loop_tr s.amap now keys).keeps hL hC

/-- bids never touch the collector or the locker books -/
theorem gen1_bids_keep_books {D : Nat → Int} (s s' : State) (app id u : Nat) (x e now : Int) (hL : LInv s) (hC : CInvD D s)
    (h : surplusBid s app id u x now = some s' ∨ debtBid s app id u x e now = some s') : LInv s' ∧ CInvD D s' ∧ Delta s s' := by
  rcases h with h | h
  · exact (surplusBid_tr h).keeps hL hC
  · exact (debtBid_tr h).keeps hL hC

/-- a surplus auction of lot 2 000 000 starts at the boundary, gets a bid, the app is shut down, the begin-blocker winds it down:
the lot is back in the collector AND recorded under the sold asset (record = custody = 12 000 000 again), the entry is inactive,
no auction is left -/
def windDown : State :=
  runSkip ({ init [2, 3] [1] [((1, 2), { surplusThr := 10000000, debtThr := 5000000, lot := 2000000, debtLot := 1 })] with aucDur := 1000, bidDur := 100 })
    [.penalty 1 2 12000000, .config (.amap 1 2 { surplus := true }), .begin1 50 [(1, 2)], .surplusBid 1 1 7 5 60,
     .config (.esm 1 true), .begin1 70 [(1, 2)]]
example : fee windDown (1, 2) = 12000000 ∧ bal windDown .collector 2 = 12000000 ∧ fee windDown (1, 3) = 0 ∧
    windDown.auctions = [] ∧ Store.get windDown.amap (1, 2) = some { surplus := true } := by decide +kernel
/-- without the shutdown the same auction ends with its winner: the lot leaves to user 7, the collector keeps 10 000 000 = record -/
example :
    let s := runSkip ({ init [2, 3] [1] [((1, 2), { surplusThr := 10000000, debtThr := 5000000, lot := 2000000, debtLot := 1 })] with aucDur := 1000, bidDur := 100 })
      [.penalty 1 2 12000000, .config (.amap 1 2 { surplus := true }), .begin1 50 [(1, 2)], .surplusBid 1 1 7 5 60, .begin1 170 [(1, 2)]]
    fee s (1, 2) = 10000000 ∧ bal s .collector 2 = 10000000 ∧ bal s (.user 7) 2 = 2000000 ∧ s.auctions = [] := by decide +kernel

/-- **Guard on ⇒ rejected, nothing changes**: after an emergency shutdown of the app, or with its kill switch on, creating a locker,
depositing into one and whitelisting an asset are rejected (`none`: the books are untouched), with or without the reward computed
in the model, for every state and every argument. -/
theorem shutdown_blocks_create_deposit_whitelist (s : State) (app : Nat) (h : app ∈ s.esmOn ∨ app ∈ s.killOn)
    (u asset id : Nat) (amt : Int) (rw : Rw) (ctx : Ctx) (pw : Option Int) :
    step s (.create u app asset amt) = none ∧ step s (.deposit u app asset id amt rw) = none ∧
    step s (.whitelist app asset) = none ∧
    stepT s ctx (.create u app asset amt) = none ∧ stepT s ctx (.deposit u app asset id amt pw) = none := by
  have no : ∀ {o : Option State}, (∀ s', o = some s' → app ∉ s.esmOn ∧ app ∉ s.killOn) → o = none := fun hg =>
    Option.eq_none_iff_forall_ne_some.mpr fun s' hs => h.elim (hg s' hs).1 (hg s' hs).2
  have hc : step s (.create u app asset amt) = none :=
    no fun _ hs => by obtain ⟨_, _, _, h1, h2, _⟩ := create_spec hs; exact ⟨h1, h2⟩
  have hd : ∀ rw, step s (.deposit u app asset id amt rw) = none := fun rw =>
    no fun _ hs => by obtain ⟨_, _, _, _, _, h1, h2, _⟩ := deposit_spec hs; exact ⟨h1, h2⟩
  have hw : step s (.whitelist app asset) = none := no fun _ hs => ⟨(whitelist_spec hs).1, (whitelist_spec hs).2.1⟩
  refine ⟨hc, hd rw, hw, ?_, ?_⟩
  · simp only [stepT, hc, Option.map_none]
  · simp only [stepT, hd, Option.map_none]

theorem rejected_is_noop (s : State) (op : Op) (ops : List Op) (h : step s op = none) : runSkip s (op :: ops) = runSkip s ops := by
  simp [runSkip, h]

/-- withdraw and close carry NO such guard (msg_server.go:218-371): savers can leave after a shutdown -/
example :
    let s := runSkip (init [2] [1] [((1, 2), {})]) [.fund 7 2 1000, .whitelist 1 2, .create 7 1 2 400, .config (.esm 1 true), .config (.kill 1 true)]
    step s (.deposit 7 1 2 1 5 .none) = none ∧ (step s (.withdraw 7 1 2 1 100 .none)).isSome = true ∧
    (step s (.close 7 1 2 1 .none)).isSome = true := by decide +kernel

/-- a history with a funded user, a whitelisted asset, a locker created, a fee paid in, a reward of 3 paid on withdraw, a close -/
def demo : List Op :=
  [.fund 7 2 1000, .whitelist 1 2, .create 7 1 2 400, .feeVault 1 2 50, .withdraw 7 1 2 1 100 (.pay 3),
   .deposit 7 1 2 1 10 .none, .rewardCalc 1 1 (.pay 5), .lsrChange 1 2 [.pay 2], .getAmount 1 2 4]

example : ExtOk demo ∧ NoV2Close demo := by
  refine ⟨?_, ?_⟩ <;> intro op hop <;> simp [demo] at hop <;>
    rcases hop with e | e | e | e | e | e | e | e | e <;> subst e <;> simp [Op.extOk, Op.isV2Close, Rw.ok]

/-- every op of `demo` is accepted, the locker ends with 400 − 100 + 3 + 10 + 5 + 2 = 320, the net fees with 50 − 3 − 5 − 2 − 4 = 36 -/
example : (run (init [2] [1] [((1, 2), {})]) demo).isSome = true := by decide +kernel

/-- the books after `demo`, evaluated once; the examples below read them -/
theorem demo_books : runSkip (init [2] [1] [((1, 2), {})]) demo =
    { init [2] [1] [((1, 2), {})] with
      bank := [((.user 7, 2), 690), ((.locker, 2), 320), ((.collector, 2), 36), ((.auction, 2), 4)],
      lockers := [(1, { owner := 7, app := 1, asset := 2, net := 320, ret := 10 })],
      lookup := [((1, 2), { deposited := 320, ids := [1] })], fees := [((1, 2), 36)], lastId := 1 } := by decide +kernel

example : dep (runSkip (init [2] [1] [((1, 2), {})]) demo) (1, 2) = 320 := demo_books ▸ rfl
example : fee (runSkip (init [2] [1] [((1, 2), {})]) demo) (1, 2) = 36 := demo_books ▸ rfl
example : bal (runSkip (init [2] [1] [((1, 2), {})]) demo) .collector 2 = 36 := demo_books ▸ rfl
example : bal (runSkip (init [2] [1] [((1, 2), {})]) demo) .locker 2 = 320 := demo_books ▸ rfl
example : bal (runSkip (init [2] [1] [((1, 2), {})]) demo) (.user 7) 2 = 690 := demo_books ▸ rfl
/-- the close pays the full 320 -/
example : bal (runSkip (init [2] [1] [((1, 2), {})]) (demo ++ [.close 7 1 2 1 .none])) (.user 7) 2 = 1010 := by decide +kernel
/-- a withdrawal above the balance, a foreign owner and a zero amount are rejected -/
example : step (runSkip (init [2] [1] [((1, 2), {})]) demo) (.withdraw 7 1 2 1 321 .none) = none := demo_books ▸ rfl
example : step (runSkip (init [2] [1] [((1, 2), {})]) demo) (.withdraw 8 1 2 1 1 .none) = none := demo_books ▸ rfl
example : step (runSkip (init [2] [1] [((1, 2), {})]) demo) (.deposit 7 1 2 1 0 .none) = none := demo_books ▸ rfl
/-- a reward larger than the recorded net fees makes the whole message fail -/
example : step (runSkip (init [2] [1] [((1, 2), {})]) demo) (.withdraw 7 1 2 1 1 (.pay 37)) = none := demo_books ▸ rfl
/-- `GetAmountFromCollector` refuses to empty the record (strict comparison) -/
example : step (runSkip (init [2] [1] [((1, 2), {})]) demo) (.getAmount 1 2 36) = none := demo_books ▸ rfl
example : (step (runSkip (init [2] [1] [((1, 2), {})]) demo) (.getAmount 1 2 35)).isSome = true := demo_books ▸ rfl

end Comdex.C13
