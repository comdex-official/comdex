import Comdex.Lemmas.LiqOrders
import Comdex.Lemmas.LiqDeficit
import Comdex.Lemmas.LiqAmmBridge
import Comdex.Lemmas.LiqIndex
import Comdex.Lemmas.LiqFee
/-!
# C07 — Every order is settled exactly: fills, refunds and swap fees add up

Model: `Comdex.LiqLedger` (shared with C04).  Each order carries a ghost ledger (`taken`, `refunded`, `feeFwd`) that
is written only where the corresponding coins move; the step theorems tie it to the bank.  Order lookup is keyed by
`(appId, pairId, id)` as in `store.go`; `Cfg.swapLookup = true` selects the argument order
swap.go:559 had before its fix (`GetOrder(ctx, pair.Id, appID, id)`, defect D4), `false` the call as it is.

Property clause → theorem
* "the coins taken from an orderer equal the offer coin plus the swap-fee reserve"
      → `placement_takes_exactly` (bank movement of the placing message), `taken_eq_offer_plus_fee` (every order, any history)
* "what the orderer gets back in total equals the demand coins of its fills plus the unspent offer coin plus the part of the
  fee reserve not attributable to the executed portion"
      → `finish_moves_exactly` (what `FinishOrder` pays to whom), `fill_pays_demand_coins` (each fill's demand coins go to
        the owner), `terminated_settled` (ledger of every ended order, any history)
* (swap fee at batch execution and in every message, end to end)
      → `fee_collector_exact` (every operation: the pair's swap-fee collector grows by exactly the fee on the executed portions of
        the orders of that pair that ended in the step), `pruning_moves_nothing`, `ended_order_accounts` (escrow out = refund to
        the owner + fee to the collector = remaining + reserve, in balances of a reachable state)
* "nothing of a terminated order remains in escrow"
      → `terminated_settled` (taken = spent + refunded + forwarded) with `escrow_holds_only_live_orders`
* "an order that is not in its placement batch can always be cancelled by its owner"
      → `cancellable_after_batch` (hypothesis: the match results of THAT pair lost nothing, `lostOf a p ops = 0`),
        `lostOf_zero_of_modelled` (proved for lossless runs of C05's modelled matcher), `cancellable_after_batch_of_conserving`
* "every way of ending (… cancel-all …)" + "can always be cancelled by its owner", for `MsgCancelAllOrders`
      → `cancel_all_cancels_every_old_order` (every live order of the owner in the named pairs — all pairs of the app if none is
        named — that is not in its placement batch is ended, in EVERY pair and whatever the order of pair ids; orders still in
        their placement batch are left exactly as they were)
* "cancelling or replacing market-making orders cancels and refunds every previously placed market-making order of that
  owner in that pair — for every combination of app id and pair id"
      → `mm_index_complete` (INDUCTIVE INVARIANT over every history: every live market-making order is in its owner's index for
          the (app, pair)) with
          `order_keys_unique` (order keys are unique; ids never re-used),
        `mm_cancel_cancels_all`, `mm_replace_cancels_all` (repaired lookup, all app / pair ids, reachable states, NO premise
          about the index: after the accepted message NO market-making order of the owner in the pair is live, none has
          disappeared, each is settled with refund = unspent offer; the replace appends the new ones),
        `mm_cancel_cancels_indexed` (any state: every order listed in the index is ended),
        `mm_cancel_cancels_all_counterexample` (the lookup of swap.go:559 before the fix: app 2 / pair 1 — defect D4)
* the registered store migration 1 → 2 (`Migrator.Migrate1to2`, legacy/v2/store.go) is an operation of the
  model (`Op.migrate`): `migration_preserves_orders` (identity on bank, pairs, requests, indexes, farmers and on every field of
  every order except its type; fee reserves unchanged); the ledger invariant and the index invariant are preserved
  (`migrate_inv`, `idx_migrate`), so every theorem here covers histories with migrations
* the order price, the tick grid, the price limits around the pair's last price, `MMOrderTicks` and the offer / demand
  denom checks are part of the model (`orderPrice`, `mmTicks`, `placeOrderMsg`, `mmOrderMsg`): `placement_takes_exactly` states
  the recorded price as `orderPrice` of the message price
-/
namespace Comdex.C07
open Comdex.LiqLedger

def after (cfg : Cfg) (funds : List (Nat × Nat × Nat)) (ops : List Op) : State := runT cfg (genesis funds) ops

theorem reachable_inv {cfg : Cfg} (hc : CfgOk cfg) (funds : List (Nat × Nat × Nat)) (ops : List Op) :
    Inv cfg (after cfg funds ops) :=
  genesis_run_inv hc funds ops

/-- **Placement takes exactly offer + fee reserve**: a successful limit / market order moves exactly
`offer + ⌊offer·feeRate⌋` of the offer denom from the orderer to the pair's escrow, and records exactly that. -/
theorem placement_takes_exactly {cfg : Cfg} {s s' : State} {app user pair : Nat} {typ : OType} {buy : Bool} {od dd : Denom}
    {msgOffer msgPrice amount : Nat} {lifespan : Int}
    (h : step cfg s (.order app user pair typ buy od dd msgOffer msgPrice amount lifespan) = some s') :
    ∃ p ac o price, s.pair? app pair = some p ∧ cfg.app? app = some ac ∧ orderPrice ac p typ buy msgPrice = some price ∧
      s'.orders = s.orders ++ [o] ∧ o.app = app ∧ o.pair = pair ∧ o.owner = user ∧ o.od = sideIn p buy ∧ o.od = od ∧
      o.offer = offerAmt buy price amount ∧ o.remaining = o.offer ∧ o.status = .notExecuted ∧ o.batch = p.curBatch ∧
      o.taken = o.offer + feeOf ac.feeRate o.offer ∧
      s.bal (.user user) o.od = s'.bal (.user user) o.od + o.taken ∧
      s'.bal (.pairEscrow app pair) o.od = s.bal (.pairEscrow app pair) o.od + o.taken := by
  obtain ⟨ac, p, price, hac, hp, hpr, h⟩ := placeOrderMsg_eff h
  obtain ⟨ac', p', s1, -, hext, hac', hp', h1, rfl⟩ := placeOrder_eff h
  rw [hac] at hac'; cases hac'
  rw [hp] at hp'; cases hp'
  obtain ⟨-, hpa, hpi⟩ := pair?_some hp
  refine ⟨p, ac, newOrder p (p.lastOrderId + 1) user typ buy price amount (offerAmt buy price amount)
      (offerAmt buy price amount + feeOf ac.feeRate (offerAmt buy price amount)) (s.now + lifespan), price,
    hp, hac, hpr, rfl, hpa, hpi, rfl, rfl, (of_decide_eq_true hext).1.symm, rfl, rfl, rfl, rfl, rfl, ?_, ?_⟩
  · have e := State.bal_send_from h1 nofun (sideIn p buy)
    rw [if_pos rfl] at e; exact e.symm
  · have e := State.bal_send_to h1 nofun (sideIn p buy)
    rw [if_pos rfl] at e; exact e

/-- **Taken = offer + fee reserve**, for every order in every reachable state (the reserve of a market-making order
is zero: swap.go:377 escrows the offer coins only). -/
theorem taken_eq_offer_plus_fee {cfg : Cfg} (hc : CfgOk cfg) (funds : List (Nat × Nat × Nat)) (ops : List Op) :
    ∀ o ∈ (after cfg funds ops).orders, o.taken = o.offer + feeRes (rateOf cfg o.app) o :=
  fun o ho => ((reachable_inv hc funds ops).ords o ho).taken_eq

/-- **What `FinishOrder` moves**: ending a live order pays the owner exactly the unspent offer coin plus the part of the
fee reserve not attributable to the executed portion, forwards exactly the fee on the executed portion to the pair's
swap-fee collector, and the escrow gives up exactly remaining + reserve. -/
theorem finish_moves_exactly {cfg : Cfg} {s s' : State} {k : OKey} {st : OStatus} {o : Order}
    (hi : Inv cfg s) (ho : s.order? k = some o) (hl : o.status.live = true) (h : finishOrder cfg s k st = some s') :
    s'.bal (.user o.owner) o.od =
      s.bal (.user o.owner) o.od + (o.remaining + (feeRes (rateOf cfg o.app) o - fwdSpec (rateOf cfg o.app) o)) ∧
    s'.bal (.swapFee o.app o.pair) o.od = s.bal (.swapFee o.app o.pair) o.od + fwdSpec (rateOf cfg o.app) o ∧
    s'.bal (.pairEscrow o.app o.pair) o.od + (o.remaining + feeRes (rateOf cfg o.app) o) = s.bal (.pairEscrow o.app o.pair) o.od :=
  finishOrder_moves ho hl h

theorem fill_pays_demand_coins {p : Pair} {s s' : State} {f : Fill} {o : Order}
    (ho : s.order? (p.app, p.id, f.id) = some o) (h : fillPayOut p s f = some s') :
    s'.bal (.user o.owner) (sideOut p f.buy) = s.bal (.user o.owner) (sideOut p f.buy) + f.recv := by
  obtain ⟨o', s1, ho', h1, rfl⟩ := fillPayOut_eff h
  rw [ho] at ho'; cases ho'
  have e := State.bal_send_to h1 nofun (sideOut p f.buy)
  rw [if_pos rfl] at e
  rw [State.bal_credit, e]
  simp only [reduceCtorEq, false_and, if_false, Nat.add_zero]

/-- **Settled at termination**: in every reachable state every ended order (completed, cancelled, expired) has been
refunded exactly `remaining + (reserve − fee on the executed part)`, has forwarded exactly the fee on the executed part,
and nothing of what was taken is unaccounted for: taken = executed + refunded + forwarded. -/
theorem terminated_settled {cfg : Cfg} (hc : CfgOk cfg) (funds : List (Nat × Nat × Nat)) (ops : List Op) :
    ∀ o ∈ (after cfg funds ops).orders, o.status.live = false →
      o.refunded = o.remaining + (feeRes (rateOf cfg o.app) o - fwdSpec (rateOf cfg o.app) o) ∧
      o.feeFwd = fwdSpec (rateOf cfg o.app) o ∧
      o.taken = (o.offer - o.remaining) + o.refunded + o.feeFwd := by
  intro o ho hl
  have hok := (reachable_inv hc funds ops).ords o ho
  obtain ⟨hr, hf⟩ := hok.of_ended hl
  refine ⟨hr, hf, ?_⟩
  rw [hr, hf]; exact hok.taken_split

/-- **Nothing of an ended order remains in escrow**: the escrow of a pair equals the claims of its *live* orders
(remaining + reserve) plus the net of what matching took in and handed out — ended orders contribute nothing
(= `C04.pair_escrow_exact`). -/
theorem escrow_holds_only_live_orders {cfg : Cfg} (hc : CfgOk cfg) (funds : List (Nat × Nat × Nat)) (ops : List Op)
    (a p : Nat) (d : Denom) :
    (after cfg funds ops).bal (.pairEscrow a p) d + (after cfg funds ops).bal (.mOut a p) d =
      liveSum cfg a p d (after cfg funds ops).orders + (after cfg funds ops).bal (.mIn a p) d :=
  (reachable_inv hc funds ops).pairEsc a p d

/-- **Cancellable after the placement batch**: in every state reached by a history in which the match results *of that
pair* lost nothing (`lostOf a p ops = 0`; other pairs and apps are unconstrained), the owner's `MsgCancelOrder` for a live
order placed in an earlier batch succeeds, the order becomes cancelled and the owner receives the refund. -/
theorem cancellable_after_batch {cfg : Cfg} (hc : CfgOk cfg) (funds : List (Nat × Nat × Nat)) (ops : List Op)
    {a u p i : Nat} (hlost : lostOf a p ops = 0) {o : Order} {pp : Pair} {ac : AppCfg}
    (hp0 : p ≠ 0) (hi0 : i ≠ 0) (hac : cfg.app? a = some ac)
    (ho : (after cfg funds ops).order? (a, p, i) = some o) (hown : o.owner = u) (hl : o.status.live = true)
    (hpp : (after cfg funds ops).pair? a p = some pp) (hb : o.batch ≠ pp.curBatch) :
    ∃ s', step cfg (after cfg funds ops) (.cancel a u p i) = some s' ∧
      (∀ o', s'.order? (a, p, i) = some o' → o'.status = .canceled) ∧
      s'.bal (.user u) o.od = (after cfg funds ops).bal (.user u) o.od + (o.remaining + (feeRes ac.feeRate o - fwdSpec ac.feeRate o)) := by
  have hs : ∀ d, (after cfg funds ops).bal (.mOut a p) d ≤ (after cfg funds ops).bal (.mIn a p) d := by
    intro d
    have := genesis_slack cfg funds ops a p d
    rwa [hlost] at this
  exact cancelOrder_succeeds (reachable_inv hc funds ops) hs hp0 hi0 hac ho hown hl hpp hb

/-- the same from the conservation law on all observed match results -/
theorem cancellable_after_batch_of_conserving {cfg : Cfg} (hc : CfgOk cfg) (funds : List (Nat × Nat × Nat)) (ops : List Op)
    (hcons : ∀ op ∈ ops, OpConserving op) {a u p i : Nat} {o : Order} {pp : Pair} {ac : AppCfg}
    (hp0 : p ≠ 0) (hi0 : i ≠ 0) (hac : cfg.app? a = some ac)
    (ho : (after cfg funds ops).order? (a, p, i) = some o) (hown : o.owner = u) (hl : o.status.live = true)
    (hpp : (after cfg funds ops).pair? a p = some pp) (hb : o.batch ≠ pp.curBatch) :
    ∃ s', step cfg (after cfg funds ops) (.cancel a u p i) = some s' ∧
      (∀ o', s'.order? (a, p, i) = some o' → o'.status = .canceled) ∧
      s'.bal (.user u) o.od = (after cfg funds ops).bal (.user u) o.od + (o.remaining + (feeRes ac.feeRate o - fwdSpec ac.feeRate o)) :=
  cancellable_after_batch hc funds ops (lostOf_zero_of_conserving a p ops hcons) hp0 hi0 hac ho hown hl hpp hb

/-- a lossless run of the modelled matcher (C05) with non-negative dust loses nothing: for histories whose match results
are such runs, `lostOf = 0` is PROVED, not assumed -/
theorem lostOf_zero_of_modelled (a p : Nat) (ops : List Op)
    (hm : ∀ a' ms ds ws, Op.endBlock a' ms ds ws ∈ ops → ∀ m ∈ ms,
      ∃ (b b' : Amm.Book) (lp mp q : Int), LiqBridge.ModelledRun b lp b' mp q ∧ 0 ≤ q ∧ Amm.matchLossless b lp = true ∧
        m = LiqBridge.matchInOf m.pair b b' q) :
    lostOf a p ops = 0 :=
  lostOf_zero_of_conserving a p ops (LiqBridge.opConserving_of_modelled ops hm)

/-- **`MsgCancelAllOrders` cancels every old order it addresses and nothing else of the owner's**: after a successful
cancel-all, for every order `o` stored under a key `k`: if `o` belongs to the sender, lies in the message's app and in one of
the named pairs (any pair when the list is empty), is live and was placed in an earlier batch of its pair, then the order under
`k` is ended (and refunded: `finish_moves_exactly`, `terminated_settled`); if `o` is still in its placement batch it is
untouched.  No assumption on pair ids or on the position of the order in any index. -/
theorem cancel_all_cancels_every_old_order {cfg : Cfg} {s s' : State} {app user : Nat} {pairs : List Nat}
    (h : step cfg s (.cancelAll app user pairs) = some s') (k : OKey) (o : Order) (pp : Pair)
    (ho : s.order? k = some o) (hp : s.pair? app o.pair = some pp) :
    (o.app = app ∧ o.owner = user ∧ (pairs = [] ∨ o.pair ∈ pairs) → o.status.live = true → o.batch < pp.curBatch →
      ∀ o', s'.order? k = some o' → o'.status.live = false) ∧
    (¬ o.batch < pp.curBatch → s'.order? k = some o) := by
  obtain ⟨a, b⟩ := cancelAll_fold k _ _ _ (cancelAll_eff h)
  refine ⟨fun ha hl hb => a o pp ho ha hp hl hb ?_, fun hnb => b o pp ho hp hnb⟩
  rw [← (isO_iff k o).mp (findBy_some_prop ho).1]
  exact List.mem_map_of_mem (order?_some ho).1

/-- **The swap-fee collector of a pair, every message and every block hook**: for every operation other than the begin-block
pruning, the balance of the pair's swap-fee collector in denom `d` plus the fee attributable to the executed portions of the
orders that were ALREADY ended before = its balance before plus that of the orders ended after — it grows by exactly
`Σ ⌊executed·feeRate⌋` over the orders of the pair (offer denom `d`) that ended in this step: cancels, cancel-all, MM cancel /
replace, and at batch execution the expiry pre-pass, completed fills and the expiry / too-small sweep.  Partially filled
orders that stay live forward nothing (their whole reserve stays in escrow: `escrow_holds_only_live_orders`). -/
theorem fee_collector_exact (cfg : Cfg) (s : State) (op : Op) (a p : Nat) (d : Denom) (hop : ∀ x, op ≠ .beginBlock x) :
    (stepT cfg s op).bal (.swapFee a p) d + fwdSum cfg a p d s.orders =
      s.bal (.swapFee a p) d + fwdSum cfg a p d (stepT cfg s op).orders :=
  (stepT_cases cfg s op).elim (fun e => by rw [e]) (step_feeEq a p d hop)

/-- the begin-block pruning moves no coin at all (it deletes ended orders and executed requests) -/
theorem pruning_moves_nothing (cfg : Cfg) (s : State) (app : Nat) : (stepT cfg s (.beginBlock app)).bank = s.bank := rfl

/-- **End to end for one ended order, against the account balances**: when a live order of a reachable state is ended, the
escrow gives up exactly remaining + reserve, of which exactly `⌊executed·rate⌋` reaches the swap-fee collector and exactly
the rest — the unspent offer coin plus the part of the reserve not attributable to the executed portion — reaches the owner;
`taken = executed + that refund + that fee`. -/
theorem ended_order_accounts {cfg : Cfg} (hc : CfgOk cfg) (funds : List (Nat × Nat × Nat)) (ops : List Op)
    {k : OKey} {st : OStatus} {o : Order} {s' : State}
    (ho : (after cfg funds ops).order? k = some o) (hl : o.status.live = true)
    (h : finishOrder cfg (after cfg funds ops) k st = some s') :
    let r := rateOf cfg o.app
    let refund := o.remaining + (feeRes r o - fwdSpec r o)
    s'.bal (.user o.owner) o.od = (after cfg funds ops).bal (.user o.owner) o.od + refund ∧
    s'.bal (.swapFee o.app o.pair) o.od = (after cfg funds ops).bal (.swapFee o.app o.pair) o.od + fwdSpec r o ∧
    s'.bal (.pairEscrow o.app o.pair) o.od + refund + fwdSpec r o = (after cfg funds ops).bal (.pairEscrow o.app o.pair) o.od ∧
    o.taken = (o.offer - o.remaining) + refund + fwdSpec r o := by
  have hi := reachable_inv hc funds ops
  obtain ⟨m1, m2, m3⟩ := finish_moves_exactly hi ho hl h
  refine ⟨m1, m2, ?_, (hi.ords o (order?_some ho).1).taken_split⟩
  rw [Nat.add_assoc, Nat.add_assoc, Nat.sub_add_cancel (fwdSpec_le _ o)]; exact m3

theorem reachable_idx {cfg : Cfg} (hsw : cfg.swapLookup = false) (funds : List (Nat × Nat × Nat)) (ops : List Op) :
    IdxInv (after cfg funds ops) :=
  runT_idx hsw ops _ (genesis_idx funds)

/-- **Order keys are unique** in every reachable state: the store lookup `(appId, pairId, id)` of an order's key returns
that very order (ids are allotted by the pair's counter and never re-used, also after begin-block pruning). -/
theorem order_keys_unique {cfg : Cfg} (hsw : cfg.swapLookup = false) (funds : List (Nat × Nat × Nat)) (ops : List Op) :
    ((after cfg funds ops).orders.map Order.key).Nodup ∧
    ∀ o ∈ (after cfg funds ops).orders, (after cfg funds ops).order? o.key = some o :=
  ⟨(reachable_idx hsw funds ops).uniq, fun _ ho => (reachable_idx hsw funds ops).lookup ho⟩

/-- **Index completeness** (every history): every LIVE market-making order is listed in the market-making index of its owner for
its (app, pair). -/
theorem mm_index_complete {cfg : Cfg} (hsw : cfg.swapLookup = false) (funds : List (Nat × Nat × Nat)) (ops : List Op) :
    ∀ o ∈ (after cfg funds ops).orders, o.typ = .mm → o.status.live = true →
      ∃ idx, findBy (isMM o.app o.pair o.owner) (after cfg funds ops).mm = some idx ∧ o.id ∈ idx.ids :=
  (reachable_idx hsw funds ops).complete

/-- **MsgCancelMMOrder cancels EVERY market-making order of the owner in the pair** (repaired lookup; every app id and pair id;
NO premise about the index): in every reachable state, after an accepted `MsgCancelMMOrder(app, user, pair)` no order has
disappeared, no market-making order of that owner in that (app, pair) is live any more, each of them carries its settlement
(refund = unspent offer, `terminated_settled`'s formula), and the index entry is gone. -/
theorem mm_cancel_cancels_all {cfg : Cfg} (hc : CfgOk cfg) (hsw : cfg.swapLookup = false) (funds : List (Nat × Nat × Nat))
    (ops : List Op) {s' : State} {app user pair : Nat}
    (h : step cfg (after cfg funds ops) (.cancelMM app user pair) = some s') :
    s'.orders.map Order.key = (after cfg funds ops).orders.map Order.key ∧
    (∀ o ∈ s'.orders, o.app = app → o.pair = pair → o.owner = user → o.typ = .mm →
      o.status.live = false ∧ o.refunded = o.remaining ∧ o.feeFwd = 0) ∧
    findBy (isMM app pair user) s'.mm = none := by
  have hi := reachable_idx hsw funds ops
  have hinv : Inv cfg s' := step_inv hc (reachable_inv hc funds ops) h
  obtain ⟨p, hp, h⟩ := cancelMM_eff h
  obtain ⟨-, -, hpi⟩ := pair?_some hp
  obtain ⟨-, b, c⟩ := idx_cancelMMCore hsw hi h
  rw [hpi] at b c
  refine ⟨keys_cancelMMCore h, ?_, c⟩
  intro o ho e1 e2 e3 ht
  have hl := b o ho e1 e2 e3 ht
  obtain ⟨-, -, -, hterm⟩ := hinv.ords o ho
  obtain ⟨hr, hf⟩ := hterm hl
  simp only [feeRes, fwdSpec, ht, if_true, Nat.sub_zero, Nat.add_zero] at hr hf
  exact ⟨hl, hr, hf⟩

/-- **MsgMMOrder (replace) cancels EVERY previous market-making order of the owner in the pair** (repaired lookup, NO premise
about the index): the accepted message's result is `s1.orders ++ new` where `s1` holds exactly the orders that were there before
(same keys), none of the owner's market-making orders in the pair is live in `s1`, and `new` are the freshly placed ones. -/
theorem mm_replace_cancels_all {cfg : Cfg} (hsw : cfg.swapLookup = false) (funds : List (Nat × Nat × Nat)) (ops : List Op)
    {s' : State} {app user pair : Nat} {maxSell minSell sellAmt maxBuy minBuy buyAmt : Nat} {lifespan : Int}
    (h : step cfg (after cfg funds ops) (.mmOrder app user pair maxSell minSell sellAmt maxBuy minBuy buyAmt lifespan) = some s') :
    ∃ (s1 : State) (new : List Order), s'.orders = s1.orders ++ new ∧
      s1.orders.map Order.key = (after cfg funds ops).orders.map Order.key ∧
      (∀ o ∈ s1.orders, o.app = app → o.pair = pair → o.owner = user → o.typ = .mm → o.status.live = false) ∧
      (∀ o ∈ new, o.status = .notExecuted ∧ o.typ = .mm ∧ o.owner = user ∧ o.app = app ∧ o.pair = pair) := by
  have hi := reachable_idx hsw funds ops
  obtain ⟨ac, -, h⟩ := mmOrderMsg_eff h
  obtain ⟨p, s1, new, hp, hc1, ho, hn⟩ := mmOrder_split h
  obtain ⟨-, -, hpi⟩ := pair?_some hp
  obtain ⟨-, b, -⟩ := idx_cancelMMCore hsw hi hc1
  rw [hpi] at b
  exact ⟨s1, new, ho, keys_cancelMMCore hc1, b, hn⟩

/-- the index-relative form (any state, not only reachable ones): every order listed in the owner's index is ended -/
theorem mm_cancel_cancels_indexed {cfg : Cfg} (hsw : cfg.swapLookup = false) {s s' : State} {app user pair : Nat} {idx : MMIndex}
    (hidx : findBy (isMM app pair user) s.mm = some idx) (h : step cfg s (.cancelMM app user pair) = some s') :
    (∀ i ∈ idx.ids, ∀ o, s'.order? (app, pair, i) = some o → o.status.live = false) ∧
    findBy (isMM app pair user) s'.mm = none := by
  obtain ⟨p, hp, h⟩ := cancelMM_eff h
  obtain ⟨-, -, hpi⟩ := pair?_some hp
  rw [← hpi] at hidx ⊢
  exact cancelMMCore_all hsw hidx h

/-- everything of an order record except its type -/
def orderAmounts (o : Order) :=
  (o.key, o.owner, o.buy, o.od, o.dd, o.price, o.amount, o.openAmt, o.offer, o.remaining, o.received, o.status, o.batch, o.expireAt,
   o.taken, o.refunded, o.feeFwd)

/-- **The store migration is the identity on what the property speaks about**: no coin moves, pairs / requests / MM indexes /
farmers are untouched, every order keeps its key, owner, offer coin, REMAINING offer coin, received coin, open amount, status,
batch and expiry and its fee reserve; only the order type is rewritten (`market` becomes `limit` — same fee rule), and pool
records keep everything but the `ranged` flag.  With `step_inv` (`reachable_inv`) every theorem of this file holds for
histories that contain migrations: an order that is partially filled, lives through the migration and is cancelled / expires
afterwards is settled by `terminated_settled`'s formula. -/
theorem migration_preserves_orders {cfg : Cfg} {s s' : State} (h : step cfg s .migrate = some s') :
    s'.bank = s.bank ∧ s'.pairs = s.pairs ∧ s'.deps = s.deps ∧ s'.wdrs = s.wdrs ∧ s'.mm = s.mm ∧ s'.farmers = s.farmers ∧
    s'.orders.map orderAmounts = s.orders.map orderAmounts ∧
    (∀ r, s'.orders.map (feeRes r) = s.orders.map (feeRes r)) ∧
    s'.pools.map (fun q => (q.app, q.id, q.pair, q.disabled, q.ps, q.lastDep, q.lastWdr)) =
      s.pools.map (fun q => (q.app, q.id, q.pair, q.disabled, q.ps, q.lastDep, q.lastWdr)) := by
  obtain ⟨hty, rfl⟩ := migrate_eff h
  refine ⟨rfl, rfl, rfl, rfl, rfl, rfl, ?_, ?_, ?_⟩
  · show (s.orders.map _).map orderAmounts = _
    rw [List.map_map]
    apply List.map_congr_left
    intro o _
    simp only [Function.comp]
    split <;> rfl
  · intro r
    show (s.orders.map _).map (feeRes r) = _
    rw [List.map_map]
    apply List.map_congr_left
    intro o ho
    simp only [Function.comp]
    split
    · simp [feeRes, hty o ho]
    · rfl
  · show (s.pools.map _).map _ = _
    rw [List.map_map]
    apply List.map_congr_left
    intro q _
    simp only [Function.comp]
    split <;> rfl

/-! ### Defect D4: with the lookup of swap.go:559 before the fix the claim is false for app id ≠ pair id -/

def cfgD4 (swapped : Bool) : Cfg :=
  { apps := [{ app := 1, feeRate := 3000000000000000, batchSize := 1, maxLifespan := 86400, pairFee := 5, poolFee := 5,
               minInitDeposit := 10, minInitSupply := 1000, maxPools := 20 },
             { app := 2, feeRate := 3000000000000000, batchSize := 1, maxLifespan := 86400, pairFee := 5, poolFee := 5,
               minInitDeposit := 10, minInitSupply := 1000, maxPools := 20 }],
    swapLookup := swapped, queueDur := 86400 }

def fundsD4 : List (Nat × Nat × Nat) := [(0, 0, 100), (1, 1, 10000000), (1, 2, 10000000), (2, 2, 10000000)]

/-- app 2 / pair 1: a market-making order of two ticks by user 1; a stranger's (user 2) limit order under the mirrored key
(app 1, pair 2, id 1); next batch; user 1 sends MsgCancelMMOrder -/
def opsD4 : List Op :=
  [ .block 1 100,
    .createPair 2 0 (.coin 1) (.coin 2) true,
    .createPair 1 0 (.coin 1) (.coin 2) true,
    .createPair 1 0 (.coin 2) (.coin 3) true,
    .mmOrder 2 1 1 1100000000000000000 1100000000000000000 1000000 900000000000000000 900000000000000000 1000000 3600,
    .order 1 2 2 .limit false (.coin 2) (.coin 3) 2000000 1000000000000000000 1000000 3600,
    .endBlock 1 [] [] [], .endBlock 2 [] [] [],
    .block 2 105,
    .cancelMM 2 1 1 ]

/-- The message succeeds (the index is deleted), yet both indexed orders are still live, and the stranger's order in
(app 1, pair 2) has been cancelled instead. -/
theorem mm_cancel_cancels_all_counterexample :
    let s := after (cfgD4 true) fundsD4 opsD4
    s.mm = [] ∧
    (s.orders.filter (fun o => o.app == 2 && o.pair == 1)).map (fun o => (o.id, o.status)) = [(1, .notMatched), (2, .notMatched)] ∧
    (s.orders.filter (fun o => o.app == 1 && o.pair == 2)).map (fun o => (o.id, o.owner, o.status)) = [(1, 2, .canceled)] := by
  decide +kernel

/-- the same history with the repaired lookup: both orders cancelled, the stranger's order untouched -/
example :
    let s := after (cfgD4 false) fundsD4 opsD4
    s.mm = [] ∧
    (s.orders.filter (fun o => o.app == 2 && o.pair == 1)).map (fun o => (o.id, o.status)) = [(1, .canceled), (2, .canceled)] ∧
    (s.orders.filter (fun o => o.app == 1 && o.pair == 2)).map (fun o => (o.id, o.owner, o.status)) = [(1, 2, .notMatched)] := by
  decide +kernel

/-- non-vacuity of `mm_index_complete` / `mm_cancel_cancels_all` / `order_keys_unique`: before the cancel both market-making
orders of user 1 in (app 2, pair 1) are live and listed in the index, the stranger's order has the mirrored key, the message is
accepted -/
example :
    let s := after (cfgD4 false) fundsD4 opsD4.dropLast
    (s.orders.filter (fun o => o.typ == .mm && o.status.live)).map (fun o => (o.key, o.owner)) = [((2, 1, 1), 1), ((2, 1, 2), 1)] ∧
    s.mm.map (fun x => (x.app, x.pair, x.owner, x.ids)) = [(2, 1, 1, [1, 2])] ∧
    s.orders.map Order.key = [(2, 1, 1), (2, 1, 2), (1, 2, 1)] ∧
    (step (cfgD4 false) s (.cancelMM 2 1 1)).isSome = true := by
  decide +kernel

/-- non-vacuity of `mm_replace_cancels_all`: a second `MsgMMOrder` in the next batch ends orders 1, 2 and places 3, 4 -/
example :
    ((after (cfgD4 false) fundsD4 (opsD4.dropLast ++
        [.mmOrder 2 1 1 1200000000000000000 1200000000000000000 1000000 800000000000000000 800000000000000000 1000000 3600])).orders.filter
      (fun o => o.app == 2)).map (fun o => (o.id, o.status)) =
    [(1, .canceled), (2, .canceled), (3, .notExecuted), (4, .notExecuted)] := by
  decide +kernel

/-- two pairs of one app; user 1 has an older sell order in pair 2 and a fresh one in pair 1; cancel-all (no pair named) ends
the older one although a current-batch order of a LOWER pair id comes first in the owner's index -/
def opsCancelAll : List Op :=
  [ .block 1 100,
    .createPair 1 0 (.coin 1) (.coin 2) true,
    .createPair 1 0 (.coin 2) (.coin 3) true,
    .order 1 1 2 .limit false (.coin 2) (.coin 3) 2000000 1000000000000000000 1000000 3600,
    .endBlock 1 [] [] [],
    .block 2 105,
    .order 1 1 1 .limit false (.coin 1) (.coin 2) 2000000 1000000000000000000 1000000 3600,
    .cancelAll 1 1 [] ]

example : ((after (cfgD4 false) fundsD4 opsCancelAll).orders.map fun o => (o.pair, o.id, o.status)) =
    [(2, 1, .canceled), (1, 1, .notExecuted)] := by decide +kernel

theorem cfgD4_ok (b : Bool) : CfgOk (cfgD4 b) := by
  intro ac h
  simp [cfgD4] at h
  rcases h with rfl | rfl <;> decide

/-- a history with a partial fill, a completion, a cancellation and an expiry, fee rate 0.3 % -/
def opsLife : List Op :=
  [ .block 1 100,
    .createPair 1 0 (.coin 1) (.coin 2) true,
    .order 1 1 1 .limit false (.coin 1) (.coin 2) 2000000 1000000000000000000 1000000 50,   -- sell 1 000 000, fee 3000
    .order 1 2 1 .limit true (.coin 2) (.coin 1) 2000000 1000000000000000000 400000 3600,   -- buy 400 000, fee 1200
    .endBlock 1 [{ pair := 1, fills := [{ id := 1, buy := false, paid := 400000, recv := 400000, matched := 400000 },
                                        { id := 2, buy := true, paid := 400000, recv := 400000, matched := 400000 }],
                   pools := [], dust := 0 }] [] [],
    .block 2 105,
    .cancel 1 1 1 1 ]

/-- seller: taken 1 003 000 = offer + ⌊0.3 %⌋; after the cancel: refunded 600 000 + (3000 − 1200) = 601 800, forwarded 1200;
buyer completed: refunded 0, forwarded 1200 -/
example : ((after (cfgD4 false) fundsD4 opsLife).orders.map fun o => (o.id, o.status, o.taken, o.remaining, o.refunded, o.feeFwd)) =
    [(1, .canceled, 1003000, 600000, 601800, 1200), (2, .completed, 401200, 0, 0, 1200)] := by
  decide +kernel

example : (after (cfgD4 false) fundsD4 opsLife).bal (.pairEscrow 1 1) (.coin 1) = 0 ∧
    (after (cfgD4 false) fundsD4 opsLife).bal (.swapFee 1 1) (.coin 1) = 1200 ∧
    (after (cfgD4 false) fundsD4 opsLife).bal (.user 1) (.coin 1) = 10000000 - 1003000 + 601800 := by
  decide +kernel

/-- non-vacuity of `fee_collector_exact`: the batch of `opsLife` completes the buyer (fee 1200 of coin 2 forwarded in the batch),
the later cancel of the partially filled seller forwards 1200 of coin 1 -/
example :
    (after (cfgD4 false) fundsD4 (opsLife.take 4)).bal (.swapFee 1 1) (.coin 2) = 0 ∧
    (after (cfgD4 false) fundsD4 (opsLife.take 5)).bal (.swapFee 1 1) (.coin 2) = 1200 ∧
    fwdSum (cfgD4 false) 1 1 (.coin 2) (after (cfgD4 false) fundsD4 (opsLife.take 5)).orders = 1200 ∧
    fwdSum (cfgD4 false) 1 1 (.coin 1) (after (cfgD4 false) fundsD4 (opsLife.take 5)).orders = 0 ∧
    fwdSum (cfgD4 false) 1 1 (.coin 1) (after (cfgD4 false) fundsD4 opsLife).orders = 1200 := by
  decide +kernel

/-- non-vacuity of `ended_order_accounts` / `finish_moves_exactly`: before the last op of `opsLife` the seller's order (key (1, 1, 1)) is
live and partially filled, and `FinishOrder` on it succeeds -/
example :
    let s := after (cfgD4 false) fundsD4 opsLife.dropLast
    (s.order? (1, 1, 1)).map (fun o => (o.status, o.offer, o.remaining)) = some (.partially, 1000000, 600000) ∧
    (finishOrder (cfgD4 false) s (1, 1, 1) .canceled).isSome = true := by
  decide +kernel

/-- the partially filled seller of `opsLife` lives through the migration and cancels afterwards: refunded 600 000 + (3000 − 1200),
forwarded 1200 — exactly as without the migration (a migration that copied the OFFER coin into the remaining offer coin would
refund 1 003 000 here) -/
example : ((after (cfgD4 false) fundsD4 (opsLife.dropLast ++ [.migrate, .cancel 1 1 1 1])).orders.map
      fun o => (o.id, o.status, o.taken, o.remaining, o.refunded, o.feeFwd)) =
    [(1, .canceled, 1003000, 600000, 601800, 1200), (2, .completed, 401200, 0, 0, 1200)] := by
  decide +kernel

/-- and the migration is accepted there (the store is a version-1 store: no market-making orders, no ranged pools) -/
example : (step (cfgD4 false) (after (cfgD4 false) fundsD4 opsLife.dropLast) .migrate).isSome = true := by decide +kernel

end Comdex.C07
