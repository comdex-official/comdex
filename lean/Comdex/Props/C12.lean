import Comdex.Lemmas.Guards
/-! # C12 — only the rightful party can act: owners on positions, authorities on controls

Clause → theorem

| property clause | theorem |
|---|---|
| first failing guard returns its error, the body is not run | `run_simple` |
| a rejected message changes no balance and no record (message cache) | `deliver_unchanged_of_error`, `rejecting_guard_blocks` |
| owner guard on the way ∧ signer ≠ owner ⇒ error ∧ state unchanged | `owner_guard_blocks` |
| every handler that names a position checks the owner on every route to success | `position_handlers_owner_guarded` + reviewed allow-list `ownerless`, `ownerless_tight` (from `not_owner_authorised_pinned`) |
| … hence any non-owner delivery on any such route is rejected and changes nothing, whatever the writes and other checks are | `nonowner_rejected_on_every_route` |
| owner-checked handlers, signer-keyed ones, those whose owner check comes after a write (need the message cache) | `owner_checked_pinned`, `signer_keyed_pinned`, `owner_after_write_pinned` |
| the named position is the one the message's descriptive ids (app, product, asset) describe: each stored field compared on its own | `position_consistency_guarded`, `no_weak_consistency_guard`, `consistency_rows_pinned`, `spec_consistency` |
| every custom wasm message: the extracted guard is the expected one (20 handlers, both networks, right contract index) | `wasm_guards_expected`, `wasm_addr_lists`, `wasm_authorized_iff_designated`, `spec_wasm_count` |
| kill switch admin-only | `admin_only_killswitch`, `admin_only_pinned`, `admin_guard_blocks`, `spec_admin` |
| who is guarded by what, one reviewed matrix handler × question; the name pins over `handlers` here and in C14 are its columns | `authMatrix`, `matrix_flags`, `matrix_pinned`, `pin_of_col` |
| table sizes / spot entries | `table_sizes`, `handler_names_pinned`, `spot_*`, `every_handler_has_exit` |
| SCOPE: every entry point through which state can be changed from outside is inventoried and classified by who may call it (70 messages of all modules = the protobuf MsgServer interfaces, 26 proposal contents, 20 wasm variants, 9 IBC callbacks, 13 block hooks, 3 migrations, 23 upgrade handlers) | `entry_points_classified`, `entry_point_counts`, `msg_entry_points_complete`, `spot_entry_points`, `unwired_entry_points_pinned`, `ibc_callbacks_pinned` |
| every position-naming entry point is owner-guarded or on the reviewed list; no non-message entry point takes a position id | `position_naming_entry_points_guarded`, `nonmsg_position_readers_pinned` |
| every privileged entry point (admin / gov / contract) has its authority guard before its first write; which ones are privileged | `privileged_entry_points_guarded`, `privileged_entry_points_pinned`, `proposals_pinned`, `gov_only_blocks`, `gov_authority_runs_handler` |
| the keeper functions behind proposal handlers and wasm variants are reached from no message handler (two reviewed fee-paying exceptions) | `privileged_targets_reach_pinned` |

The tables come from `Gen/Guards.lean`, regenerated from /repo on every run: dropping an owner check, re-ordering it behind an
early successful return, changing a chain id or a contract index makes one of the table obligations fail to compile. They are
closed by kernel evaluation, which pays for every walk of a string literal (its byte list is n nested `List.concat`: quadratic
in n, once per declaration), while `rfl` recognises identical literals as they stand. So the domination predicates are evaluated
over the table once, building no name (`matrix_flags`), the names once (`handler_names_pinned`), and the name pins are read off
the literal `authMatrix` by `rfl`.
Trusted: the extractor's flattening (see notes/C12.md), the message cache of baseapp (modelled by `applyIfNoError`). -/
namespace Comdex.C12
open Comdex.Guards Comdex.Gen.Guards

theorem deliver_unchanged_of_error {σ : Type} (steps : List (Step σ)) (e : Env) (s : σ)
    (h : ∃ c, run steps e s = .error c) : deliver steps e s = (s, false) := by
  obtain ⟨c, hc⟩ := h
  simp only [deliver, applyIfNoError, hc]

theorem rejecting_guard_blocks {σ : Type} (steps : List (Step σ)) (e : Env) (g : Step σ) (hg : g ∈ steps)
    (hr : g.rejectsIn e) (s : σ) : deliver steps e s = (s, false) :=
  deliver_unchanged_of_error steps e s (run_error_of_rejecting e g hr steps hg s)

theorem stdGuard_rejects {σ : Type} (c : GClass) (e : Env) (h : c.fails e = true) : (stdGuard c : Step σ).rejectsIn e :=
  Guards.stdGuard_rejects c e h

theorem owner_guard_blocks {σ : Type} (steps : List (Step σ)) (e : Env) (s : σ)
    (hg : stdGuard .ownerEq ∈ steps) (hno : e.signerIsOwner = false) : deliver steps e s = (s, false) :=
  stdGuard_blocks _ steps e s hg (ownerEq_fails hno)

theorem admin_guard_blocks {σ : Type} (steps : List (Step σ)) (e : Env) (s : σ)
    (hg : stdGuard .adminOnly ∈ steps) (hno : e.signerIsAdmin = false) : deliver steps e s = (s, false) :=
  stdGuard_blocks _ steps e s hg (adminOnly_fails hno)

theorem run_simple {σ : Type} (guards : List GClass) (body : σ → σ) (e : Env) (s : σ) :
    run (simple guards body) e s =
      match guards.find? (fun c => c.fails e) with
      | some c => .error c
      | none => .ok (body s) := by
  induction guards with
  | nil => rfl
  | cons c cs ih =>
    have hs : simple (c :: cs) body = stdGuard c :: simple cs body := rfl
    rw [hs]
    by_cases hc : c.fails e = true
    · simp [run, stdGuard, List.find?, hc]
    · have hc' : c.fails e = false := by simpa using hc
      simp only [run, stdGuard, List.find?, hc', Bool.not_false, if_true]
      exact ih

/-- the owner succeeds through an owner guard when nothing else objects (non-vacuity of the model) -/
example : run (simple [.esmExecuted, .breakerEnabled, .ownerEq] (fun (n : Nat) => n + 1)) {} 5 = .ok 6 := rfl
example : run (simple [.esmExecuted, .breakerEnabled, .ownerEq] (fun (n : Nat) => n + 1)) { signerIsOwner := false } 5
    = .error .ownerEq := rfl
example : deliver ([.effect (fun n => n + 100), stdGuard .ownerEq, .effect (fun (n : Nat) => n + 1)])
    { signerIsOwner := false } 5 = (5, false) := rfl

/-- `c ≠ 0`: a guard of class 0, `other`, is interpreted by `sem.other`, not as a `stdGuard` -/
theorem route_rejects {σ : Type} (sem : Sem σ) (route : List Item) (c : Nat) (clean : Bool) (e : Env) (s : σ)
    (hg : hasGuard c clean route = true) (hc : c ≠ 0) (hf : (GClass.ofCode c).fails e = true) :
    deliver (stepsOf sem route) e s = (s, false) := by
  have hne : GClass.ofCode c ≠ .other := fun h => by rw [h] at hf; cases hf
  have hcode : (GClass.ofCode c).code = c := by
    match c, hne with
    | 1, _ | 2, _ | 3, _ | 4, _ | 5, _ | 6, _ => rfl
    | 0, _ => exact absurd rfl hc
    | n + 7, h => exact absurd rfl h
  exact route_rejects_class sem route _ clean e s (by rw [hcode]; exact hg) hne hf

theorem handler_names_pinned : handlers.map qname = [
    "vault.MsgCreate", "vault.MsgDeposit", "vault.MsgWithdraw", "vault.MsgDraw", "vault.MsgRepay", "vault.MsgClose",
    "vault.MsgDepositAndDraw", "vault.MsgCreateStableMint", "vault.MsgDepositStableMint", "vault.MsgWithdrawStableMint",
    "vault.MsgVaultInterestCalc",
    "locker.MsgCreateLocker", "locker.MsgDepositAsset", "locker.MsgWithdrawAsset", "locker.MsgCloseLocker",
    "locker.MsgLockerRewardCalc",
    "lend.Lend", "lend.Withdraw", "lend.Deposit", "lend.CloseLend", "lend.Borrow", "lend.Repay", "lend.DepositBorrow",
    "lend.Draw", "lend.CloseBorrow", "lend.BorrowAlternate", "lend.FundModuleAccounts", "lend.CalculateInterestAndRewards",
    "lend.FundReserveAccounts", "lend.RepayWithdraw",
    "liquidity.CreatePair", "liquidity.CreatePool", "liquidity.CreateRangedPool", "liquidity.Deposit", "liquidity.Withdraw",
    "liquidity.LimitOrder", "liquidity.MarketOrder", "liquidity.MMOrder", "liquidity.CancelOrder", "liquidity.CancelAllOrders",
    "liquidity.CancelMMOrder", "liquidity.Farm", "liquidity.Unfarm", "liquidity.DepositAndFarm", "liquidity.UnfarmAndWithdraw",
    "auctionsV2.MsgPlaceMarketBid", "auctionsV2.MsgDepositLimitBid", "auctionsV2.MsgCancelLimitBid",
    "auctionsV2.MsgWithdrawLimitBid",
    "esm.DepositESM", "esm.ExecuteESM", "esm.MsgKillSwitch", "esm.MsgCollateralRedemption",
    "liquidation.MsgLiquidateVault", "liquidation.MsgLiquidateBorrow",
    "liquidationsV2.MsgLiquidateInternalKeeper", "liquidationsV2.MsgAppReserveFunds",
    "liquidationsV2.MsgLiquidateExternalKeeper",
    "auction.MsgPlaceSurplusBid", "auction.MsgPlaceDebtBid", "auction.MsgPlaceDutchBid", "auction.MsgPlaceDutchLendBid",
    "asset.AddAsset", "collector.Deposit", "rewards.CreateGauge", "rewards.ExternalRewardsLockers", "rewards.ExternalRewardsVault",
    "rewards.ExternalRewardsLend", "rewards.ExternalRewardsStableMint", "tokenmint.MsgMintNewTokens"] := by
  decide +kernel

/-- **Who is guarded by what.** Per handler the questions of `Guards.Col` that hold (`breaker`, `esm`: that guard dominates
every exit with no write before it; `coolOff`, `priceDominates`, `admin`: dominates every exit; `noOwnerCheck`: some exit after
an un-keyed position read is not dominated by the owner comparison; `ownerChecked`: un-keyed reads, all dominated; `signerKeyed`:
position reads, all keyed by the signer; `ownerAfterWrite`; `priceGuard`: a price lookup whose error is returned;
`swallowsPrice`) and its stand-alone consistency comparisons (position field, dominates every exit after the read). The name
pins of this file and of `Props/C14.lean` are its columns. -/
def authMatrix : List (String × List Col × List (String × Bool)) := [
  ("vault.MsgCreate", [.breaker, .esm, .priceGuard], []),
  ("vault.MsgDeposit", [.breaker, .esm, .ownerChecked], [("AppId", true), ("ExtendedPairVaultID", true)]),
  ("vault.MsgWithdraw", [.breaker, .coolOff, .ownerChecked, .priceGuard], [("AppId", true), ("ExtendedPairVaultID", true)]),
  ("vault.MsgDraw", [.breaker, .esm, .ownerChecked, .priceGuard], [("AppId", true), ("ExtendedPairVaultID", true)]),
  ("vault.MsgRepay", [.breaker, .esm, .ownerChecked], [("AppId", true), ("ExtendedPairVaultID", true)]),
  ("vault.MsgClose", [.breaker, .esm, .ownerChecked], [("AppId", true), ("ExtendedPairVaultID", true)]),
  ("vault.MsgDepositAndDraw", [.breaker, .esm, .ownerChecked, .ownerAfterWrite, .priceGuard], [("AppId", true), ("ExtendedPairVaultID", true)]),
  ("vault.MsgCreateStableMint", [.breaker, .esm], []),
  ("vault.MsgDepositStableMint", [.breaker, .esm, .noOwnerCheck], [("AppId", true), ("ExtendedPairVaultID", true)]),
  ("vault.MsgWithdrawStableMint", [.breaker, .esm, .noOwnerCheck], [("AppId", true), ("ExtendedPairVaultID", true)]),
  ("vault.MsgVaultInterestCalc", [.noOwnerCheck], []),
  ("locker.MsgCreateLocker", [.breaker, .esm], []),
  ("locker.MsgDepositAsset", [.breaker, .esm, .ownerChecked], [("AssetDepositId", true), ("AppId", true)]),
  ("locker.MsgWithdrawAsset", [.ownerChecked], [("AssetDepositId", true), ("AppId", true)]),
  ("locker.MsgCloseLocker", [.ownerChecked], [("AssetDepositId", true), ("AppId", true)]),
  ("locker.MsgLockerRewardCalc", [.noOwnerCheck], [("AppId", true)]),
  ("lend.Lend", [.breaker, .priceDominates, .ownerChecked, .ownerAfterWrite, .priceGuard], []),
  ("lend.Withdraw", [.breaker, .ownerChecked, .ownerAfterWrite], []),
  ("lend.Deposit", [.breaker, .priceDominates, .ownerChecked, .ownerAfterWrite, .priceGuard], []),
  ("lend.CloseLend", [.breaker, .ownerChecked, .ownerAfterWrite], []),
  ("lend.Borrow", [.breaker, .priceDominates, .ownerChecked, .ownerAfterWrite, .priceGuard], [("AssetID", true), ("AmountOut.Denom", false)]),
  ("lend.Repay", [.breaker, .ownerChecked], [("AmountOut.Denom", false)]),
  ("lend.DepositBorrow", [.breaker, .ownerChecked, .priceGuard], []),
  ("lend.Draw", [.breaker, .ownerChecked, .priceGuard], [("AmountOut.Denom", false)]),
  ("lend.CloseBorrow", [.breaker, .ownerChecked], []),
  ("lend.BorrowAlternate", [.breaker, .priceDominates, .ownerChecked, .ownerAfterWrite, .priceGuard], [("AssetID", false), ("AmountOut.Denom", false)]),
  ("lend.FundModuleAccounts", [], []),
  ("lend.CalculateInterestAndRewards", [.noOwnerCheck, .ownerAfterWrite], []),
  ("lend.FundReserveAccounts", [], []),
  ("lend.RepayWithdraw", [.breaker, .ownerChecked, .ownerAfterWrite], []),
  ("liquidity.CreatePair", [], []),
  ("liquidity.CreatePool", [], []),
  ("liquidity.CreateRangedPool", [], []),
  ("liquidity.Deposit", [], []),
  ("liquidity.Withdraw", [], []),
  ("liquidity.LimitOrder", [], []),
  ("liquidity.MarketOrder", [], []),
  ("liquidity.MMOrder", [.noOwnerCheck], []),
  ("liquidity.CancelOrder", [.ownerChecked], []),
  ("liquidity.CancelAllOrders", [.signerKeyed], []),
  ("liquidity.CancelMMOrder", [.noOwnerCheck], []),
  ("liquidity.Farm", [.signerKeyed], []),
  ("liquidity.Unfarm", [.signerKeyed], []),
  ("liquidity.DepositAndFarm", [.signerKeyed], []),
  ("liquidity.UnfarmAndWithdraw", [.signerKeyed], []),
  ("auctionsV2.MsgPlaceMarketBid", [.noOwnerCheck], []),
  ("auctionsV2.MsgDepositLimitBid", [.signerKeyed], []),
  ("auctionsV2.MsgCancelLimitBid", [.signerKeyed], []),
  ("auctionsV2.MsgWithdrawLimitBid", [.signerKeyed], [("DebtToken.Denom", true)]),
  ("esm.DepositESM", [], []),
  ("esm.ExecuteESM", [.esm], []),
  ("esm.MsgKillSwitch", [.admin], []),
  ("esm.MsgCollateralRedemption", [], []),
  ("liquidation.MsgLiquidateVault", [.breaker, .esm, .priceDominates, .noOwnerCheck, .priceGuard], [("AppId", true)]),
  ("liquidation.MsgLiquidateBorrow", [.noOwnerCheck, .priceGuard], []),
  ("liquidationsV2.MsgLiquidateInternalKeeper", [.noOwnerCheck, .priceGuard], []),
  ("liquidationsV2.MsgAppReserveFunds", [], []),
  ("liquidationsV2.MsgLiquidateExternalKeeper", [], []),
  ("auction.MsgPlaceSurplusBid", [], []),
  ("auction.MsgPlaceDebtBid", [], []),
  ("auction.MsgPlaceDutchBid", [], []),
  ("auction.MsgPlaceDutchLendBid", [.noOwnerCheck, .swallowsPrice], []),
  ("asset.AddAsset", [], []),
  ("collector.Deposit", [], []),
  ("rewards.CreateGauge", [], []),
  ("rewards.ExternalRewardsLockers", [.breaker, .esm], []),
  ("rewards.ExternalRewardsVault", [.breaker, .esm], []),
  ("rewards.ExternalRewardsLend", [.breaker, .esm], []),
  ("rewards.ExternalRewardsStableMint", [.breaker, .esm], []),
  ("tokenmint.MsgMintNewTokens", [], [])]

/-- the one sweep of the domination predicates over the table; no handler name is built -/
theorem matrix_flags : handlers.map (fun h => sigOf h) = authMatrix.map (·.2) := by
  unfold sigOf Col.holds
  simp only [guarded_eq_scan, ownerAuthorised_eq_scan, consistencyGuarded_eq_scan]; decide +kernel

theorem matrix_pinned : handlers.map (fun h => (qname h, sigOf h)) = authMatrix :=
  map_pair_of (handler_names_pinned.trans rfl) matrix_flags

theorem pin_of_col (c : Col) :
    (handlers.filter c.holds).map qname = (authMatrix.filter fun r => r.2.1.contains c).map (·.1) :=
  pin_of_matrix matrix_pinned (fun s => s.1.contains c) (·.1) (fun h => (sigOf_contains h c).symm) fun _ => rfl

/-- Reviewed allow-list: handlers that read a position record not keyed by the signer and legitimately have no owner check.

* `vault.MsgDepositStableMint`, `vault.MsgWithdrawStableMint` — the stable-mint (PSM) vault is a shared pool record without an
  owner field (`StableMintVault{Id,AmountIn,AmountOut,AppId,…}`); the signer swaps his own coins 1:1 against it, coins are
  taken from / paid to the signer only (msg_server.go:1201,1216,1350,1366).
* `vault.MsgVaultInterestCalc`, `locker.MsgLockerRewardCalc` — anyone may trigger the accrual that the next owner
  interaction would apply anyway; nothing is moved, reduced or closed (msg_server.go:1435, locker msg_server.go:374).
* `lend.CalculateInterestAndRewards` — the position ids come from the signer's own mapping
  (`GetUserTotalMappingData(addr)`), and each callee re-checks `lendPos.Owner != addr` (keeper.go:1767,1854); the extractor sees
  those checks only as conditional (inside loops, one error is `continue`d).
* `liquidity.MMOrder`, `liquidity.CancelMMOrder` — order ids are read from the MM-order index keyed by the signer
  (`GetMMOrderIndex(ctx, orderer, …)`, swap.go:556); no id comes from the message.
* `auctionsV2.MsgPlaceMarketBid` — a bid on a running auction of an already liquidated position; any bidder may bid, the
  borrow/lend records are read to settle the auction.
* `auction.MsgPlaceDutchLendBid` — the gen-1 counterpart for lend auctions: any bidder; the liquidated borrow / lend records are
  read to settle (the auction itself is found by the key (app, mapping, auction id) of the message).
* `liquidation.MsgLiquidateVault`, `liquidation.MsgLiquidateBorrow`, `liquidationsV2.MsgLiquidateInternalKeeper` —
  liquidation of an unhealthy position by any keeper is the mechanism itself; the guard is the health test, not ownership. -/
def ownerless : List String := [
  "vault.MsgDepositStableMint", "vault.MsgWithdrawStableMint", "vault.MsgVaultInterestCalc",
  "locker.MsgLockerRewardCalc", "lend.CalculateInterestAndRewards", "liquidity.MMOrder", "liquidity.CancelMMOrder",
  "auctionsV2.MsgPlaceMarketBid", "liquidation.MsgLiquidateVault", "liquidation.MsgLiquidateBorrow",
  "liquidationsV2.MsgLiquidateInternalKeeper", "auction.MsgPlaceDutchLendBid"]

theorem not_owner_authorised_pinned : (handlers.filter fun h => !ownerAuthorised h).map qname = ownerless :=
  (pin_of_col .noOwnerCheck).trans rfl

/-- **Every** MsgServer method of the table: on every route to a successful return that can follow a position read not keyed
by the signer, the owner comparison is executed — or the handler is on the reviewed allow-list. -/
theorem position_handlers_owner_guarded : ∀ h ∈ handlers, ownerAuthorised h = true ∨ qname h ∈ ownerless := by
  intro h hh
  cases hb : ownerAuthorised h
  · exact .inr (mem_of_pin not_owner_authorised_pinned hh (by simp [hb]))
  · exact .inl rfl

/-- no stale allow-list entry: each one is a handler of the table that really lacks the owner domination -/
theorem ownerless_tight : ∀ q ∈ ownerless, ∃ h ∈ handlers, qname h = q ∧ ownerAuthorised h = false := by
  intro q hq
  obtain ⟨h, hh, hn, hp⟩ := exists_of_pin not_owner_authorised_pinned hq
  exact ⟨h, hh, hn, by simpa using hp⟩

theorem owner_checked_pinned :
    (handlers.filter fun h => namesUnkeyed h && ownerAuthorised h).map qname =
      ["vault.MsgDeposit", "vault.MsgWithdraw", "vault.MsgDraw", "vault.MsgRepay", "vault.MsgClose", "vault.MsgDepositAndDraw",
       "locker.MsgDepositAsset", "locker.MsgWithdrawAsset", "locker.MsgCloseLocker",
       "lend.Lend", "lend.Withdraw", "lend.Deposit", "lend.CloseLend", "lend.Borrow", "lend.Repay", "lend.DepositBorrow",
       "lend.Draw", "lend.CloseBorrow", "lend.BorrowAlternate", "lend.RepayWithdraw", "liquidity.CancelOrder"] :=
  (pin_of_col .ownerChecked).trans rfl

/-- handlers whose position reads are all keyed by the signer (orders of the signer, farm position of the signer, limit bid
of the signer): a non-owner cannot name them at all -/
theorem signer_keyed_pinned :
    (handlers.filter fun h => namesPosition h && !namesUnkeyed h).map qname =
      ["liquidity.CancelAllOrders", "liquidity.Farm", "liquidity.Unfarm", "liquidity.DepositAndFarm",
       "liquidity.UnfarmAndWithdraw", "auctionsV2.MsgDepositLimitBid", "auctionsV2.MsgCancelLimitBid",
       "auctionsV2.MsgWithdrawLimitBid"] :=
  (pin_of_col .signerKeyed).trans rfl

/-- the owner comparison comes after a state write on some route (accrual first): rejection relies on the message cache -/
theorem owner_after_write_pinned :
    (handlers.filter ownerAfterWrite).map qname =
      ["vault.MsgDepositAndDraw", "lend.Lend", "lend.Withdraw", "lend.Deposit", "lend.CloseLend", "lend.Borrow",
       "lend.BorrowAlternate", "lend.CalculateInterestAndRewards", "lend.RepayWithdraw"] :=
  (pin_of_col .ownerAfterWrite).trans rfl

theorem nonowner_rejected_on_every_route {σ : Type} :
    ∀ h ∈ handlers, qname h ∉ ownerless → ∀ p ∈ exits h.items, namesAt p.1 p.2 = true →
      ∀ (sem : Sem σ) (e : Env) (s : σ), e.signerIsOwner = false →
        deliver (stepsOf sem (routeOf p.1 p.2)) e s = (s, false) := by
  intro h hh hno p hp hn sem e s hs
  have hauth := (position_handlers_owner_guarded h hh).resolve_right hno
  exact route_rejects_class sem _ .ownerEq false e s (ownerAuthorised_exit hauth hp hn) (by decide) (ownerEq_fails hs)

/-- A message that carries a position id AND descriptive ids (app, extended pair / product, asset) must act only on the position
those ids describe: the handler compares the stored position's fields with them, each comparison standing alone (two
mismatch tests joined by `&&` reject only when BOTH mismatch, so e.g. a vault of the same app but another product would get
through). Expected, read off the `!=` comparisons of the handlers in the Go source (each pair dominates every exit that
follows the position read): -/
def expectedConsistency : List (String × List String) := [
  ("vault.MsgDeposit", ["AppId", "ExtendedPairVaultID"]), ("vault.MsgWithdraw", ["AppId", "ExtendedPairVaultID"]),
  ("vault.MsgDraw", ["AppId", "ExtendedPairVaultID"]), ("vault.MsgRepay", ["AppId", "ExtendedPairVaultID"]),
  ("vault.MsgClose", ["AppId", "ExtendedPairVaultID"]), ("vault.MsgDepositAndDraw", ["AppId", "ExtendedPairVaultID"]),
  ("vault.MsgDepositStableMint", ["AppId", "ExtendedPairVaultID"]),
  ("vault.MsgWithdrawStableMint", ["AppId", "ExtendedPairVaultID"]),
  ("locker.MsgDepositAsset", ["AssetDepositId", "AppId"]), ("locker.MsgWithdrawAsset", ["AssetDepositId", "AppId"]),
  ("locker.MsgCloseLocker", ["AssetDepositId", "AppId"]), ("locker.MsgLockerRewardCalc", ["AppId"]),
  ("lend.Borrow", ["AssetID"]), ("auctionsV2.MsgWithdrawLimitBid", ["DebtToken.Denom"]),
  ("liquidation.MsgLiquidateVault", ["AppId"])]

theorem spec_consistency : Spec.consistencyExpected = expectedConsistency.map (·.1) := rfl

theorem no_weak_consistency_guard : ∀ h ∈ handlers, hasWeakConsistency h = false := by decide +kernel

/-- all consistency comparisons the table contains, per handler, with whether they dominate every exit (the lend denom checks
come after early successful returns of inlined accrual helpers / the exact-debt close shortcut and are pinned as such) -/
theorem consistency_rows_pinned :
    ((handlers.filter fun h => !(consistencyTags h).isEmpty).map fun h =>
        (qname h, (consistencyTags h).map fun t => (t, consistencyGuarded h t))) =
      [("vault.MsgDeposit", [("AppId", true), ("ExtendedPairVaultID", true)]),
       ("vault.MsgWithdraw", [("AppId", true), ("ExtendedPairVaultID", true)]),
       ("vault.MsgDraw", [("AppId", true), ("ExtendedPairVaultID", true)]),
       ("vault.MsgRepay", [("AppId", true), ("ExtendedPairVaultID", true)]),
       ("vault.MsgClose", [("AppId", true), ("ExtendedPairVaultID", true)]),
       ("vault.MsgDepositAndDraw", [("AppId", true), ("ExtendedPairVaultID", true)]),
       ("vault.MsgDepositStableMint", [("AppId", true), ("ExtendedPairVaultID", true)]),
       ("vault.MsgWithdrawStableMint", [("AppId", true), ("ExtendedPairVaultID", true)]),
       ("locker.MsgDepositAsset", [("AssetDepositId", true), ("AppId", true)]),
       ("locker.MsgWithdrawAsset", [("AssetDepositId", true), ("AppId", true)]),
       ("locker.MsgCloseLocker", [("AssetDepositId", true), ("AppId", true)]),
       ("locker.MsgLockerRewardCalc", [("AppId", true)]),
       ("lend.Borrow", [("AssetID", true), ("AmountOut.Denom", false)]),
       ("lend.Repay", [("AmountOut.Denom", false)]), ("lend.Draw", [("AmountOut.Denom", false)]),
       ("lend.BorrowAlternate", [("AssetID", false), ("AmountOut.Denom", false)]),
       ("auctionsV2.MsgWithdrawLimitBid", [("DebtToken.Denom", true)]),
       ("liquidation.MsgLiquidateVault", [("AppId", true)])] :=
  (pin_of_matrix matrix_pinned (p := fun h => !(consistencyTags h).isEmpty) (fun s => !s.2.isEmpty) (fun r => (r.1, r.2.2))
    (fun _ => by simp [sigOf]) fun _ => rfl).trans rfl

theorem consistencyGuarded_of_rows {rows : List (String × List (String × Bool))} {expected : List (String × List String)}
    (hpin : ((handlers.filter fun h => !(consistencyTags h).isEmpty).map fun h =>
      (qname h, (consistencyTags h).map fun t => (t, consistencyGuarded h t))) = rows)
    (hexp : ∀ p ∈ expected, ∃ r ∈ rows, r.1 = p.1 ∧ ∀ t ∈ p.2, (t, true) ∈ r.2) :
    ∀ p ∈ expected, ∃ h ∈ handlers, qname h = p.1 ∧ ∀ t ∈ p.2, consistencyGuarded h t = true := by
  intro p hp
  obtain ⟨r, hr, hn, ht⟩ := hexp p hp
  obtain ⟨h, hh, rfl, -⟩ := exists_of_pin hpin hr
  refine ⟨h, hh, hn, fun t htp => ?_⟩
  obtain ⟨t', -, he⟩ := List.mem_map.mp (ht t htp)
  exact (Prod.mk.inj he).1 ▸ (Prod.mk.inj he).2

theorem position_consistency_guarded :
    ∀ p ∈ expectedConsistency, ∃ h ∈ handlers, qname h = p.1 ∧ ∀ t ∈ p.2, consistencyGuarded h t = true :=
  consistencyGuarded_of_rows consistency_rows_pinned (by decide +kernel)

/-- the extracted guard of each of the 20 custom handlers IS the expected guard: variant order, both networks with their chain
id, the address list and the contract index, the guard is the first statement, other chain ids fall through -/
theorem wasm_guards_expected :
    wasmHandlers.map (fun h => (h.variant, h.arms, h.guardFirst, h.otherChainsOpen)) =
      Spec.wasmExpected.map (fun p => (p.1, Spec.wasmArmsFor p.2, true, true)) := rfl

theorem wasm_addr_lists : wasmAddrLists = Spec.wasmAddrs := rfl

theorem wasm_authorized_of_arms (h : WasmHandler) (idx : Nat) (harms : h.arms = Spec.wasmArmsFor idx)
    (chain lst : String) (hn : (chain, lst) ∈ Spec.wasmNetworks) (sender : String) :
    wasmAuthorized h chain sender = (sender == ((Spec.wasmAddrs.lookup lst).getD []).getD idx "") := by
  simp only [Spec.wasmNetworks, List.mem_cons, Prod.mk.injEq, List.mem_nil_iff, or_false] at hn
  rcases hn with ⟨h1, h2⟩ | ⟨h1, h2⟩ <;> subst h1 <;> subst h2 <;>
    simp [wasmAuthorized, harms, Spec.wasmArmsFor, Spec.wasmNetworks, List.find?]

theorem wasm_designated_table : ∀ p ∈ Spec.wasmExpected, ∀ q ∈ Spec.wasmNetworks,
    Spec.wasmDesignated p.1 q.1 = some (((Spec.wasmAddrs.lookup q.2).getD []).getD p.2 "") := by
  have hv : ∀ p ∈ Spec.wasmExpected, Spec.wasmExpected.lookup p.1 = some p.2 ∧ (p.2 = 0 ∨ p.2 = 1) := by decide +kernel
  intro p hp q hq
  obtain ⟨hl, hi⟩ := hv p hp
  -- the 63-character addresses are read off the lists, never compared
  simp only [Spec.wasmNetworks, List.mem_cons, List.mem_nil_iff, or_false] at hq
  simp only [Spec.wasmDesignated, hl]
  rcases hq with rfl | rfl <;> rcases hi with h | h <;> rw [h] <;> rfl

theorem wasm_authorized_iff_designated :
    ∀ h ∈ wasmHandlers, ∀ p ∈ Spec.wasmNetworks, ∀ sender : String,
      wasmAuthorized h p.1 sender = (some sender == Spec.wasmDesignated h.variant p.1) := by
  intro h hh p hp sender
  have hex := wasm_guards_expected
  have : ∃ idx, (h.variant, idx) ∈ Spec.wasmExpected ∧ h.arms = Spec.wasmArmsFor idx := by
    have hm : (h.variant, h.arms, h.guardFirst, h.otherChainsOpen) ∈
        wasmHandlers.map (fun h => (h.variant, h.arms, h.guardFirst, h.otherChainsOpen)) :=
      List.mem_map.mpr ⟨h, hh, rfl⟩
    rw [hex] at hm
    obtain ⟨q, hq, he⟩ := List.mem_map.mp hm
    simp only [Prod.mk.injEq] at he
    exact ⟨q.2, by rw [← he.1]; exact hq, he.2.1.symm⟩
  obtain ⟨idx, hidx, harms⟩ := this
  obtain ⟨chain, lst⟩ := p
  rw [wasm_authorized_of_arms h idx harms chain lst hp sender]
  rw [wasm_designated_table (h.variant, idx) hidx (chain, lst) hp]
  simp

/-- kill switch: the admin test dominates every exit and nothing is written before it -/
theorem admin_only_killswitch :
    ∀ q ∈ Spec.adminOnly, ∃ h ∈ handlers, qname h = q ∧ guarded 6 true h = true := by
  simp only [guarded_eq_scan]; decide +kernel

theorem admin_only_pinned : (handlers.filter (guarded 6 false)).map qname = ["esm.MsgKillSwitch"] :=
  (pin_of_col .admin).trans rfl

/-- the expected lists restated from the property text (the driver's monitors use `Spec.*`) -/
theorem spec_admin : Spec.adminOnly = ["esm.MsgKillSwitch"] := rfl
theorem spec_wasm_count : Spec.wasmExpected.length = 20 ∧ (Spec.wasmExpected.filter (·.2 == 0)).length = 15 ∧
    (Spec.wasmExpected.filter (·.2 == 1)).map (·.1) =
      ["MsgEmissionRewards", "MsgFoundationEmission", "MsgRebaseMint", "MsgGetSurplusFund", "MsgEmissionPoolRewards"] := by decide +kernel

/-! ## sizes and spot entries (an extractor that silently returns nothing fails here) -/

theorem table_sizes : handlers.length = 70 ∧ wasmHandlers.length = 20 ∧ sweeps.length = 10 ∧ wasmAddrLists.length = 2 := by decide +kernel

theorem every_handler_has_exit : ∀ h ∈ handlers, hasExit h = true := by decide +kernel

/-- the message signer field found in each module's `GetSigners` -/
theorem spot_signers :
    (["vault.MsgRepay", "locker.MsgCloseLocker", "lend.Withdraw", "lend.Repay", "liquidity.CancelOrder", "liquidity.Unfarm",
      "auctionsV2.MsgWithdrawLimitBid", "esm.MsgKillSwitch"].map fun q => (find? q).map (·.signer)) =
    [some "From", some "Depositor", some "Lender", some "Borrower", some "Orderer", some "Farmer", some "Bidder", some "From"] := by
  decide +kernel

/-- vault.MsgRepay: the classified unconditional trunk guards in order, each before the first write -/
theorem spot_vault_repay :
    ((find? "vault.MsgRepay").map fun h =>
      (h.items.filter fun it => it.kind == 0 && it.cls != 0 && it.cls < 7 && !it.cond).map fun it => (it.cls, it.wb)) =
    some [(2, false), (3, false), (1, false)] := by decide +kernel

/-- lend.Withdraw: early close branch (path length 1) = breaker, (write), owner; trunk = breaker, (accrual write), owner -/
theorem spot_lend_withdraw :
    ((find? "lend.Withdraw").map fun h =>
      (h.items.filter fun it => it.kind == 0 && it.cls != 0 && it.cls < 7 && !it.cond).map fun it => (it.cls, it.path.length, it.wb)) =
    some [(3, 1, false), (1, 1, true), (3, 0, false), (1, 0, true)] := by decide +kernel

/-- liquidity.CancelOrder: un-keyed order read, then the owner comparison, nothing written before -/
theorem spot_cancel_order :
    ((find? "liquidity.CancelOrder").map fun h =>
      (h.items.filter fun it => (it.kind == 0 && it.cls != 0 && it.cls < 7) || it.kind == 2).map fun it => (it.kind, it.cls, it.keyed, it.wb)) =
    some [(2, 0, false, false), (0, 1, false, false)] := by decide +kernel

/-! ## the inventory of entry points (scope of the property: EVERY way state can be changed from outside)

`entryPoints` (regenerated, extract/guards/entry.go): every method of every protobuf `MsgServer` interface of x/*, every content
type of every governance proposal handler (x/*/handler.go, x/*/keeper/gov.go), every custom wasm variant, the IBC callbacks of
x/bandoracle, every Begin/EndBlocker, every registered store migration, every upgrade handler of app/upgrades — each with who may
call it as found in the code. -/

/-- every entry point is classified: its caller class is one of the known ones (the extractor writes `unknown` when it cannot
tell: a message without handler or signer field, a proposal case that ends in no keeper function, a wasm variant without a
leading guard), and `none` is used exactly for code that is not wired into the app -/
theorem entry_points_classified :
    ∀ e ∈ entryPoints, e.caller ∈ callerClasses ∧ ((e.caller == "none") = !e.registered) := by decide +kernel

theorem entry_point_counts :
    (["msg", "proposal", "wasm", "ibc", "blocker", "migration", "upgrade"].map fun k => (entryPoints.filter (·.kind == k)).length) =
      [70, 26, 20, 9, 13, 3, 23] ∧ entryPoints.length = 164 := by decide +kernel

/-- the handler table is the protobuf interface in another order (module by module); compared by (module, name): the
concatenated names would be longer strings to walk -/
theorem handlers_perm_pbMsgMethods : (handlers.map fun h => (h.module, h.name)).Perm pbMsgMethods := by decide +kernel

/-- the message entry points ARE the methods of the protobuf MsgServer interfaces (what the msg-service router can route), in
order, and each has a flattened handler in the table; the table has no handler beyond them -/
theorem msg_entry_points_complete :
    (entryPoints.filter (·.kind == "msg")).map (fun e => (e.module, e.name)) = pbMsgMethods ∧
    (∀ m ∈ pbMsgMethods, (find? (m.1 ++ "." ++ m.2)).isSome = true) ∧
    (∀ h ∈ handlers, (h.module, h.name) ∈ pbMsgMethods) ∧ pbMsgMethods.length = 70 := by
  refine ⟨rfl, fun m hm => ?_, fun h hh => handlers_perm_pbMsgMethods.mem_iff.mp (List.mem_map_of_mem hh), rfl⟩
  obtain ⟨h, hh, rfl⟩ := List.mem_map.mp (handlers_perm_pbMsgMethods.mem_iff.mpr hm)
  exact List.find?_isSome.mpr ⟨h, hh, beq_self_eq_true (qname h)⟩

/-- **every position-naming entry point** (a position record that is not keyed by the caller is read) is a message whose
handler checks the owner on every route to success, or is on the reviewed `ownerless` list -/
theorem position_naming_entry_points_guarded :
    ∀ e ∈ entryPoints, e.namesPosition = true → entryOwnerGuarded ownerless e = true := by
  have hmsg : ∀ e ∈ entryPoints, e.namesPosition = true → e.kind = "msg" := by decide +kernel
  intro e he hn
  have hk := hmsg e he hn
  -- a message entry point is a protobuf method, so it has a handler in the table
  obtain ⟨hpb, hfind, -, -⟩ := msg_entry_points_complete
  have hs := hfind _ (hpb ▸ List.mem_map_of_mem (List.mem_filter.mpr ⟨he, by simp [hk]⟩))
  simp only [entryOwnerGuarded, hk, epName, beq_self_eq_true, Bool.true_and]
  cases hf : find? (e.module ++ "." ++ e.name) with
  | none => simp [hf] at hs
  | some h => simpa using position_handlers_owner_guarded h (List.mem_of_find?_eq_some hf)

/-- no proposal handler, wasm variant, IBC callback, migration or upgrade handler takes a position id from its caller; the ones
that READ position records at all (to sweep / iterate them) are pinned -/
theorem nonmsg_position_readers_pinned :
    ((entryPoints.filter fun e => e.kind != "msg" && (e.namesPosition || e.readsPos)).map fun e => (e.kind, epName e, e.namesPosition)) =
      [("wasm", "wasm.MsgUpdatePairsVault", false), ("wasm", "wasm.MsgUpdateCollectorLookupTable", false),
       ("wasm", "wasm.MsgEmissionRewards", false),
       ("blocker", "auction.BeginBlocker", false), ("blocker", "auctionsV2.BeginBlocker", false),
       ("blocker", "liquidation.BeginBlocker", false), ("blocker", "liquidationsV2.BeginBlocker", false),
       ("blocker", "liquidity.EndBlocker", false), ("blocker", "rewards.BeginBlocker", false)] := by decide +kernel

/-- the proposal handlers: all routed, none with another caller; their constructors; for two modules the keeper functions -/
theorem proposals_pinned :
    proposals.length = 26 ∧ (∀ p ∈ proposals, p.routed = true ∧ p.writes = true ∧ p.otherCallers = []) ∧
    (proposals.map (·.ctor)).eraseDups =
      ["NewUpdateAssetProposalHandler", "NewAuctionsV2Handler", "NewFetchPriceHandler", "NewLendHandler",
       "NewLiquidationsV2Handler", "NewLiquidityProposalHandler"] ∧
    ((proposals.filter fun p => p.module == "liquidity" || p.module == "bandoracle").map fun p => (p.content, p.keeperFn, p.targets)) =
      [("FetchPriceProposal", "bandoracle.HandleProposalFetchPrice", ["bandoracle.AddFetchPriceRecords"]),
       ("UpdateGenericParamsProposal", "liquidity.HandelUpdateGenericParamsProposal", ["liquidity.UpdateGenericParams"]),
       ("CreateNewLiquidityPairProposal", "liquidity.HandelCreateNewLiquidityPairProposal", ["liquidity.CreatePair"])] :=
  ⟨rfl, by decide +kernel, by decide +kernel, rfl⟩

/-- **every privileged entry point has its authority guard before its first write** (see `entryGuarded`): the admin test of the
kill switch; for each of the 26 proposal contents the gov router is the only way to the keeper function; for each of the 20 wasm
variants the chain-id / sender comparison is the first statement -/
theorem privileged_entry_points_guarded : ∀ e ∈ entryPoints, epPrivileged e = true → entryGuarded e = true := by
  -- the gov / contract entry points ARE the rows of `proposals` / `wasmHandlers`, and every row passes
  have hgov : (entryPoints.filter (·.caller == "gov")).map (fun e => (e.kind, e.registered, e.module, e.name, e.target)) =
      proposals.map fun p => ("proposal", true, p.module, p.content, p.keeperFn) := rfl
  have hwasm : (entryPoints.filter (·.caller == "contract")).map (fun e => (e.kind, e.name)) =
      wasmHandlers.map fun h => ("wasm", h.variant) := rfl
  -- (arm index 999: a contract index the extractor could not resolve)
  have hfn : ∀ p ∈ proposals, (p.keeperFn != "") = true := by decide +kernel
  have hw : ∀ h ∈ wasmHandlers,
      (h.guardFirst && !h.arms.isEmpty && h.arms.all fun a => a.idx != 999 && a.addr != "") = true := by decide +kernel
  have hadmin : ∀ e ∈ entryPoints, e.caller = "admin" → entryGuarded e = true := by
    simp only [entryGuarded, guarded_eq_scan]; decide +kernel
  intro e he hpriv
  simp only [epPrivileged, Bool.or_eq_true, beq_iff_eq] at hpriv
  rcases hpriv with (hc | hc) | hc
  · exact hadmin e he hc
  · obtain ⟨p, hpm, hpe⟩ := List.mem_map.mp (mem_of_pin hgov he (by simp [hc]))
    simp only [Prod.mk.injEq] at hpe
    obtain ⟨hk, hr, hmod, hcont, htgt⟩ := hpe
    have hany : (proposals.any fun p => p.module == e.module && p.content == e.name && p.routed && p.otherCallers.isEmpty &&
        p.keeperFn == e.target && p.keeperFn != "") = true :=
      List.any_eq_true.mpr ⟨p, hpm, by simp [hmod, hcont, ← htgt, hfn p hpm, proposals_pinned.2.1 p hpm]⟩
    simp [entryGuarded, hc, ← hk, ← hr, hany]
  · obtain ⟨h, hm, hpe⟩ := List.mem_map.mp (mem_of_pin hwasm he (by simp [hc]))
    simp only [Prod.mk.injEq] at hpe
    simp only [entryGuarded, hc, ← hpe.1, wasmFind?]
    cases hf : wasmHandlers.find? (fun h => h.variant == e.name) with
    | none => exact absurd (List.find?_eq_none.mp hf h hm) (by simp [hpe.2])
    | some h' => simpa using hw h' (List.mem_of_find?_eq_some hf)

/-- which entry points are privileged — pinned, so that a privileged operation that silently becomes callable by anyone (its
class turns into `signer`) or a new one fails here -/
theorem privileged_entry_points_pinned :
    ((entryPoints.filter epPrivileged).map fun e => (e.caller, epName e)) =
      [("admin", "esm.MsgKillSwitch"),
       ("gov", "asset.AddAssetsProposal"), ("gov", "asset.AddMultipleAssetsProposal"), ("gov", "asset.UpdateAssetProposal"),
       ("gov", "asset.AddPairsProposal"), ("gov", "asset.AddMultiplePairsProposal"), ("gov", "asset.UpdatePairProposal"),
       ("gov", "asset.UpdateGovTimeInAppProposal"), ("gov", "asset.AddAppProposal"), ("gov", "asset.AddAssetInAppProposal"),
       ("gov", "asset.AddMultipleAssetsPairsProposal"), ("gov", "auctionsV2.DutchAutoBidParamsProposal"),
       ("gov", "bandoracle.FetchPriceProposal"),
       ("gov", "lend.LendPairsProposal"), ("gov", "lend.MultipleLendPairsProposal"), ("gov", "lend.AddPoolsProposal"),
       ("gov", "lend.AddAssetToPairProposal"), ("gov", "lend.AddMultipleAssetToPairProposal"), ("gov", "lend.AddAssetRatesParams"),
       ("gov", "lend.AddAuctionParamsProposal"), ("gov", "lend.AddPoolPairsProposal"),
       ("gov", "lend.AddAssetRatesPoolPairsProposal"), ("gov", "lend.AddPoolDepreciateProposal"), ("gov", "lend.AddEModePairsProposal"),
       ("gov", "liquidationsV2.WhitelistLiquidationProposal"),
       ("gov", "liquidity.UpdateGenericParamsProposal"), ("gov", "liquidity.CreateNewLiquidityPairProposal")] ++
      Spec.wasmExpected.map (fun p => ("contract", "wasm." ++ p.1)) := by decide +kernel

/-- not wired into the app (wiring one in changes the scope): the gen-1 auction and liquidation BeginBlockers (their
`AppModule.BeginBlock` bodies are commented out) and all upgrade handlers but `mainnet/v13`; the rest pins what IS wired -/
theorem unwired_entry_points_pinned :
    ((entryPoints.filter fun e => e.caller == "none" && e.kind != "upgrade").map fun e => (e.kind, epName e)) =
      [("blocker", "auction.BeginBlocker"), ("blocker", "liquidation.BeginBlocker")] ∧
    ((entryPoints.filter fun e => e.kind == "upgrade" && e.registered).map epName) = ["mainnet/v13.CreateUpgradeHandlerV13"] ∧
    ((entryPoints.filter fun e => e.kind == "migration").map fun e => (epName e, e.via)) =
      [("lend.Migrate2to3", "from v2"), ("liquidity.Migrate1to2", "from v1"), ("rewards.Migrate2to3", "from v2")] ∧
    ((entryPoints.filter fun e => e.kind == "blocker" && e.registered).map epName) =
      ["asset.BeginBlocker", "auctionsV2.BeginBlocker", "bandoracle.BeginBlocker", "esm.BeginBlocker", "lend.BeginBlocker",
       "liquidationsV2.BeginBlocker", "liquidity.BeginBlocker", "liquidity.EndBlocker", "market.BeginBlocker",
       "rewards.BeginBlocker", "rewards.EndBlocker"] := by decide +kernel

/-- IBC callbacks of x/bandoracle: the channel handshake tests port and version before anything is claimed; a received packet is
looked at only when its destination channel is the configured source channel (before the write of the result). The
acknowledgement callback writes `LastFetchPriceID` without a test of its own: IBC core calls it only for a packet this chain
sent (packet commitment) — trusted, recorded. -/
theorem ibc_callbacks_pinned :
    (ibcCallbacks.map fun c => (c.name, c.guard, c.writes, c.guardFirst)) =
      [("OnChanOpenInit", "port+version", false, true), ("OnChanOpenTry", "port+version", false, true),
       ("OnChanOpenAck", "version", false, true), ("OnChanOpenConfirm", "none", false, false),
       ("OnChanCloseInit", "none", false, false), ("OnChanCloseConfirm", "none", false, false),
       ("OnRecvPacket", "channel", true, true), ("OnAcknowledgementPacket", "none", true, false),
       ("OnTimeoutPacket", "none", false, false)] := rfl

/-- the keeper functions behind proposal handlers and wasm variants ("privileged targets") are reached from NO MsgServer method
through the call graph — except the two reviewed ones:
* `asset.AddAssetRecords` ← `asset.AddAsset`: MsgAddAsset is the fee-paying public asset registration (x/asset/keeper/asset.go:235,
  the fee `Params.AssetRegisrationFee` is taken from the signer first); it can only ADD an asset record with a fresh name/denom.
* `liquidity.CreatePair` ← `liquidity.CreatePair`: the public pair creation pays `PairCreationFee`; the proposal path calls the same
  function with `isViaProp = true` (no fee). -/
theorem privileged_targets_reach_pinned :
    privTargets.length = 71 ∧ (∀ t ∈ privTargets, t.writes = true) ∧
    ((privTargets.filter fun t => !t.msgReach.isEmpty).map fun t => (t.target, t.msgReach)) =
      [("asset.AddAssetRecords", ["asset.AddAsset"]), ("liquidity.CreatePair", ["liquidity.CreatePair"])] := by decide +kernel

/-- the model of the gov route: content executed with an authority that is not the gov module account changes nothing -/
theorem gov_only_blocks {σ : Type} (handler : σ → Except GClass σ) (s : σ) :
    execLegacyContent false handler s = (s, false) := rfl

theorem gov_authority_runs_handler {σ : Type} (handler : σ → Except GClass σ) (s : σ) :
    execLegacyContent true handler s = applyIfNoError handler s := rfl

example : execLegacyContent false (fun (n : Nat) => .ok (n + 1)) 5 = (5, false) := rfl
example : execLegacyContent true (fun (n : Nat) => .ok (n + 1)) 5 = (6, true) := rfl
example : (entryPoints.filter epPrivileged).length = 47 := by decide +kernel
example : (entryPoints.filter fun e => e.namesPosition).length = 33 := by decide +kernel

theorem spot_entry_points :
    ((entryPoints.filter fun e => epName e ∈ ["esm.MsgKillSwitch", "tokenmint.MsgMintNewTokens", "collector.Deposit", "asset.AddAsset",
        "wasm.MsgRebaseMint", "asset.AddAppProposal", "bandoracle.OnRecvPacket", "esm.ExecuteESM"]).map
      fun e => (e.kind, epName e, e.caller, e.via, e.target)) =
    [("msg", "asset.AddAsset", "signer", "Creator", ""), ("msg", "collector.Deposit", "signer", "Addr", ""),
     ("msg", "esm.ExecuteESM", "signer", "Depositor", ""), ("msg", "esm.MsgKillSwitch", "admin", "From", ""),
     ("msg", "tokenmint.MsgMintNewTokens", "signer", "From", ""),
     ("proposal", "asset.AddAppProposal", "gov", "NewUpdateAssetProposalHandler", "asset.HandleAddAppRecords"),
     ("wasm", "wasm.MsgRebaseMint", "contract", "comdex-1:comdex1[1],comdex-test3:testnet3[1]", "tokenmint.WasmMsgRebaseMint"),
     ("ibc", "bandoracle.OnRecvPacket", "ibc", "channel", "")] := by decide +kernel

end Comdex.C12
