import Comdex.Gen.Pure
import Comdex.Lemmas.GoSem
import Comdex.Model.Vault
/-!
# C02 — the cross-decimal conversion of the stable-mint path IS the arithmetic of the current Go source

`Gen.Pure.vaultAmountOfOtherToken` is regenerated on every run by `extract/pure` from
`x/vault/keeper/vault.go: GetAmountOfOtherToken`.  The function is "read two asset records, then arithmetic": the two
`k.asset.GetAsset(ctx, id)` reads are declared state reads in the translator's spec — their results (`asset.Decimals`,
`found`) become PARAMETERS of the Lean function (notes/PURE.md "keeper reads become parameters"); `error` results are
`Bool` ("is not nil").  `Vault.otherToken` is the hand-written model (both rates = 1, the stable-mint call) used by the
C02 delivery theorems (`mint_delivers_stable`, `otherToken_nonneg`).

Go function → theorem
* `GetAmountOfOtherToken` → `pure_vaultAmountOfOtherToken_eq_model`: with both assets found and both rates 1, whenever the
  translated function returns it returns no error, the model's token amount and the model's intermediate `t1dAmount`; it
  panics with a division by zero only if `asset1.Decimals = 0` (the model has no such guard: `Dec.quo` by 0 is total in
  Lean; asset decimals are validated positive); 315/256-bit overflow panics of the code have no counterpart in the model.
  (instance of `vaultAmountOfOtherToken_agrees`, for ALL rates)
* `pure_vaultAmountOfOtherToken_not_found`: a missing asset record returns the error and zeros.

Trusted: the translator's reading of Go (incl. the `reads` declaration) and `Base/GoSem.lean`; kernel-checked: the relation.
-/
set_option exponentiation.threshold 512 -- `Dec.fits`, `Dec.fitsInt` compare with `2 ^ 315`, `2 ^ 256`
namespace Comdex.C02
open Comdex.GoSem

theorem vaultAmountOfOtherToken_agrees (rate1 rate2 : Dec) (amt dec1 dec2 : Int) :
    Agrees (Gen.Pure.vaultAmountOfOtherToken rate1 amt rate2 dec1 true dec2 true)
      (if Dec.ofInt dec1 = 0 then none else if rate2 = 0 then none else
        let t1d := Dec.quo (Dec.mul (Dec.ofInt amt) rate1) (Dec.ofInt dec1)
        some (t1d, Dec.truncateInt (Dec.mul (Dec.quo t1d rate2) (Dec.ofInt dec2)), false)) := by
  unfold Gen.Pure.vaultAmountOfOtherToken
  simp only [agrees, not_true_eq_false, if_false]
  -- left: `if ofInt dec1 = 0 then m = none else (… → if rate2 = 0 then m = none else (… → m = some v))`
  intro (_ : Dec.fits (Dec.mul (Dec.ofInt amt) rate1) = true)
  split
  · rfl
  · intro (_ : Dec.fits (Dec.quo (Dec.mul (Dec.ofInt amt) rate1) (Dec.ofInt dec1)) = true)
    split
    · rfl
    · intros; rfl

theorem pure_vaultAmountOfOtherToken_eq_model (amt dec1 dec2 : Int) :
    match Gen.Pure.vaultAmountOfOtherToken Dec.one amt Dec.one dec1 true dec2 true with
    | .ok (t1d, tok, err) => err = false ∧ tok = Vault.otherToken amt dec1 dec2 ∧
        t1d = Dec.quo (Dec.mul (Dec.ofInt amt) Dec.one) (Dec.ofInt dec1)
    | .error .panic => dec1 = 0
    | .error .overflow => True := by
  have h := vaultAmountOfOtherToken_agrees Dec.one Dec.one amt dec1 dec2
  have hz : Dec.ofInt dec1 = 0 ↔ dec1 = 0 := Dec.ofInt_eq_zero
  rw [if_neg (show ¬ Dec.one = 0 by decide)] at h
  revert h
  generalize Gen.Pure.vaultAmountOfOtherToken Dec.one amt Dec.one dec1 true dec2 true = g
  intro h
  match g, h with
  | .ok _, h =>
    split at h
    · cases h
    · cases h; exact ⟨rfl, rfl, rfl⟩
  | .error .panic, h =>
    split at h
    · exact hz.mp ‹_›
    · cases h
  | .error .overflow, _ => trivial

theorem pure_vaultAmountOfOtherToken_not_found (rate1 rate2 : Dec) (amt dec1 dec2 : Int) (f2 : Bool) :
    Gen.Pure.vaultAmountOfOtherToken rate1 amt rate2 dec1 false dec2 f2 = .ok (0, 0, true) ∧
    Gen.Pure.vaultAmountOfOtherToken rate1 amt rate2 dec1 true dec2 false = .ok (0, 0, true) := by
  constructor <;> rfl

/-! non-vacuity: 5 units of a 6-decimal asset are 5·10^12 units of an 18-decimal asset; the translation really returns -/
example : Gen.Pure.vaultAmountOfOtherToken Dec.one 5000000 Dec.one 1000000 true 1000000000000000000 true
    = .ok (5000000000000000000, 5000000000000000000, false) := by rfl
example : Vault.otherToken 5000000 1000000 1000000000000000000 = 5000000000000000000 := by rfl
example : Gen.Pure.vaultAmountOfOtherToken Dec.one 5 Dec.one 0 true 1 true = .error .panic := by rfl

end Comdex.C02
