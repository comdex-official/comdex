import Comdex.Props.C01Effects
/-!
# C02 — where the debt asset's SUPPLY changes: the regenerated mint / burn sites of x/vault are the model's

C02 (no unbacked stablecoin) speaks about `MintCoins` / `BurnCoins` of the debt asset.  `Props/C01Effects.lean` ties the whole
bank skeleton of the eleven vault handlers (regenerated by extract/effects on every run) to `Model/Vault.lean`'s op lists;
here the supply-changing part is stated on its own, for ALL inputs:

| clause | theorem |
|---|---|
| the mint / burn calls of the model's op lists, with positivity class and denomination role, every path (read off the regenerated handler through `C01.…_effects`; `supply_draw`, `supply_close`, `supply_stableCreate` also state that side): one unconditional mint in create / draw / deposit-and-draw / stable mint, one burn-if-positive in the principal branch of repay and in close | `supply_create`, `supply_draw`, `supply_repay`, `supply_close`, `supply_depositAndDraw`, `supply_stableCreate` |
| the regenerated stable-mint deposit mints once; the stable-mint withdrawal burns once unconditionally unless the fee eats the whole amount | `supply_stableDeposit`, `supply_stableWithdraw` |
| deposit / withdraw / interest-calc never mint or burn | `supply_untouched` |
| which handlers of the regenerated table contain a mint / a burn at all, always of the DEBT denomination and on the vault module account | `vault_mint_burn_sites` |

Trusted: the extractor and the role / condition tables of `C01Effects` (same reviewed texts).  Amounts are not compared here.
-/
namespace Comdex.C02
open Comdex.Vault Comdex.Effects Comdex.Gen.Effects Comdex.C01

def supplyPart (l : Option (List VSkel)) : Option (List VSkel) := l.map (List.filter fun s => s.kind != .send)

def mintDebt : VSkel := C01.mk .mint none (some .vm) .debt false
def burnDebt (pos : Bool) : VSkel := C01.mk .burn (some .vm) none .debt pos

attribute [local simp] supplyPart mintDebt burnDebt C01.mk sVm skMintFree skMintFee

theorem mintAndSplit_supply {p : Product} {f : Nat} (h : Wf p f) (amt : Int) :
    supplyPart (modelSkel p f (mintAndSplit p f amt)) = some [mintDebt] := by
  rw [mintAndSplit_skel h]; split <;> simp

/-- MsgCreate mints exactly once, unconditionally (a zero coin is rejected before), whatever the fee branch -/
theorem supply_create (p : Product) (from_ : Nat) (amtIn amtOut : Int) (h : Wf p from_) :
    supplyPart (modelSkel p from_ (createOps p from_ amtIn amtOut)) = some [mintDebt] := by
  rw [← create_effects p from_ amtIn amtOut h, (vault_paths.create _).eq]; split <;> simp

theorem supply_draw (p : Product) (from_ : Nat) (amt : Int) (h : Wf p from_) :
    supplyPart (goSkel vaultRoles (valOf [(cDraw, decide (p.drawDownFee = 0 ∧ amt > 0))]) h_vault_MsgDraw)
      = supplyPart (modelSkel p from_ (drawOps p from_ amt)) ∧
    supplyPart (modelSkel p from_ (drawOps p from_ amt)) = some [mintDebt] :=
  ⟨congrArg supplyPart (draw_effects p from_ amt h), mintAndSplit_supply h amt⟩

/-- MsgRepay burns only in the principal branch, and only if the principal part is positive -/
theorem supply_repay (p : Product) (from_ : Nat) (v : VaultRec) (amt : Int) (h : Wf p from_) :
    supplyPart (modelSkel p from_ (repayOps p from_ v amt))
      = some (if amt ≤ v.interest then [] else [burnDebt true]) := by
  rw [← repay_effects p from_ v amt h, (vault_paths.repay _).eq]
  by_cases c : amt ≤ v.interest <;> simp [c]

/-- MsgClose burns the principal (if positive) and nothing else -/
theorem supply_close (p : Product) (from_ : Nat) (v : VaultRec) (h : Wf p from_) :
    supplyPart (modelSkel p from_ (closeOps p from_ v)) = some [burnDebt true] ∧
    supplyPart (goSkel vaultRoles (valOf []) h_vault_MsgClose) = some [burnDebt true] := by
  rw [← close_effects p from_ v h, vault_paths.close.eq]; simp

theorem supply_depositAndDraw (p : Product) (from_ : Nat) (amt newAmt : Int) (h : Wf p from_) :
    supplyPart (modelSkel p from_ (depositOps p from_ amt ++ drawOps p from_ newAmt)) = some [mintDebt] := by
  rw [← depositAndDraw_effects p from_ amt newAmt h, (vault_paths.depositAndDraw _).eq]; split <;> simp

theorem supply_stableCreate (p : Product) (from_ : Nat) (amt out : Int) (h : Wf p from_) :
    supplyPart (goSkel vaultRoles (valOf [(cDraw, decide (p.drawDownFee = 0 ∧ out > 0)), (cAmtPos, true)]) h_vault_MsgCreateStableMint)
      = some [mintDebt] ∧
    supplyPart (modelSkel p from_ (stableMintOps p from_ amt out)) = some [mintDebt] := by
  rw [← stableCreate_effects p from_ amt out h, (vault_paths.stableCreate _).eq]; split <;> simp

theorem supply_stableDeposit (p : Product) (out : Int) :
    supplyPart (goSkel vaultRoles (valOf [(cDraw, decide (p.drawDownFee = 0 ∧ out > 0)), (cAmtPos, true)]) h_vault_MsgDepositStableMint)
      = some [mintDebt] := by
  rw [(vault_paths.stableDeposit _).eq]; split <;> simp

/-- MsgWithdrawStableMint burns once, unconditionally, unless the fee eats the whole amount -/
theorem supply_stableWithdraw (p : Product) (amt : Int) :
    supplyPart (goSkel vaultRoles (valOf [(cSwErr, false), (cAmtPos, true), (cDraw, decide (p.drawDownFee = 0)),
                              (cSwUpd, decide (amt - feeOf amt p.drawDownFee > 0))]) h_vault_MsgWithdrawStableMint)
      = some (if p.drawDownFee = 0 ∨ amt - feeOf amt p.drawDownFee > 0 then [burnDebt false] else []) := by
  rw [(vault_paths.stableWithdraw _ _).eq]
  by_cases c : p.drawDownFee = 0 <;> by_cases u : feeOf amt p.drawDownFee < amt <;> simp [c, u]

theorem supply_untouched :
    supplyPart (goSkel vaultRoles (valOf []) h_vault_MsgDeposit) = some [] ∧
    supplyPart (goSkel vaultRoles (valOf []) h_vault_MsgWithdraw) = some [] ∧
    supplyPart (goSkel vaultRoles (valOf []) h_vault_MsgVaultInterestCalc) = some [] := by
  rw [vault_paths.deposit.eq, vault_paths.withdraw.eq, vault_paths.interestCalc.eq]; simp

/-- the mint / burn sites of the regenerated table (whatever the path): handler ↦ (number of MintCoins, number of BurnCoins);
every one of them is of the debt denomination and on the vault module account -/
theorem vault_mint_burn_sites :
    handlers_vault.map (fun h => (h.name, ((bankItems h).filter (·.op == "MintCoins")).length,
                                          ((bankItems h).filter (·.op == "BurnCoins")).length)) =
      [("MsgCreate", 1, 0), ("MsgDeposit", 0, 0), ("MsgWithdraw", 0, 0), ("MsgDraw", 1, 0), ("MsgRepay", 0, 1),
       ("MsgClose", 0, 1), ("MsgDepositAndDraw", 1, 0), ("MsgCreateStableMint", 1, 0), ("MsgDepositStableMint", 1, 0),
       ("MsgWithdrawStableMint", 0, 2), ("MsgVaultInterestCalc", 0, 0)] ∧
    (∀ h ∈ handlers_vault, ∀ it ∈ bankItems h, it.op == "MintCoins" → it.dst == "\"vaultV1\"" ∧ it.denom == tOut) ∧
    (∀ h ∈ handlers_vault, ∀ it ∈ bankItems h, it.op == "BurnCoins" → it.src == "\"vaultV1\"" ∧ it.denom == tOut) := by
  decide +kernel

example : supplyPart (modelSkel pEx 10 (closeOps pEx 10 vEx)) = some [burnDebt true] :=
  (supply_close pEx 10 vEx wf_pEx).1
example : supplyPart (modelSkel pEx 10 (repayOps pEx 10 vEx 50)) = some [burnDebt true] := by decide +kernel
example : supplyPart (modelSkel pEx 10 (repayOps pEx 10 vEx 5)) = some [] := by decide +kernel
example : supplyPart (modelSkel pEx 10 (createOps pEx 10 500 100)) = some [mintDebt] := by decide +kernel

end Comdex.C02
