import Comdex.Lemmas.MapLoops
import Comdex.Lemmas.KeyedRecs
import Comdex.Gen.Determinism
/-!
# C16 — State transitions are deterministic: same blocks, same state

A Lean function is deterministic by construction; what a proof CAN establish about the Go code is that none of the
language-level sources of nondeterminism the property names can influence consensus state:

Property clause → theorem
* "regardless of … map iteration order": every `range` over a map-typed expression in consensus code computes a
  result that does not depend on the iteration order
    - `app/app.go` `App.ModuleAccountAddrs`                       → `C16.site_ModuleAccountAddrs_perm_invariant`
                                                                     (+ `…_accounts_perm_invariant`)
    - `x/liquidity/amm/match.go` `DistributeOrderAmountToOrders`  → `C16.site_DistributeOrderAmountToOrders_perm_invariant`
    - `x/liquidity/amm/orderbook.go` `OrderBook.String`           → `C16.site_OrderBookString_perm_invariant`
    - `x/liquidity/keeper/pool.go` `TransferFundsForSwapFeeDistribution` → `C16.site_TransferFundsForSwapFeeDistribution_perm_invariant`
                                                                     (+ `C16.swapFeeTotal_closed_form`: panics iff the TOTAL overflows)
  and these are ALL the sites: `C16.table_mapRangeSites_proven`, `C16.table_mapRangeSites_size`,
  `C16.table_mapRangeSites_text`, `C16.table_provenSites_live` over the regenerated table `Gen.Determinism.mapRangeSites`
  (keys are (file, function, body shape): an edited loop body gets a new shape and has no theorem);
  no map is handed to code outside the scanned packages from keeper code: `C16.table_mapArgsExternal`.
  Why the shape matters: `C16.appendInOrder_order_dependent`, `C16.firstMatch_order_dependent` (the two loop shapes
  a careless edit introduces ARE order dependent on every map with two entries).
  A SORT whose comparison has ties re-introduces the order of its input: every sort call in consensus code
  (`Gen.Determinism.sortSites`) has a deterministic input order or a total comparison
    - `C16.table_sortSites_reviewed`, `C16.table_sortSites_safe`, `C16.table_sortSites_text`
    - `x/liquidity/amm/util.go` `SortOrders` (`sort.SliceStable` by `HasPriority`) → `C16.site_SortOrders_perm_invariant`
      (`HasPriority` is a strict total order on distinct (kind, id): `SortOrders.hasPriority_total`), contract inhabited:
      `C16.isSort_goSortStable`; without the tie-break it IS order dependent: `C16.sortOrders_amountOnly_order_dependent`
  no `reflect` map iteration, no `sync.Map`: `C16.table_reflectUses`, `C16.table_syncUses`
* "regardless of … goroutine scheduling": `C16.table_goStatements`, `C16.table_selectStmts`, `C16.table_chanOps`,
  `C16.table_syncUses`
* "regardless of … wall-clock time": `C16.table_wallClockUses` (⊆ reviewed test-fixture allow-list; vocabulary: time.Now,
  Since, Until, After, AfterFunc, Tick, Sleep, NewTimer, NewTicker), `C16.table_zoneUses` (the machine's time zone),
  `C16.table_taintedCallers` (nothing else reaches those functions)
* "regardless of process": `C16.table_randUses`, `C16.table_randUses_not_in_keepers`, `C16.table_envUses` (os.… / runtime.… ⊆ one reviewed `init`),
  `C16.table_unsafeUses`, `C16.no_mutable_package_state` + `C16.table_mutablePackageState_size` (no memo / counter / cache
  in a package-level variable: nothing survives an application instance except the stores); floating point (formatting /
  parsing / math) only at reviewed, pinned places: `C16.table_floatUses`, `C16.table_floatUses_size`
* "byte-identical … transaction results": tested, not proved — harness monitor `results_equal` (tx code, data, gas, events
  with attribute order, across 5-6 replicas), next to `replay_equal` (state, balances, app hash)
* the extractor saw the tree: `C16.table_scan_coverage`, `C16.table_spot_entries`, `C16.table_spot_entries_vocabulary`

Partial: the Go scheduler and runtime, the SDK / CometBFT / IAVL / wasm code and float arithmetic are outside the
model; `sdkmath.Int` accumulators are unbounded in the `DistributeOrderAmountToOrders` model. The replay comparison
(harness `TestC16`, monitors `replay_equal`, `results_equal`, `site_stable`) is a test; Go's sort algorithms are trusted to be
deterministic functions of their input.
-/
namespace Comdex.C16
open Comdex.MapLoops
open Comdex.Gen

/-- `App.ModuleAccountAddrs`: whatever order the runtime enumerates `ModuleAccountsPermissions()` in, the slice
after `sort.Strings` is the same — for EVERY sort function meeting the contract `IsSort` (result is a rearrangement
and in order). Hypothesis checked in the code: the comparison is on the whole element (`sort.Strings`: byte-wise
`<` on the strings themselves), which is antisymmetric, so no two distinct elements compare equal. -/
theorem site_ModuleAccountAddrs_perm_invariant (sort : List String → List String)
    (hs : IsSort (fun a b : String => a ≤ b) sort) (l l' : List (String × List String)) (h : l.Perm l') :
    ModuleAccountAddrs.observable sort (runLoop ModuleAccountAddrs.body [] l)
      = ModuleAccountAddrs.observable sort (runLoop ModuleAccountAddrs.body [] l') :=
  sort_foldl_append_perm (fun e : String × List String => e.1) (fun _ _ => String.le_antisymm) hs h

theorem site_ModuleAccountAddrs_accounts_perm_invariant (sort : List String → List String)
    (hs : IsSort (fun a b : String => a ≤ b) sort) (addr : String → String)
    (l l' : List (String × List String)) (h : l.Perm l') :
    ModuleAccountAddrs.accounts addr (ModuleAccountAddrs.observable sort (ModuleAccountAddrs.collect l))
      = ModuleAccountAddrs.accounts addr (ModuleAccountAddrs.observable sort (ModuleAccountAddrs.collect l')) := by
  have := site_ModuleAccountAddrs_perm_invariant sort hs l l' h
  simp only [ModuleAccountAddrs.collect]
  rw [this]

/-- non-vacuity: the theorem applied to two real iteration orders, with the executable sort -/
example : ModuleAccountAddrs.observable ModuleAccountAddrs.goSortStrings
      (ModuleAccountAddrs.collect [("mint", ["minter"]), ("bonded", []), ("gov", ["burner"])])
    = ModuleAccountAddrs.observable ModuleAccountAddrs.goSortStrings
      (ModuleAccountAddrs.collect [("bonded", []), ("mint", ["minter"]), ("gov", ["burner"])]) :=
  site_ModuleAccountAddrs_perm_invariant _ isSort_goSortStrings _ _ (List.Perm.swap _ _ _)
example : ModuleAccountAddrs.collect [("mint", ["minter"]), ("bonded", [])]
    ≠ ModuleAccountAddrs.collect [("bonded", []), ("mint", ["minter"])] := by decide +kernel
/-- the contract is satisfiable (non-vacuity of `hs`) -/
example : IsSort (fun a b : String => a ≤ b) ModuleAccountAddrs.goSortStrings := isSort_goSortStrings

/-- `OrderBook.String`: the prices handed to the renderer after `sort.Slice(prices, GT)` do not depend on the
iteration order of `priceSet`. The comparison is on the whole element (a `LegacyDec` value), antisymmetric. -/
theorem site_OrderBookString_perm_invariant (sort : List Int → List Int)
    (hs : IsSort OrderBookString.le sort) (l l' : List (String × Int)) (h : l.Perm l') :
    OrderBookString.observable sort (runLoop OrderBookString.body [] l)
      = OrderBookString.observable sort (runLoop OrderBookString.body [] l') :=
  sort_foldl_append_perm (fun e : String × Int => e.2)
    (fun a b hab hba => by simp only [OrderBookString.le] at hab hba; omega) hs h

example : OrderBookString.observable OrderBookString.goSortDesc
      (OrderBookString.collect [("1.0", 1000), ("1.2", 1200), ("0.9", 900)])
    = OrderBookString.observable OrderBookString.goSortDesc
      (OrderBookString.collect [("1.2", 1200), ("1.0", 1000), ("0.9", 900)]) :=
  site_OrderBookString_perm_invariant _ isSort_goSortDesc _ _ (List.Perm.swap _ _ _)
example : OrderBookString.collect [("1.0", 1000), ("1.2", 1200)] ≠ OrderBookString.collect [("1.2", 1200), ("1.0", 1000)] := by
  decide
example : IsSort OrderBookString.le OrderBookString.goSortDesc := isSort_goSortDesc

-- `Dec.fits` bounds 315-bit values; `^` is evaluated up to exponent 256 by default
set_option exponentiation.threshold 400

/-- closed form behind the next theorem: the checked `LegacyDec` sum over positive values panics iff the total
needs more than 315 bits, and otherwise IS the total -/
theorem swapFeeTotal_closed_form (l : List (Nat × Int)) (hp : SwapFeeTotal.AllPositive l) :
    SwapFeeTotal.total l = if Dec.fits (l.map (·.2)).sum = true then some (l.map (·.2)).sum else none := by
  have := SwapFeeTotal.foldl_body_closed l (fun e he => Int.le_of_lt (hp e he)) 0 (Int.le_refl 0) (by decide)
  simpa [SwapFeeTotal.total, runLoop, Dec.zero] using this

/-- `TransferFundsForSwapFeeDistribution`: `totalLiquidity` (the panic outcome included) does not depend on the
iteration order of `poolLiquidityMap`. Hypothesis checked in the code: only positive values are stored
(pool.go: `if !totalValue.IsPositive() { return … }` before `poolLiquidityMap[pool.Id] = totalValue`). -/
theorem site_TransferFundsForSwapFeeDistribution_perm_invariant (l l' : List (Nat × Int))
    (hp : SwapFeeTotal.AllPositive l) (h : l.Perm l') :
    SwapFeeTotal.observable (runLoop SwapFeeTotal.body (some Dec.zero) l)
      = SwapFeeTotal.observable (runLoop SwapFeeTotal.body (some Dec.zero) l') := by
  have hp' : SwapFeeTotal.AllPositive l' := fun e he => hp e (h.mem_iff.mpr he)
  have e1 := swapFeeTotal_closed_form l hp
  have e2 := swapFeeTotal_closed_form l' hp'
  simp only [SwapFeeTotal.total] at e1 e2
  simp only [SwapFeeTotal.observable, e1, e2, ListSum.sum_perm (h.map (·.2))]

example : SwapFeeTotal.total [(1, 40), (2, 40), (3, 20)] = some 100 := by decide +kernel
example : SwapFeeTotal.AllPositive [(1, 40), (2, 40), (3, 20)] := by simp [SwapFeeTotal.AllPositive]
/-- the panic branch is reachable in the model (two values of 314 bits each) -/
example : SwapFeeTotal.total [(1, 2 ^ 314), (2, 2 ^ 314)] = none := by decide +kernel

/-- `DistributeOrderAmountToOrders` (final loop): the mutated order objects and the returned `quoteCoinDiff` — or the
panic — do not depend on the iteration order of `matchedAmtByOrder`. Hypothesis = a fact about Go maps: keys (order
object identities) are pairwise distinct; `FillOrder` touches only the order that is the key. -/
theorem site_DistributeOrderAmountToOrders_perm_invariant {κ : Type} [DecidableEq κ] (price : Dec)
    (orders : κ → FillOrders.Order) (l l' : List (κ × Int)) (hd : DistinctKeys l) (h : l.Perm l') :
    FillOrders.observable (runLoop (FillOrders.body price) (some { orders := orders, quoteCoinDiff := 0 }) l)
      = FillOrders.observable (runLoop (FillOrders.body price) (some { orders := orders, quoteCoinDiff := 0 }) l') := by
  congr 1
  refine List.Perm.foldl_eq' h ?_ _
  intro x hx y hy z
  by_cases hxy : x = y
  · subst hxy; rfl
  · apply FillOrders.body_comm
    intro hk
    apply hxy
    exact KeyedRecs.eq_of_key_eq hd hx hy hk

/-- non-vacuity: two sell orders and a buy order filled in two different orders give the same books -/
example :
    let os : Nat → FillOrders.Order := fun k =>
      if k = 0 then { isBuy := false, offerCoinAmt := 500, openAmt := 500, paid := 0, received := 0 }
      else if k = 1 then { isBuy := false, offerCoinAmt := 700, openAmt := 700, paid := 0, received := 0 }
      else { isBuy := true, offerCoinAmt := 3000, openAmt := 900, paid := 0, received := 0 }
    let p : Dec := 2 * Dec.P
    ((FillOrders.run p os [(0, 100), (1, 300), (2, 50)]).map fun s => (s.orders 0, s.orders 1, s.orders 2, s.quoteCoinDiff))
      = ((FillOrders.run p os [(2, 50), (1, 300), (0, 100)]).map fun s => (s.orders 0, s.orders 1, s.orders 2, s.quoteCoinDiff))
    ∧ (FillOrders.run p os [(0, 100), (1, 300), (2, 50)]).map (·.quoteCoinDiff) = some (-700) := by decide +kernel
/-- the panic branch is reachable: filling more than the open amount -/
example : (FillOrders.run (κ := Nat) (2 * Dec.P)
    (fun _ => { isBuy := false, offerCoinAmt := 5, openAmt := 5, paid := 0, received := 0 }) [(0, 6)]).isNone = true := by
  decide

/-! ## Why the body shape is part of a site's key: the shapes an edit typically introduces are order dependent -/

/-- "collect the keys into a slice and use it unsorted": two iteration orders of any map with two entries give
different slices (hence different sequences of state writes / transfers) -/
theorem appendInOrder_order_dependent {κ ν : Type} (k1 k2 : κ) (v1 v2 : ν) (hne : k1 ≠ k2) :
    [(k1, v1), (k2, v2)].Perm [(k2, v2), (k1, v1)] ∧
    runLoop appendInOrder [] [(k1, v1), (k2, v2)] ≠ runLoop appendInOrder [] [(k2, v2), (k1, v1)] := by
  refine ⟨List.Perm.swap _ _ _, ?_⟩
  simp [runLoop, appendInOrder, hne]

/-- "return the first entry that satisfies p": order dependent as soon as two entries satisfy it -/
theorem firstMatch_order_dependent {κ ν : Type} (p : ν → Bool) (k1 k2 : κ) (v1 v2 : ν) (hne : k1 ≠ k2)
    (h1 : p v1 = true) (h2 : p v2 = true) :
    runLoop (firstMatch p) none [(k1, v1), (k2, v2)] ≠ runLoop (firstMatch p) none [(k2, v2), (k1, v1)] := by
  simp [runLoop, firstMatch, h1, h2, hne]

/-! ## Sort sites: a comparison with ties on an order that came out of a map is nondeterministic -/

/-- `SortOrders` (`sort.SliceStable(orders, HasPriority)`, x/liquidity/amm/util.go:100): for EVERY sort that meets the
contract (output is a rearrangement; no element is preceded by one it has strict priority over — true of stable and
unstable sorts alike), on orders with pairwise distinct (kind, id) the output does not depend on the input order.
`HasPriority` is a strict TOTAL order there (`hasPriority_total`), so the remainder units handed out by
`DistributeOrderAmountToOrders` go to the same orders whatever order the batch was collected in. -/
theorem site_SortOrders_perm_invariant (sort : List SortOrders.Key → List SortOrders.Key)
    (hs : IsSort SortOrders.notAfter sort) (l l' : List SortOrders.Key)
    (hd : (l.map SortOrders.ident).Nodup) (h : l.Perm l') : sort l = sort l' := by
  refine sort_eq_of_perm hs (fun a ha b hb hab hba => ?_) h
  by_cases hi : SortOrders.ident a = SortOrders.ident b
  · exact KeyedRecs.eq_of_key_eq hd ha hb hi
  · rcases SortOrders.hasPriority_total a b hi with h1 | h1
    · simp [SortOrders.notAfter, h1] at hba
    · simp [SortOrders.notAfter, h1] at hab

/-- the contract is met by the executable stable sort (non-vacuity of `hs`) -/
theorem isSort_goSortStable : IsSort SortOrders.notAfter SortOrders.goSortStable :=
  isSort_mergeSort _ _ (fun a b h => by simpa [SortOrders.notAfter] using h)
    (fun a b c hab hbc => by
      simp only [Bool.not_eq_true'] at *
      exact SortOrders.notAfter_trans a b c hab hbc)
    (fun a b => by
      cases hba : SortOrders.hasPriority b a
      · rfl
      · simp [SortOrders.hasPriority_asymm b a hba])

/-- non-vacuity: three user orders and a pool order with tied amounts, collected in two different orders -/
example : SortOrders.goSortStable [⟨500, false, 12⟩, ⟨500, true, 2⟩, ⟨700, false, 13⟩, ⟨500, false, 11⟩]
    = SortOrders.goSortStable [⟨500, true, 2⟩, ⟨500, false, 11⟩, ⟨500, false, 12⟩, ⟨700, false, 13⟩] :=
  site_SortOrders_perm_invariant _ isSort_goSortStable _ _ (by decide) (by decide)
/-- the tie-break is used: equal amounts, user before pool, ascending ids -/
example : SortOrders.hasPriority ⟨500, false, 11⟩ ⟨500, false, 12⟩ = true ∧ SortOrders.hasPriority ⟨500, false, 12⟩ ⟨500, true, 2⟩ = true
    ∧ SortOrders.hasPriority ⟨500, true, 2⟩ ⟨500, true, 3⟩ = true ∧ SortOrders.hasPriority ⟨700, true, 9⟩ ⟨500, false, 1⟩ = true := by decide

theorem goSortStableAmountOnly_tied (a b : SortOrders.Key) (heq : a.amount = b.amount) :
    SortOrders.goSortStableAmountOnly [a, b] = [a, b] := by
  simp [SortOrders.goSortStableAmountOnly, List.mergeSort, List.MergeSort.Internal.splitInTwo,
    SortOrders.hasPriorityAmountOnly, heq]

/-- WITHOUT the tie-break (amount only — `BaseOrder.HasPriority`, what dropping the `switch` leaves) the sort is
order dependent on every pair of distinct orders with equal amounts: a stable sort returns each input unchanged -/
theorem sortOrders_amountOnly_order_dependent (a b : SortOrders.Key) (hne : a ≠ b) (heq : a.amount = b.amount) :
    [a, b].Perm [b, a] ∧ SortOrders.goSortStableAmountOnly [a, b] ≠ SortOrders.goSortStableAmountOnly [b, a] := by
  refine ⟨List.Perm.swap _ _ _, ?_⟩
  rw [goSortStableAmountOnly_tied a b heq, goSortStableAmountOnly_tied b a heq.symm]
  exact fun h => hne (List.cons.inj h).1

example : SortOrders.goSortStableAmountOnly [⟨500, false, 11⟩, ⟨500, false, 12⟩]
    ≠ SortOrders.goSortStableAmountOnly [⟨500, false, 12⟩, ⟨500, false, 11⟩] :=
  (sortOrders_amountOnly_order_dependent ⟨500, false, 11⟩ ⟨500, false, 12⟩ (by decide) rfl).2

/-- the sites that have a theorem above: (file, enclosing function, normalized body shape) — no line numbers -/
def provenSites : List (String × String × String) := [
  ("app/app.go", "App.ModuleAccountAddrs", "append:sorted(sort.Strings)"),
  ("x/liquidity/amm/match.go", "DistributeOrderAmountToOrders", "accum+call:method"),
  ("x/liquidity/amm/orderbook.go", "OrderBook.String", "append:sorted(sort.Slice@stringRepresentation)"),
  ("x/liquidity/keeper/pool.go", "Keeper.TransferFundsForSwapFeeDistribution", "accum+call:method")]

theorem mapRangeSites_keys : Determinism.mapRangeSites.map (·.key) = provenSites := rfl

theorem table_mapRangeSites_proven : ∀ s ∈ Determinism.mapRangeSites, s.key ∈ provenSites :=
  fun _ hs => mapRangeSites_keys ▸ List.mem_map_of_mem hs

/-- one range per proven site (a second map range added to a proven function shows up here) -/
theorem table_mapRangeSites_size : Determinism.mapRangeSites.length = 4 :=
  (List.length_map _).symm.trans (congrArg List.length mapRangeSites_keys)

/-- the loops are textually the ones that were modelled (comments / layout / line numbers do not matter; any edit of
a loop statement does, and must be re-modelled) -/
def modelledLoops : List (String × String) := [
  ("App.ModuleAccountAddrs", "for name := range a.ModuleAccountsPermissions() { names = append(names, name) }"),
  ("DistributeOrderAmountToOrders",
    "for order, matchedAmt := range matchedAmtByOrder { quoteCoinDiff = quoteCoinDiff.Add(FillOrder(order, matchedAmt, price)) }"),
  ("OrderBook.String", "for _, price := range priceSet { prices = append(prices, price) }"),
  ("Keeper.TransferFundsForSwapFeeDistribution",
    "for _, pLiquidity := range poolLiquidityMap { totalLiquidity = totalLiquidity.Add(pLiquidity) }")]

theorem table_mapRangeSites_text : Determinism.mapRangeSites.map (·.text) = modelledLoops := rfl

theorem table_provenSites_live : ∀ k ∈ provenSites, k ∈ Determinism.mapRangeSites.map (·.key) :=
  fun _ hk => mapRangeSites_keys ▸ hk

theorem table_goStatements : Determinism.goStatements = [] := rfl
theorem table_selectStmts : Determinism.selectStmts = [] := rfl
theorem table_chanOps : Determinism.chanOps = [] := rfl

/-- Reviewed wall-clock uses, none on a consensus path:
* `app/test_helpers.go` `SetupWithGenesisValSet` (×2) — test fixture: genesis time / first header of a throw-away chain
  (NB: this is why the C16 harness builds its own genesis instead of calling `app.Setup`);
* `app/test_suite.go` `KeeperTestHelper.Setup` — keeper test suite fixture;
* `types/utils.go` `GenAndDeliverTx` — seeds the memo generator of a *simulation* transaction.
Block time in keepers and in `telemetry.ModuleMeasureSince` is `ctx.BlockTime()` (header time). -/
def allowedWallClock : List (String × String × String) := [
  ("app/test_helpers.go", "SetupWithGenesisValSet", "time.Now"),
  ("app/test_suite.go", "KeeperTestHelper.Setup", "time.Now"),
  ("types/utils.go", "GenAndDeliverTx", "time.Now")]

theorem table_wallClockUses : ∀ u ∈ Determinism.wallClockUses, u.key ∈ allowedWallClock := by decide +kernel

/-- Reviewed uses of `math/rand`: all take the generator from the caller (simulation / tests), none has a caller
in the scanned code other than each other (`table_taintedCallers`). -/
def allowedRand : List (String × String) := [
  ("types/utils.go", "RandomInt"), ("types/utils.go", "RandomDec"), ("types/utils.go", "GenAndDeliverTx"),
  ("types/utils.go", "ShuffleSimAccounts"),
  ("x/liquidity/amm/tick.go", "TickPrecision.RandomTick"), ("x/liquidity/amm/tick.go", "RandomTick")]

theorem table_randUses : ∀ u ∈ Determinism.randUses, (u.file, u.fn) ∈ allowedRand := by decide +kernel

theorem table_randUses_not_in_keepers :
    ∀ u ∈ Determinism.randUses, u.file = "types/utils.go" ∨ u.file = "x/liquidity/amm/tick.go" := by decide +kernel

/-- the only scanned functions that (transitively) reach a user of the wall clock, of rand, of the environment (os.…)
or of the machine's time zone are test fixtures and simulation helpers -/
def allowedTainted : List (String × String) := [
  ("app/test_helpers.go", "Setup"), ("app/test_suite.go", "KeeperTestHelper.SetupTestForInitGenesis"),
  ("app/test_suite.go", "KeeperTestHelper.BeginNewBlock"),
  ("types/utils.go", "GenAndDeliverTxWithFees")]

theorem table_taintedCallers : ∀ u ∈ Determinism.taintedCallers, (u.file, u.fn) ∈ allowedTainted := by decide +kernel

/-- Environment of the process / machine (os.Getenv … os.UserHomeDir, os.ReadFile …, runtime.NumCPU / GOMAXPROCS / GOOS …):
one reviewed use — `app/app.go` `init`: `os.UserHomeDir()` for `DefaultNodeHome` (where the node keeps its data
directory; not read by any keeper, handler or ABCI hook — an `init` function cannot be called, and no scanned function
reaches an environment user: `table_taintedCallers`). -/
def allowedEnv : List (String × String × String) := [("app/app.go", "init", "os.UserHomeDir")]

theorem table_envUses : ∀ u ∈ Determinism.envUses, u.key ∈ allowedEnv := by decide +kernel
theorem table_unsafeUses : Determinism.unsafeUses = [] := rfl

/-- The machine's time zone (time.Local, time.LoadLocation, time.Unix / UnixMilli / UnixMicro — whose result is in the
LOCAL zone —, Time.Local / Zone / Location): two test fixtures only (`time.Unix(0, 0)` as the unbonding time of a
fixture validator). Header time (`ctx.BlockTime()`) is UTC. -/
def allowedZone : List (String × String × String) := [
  ("app/test_helpers.go", "genesisStateWithValSet", "time.Unix"),
  ("app/test_suite.go", "KeeperTestHelper.SetupValidator", "time.Unix")]

theorem table_zoneUses : ∀ u ∈ Determinism.zoneUses, u.key ∈ allowedZone := by decide +kernel

/-- `reflect`: the only user is `Keeper.UpdateGenericParams` (x/liquidity/keeper/params.go: sets ONE struct field by name,
inside a loop over the `keys` SLICE of the governance message); in particular no `MapRange` / `MapKeys` / `MapIter`
(random order) anywhere. -/
def allowedReflect : List String := ["reflect.ValueOf", "reflect.Value.Elem", "reflect.Value.FieldByName", "reflect.Value.Set"]

theorem table_reflectUses :
    ∀ u ∈ Determinism.reflectUses, u.file = "x/liquidity/keeper/params.go" ∧ u.fn = "Keeper.UpdateGenericParams" ∧ u.what ∈ allowedReflect := by
  decide +kernel

/-- no `sync.Map` (unordered `Range`), no mutex / wait group / atomic: there is no concurrency to protect -/
theorem table_syncUses : Determinism.syncUses = [] := rfl

/-- Floating point in consensus code — reviewed, pinned (a new use has no entry):
* `x/liquidity/amm/tick.go` `TickToIndex` / `TickFromIndex`: `int(math.Pow10(prec))`, `prec` = tick precision (4): exact;
* `x/liquidity/keeper/rewards.go` `GetFarmingRewardsData` (:267, :290): `int64(math.Floor(dec.MustFloat64()))` — IEEE
  conversion + floor, no arithmetic in float: bit-identical on every platform Go supports;
* `x/rewards/keeper/iter.go` `CalculationOfRewards` (:195-201): `math.Pow` on float64, one multiplication, one
  subtraction, `strconv.FormatFloat(…, 'f', 18, 64)` parsed back into a `Dec`. `math.Pow` is pure Go (no assembly, no
  libm) and `FormatFloat` is exact shortest-decimal: identical across processes and across amd64 machines (replayed);
  across ARCHITECTURES the compiler may fuse `x*y+z` inside `math.Pow` (arm64, ppc64, s390x FMA) — a documented residual
  risk outside this property's list of causes (process, scheduling, map order, wall clock);
* `x/rewards/types/params.go`: the constant `float64(1)`. -/
def allowedFloat : List (String × String × String) := [
  ("x/liquidity/amm/tick.go", "TickToIndex", "math.Pow10"),
  ("x/liquidity/amm/tick.go", "TickFromIndex", "math.Pow10"),
  ("x/liquidity/keeper/rewards.go", "Keeper.GetFarmingRewardsData", "math.Floor"),
  ("x/liquidity/keeper/rewards.go", "Keeper.GetFarmingRewardsData", "method:cosmossdk.io/math.LegacyDec.MustFloat64"),
  ("x/rewards/keeper/iter.go", "Keeper.CalculationOfRewards", "math.Pow"),
  ("x/rewards/keeper/iter.go", "Keeper.CalculationOfRewards", "method:cosmossdk.io/math.LegacyDec.MustFloat64"),
  ("x/rewards/keeper/iter.go", "Keeper.CalculationOfRewards", "strconv.FormatFloat"),
  ("x/rewards/types/params.go", "<init>", "conv:float64")]

theorem table_floatUses : ∀ u ∈ Determinism.floatUses, u.key ∈ allowedFloat := by decide +kernel
theorem table_floatUses_size : Determinism.floatUses.length = 12 := by decide +kernel

/-- every sort call in consensus code, with the origin of its input order as computed by the extractor -/
def reviewedSortSites : List (String × String × String × String) := [
  ("app/app.go", "App.ModuleAccountAddrs", "sort.Strings", "maprange"),
  ("x/liquidity/amm/orderbook.go", "OrderBook.stringRepresentation", "sort.Slice", "param<-maprange(OrderBook.String)"),
  ("x/liquidity/amm/util.go", "SortOrders", "sort.SliceStable", "param"),
  ("x/liquidity/types/orderbook.go", "MakeOrderBookPairResponse", "sort.Slice", "param")]

theorem table_sortSites_reviewed : Determinism.sortSites.map (·.key) = reviewedSortSites := rfl

/-- comparisons that are TOTAL on the elements (whole-element comparison, antisymmetric): proved order independent
above (`site_ModuleAccountAddrs_perm_invariant`, `site_OrderBookString_perm_invariant`) -/
def totalComparisons : List (String × String) := [
  ("App.ModuleAccountAddrs", "<whole element>"),
  ("OrderBook.stringRepresentation", "{ return prices[i].GT(prices[j]) }")]

/-- for each sort site: the input order is deterministic (it does not come out of a map: a parameter no scanned caller
fills from a map range, or a local slice not appended to in a map range — and by `table_mapRangeSites_proven` no map
range leaks its order into any slice, Go's pdqsort / insertion sort being deterministic algorithms), OR the
comparison is total on the elements. -/
theorem table_sortSites_safe :
    ∀ s ∈ Determinism.sortSites, s.origin = "param" ∨ s.origin = "local" ∨ (s.fn, s.less) ∈ totalComparisons := by
  decide +kernel

/-- the comparisons are textually the ones that were reviewed / modelled (`SortOrders.hasPriority` = the three
`HasPriority` methods; an edit — e.g. dropping the `OrderID` / `PoolID` tie-break — changes the text) -/
def modelledComparisons : List (String × String × String) := [
  ("App.ModuleAccountAddrs", "<whole element>", ""),
  ("OrderBook.stringRepresentation", "{ return prices[i].GT(prices[j]) }", ""),
  ("SortOrders", "{ return orders[i].HasPriority(orders[j]) }",
    "BaseOrder.HasPriority{ return order.Amount.GT(other.GetAmount()) } | PoolOrder.HasPriority{ if !order.Amount.Equal(other.GetAmount()) { return order.BaseOrder.HasPriority(other) } switch other := other.(type) { case *UserOrder: return false case *PoolOrder: return order.PoolID < other.PoolID default: panic(fmt.Errorf(\"invalid order type: %T\", other)) } } | UserOrder.HasPriority{ if !order.Amount.Equal(other.GetAmount()) { return order.BaseOrder.HasPriority(other) } switch other := other.(type) { case *UserOrder: return order.OrderID < other.OrderID case *PoolOrder: return true default: panic(fmt.Errorf(\"invalid order type: %T\", other)) } }"),
  ("MakeOrderBookPairResponse", "{ return configs[i].PriceUnitPower < configs[j].PriceUnitPower }", "")]

theorem table_sortSites_text :
    Determinism.sortSites.map (fun s => (s.fn, s.less, s.callees)) = modelledComparisons := rfl

/-- Maps handed to code outside the scanned packages: only application wiring in `app/` (SDK constructors and
`module.Manager` functions, which order by `OrderInitGenesis`/sorted keys; `encoding/json` and `fmt` print maps with
sorted keys) — never from `x/…` or `types/…`. -/
def allowedMapCallees : List String := [
  "encoding/json.MarshalIndent", "fmt.Sprintf",
  "github.com/cosmos/cosmos-sdk/baseapp.MountKVStores", "github.com/cosmos/cosmos-sdk/baseapp.MountMemoryStores",
  "github.com/cosmos/cosmos-sdk/baseapp.MountTransientStores",
  "github.com/cosmos/cosmos-sdk/runtime/services.NewAutoCLIQueryService",
  "github.com/cosmos/cosmos-sdk/types/module.InitGenesis", "github.com/cosmos/cosmos-sdk/types/module.RunMigrations",
  "github.com/cosmos/cosmos-sdk/x/auth/keeper.NewAccountKeeper", "github.com/cosmos/cosmos-sdk/x/upgrade/keeper.NewKeeper",
  "github.com/cosmos/cosmos-sdk/x/upgrade/keeper.SetModuleVersionMap"]

theorem table_mapArgsExternal :
    ∀ u ∈ Determinism.mapArgsExternalSummary, u.1 = "app" ∧ u.2 ∈ allowedMapCallees := by
  have h : Determinism.mapArgsExternalSummary = allowedMapCallees.map (("app", ·)) := rfl
  intro u hu
  obtain ⟨c, hc, rfl⟩ := List.mem_map.mp (h ▸ hu)
  exact ⟨rfl, hc⟩

/-- Package-level variables written from non-init code. Reviewed allow-list — one kind of entry only:
`msgservice.RegisterMsgServiceDesc(registry, &_Msg_serviceDesc)` in each module's `RegisterInterfaces`: the address of
the protobuf-generated gRPC service descriptor is handed to the SDK at application wiring; the SDK reads it (method
names → request types) and never writes it; not reachable from a message handler or a begin/end blocker. -/
def allowedPackageStateWrites : List (String × String × String) := [
  ("x/asset/types/codec.go", "RegisterInterfaces", "x/asset/types._Msg_serviceDesc:addr"),
  ("x/auction/types/codec.go", "RegisterInterfaces", "x/auction/types._Msg_serviceDesc:addr"),
  ("x/auctionsV2/types/codec.go", "RegisterInterfaces", "x/auctionsV2/types._Msg_serviceDesc:addr"),
  ("x/collector/types/codec.go", "RegisterInterfaces", "x/collector/types._Msg_serviceDesc:addr"),
  ("x/esm/types/codec.go", "RegisterInterfaces", "x/esm/types._Msg_serviceDesc:addr"),
  ("x/lend/types/codec.go", "RegisterInterfaces", "x/lend/types._Msg_serviceDesc:addr"),
  ("x/liquidation/types/codec.go", "RegisterInterfaces", "x/liquidation/types._Msg_serviceDesc:addr"),
  ("x/liquidationsV2/types/codec.go", "RegisterInterfaces", "x/liquidationsV2/types._Msg_serviceDesc:addr"),
  ("x/liquidity/types/codec.go", "RegisterInterfaces", "x/liquidity/types._Msg_serviceDesc:addr"),
  ("x/locker/types/codec.go", "RegisterInterfaces", "x/locker/types._Msg_serviceDesc:addr"),
  ("x/rewards/types/codec.go", "RegisterInterfaces", "x/rewards/types._Msg_serviceDesc:addr"),
  ("x/tokenmint/types/codec.go", "RegisterInterfaces", "x/tokenmint/types._Msg_serviceDesc:addr"),
  ("x/vault/types/codec.go", "RegisterInterfaces", "x/vault/types._Msg_serviceDesc:addr")]

/-- "regardless of process / fresh in-process instances": no state outside the stores. The table of writes to
package-level variables (assignment, op=, increment, decrement, field / element write, delete, address-of, pointer-receiver method of a
comdex or sync type) from non-init functions of consensus packages, minus the reviewed allow-list, is empty. Such a
variable (a memo, a counter, a cache) outlives an application instance and makes a replay depend on what the process
computed before. -/
theorem no_mutable_package_state :
    Determinism.mutablePackageState.filter (fun u => !(allowedPackageStateWrites.contains u.key)) = [] := by
  have h : Determinism.mutablePackageState.map (·.key) = allowedPackageStateWrites := rfl
  rw [List.filter_eq_nil_iff]
  intro u hu
  simpa using h ▸ List.mem_map_of_mem (f := (·.key)) hu

/-- pinned: 13 writes (one per module's `RegisterInterfaces`), out of 787 package-level variables seen -/
theorem table_mutablePackageState_size :
    Determinism.mutablePackageState.length = 13 ∧ Determinism.packageVars ≥ 700 := by decide +kernel

/-- the extractor really walked the tree (an extractor that silently returns nothing fails here) -/
theorem table_scan_coverage :
    Determinism.scannedPackages ≥ 80 ∧ Determinism.scannedFiles ≥ 400 ∧ Determinism.scannedFuncs ≥ 3000 := by decide +kernel

theorem table_spot_entries :
    ("x/liquidity/amm/match.go", "DistributeOrderAmountToOrders", "accum+call:method") ∈ Determinism.mapRangeSites.map (·.key)
    ∧ ("app/test_helpers.go", "SetupWithGenesisValSet", "time.Now") ∈ Determinism.wallClockUses.map (·.key)
    ∧ ("x/liquidity/amm/tick.go", "RandomTick", "math/rand.Intn") ∈ Determinism.randUses.map (·.key)
    ∧ ("types/utils.go", "GenAndDeliverTxWithFees", "GenAndDeliverTx") ∈ Determinism.taintedCallers.map (·.key)
    ∧ Determinism.mapArgsExternal.length ≥ 30
    ∧ ("app", "github.com/cosmos/cosmos-sdk/baseapp.MountKVStores") ∈ Determinism.mapArgsExternalSummary := by
  -- rows found by matching identical literals, no string compared byte by byte
  refine ⟨?_, ?_, ?_, ?_, by decide +kernel, ?_⟩ <;>
    simp only [Determinism.mapRangeSites, Determinism.wallClockUses, Determinism.randUses, Determinism.taintedCallers,
      Determinism.mapArgsExternalSummary, List.map_cons, List.map_nil, Determinism.MapRange.key, Determinism.Use.key,
      List.mem_cons, true_or, or_true]

/-- the tables of the extended vocabulary are populated too (float, reflect, environment, time zone, sort sites) -/
theorem table_spot_entries_vocabulary :
    ("x/rewards/keeper/iter.go", "Keeper.CalculationOfRewards", "strconv.FormatFloat") ∈ Determinism.floatUses.map (·.key)
    ∧ ("x/liquidity/keeper/params.go", "Keeper.UpdateGenericParams", "reflect.Value.FieldByName") ∈ Determinism.reflectUses.map (·.key)
    ∧ ("app/app.go", "init", "os.UserHomeDir") ∈ Determinism.envUses.map (·.key)
    ∧ ("app/test_suite.go", "KeeperTestHelper.SetupValidator", "time.Unix") ∈ Determinism.zoneUses.map (·.key)
    ∧ ("x/liquidity/amm/util.go", "SortOrders", "sort.SliceStable", "param") ∈ Determinism.sortSites.map (·.key) := by
  simp only [Determinism.floatUses, Determinism.reflectUses, Determinism.envUses, Determinism.zoneUses, Determinism.sortSites,
    List.map_cons, List.map_nil, Determinism.Use.key, Determinism.SortSite.key, List.mem_cons, true_or, or_true, and_self]

end Comdex.C16
