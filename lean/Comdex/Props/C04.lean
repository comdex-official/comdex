import Comdex.Lemmas.LiqDeficit
import Comdex.Lemmas.LiqAmmBridge
import Comdex.Lemmas.LiqMoves
import Comdex.Lemmas.LiqSupply
import Comdex.Lemmas.LiqFee
import Comdex.Props.C05
/-!
# C04 — Liquidity custody: escrows, reserves and farmed pool coins are fully backed

Model: `Comdex.LiqLedger` (`Model/LiqLedger.lean`) — every bank movement and every record of x/liquidity's requests,
orders, farming and pools; matching / pool-maths results enter as observed inputs.  Histories: any finite list of
`Op`s (create pair / pool (basic, ranged), deposit, withdraw, limit / market / MM order, cancel, cancelAll, cancelMM,
farm, unfarm, depositAndFarm, unfarmAndWithdraw, per-app EndBlocker and BeginBlocker, block header, store migration) applied from a
genesis in which users hold arbitrary coins; a rejected message / failed hook leaves the state untouched (`stepT`).

Property clause → theorem
* "the global escrow account holds at least the coins of all pending deposit and withdrawal requests"
      → `escrow_ge_requests` (and the exact form `escrow_eq_requests`)
* "each pair's escrow account holds at least the remaining offer coins of all its live orders"
      → `pair_escrow_exact` (always: escrow = Σ live (remaining + fee reserve) + what matching took in − handed out),
        `pair_escrow_ge_orders_offset` (always, NO premise: escrow + `lostOf` ≥ Σ remaining, where `lostOf a p ops` sums what
          the match results of that pair handed out beyond what they took in),
        `modelled_match_quote_exact`, `modelled_match_base_offset`, `modelled_match_deficit` (what C05 PROVES of the
          modelled matcher, in ledger terms: the quote side of a modelled match balances exactly, the base side up to
          `lostBase` = the remainder dropped by the re-runs of the pro-rata distribution, D2; 0 when `matchLossless`),
        `pair_escrow_ge_orders_modelled` (escrow ≥ Σ remaining for histories whose match results are lossless runs of the
          modelled matcher — no coin-conservation premise), `pair_escrow_ge_orders` (same from `MatchConserving`),
        `pair_escrow_ge_orders_counterexample`, `d2_offset_witness` (the D2 book of C05: deficit exactly 1000 base)
* (ledger of a batch — what "fully backed" rests on) no ordinary coin is minted or burnt by any message or hook, in
  particular not by matching; the dust collector and the pool reserves move by exactly the named amounts
      → `coins_conserved` (every history, every coin denom: Σ over all real accounts constant), `bank_keys_unique`,
        `batch_conserves_coins`, `batch_dust_exact`, `batch_reserve_exact`
        `batch_fee_collector_exact` (the swap-fee collector of each pair: exactly the fee on the executed portions of the
        orders that ended in the batch; every operation: `C07.fee_collector_exact`)
        (orderers: `C07.finish_moves_exactly`, `C07.fill_pays_demand_coins`, `C07.ended_order_accounts`)
* "the liquidity module account holds exactly the pool coins recorded as farmed (queued plus active) for every pool"
      → `farm_custody_exact`
      (holds for EVERY pool of every history, enabled or disabled — farm / unfarm do not look at the flag, the code never
       deletes a pool), with the farming mechanics behind it: `unfarm_newest_first` (the unfarm loop = take from the newest
       queue entries, the active position only gives what the queue cannot cover), `maturation_exact` and
       `no_mature_entry_after_batch` (ProcessQueuedFarmers moves exactly the entries older than the queue duration)
* request lifecycle: a pending request stays backed over any number of batches (`escrow_eq_requests`), and if its pool is
  disabled when it is finally executed it is refunded in full → `deposit_refunded_if_pool_disabled`,
  `withdraw_refunded_if_pool_disabled`
* "every pool whose pool-coin supply has reached zero is marked disabled" → `zero_supply_disabled`
* "pool-coin supply changes only by pool creation and by deposits and withdrawals executed against that pool"
      → `poolcoin_supply_only_by_pool_ops` (which operations can change it at all),
        `poolcoin_supply_exact` (EVERY operation except begin-block pruning and pool creation: Δ supply of pool (a, pl) = pool
          coins minted − pool coins burnt by the requests of THAT pool that newly succeeded),
        `poolcoin_supply_fixed_without_executed_request`,
        `poolcoin_supply_create_and_prune` (creation adds ONE pool with positive supply and leaves the others; pruning
          touches no pool)
* histories may contain the store migration 1 → 2 (`Op.migrate`, see `C07.migration_preserves_orders`): it moves no
  coin and keeps every amount, `Inv` is preserved (`migrate_inv`), so every theorem here covers such histories
-/
namespace Comdex.C04
open Comdex.LiqLedger

def after (cfg : Cfg) (funds : List (Nat × Nat × Nat)) (ops : List Op) : State := runT cfg (genesis funds) ops

theorem reachable_inv {cfg : Cfg} (hc : CfgOk cfg) (funds : List (Nat × Nat × Nat)) (ops : List Op) :
    Inv cfg (after cfg funds ops) :=
  genesis_run_inv hc funds ops

/-- **Global escrow, exact**: after every history the global escrow holds exactly the coins of the pending deposit
requests plus the pool coins of the pending withdrawal requests. -/
theorem escrow_eq_requests {cfg : Cfg} (hc : CfgOk cfg) (funds : List (Nat × Nat × Nat)) (ops : List Op) (d : Denom) :
    (after cfg funds ops).bal .gEscrow d = depSum d (after cfg funds ops).deps + wdrSum d (after cfg funds ops).wdrs :=
  (reachable_inv hc funds ops).escrow d

theorem escrow_ge_requests {cfg : Cfg} (hc : CfgOk cfg) (funds : List (Nat × Nat × Nat)) (ops : List Op) (d : Denom) :
    depSum d (after cfg funds ops).deps + wdrSum d (after cfg funds ops).wdrs ≤ (after cfg funds ops).bal .gEscrow d :=
  Nat.le_of_eq (escrow_eq_requests hc funds ops d).symm

/-- **Pair escrow, exact** (no hypothesis on the matcher): the escrow of a pair holds the remaining offer coins and
fee reserves of its live orders, plus everything matching took in, minus everything matching handed out. -/
theorem pair_escrow_exact {cfg : Cfg} (hc : CfgOk cfg) (funds : List (Nat × Nat × Nat)) (ops : List Op) (a p : Nat) (d : Denom) :
    (after cfg funds ops).bal (.pairEscrow a p) d + (after cfg funds ops).bal (.mOut a p) d =
      liveSum cfg a p d (after cfg funds ops).orders + (after cfg funds ops).bal (.mIn a p) d :=
  (reachable_inv hc funds ops).pairEsc a p d

/-- **Pair escrow + lost ≥ remaining offer coins of the live orders — every history, no premise on the match results.**
`lostOf a p ops` = Σ over the EndBlocker calls of app `a` of what the match results given for pair `p` handed out beyond
what they took in (quote side + base side); it is 0 for conserving results and the dropped remainder for a D2 result. -/
theorem pair_escrow_ge_orders_offset {cfg : Cfg} (hc : CfgOk cfg) (funds : List (Nat × Nat × Nat)) (ops : List Op)
    (a p : Nat) (d : Denom) :
    remSum a p d (after cfg funds ops).orders ≤ (after cfg funds ops).bal (.pairEscrow a p) d + lostOf a p ops := by
  have h1 := escrow_ge_live_offset (reachable_inv hc funds ops) a p d (lostOf a p ops) (genesis_slack cfg funds ops a p d)
  have h2 := remSum_le_liveSum cfg a p d (after cfg funds ops).orders
  omega

/-- **Pair escrow ≥ remaining offer coins of the live orders**, for every history in which each observed match result
hands out no more than it took in (per side). -/
theorem pair_escrow_ge_orders {cfg : Cfg} (hc : CfgOk cfg) (funds : List (Nat × Nat × Nat)) (ops : List Op)
    (hcons : ∀ op ∈ ops, OpConserving op) (a p : Nat) (d : Denom) :
    remSum a p d (after cfg funds ops).orders ≤ (after cfg funds ops).bal (.pairEscrow a p) d := by
  have := pair_escrow_ge_orders_offset hc funds ops a p d
  rw [lostOf_zero_of_conserving a p ops hcons] at this
  exact this

open Comdex.LiqBridge in
/-- **quote side of a modelled match: exact.** For every well-formed book, `OrderBook.Match` (C05's model) returns a
quote difference `q` with buyers' payments = sellers' receipts + `q`; with `q ≥ 0` (the code sends it as a coin to the dust
collector) the ledger input built from the run has `outQ = inQ`. -/
theorem modelled_match_quote_exact {b b' : Amm.Book} {lp mp q : Int} (h : ModelledRun b lp b' mp q) (hq : 0 ≤ q) (pair : Nat) :
    outQ (matchInOf pair b b' q) = inQ (matchInOf pair b b' q) :=
  (modelled_quote_exact h pair).2 hq

open Comdex.LiqBridge in
/-- **base side of a modelled match: buyers receive exactly what sellers pay plus the dropped remainder** `lostBase`
(D2); nothing is dropped when C05's decidable ghost `matchLossless` holds (in particular the buy side never loses). -/
theorem modelled_match_base_offset {b b' : Amm.Book} {lp mp q : Int} (h : ModelledRun b lp b' mp q) (pair : Nat) :
    ((outB (matchInOf pair b b' q) : Nat) : Int) = inB (matchInOf pair b b' q) + lostBase b b' ∧
    (Amm.matchLossless b lp = true → outB (matchInOf pair b b' q) = inB (matchInOf pair b b' q)) :=
  modelled_base_offset h pair

open Comdex.LiqBridge in
/-- the ledger deficit of a modelled match = exactly the dropped remainder, on the base side only -/
theorem modelled_match_deficit {b b' : Amm.Book} {lp mp q : Int} (h : ModelledRun b lp b' mp q) (hq : 0 ≤ q) (pair : Nat) :
    defQ (matchInOf pair b b' q) = 0 ∧ defB (matchInOf pair b b' q) = (lostBase b b').toNat := by
  have a := (modelled_quote_exact h pair).2 hq
  have c := (modelled_base_offset h pair).1
  unfold defQ defB
  refine ⟨by omega, ?_⟩
  omega

/-- a match input that is a lossless run of the modelled matcher with non-negative dust -/
def ModelledLossless (m : MatchIn) : Prop :=
  ∃ (b b' : Amm.Book) (lp mp q : Int), LiqBridge.ModelledRun b lp b' mp q ∧ 0 ≤ q ∧ Amm.matchLossless b lp = true ∧
    m = LiqBridge.matchInOf m.pair b b' q

/-- **Pair escrow ≥ remaining offer coins, for match results produced by the modelled matcher** (lossless runs): no
coin-conservation premise — conservation is what C05 proves of the matcher. -/
theorem pair_escrow_ge_orders_modelled {cfg : Cfg} (hc : CfgOk cfg) (funds : List (Nat × Nat × Nat)) (ops : List Op)
    (hm : ∀ a ms ds ws, Op.endBlock a ms ds ws ∈ ops → ∀ m ∈ ms, ModelledLossless m) (a p : Nat) (d : Denom) :
    remSum a p d (after cfg funds ops).orders ≤ (after cfg funds ops).bal (.pairEscrow a p) d :=
  pair_escrow_ge_orders hc funds ops (LiqBridge.opConserving_of_modelled ops hm) a p d

/-- **No ordinary coin is ever minted or burnt**: for every history and every coin denom, the sum of the balances of all
real accounts (users, escrows, reserves, fee / dust collectors, module account) is what it was at genesis.  (Only pool
coins are minted / burnt, by pool creation and executed deposits / withdrawals.) -/
theorem coins_conserved (cfg : Cfg) (funds : List (Nat × Nat × Nat)) (ops : List Op) (n : Nat) :
    coinTotal n (after cfg funds ops).bank = coinTotal n (genesis funds).bank :=
  coinTotal_moves (mv_runT ops (genesis funds)) n

/-- the bank holds one entry per (account, denom) — so `coinTotal` really is the sum over accounts -/
theorem bank_keys_unique (cfg : Cfg) (funds : List (Nat × Nat × Nat)) (ops : List Op) :
    KeysNodup (after cfg funds ops).bank :=
  keysNodup_moves (mv_runT ops (genesis funds)) (keysNodup_genesis funds)

/-- **Applying a match result neither mints nor burns**, whatever the (observed) fills, flows and dust are. -/
theorem batch_conserves_coins {cfg : Cfg} {s s' : State} {p : Pair} {m : MatchIn} (h : applyMatch cfg s p m = some s') (n : Nat) :
    coinTotal n s'.bank = coinTotal n s.bank :=
  coinTotal_moves ((applyMatch_atoms (K := fun _ => True) trivial h).rel (R := fun s s' => Moves Acct.any s.bank s'.bank) (fun _ => .refl _)
    Moves.trans fun _ a => a.moves) n

/-- **Dust collector**: receives exactly the match result's quote difference, in the pair's quote denom. -/
theorem batch_dust_exact {cfg : Cfg} {s s' : State} {p : Pair} {m : MatchIn} (h : applyMatch cfg s p m = some s')
    (a : Nat) (d : Denom) :
    s'.bal (.dust a) d = s.bal (.dust a) d + (if a = p.app ∧ d = p.quote then m.dust else 0) := by
  have e := applyMatch_bal h (x := .dust a) rfl d
  simp only [reduceCtorEq, false_and, if_false, sumOver_zero, Nat.add_zero, Acct.dust.injEq] at e
  rw [e]
  by_cases hc : a = p.app ∧ d = p.quote
  · rw [if_pos hc, if_pos ⟨hc.1.symm, hc.2.symm⟩]
  · rw [if_neg hc, if_neg fun e => hc ⟨e.1.symm, e.2.symm⟩]

/-- **Pool reserves**: each reserve account moves by exactly what the pool orders of that pool traded. -/
theorem batch_reserve_exact {cfg : Cfg} {s s' : State} {p : Pair} {m : MatchIn} (h : applyMatch cfg s p m = some s')
    (a pl : Nat) (d : Denom) :
    s'.bal (.reserve a pl) d + sumOver (fun f : PoolFlow => if a = p.app ∧ f.pool = pl ∧ sideIn p f.buy = d then f.paid else 0) m.pools =
    s.bal (.reserve a pl) d + sumOver (fun f : PoolFlow => if a = p.app ∧ f.pool = pl ∧ sideOut p f.buy = d then f.recv else 0) m.pools := by
  have cond : ∀ (pl' : Nat) (d' : Denom) (n : Nat), (if (p.app = a ∧ pl' = pl) ∧ d' = d then n else 0) =
      if a = p.app ∧ pl' = pl ∧ d' = d then n else 0 := fun pl' d' n => by
    by_cases hc : a = p.app ∧ pl' = pl ∧ d' = d
    · rw [if_pos hc, if_pos ⟨⟨hc.1.symm, hc.2.1⟩, hc.2.2⟩]
    · rw [if_neg hc, if_neg fun e => hc ⟨e.1.1.symm, e.1.2, e.2⟩]
  have e := applyMatch_bal h (x := .reserve a pl) rfl d
  simp only [reduceCtorEq, false_and, if_false, sumOver_zero, Nat.add_zero, Acct.reserve.injEq, cond] at e
  exact e

/-- **Swap-fee collector in a batch**: executing the batch of an app (`ExecuteRequests`: expiry pre-pass, match results,
expiry / too-small sweep, deposit and withdrawal requests) moves the swap-fee collector of every pair by exactly the fee on the
executed portions of the orders of that pair that ended in the batch — the last account of the batch ledger
(`batch_conserves_coins`, `batch_dust_exact`, `batch_reserve_exact`, orderers: `C07.finish_moves_exactly`). -/
theorem batch_fee_collector_exact {cfg : Cfg} {s s' : State} {app : Nat} {ms : List MatchIn} {dins : List DepIn} {wins : List WdrIn}
    (h : endBlock cfg s app ms dins wins = some s') (a p : Nat) (d : Denom) :
    s'.bal (.swapFee a p) d + fwdSum cfg a p d s.orders = s.bal (.swapFee a p) d + fwdSum cfg a p d s'.orders :=
  step_feeEq (op := .endBlock app ms dins wins) a p d nofun h

theorem farm_custody_exact {cfg : Cfg} (hc : CfgOk cfg) (funds : List (Nat × Nat × Nat)) (ops : List Op) (a p : Nat) :
    (after cfg funds ops).bal .module (.pool a p) = farmSum a p (after cfg funds ops).farmers :=
  (reachable_inv hc funds ops).farm a p

/-- **`MsgUnfarm` takes from the newest queue entries first** (reachable states): the farmer's queue becomes the old queue
with `amt` consumed from its newest end, the active position is reduced only by `amt − Σ queue`, the farmer receives `amt`
pool coins from the module account. -/
theorem unfarm_newest_first {cfg : Cfg} (hc : CfgOk cfg) (funds : List (Nat × Nat × Nat)) (ops : List Op)
    {app user pool amt : Nat} {ext : Bool} {f : Farmer} {s' : State}
    (hf : findBy (isFarmer app pool user) (after cfg funds ops).farmers = some f)
    (h : step cfg (after cfg funds ops) (.unfarm app user pool amt ext) = some s') :
    findBy (isFarmer app pool user) s'.farmers =
      some { f with queued := (takeNewest f.queued.reverse amt).reverse, active := f.active - (amt - qTotal f.queued) } ∧
    s'.bal (.user user) (.pool app pool) = (after cfg funds ops).bal (.user user) (.pool app pool) + amt ∧
    s'.bal .module (.pool app pool) + amt = (after cfg funds ops).bal .module (.pool app pool) := by
  have hi := reachable_inv hc funds ops
  generalize after cfg funds ops = s at hi hf h ⊢
  obtain ⟨f', s1, hf', -, -, h1, rfl⟩ := unfarm_eff h
  rw [hf] at hf'; cases hf'
  have hpos := hi.qpos f (findBy_some_prop hf).2
  refine ⟨?_, ?_, ?_⟩
  · show findBy _ (modBy _ _ s.farmers) = _
    have := findBy_modBy_same (p := isFarmer app pool user)
      (g := fun x : Farmer => { x with queued := keepNonzero (deduct f.queued amt).1, active := x.active - (deduct f.queued amt).2 })
      (l := s.farmers) (fun x => rfl)
    rw [this, hf, unfarm_queue_spec f.queued amt hpos, deduct_rest]; rfl
  · have e := State.bal_send_to h1 nofun (.pool app pool)
    rw [if_pos rfl] at e; exact e
  · have e := State.bal_send_from h1 nofun (.pool app pool)
    rw [if_pos rfl] at e; exact e

/-- **Maturation moves exactly the mature entries** (`ProcessQueuedFarmers`, per farmer): what stays queued is younger
than the queue duration, the active position grows by exactly the mature entries, the farmer's total is unchanged. -/
theorem maturation_exact (dur now : Int) (f : Farmer) :
    (∀ q ∈ (activate dur now f).queued, now < q.2 + dur ∧ q ∈ f.queued) ∧
    (activate dur now f).active = f.active + qTotal (f.queued.filter fun q => !decide (now < q.2 + dur)) ∧
    qTotal (activate dur now f).queued + (activate dur now f).active = qTotal f.queued + f.active := by
  refine ⟨?_, rfl, ?_⟩
  · intro q hq
    simp only [activate, List.mem_filter, decide_eq_true_eq] at hq
    exact ⟨hq.2, hq.1⟩
  · simp only [activate]
    have := qTotal_filter (fun q => decide (now < q.2 + dur)) f.queued
    omega

/-- after an app's batch no queue entry of that app is mature -/
theorem no_mature_entry_after_batch (cfg : Cfg) (s : State) (a : Nat) :
    ∀ f ∈ (processQueued cfg s a).farmers, f.app = a → ∀ q ∈ f.queued, s.now < q.2 + cfg.queueDur := by
  intro f hf hfa q hq
  simp only [processQueued, List.mem_map] at hf
  obtain ⟨x, hx, rfl⟩ := hf
  by_cases hc : (x.app == a) = true
  · simp only [hc, if_true] at hq
    exact ((maturation_exact cfg.queueDur s.now x).1 q hq).1
  · simp only [hc] at hfa
    exact absurd (by simpa using hfa) hc

/-- **A deposit request executed against a disabled pool is refunded in full** (any state, any batch later). -/
theorem deposit_refunded_if_pool_disabled {s s' : State} {a pl i ax ay pc : Nat} {r : DepReq} {q : Pool}
    (hr : findBy (isDep a pl i) s.deps = some r) (hp : r.status = .pending)
    (hq : s.pool? a pl = some q) (hd : q.disabled = true) (hne : r.qd ≠ r.bd)
    (h : execDeposit s a pl i ax ay pc = some s') :
    s'.bal (.user r.owner) r.qd = s.bal (.user r.owner) r.qd + r.dx ∧
    s'.bal (.user r.owner) r.bd = s.bal (.user r.owner) r.bd + r.dy ∧
    (findBy (isDep a pl i) s'.deps).map (·.status) = some .failed ∧ s'.pools = s.pools := by
  obtain ⟨r', hr', hx⟩ := execDeposit_exec h
  cases hr.symm.trans hr'
  obtain ⟨k1, k2, k3⟩ := isDep_true (findBy_some_prop hr).1
  have e := failDep_refunds (findBy_isDep_self hr) hne (hx.of_disabled hp hq hd)
  rwa [k1, k2, k3] at e

/-- **A withdrawal request executed against a disabled pool gets its pool coins back.** -/
theorem withdraw_refunded_if_pool_disabled {s s' : State} {a pl i x y : Nat} {r : WdrReq} {q : Pool}
    (hr : findBy (isWdr a pl i) s.wdrs = some r) (hp : r.status = .pending)
    (hq : s.pool? a pl = some q) (hd : q.disabled = true)
    (h : execWithdraw s a pl i x y = some s') :
    s'.bal (.user r.owner) (.pool a pl) = s.bal (.user r.owner) (.pool a pl) + r.pc ∧
    (findBy (isWdr a pl i) s'.wdrs).map (·.status) = some .failed ∧ s'.pools = s.pools := by
  obtain ⟨r', hr', hx⟩ := execWithdraw_exec h
  cases hr.symm.trans hr'
  obtain ⟨k1, k2, k3⟩ := isWdr_true (findBy_some_prop hr).1
  have e := failWdr_refunds (findBy_isWdr_self hr) (hx.of_disabled hp hq hd)
  rwa [k1, k2, k3] at e

theorem zero_supply_disabled {cfg : Cfg} (hc : CfgOk cfg) (funds : List (Nat × Nat × Nat)) (ops : List Op) :
    ∀ q ∈ (after cfg funds ops).pools, q.ps = 0 → q.disabled = true :=
  (reachable_inv hc funds ops).zero

/-- **Supply changes only by pool operations**: whenever a message or block hook changes the recorded pool-coin supply
of pool `(a, pl)`, it is the creation of a pool of that app, the batch execution of that app, or a
deposit-and-farm / unfarm-and-withdraw on exactly that pool. -/
theorem poolcoin_supply_only_by_pool_ops (cfg : Cfg) (s : State) (op : Op) (a pl : Nat)
    (h : supply (stepT cfg s op) a pl ≠ supply s a pl) : touchesSupply a pl op :=
  (stepT_cases cfg s op).elim (fun e => absurd (congrArg (supply · a pl) e) h) fun hs =>
    Classical.byContradiction fun hn => h (supply_frame a pl hs hn)

/-- **Supply changes by exactly the executed requests of THAT pool** — every operation that neither prunes request records
(`BeginBlocker`) nor creates a pool: the recorded supply of pool `(a, pl)` after the step, plus what the succeeded withdrawal
requests of that pool now on record burnt, plus what the succeeded deposit requests of that pool on record BEFORE had minted
= the same with before / after exchanged; i.e. `Δ supply = Δ minted − Δ burnt`, where minted / burnt are read off the request
records of pool `(a, pl)` only (`mintedSum`, `burnedSum`).  Covers pending requests executed by the batch of any later block,
requests executed inside `MsgDepositAndFarm` / `MsgUnfarmAndWithdraw`, and failing requests (refunded; they mint / burn nothing). -/
theorem poolcoin_supply_exact (cfg : Cfg) (s : State) (op : Op) (a pl : Nat) (hop : prunesOrCreates op = false) :
    supply (stepT cfg s op) a pl + mintedSum a pl s.deps + burnedSum a pl (stepT cfg s op).wdrs =
      supply s a pl + mintedSum a pl (stepT cfg s op).deps + burnedSum a pl s.wdrs :=
  (stepT_cases cfg s op).elim (fun e => by rw [e]) (step_supplyEq a pl hop)

/-- if no request of pool `(a, pl)` newly succeeds in a step, its supply does not move -/
theorem poolcoin_supply_fixed_without_executed_request (cfg : Cfg) (s : State) (op : Op) (a pl : Nat)
    (hop : prunesOrCreates op = false)
    (hm : mintedSum a pl (stepT cfg s op).deps = mintedSum a pl s.deps) (hb : burnedSum a pl (stepT cfg s op).wdrs = burnedSum a pl s.wdrs) :
    supply (stepT cfg s op) a pl = supply s a pl := by
  have := poolcoin_supply_exact cfg s op a pl hop
  omega

/-- **Pool creation adds one pool record with a positive supply and touches no other pool** (basic and ranged); the
begin-block pruning deletes request / order records only. -/
theorem poolcoin_supply_create_and_prune {cfg : Cfg} (hc : CfgOk cfg) (s : State) :
    (∀ app creator pair ranged dx dy ammPs ext s', step cfg s (.createPool app creator pair ranged dx dy ammPs ext) = some s' →
      ∃ q, s'.pools = s.pools ++ [q] ∧ q.app = app ∧ q.ranged = ranged ∧ 0 < q.ps ∧ s'.deps = s.deps ∧ s'.wdrs = s.wdrs ∧
        ∀ a pl, (s.pool? a pl).isSome → supply s' a pl = supply s a pl) ∧
    (∀ app, (stepT cfg s (.beginBlock app)).pools = s.pools) := by
  refine ⟨?_, fun app => rfl⟩
  intro app creator pair ranged dx dy ammPs ext s' h
  obtain ⟨ac, q, hac, hp, h1, h2, h3, hrq⟩ := createPool_pools h
  refine ⟨q, hp, h1, h2, ?_, hrq.1, hrq.2, ?_⟩
  · rw [h3]
    have := hc ac (app?_mem hac)
    omega
  · intro a pl hsome
    cases hq : s.pool? a pl with
    | none => rw [hq] at hsome; cases hsome
    | some q0 => exact supply_append_existing s [q] a pl q0 hq s' hp

/-! ### The escrow can fall short when a match result does not conserve coins (defect D2 of the matcher) -/

def cfg1 : Cfg :=
  { apps := [{ app := 1, feeRate := 3000000000000000, batchSize := 1, maxLifespan := 86400, pairFee := 5, poolFee := 5,
               minInitDeposit := 10, minInitSupply := 1000, maxPools := 20 }],
    swapLookup := false, queueDur := 86400 }

def funds1 : List (Nat × Nat × Nat) := [(0, 0, 100), (1, 1, 1000000), (2, 1, 1000000), (3, 2, 1000000)]

/-- two sells of 15000 base, one buy of 16000; the (non-conserving) result gives the buyer 16000 base although the
sellers paid 15000 -/
def opsD2 : List Op :=
  [ .block 1 100,
    .createPair 1 0 (.coin 1) (.coin 2) true,
    .order 1 1 1 .limit false (.coin 1) (.coin 2) 20000 1000000000000000000 15000 3600,
    .order 1 2 1 .limit false (.coin 1) (.coin 2) 20000 1000000000000000000 15000 3600,
    .order 1 3 1 .limit true (.coin 2) (.coin 1) 20000 1000000000000000000 16000 3600,
    .endBlock 1 [{ pair := 1, fills := [{ id := 1, buy := false, paid := 15000, recv := 15000, matched := 15000 },
                                        { id := 3, buy := true, paid := 16000, recv := 16000, matched := 16000 }],
                   pools := [], dust := 1000 }] [] [] ]

theorem pair_escrow_ge_orders_counterexample :
    (after cfg1 funds1 opsD2).bal (.pairEscrow 1 1) (.coin 1) < remSum 1 1 (.coin 1) (after cfg1 funds1 opsD2).orders := by
  decide +kernel

/-- the D2 book of C05 (two sells 15000 @ 0.0001, one buy 16000 @ 0.0002, last price 0.00009) run through the modelled
matcher: the ledger input built from the run has no quote deficit and a base deficit of exactly the 1000 dropped coins -/
theorem d2_offset_witness :
    ∃ b' mp q, Amm.matchBook (Amm.newBook C05.d2Orders) 90000000000000 = .ok b' mp q ∧
      defQ (LiqBridge.matchInOf 1 (Amm.newBook C05.d2Orders) b' q) = 0 ∧
      defB (LiqBridge.matchInOf 1 (Amm.newBook C05.d2Orders) b' q) = 1000 ∧
      LiqBridge.lostBase (Amm.newBook C05.d2Orders) b' = 1000 :=
  ⟨_, _, _, C05.base_conserved_counterexample.1, by decide, by decide, by decide⟩

theorem cfg1_ok : CfgOk cfg1 := by
  intro ac h
  simp [cfg1] at h
  subst h
  decide

/-- a conserving history: a pair, a rejected pool creation, two orders, a batch with one fill, a begin-block -/
def opsOK : List Op :=
  [ .block 1 100,
    .createPair 1 0 (.coin 1) (.coin 2) true,
    .createPool 1 3 1 false 500000 0 0 true,          -- rejected: base amount below the minimum
    .order 1 1 1 .limit false (.coin 1) (.coin 2) 20000 1000000000000000000 15000 3600,
    .order 1 3 1 .limit true (.coin 2) (.coin 1) 20000 1000000000000000000 10000 3600,
    .endBlock 1 [{ pair := 1, fills := [{ id := 1, buy := false, paid := 10000, recv := 10000, matched := 10000 },
                                        { id := 2, buy := true, paid := 10000, recv := 10000, matched := 10000 }],
                   pools := [], dust := 0 }] [] [],
    .beginBlock 1 ]

theorem opsOK_conserving : ∀ op ∈ opsOK, OpConserving op := by
  intro op hop
  simp only [opsOK, List.mem_cons, List.not_mem_nil, or_false] at hop
  rcases hop with rfl | rfl | rfl | rfl | rfl | rfl | rfl
  · trivial
  · trivial
  · trivial
  · trivial
  · trivial
  · intro m hm          -- the `endBlock`: its one match result hands out what it took in
    simp at hm
    subst hm
    decide
  · trivial
example : ((after cfg1 funds1 opsOK).orders.map fun o => (o.id, o.remaining, o.status)) = [(1, 5000, .partially)] := by decide +kernel
example : (after cfg1 funds1 opsOK).bal (.pairEscrow 1 1) (.coin 1) = 5045 := by decide +kernel
example : remSum 1 1 (.coin 1) (after cfg1 funds1 opsOK).orders = 5000 := by decide +kernel
example : touchesSupply 1 1 (.createPool 1 0 1 false 5 5 5 true) := rfl
/-- queue of three ages (oldest first) 50@t1, 30@t2, 20@t3: unfarming 35 takes 20 from the newest and 15 from the middle -/
example : keepNonzero (deduct [(50, 1), (30, 2), (20, 3)] 35).1 = [(50, 1), (15, 2)] ∧ (deduct [(50, 1), (30, 2), (20, 3)] 35).2 = 0 ∧
    (deduct [(50, 1), (30, 2), (20, 3)] 130).2 = 30 := by decide
/-- maturation at time 100 with duration 60: entries created at 10 and 40 are mature, the one at 70 is not -/
example : activate 60 100 { app := 1, pool := 1, owner := 0, queued := [(5, 10), (7, 40), (9, 70)], active := 2 } =
    { app := 1, pool := 1, owner := 0, queued := [(9, 70)], active := 14 } := by decide

def fundsS : List (Nat × Nat × Nat) := [(1, 0, 100), (1, 1, 5000000), (1, 2, 5000000), (2, 1, 1000000), (2, 2, 1000000)]

/-- a pool, a deposit request pending over the block boundary and executed by the next batch, a second one that fails (mints
nothing), a withdrawal: supply 1 000 000 → 1 500 000 → 1 300 000, and exactly the succeeded requests account for it -/
def opsS : List Op :=
  [ .block 1 100,
    .createPair 1 1 (.coin 1) (.coin 2) true,
    .createPool 1 1 1 false 1000000 1000000 1000000 true,
    .deposit 1 2 1 500000 500000 true,
    .deposit 1 2 1 1 1 true,
    .endBlock 1 [] [{ pool := 1, id := 1, ax := 500000, ay := 500000, pc := 500000 }] [],
    .block 2 105, .beginBlock 1,
    .withdraw 1 1 1 200000 true,
    .endBlock 1 [] [] [{ pool := 1, id := 1, x := 199000, y := 199000 }] ]
example : supply (after cfg1 fundsS (opsS.take 3)) 1 1 = 1000000 ∧ supply (after cfg1 fundsS (opsS.take 6)) 1 1 = 1500000 ∧
    mintedSum 1 1 (after cfg1 fundsS (opsS.take 6)).deps = 500000 ∧
    ((after cfg1 fundsS (opsS.take 6)).deps.map fun r => (r.id, r.status, r.minted)) = [(1, .succeeded, 500000), (2, .failed, 0)] ∧
    supply (after cfg1 fundsS opsS) 1 1 = 1300000 ∧ burnedSum 1 1 (after cfg1 fundsS opsS).wdrs = 200000 := by
  decide +kernel
example : prunesOrCreates (.endBlock 1 [] [] []) = false := rfl
/-- the batch of `opsOK` completes the buyer (10 000 quote paid, fee 30) — the collector gets 30 of coin 2 and nothing of coin 1 -/
example : (after cfg1 funds1 (opsOK.take 6)).bal (.swapFee 1 1) (.coin 2) = 30 ∧
    fwdSum cfg1 1 1 (.coin 2) (after cfg1 funds1 (opsOK.take 6)).orders = 30 ∧
    (after cfg1 funds1 (opsOK.take 6)).bal (.swapFee 1 1) (.coin 1) = 0 := by decide +kernel
example : coinTotal 1 (after cfg1 funds1 opsOK).bank = 2000000 ∧ coinTotal 1 (genesis funds1).bank = 2000000 := by decide +kernel

end Comdex.C04
