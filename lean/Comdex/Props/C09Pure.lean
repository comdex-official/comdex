import Comdex.Gen.Pure
import Comdex.Base.GoSem
import Comdex.Model.Liquidation
/-!
# C09 — the sweep's slice bounds of the model ARE the arithmetic of the current Go source

`Gen.Pure.sliceStartEndV2` / `sliceStartEndV1` are regenerated on every run by `extract/pure` from
`x/liquidationsV2/types/offset.go` / `x/liquidation/types/liquidations.go`: `GetSliceStartEndForLiquidations`
(Go `int` arithmetic: `offset + batchSize` wraps at 2^63).  `Liquidation.sliceBoundsI` is the hand-written model used by
the sweep (`sweepBoundsI`, `vaultPass`, `borrowPassV2` …); the C09 liveness theorems speak of its idealisation on naturals
(`sweepBounds`), tied to it by `Liquidation.sweepBounds_cast`.

Go function → theorem
* generation 2 `GetSliceStartEndForLiquidations` → `pure_sliceStartEndV2_eq_model`
* generation 1 `GetSliceStartEndForLiquidations` → `pure_sliceStartEndV1_eq_model`
  for ALL integer arguments, no hypothesis.

The real function wraps (`GetSliceStartEndForLiquidations(5, 1, MaxInt64) = (1, MinInt64)`, run on both generations; finding D41),
and so does the model (`Liquidation.wrapInt`): an equality without wrap-around would need the hypothesis "`offset + batchSize` stays
inside int64".  `C09.slice_in_bounds` and the theorems built on it state that hypothesis;
`C09.slice_in_bounds_wrap_counterexample` / `pure_sliceStartEnd_wrap_witness` record the witness.  See notes/PURE.md.

Trusted: the translator's reading of Go and `Base/GoSem.lean`; kernel-checked: the equality with the model.
-/
namespace Comdex.C09
open Comdex.GoSem Comdex.Liquidation

theorem i64Add_eq_wrapInt (a b : Int) : i64Add a b = wrapInt (a + b) := rfl

/-- the same equality case by case along the two `if`s of `sliceBoundsI`; the theorems below do without it -/
local macro "slice_tac" len:ident off:ident batch:ident : tactic => `(tactic| (
  unfold sliceBoundsI
  rw [i64Add_eq_wrapInt]
  by_cases h1 : $off ≥ $len ∨ $off < 0 ∨ $batch < 0
  · have h1' : ($off ≥ $len ∨ $off < 0) ∨ $batch < 0 := by omega
    simp only [h1, h1', if_true]; rfl
  · have h1' : ¬ (($off ≥ $len ∨ $off < 0) ∨ $batch < 0) := by omega
    simp only [h1, h1', if_false]
    by_cases h2 : wrapInt ($off + $batch) ≥ $len
    · simp only [h2, if_true]; rfl
    · simp only [h2, if_false]; rfl))

theorem pure_sliceStartEndV2_eq_model (len off batch : Int) :
    Gen.Pure.sliceStartEndV2 len off batch = .ok (sliceBoundsI len off batch) := by
  unfold Gen.Pure.sliceStartEndV2 sliceBoundsI
  -- the translation is the model with `.ok` pushed inside the two `if`s and the disjunction bracketed to the left
  rw [apply_ite Except.ok, apply_ite Except.ok]
  simp only [or_assoc]
  rfl

/-- the two Go functions are textual copies, the translations the same term -/
theorem pure_sliceStartEndV1_eq_model (len off batch : Int) :
    Gen.Pure.sliceStartEndV1 len off batch = .ok (sliceBoundsI len off batch) :=
  pure_sliceStartEndV2_eq_model len off batch

example : Gen.Pure.sliceStartEndV2 10 3 4 = .ok (3, 7) := by rfl
example : Gen.Pure.sliceStartEndV2 10 8 4 = .ok (8, 10) := by rfl
example : Gen.Pure.sliceStartEndV1 10 10 4 = .ok (10, 10) := by rfl
example : sliceBoundsI 10 3 4 = (3, 7) := by decide

/-- where the sum wraps the code returns a NEGATIVE end (the caller's `s[start:end]` then panics) — and so does the model -/
theorem pure_sliceStartEnd_wrap_witness :
    Gen.Pure.sliceStartEndV2 5 1 9223372036854775807 = .ok (1, -9223372036854775808) ∧
    Gen.Pure.sliceStartEndV1 5 1 9223372036854775807 = .ok (1, -9223372036854775808) ∧
    sliceBoundsI 5 1 9223372036854775807 = (1, -9223372036854775808) := by
  refine ⟨by rfl, by rfl, by decide⟩

end Comdex.C09
