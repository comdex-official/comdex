import Comdex.Lemmas.GaugeShare
import Comdex.Lemmas.ExtReward
/-!
# C19 — Incentive payouts never exceed their funding and follow farmed share

Property clause → theorem (all kernel-checked, quantified over ALL totals / epoch counts / histories / farmed values)

* "a gauge's per-epoch allocations sum exactly to its deposit"
    → `split_sums_to_total` (for `1 ≤ epochs ≤ total`), `split_lengths`, `split_each_within_one`,
      `split_remainder_on_last_epochs`, `split_zero_epochs_panics` (the pure function);
      `accepted_gauge_split_sums` / `every_gauge_split_sums`: `1 ≤ epochs ≤ deposit` is what `MsgCreateGauge.ValidateBasic`
      enforces (zero epochs refused since repo commit 295205b), so the clause holds for every gauge that can exist.
* "each epoch pays out at most that epoch's allocation"
    → `epoch_pays_le_allocation` (record), `epoch_outflow_le_allocation` (coins leaving the module account)
* "the cumulative amount paid never exceeds the deposit"
    → `cumulative_le_deposit` (any list of trigger attempts: any block times, any distribution data, panics rolled back);
      the epoch clock: `epoch_clock_skips_are_not_repaid`, `epoch_clock_one_trigger_per_block`, `epoch_clock_halt_realigns`
      (the chain-halt branch), `epoch_clock_no_burst` (any history of block times: triggers ≤ elapsed / duration)
* "no farmer's payout exceeds its pro-rata share … by more than one part in 10^12 (floating-point rounding)"
    → `farmer_share_le_prorata`: for every Dec→float conversion with relative error ≤ 2⁻⁵³ (`FloatUpper`, an explicit
      hypothesis; `f64_satisfies_float_hypothesis` shows the exact round-to-nearest-even conversion satisfies it, the
      harness TESTS that Go's `MustFloat64` is that conversion), with `s`, `S` the farmer's and the total value in value units
      (the theorems are stated on the raw 10⁻¹⁸ values, `Gauge.ProRata`),
        payout ≤ (1 + 2⁻⁵³) · ( alloc·s/S  +  (s + 1)·½·10⁻¹⁸ );
      `farmer_share_lengths`; `farmer_share_le_prorata_1e12_partial`: the literal 10⁻¹² bound under `s ≥ 1` and
      `S ≤ 999000 · alloc`; `farmer_share_1e12_counterexample`: the literal clause is FALSE of the code in general (the 18-digit
      rounding of `multiplier = alloc/S` is amplified by `s`; the excess is below one base unit and inside the epoch allocation);
      `master_share_le_prorata`: master-pool mode, on min(master, child) values; `master_child_share_le_prorata` /
      `plain_share_le_prorata_from_positions`: the same from the farmed POSITIONS (`weight_is_min_of_master_and_child_sum`).
* the same three clauses for the EXTERNAL REWARD PROGRAMMES (locker, vault, lend; `Model/ExtReward.lean`):
    "each epoch pays at most that epoch's allocation" is FALSE of the code as worded; what holds exactly:
    → `ext_share_epoch_bound` (locker / vault), `ext_share_epoch_cap_partial` (the literal cap for small amounts),
      `ext_overpay_counterexample` (D20);
      `ext_lend_block_each_programme_bounded` (lend, any number of programmes handled in one block),
      `ext_lend_weights_vs_total`, `ext_lend_daily_value`, `ext_lend_value_at_par`, `ext_lend_epoch_cap_partial` (the literal cap
      at par price with integral weights), `ext_lend_value_as_amount_counterexample` (D42),
      `ext_lend_truncated_total_counterexample` (D43)
    "the cumulative amount paid never exceeds the deposit"
    → `ext_cumulative_is_funding_minus_available` (any history), `ext_available_nonneg_of_epoch_caps` (cumulative ≤ funding and
      AvailableRewards ≥ 0 PROVIDED every epoch respects the literal cap — the code does not enforce it, see the three
      counterexamples), `ext_epochs_le_duration`, `ext_one_epoch_per_visit`, `ext_not_due_twice`, `ext_share_visit_valid`
      (the visits of the locker / vault function satisfy the hypothesis `ValidHist` of these; not stated for lend),
      `ext_accepted_programme_funded`
* swap-fee gauges (`sfTrigger`): `sf_epoch_pays_le_collected` (the record always moves by what was paid and what arrived);
  `sf_denom_change_keeps_custody_per_denom` (a change of `SwapFeeDistrDenom`, ledger by ledger);
  `sf_gauge_leak_before_fix_counterexample` (D44, repaired by repository commit b0fa4d4: the step as it was before)
* "the rewards custody account always holds at least the undistributed remainder of all active gauges and external
   reward programs"
    → `custody_ge_remaining` (any history of ledger operations, no hypothesis; the sum is signed),
      `custody_ge_active_remaining` (ACTIVE gauges and programmes, under the hypothesis that no programme's `AvailableRewards`
      is negative — the code has no such guard, the monitor `custody` tests it; `ext_overpay_counterexample`: it FAILS on the
      real code), `farmers_receive_calculated` (under the invariant no reward send can fail for lack of funds).
-/
namespace Comdex.C19
open Comdex.Gauge

/-- **Allocations sum to the deposit** for every deposit and every positive number of epochs not above it. -/
theorem split_sums_to_total (total epochs : Nat) (h1 : 1 ≤ epochs) (h2 : epochs ≤ total) :
    ∃ l, split total epochs = .ok l ∧ l.sum = total :=
  ⟨_, split_ok total epochs h1 h2, (prefixSum_full total epochs).symm.trans (prefixSum_total total epochs h1)⟩

example : split 150 11 = .ok [13, 13, 13, 13, 14, 14, 14, 14, 14, 14, 14] := by decide
example : ∃ l, split 150 11 = .ok l ∧ l.sum = 150 := split_sums_to_total 150 11 (by decide) (by decide)

/-- one allocation per epoch; a total smaller than the epoch count gives NO allocations (the caller then skips). -/
theorem split_lengths (total epochs : Nat) (l : List Nat) (h : split total epochs = .ok l) :
    (epochs ≤ total → l.length = epochs) ∧ (total < epochs → l = []) := by
  rcases split_cases total epochs l h with ⟨h1, rfl⟩ | ⟨_, h2, rfl⟩
  · exact ⟨fun h' => by omega, fun _ => rfl⟩
  · exact ⟨fun _ => by rw [List.length_map, List.length_range], fun h' => by omega⟩

/-- every allocation is `⌊total/epochs⌋` or one more -/
theorem split_each_within_one (total epochs : Nat) (l : List Nat) (h : split total epochs = .ok l) :
    ∀ x ∈ l, total / epochs ≤ x ∧ x ≤ total / epochs + 1 := by
  intro x hx
  obtain ⟨i, hi⟩ := List.getElem?_of_mem hx
  obtain ⟨_, rfl⟩ := split_get total epochs l h i x hi
  unfold splitAt
  split_ifs <;> omega

/-- the remainder is spread over the LAST epochs: allocations never decrease -/
theorem split_remainder_on_last_epochs (total epochs : Nat) (l : List Nat) (h : split total epochs = .ok l)
    (i j : Nat) (a b : Nat) (hij : i ≤ j) (hi : l[i]? = some a) (hj : l[j]? = some b) : a ≤ b := by
  obtain ⟨_, rfl⟩ := split_get total epochs l h i a hi
  obtain ⟨_, rfl⟩ := split_get total epochs l h j b hj
  unfold splitAt
  split_ifs <;> omega

/-- `SplitTotalAmountPerEpoch(total, 0)` is a Go run-time panic for every total -/
theorem split_zero_epochs_panics (total : Nat) : split total 0 = .error "integer divide by zero" := by
  unfold split
  rw [if_neg (by omega), if_pos rfl]

/-- **Every accepted gauge has a proper split**: the guards of `MsgCreateGauge` (ValidateBasic refuses
`TotalTriggers = 0` and `deposit < TotalTriggers`) put every accepted gauge inside the hypothesis of
`split_sums_to_total`, so its per-epoch allocations sum exactly to its deposit. -/
theorem accepted_gauge_split_sums (deposit : Int) (total : Nat) (start now dur minDur : Int) (aux : Bool)
    (h : createGuard deposit total start now dur minDur aux = true) :
    1 ≤ total ∧ ∃ l, split deposit.toNat total = .ok l ∧ l.sum = deposit.toNat ∧ l.length = total := by
  obtain ⟨h1, h2⟩ := createGuard_bounds deposit total start now dur minDur aux h
  have h2 : total ≤ deposit.toNat := by omega
  obtain ⟨l, hl, hs⟩ := split_sums_to_total deposit.toNat total h1 h2
  exact ⟨h1, l, hl, hs, (split_lengths _ _ l hl).1 h2⟩

/-- the same for every gauge that exists in the ledger after ANY history: epochs ≥ 1, deposit ≥ epochs, and the
allocations of its (never changing) deposit sum to it -/
theorem every_gauge_split_sums (ops : List Op) (l : Ledger) (hl : l = run Ledger.empty ops) :
    ∀ g ∈ l.gauges, 1 ≤ g.total ∧ (g.total : Int) ≤ g.deposit ∧
      ∃ sp, split g.deposit.toNat g.total = .ok sp ∧ sp.sum = g.deposit.toNat := by
  subst hl
  intro g hg
  obtain ⟨h1, h2⟩ := run_gauges_accepted ops g hg
  exact ⟨h1, h2, split_sums_to_total g.deposit.toNat g.total h1 (by omega)⟩

-- a zero-epoch gauge and a gauge with fewer units than epochs are refused; a proper one is accepted
example : createGuard 7 0 0 0 86400000000000 43200000000000 true = false := by decide
example : createGuard 7 8 0 0 86400000000000 43200000000000 true = false := by decide
example : createGuard 7 7 0 0 86400000000000 43200000000000 true = true := by decide

/-- **Each epoch pays at most that epoch's allocation**: whatever `trigger` stores and hands to the bank,
the recorded increase equals the sum handed out, every coin is non-negative, and either nothing is paid or the
sum is within `split(deposit, total)[triggered]` which itself is within the undistributed remainder. -/
theorem epoch_pays_le_allocation (g g' : Gauge) (now : Int) (d : DistData) (sends : List Int)
    (h : trigger g now d = .ok (g', sends)) :
    g'.distributed - g.distributed = sumL sends ∧ (∀ x ∈ sends, 0 ≤ x) ∧
    (sends = [] ∨
      (g.triggered < g.total ∧ g'.triggered = g.triggered + 1 ∧
       sumL sends ≤ (splitAt g.deposit.toNat g.total g.triggered : Int) ∧
       (splitAt g.deposit.toNat g.total g.triggered : Int) ≤ g.deposit - g.distributed)) := by
  rcases trigger_cases g g' now d sends h with ⟨rfl, rfl | rfl⟩ | ⟨a, ha, _, hnn, hsum, hcap, rfl⟩
  · exact ⟨Int.sub_self _, nofun, Or.inl rfl⟩
  · exact ⟨Int.sub_self _, nofun, Or.inl rfl⟩
  · obtain ⟨a1, a2, _⟩ := allocation_some g a ha
    exact ⟨by simp only; omega, hnn, Or.inr ⟨a1, rfl, by omega, by omega⟩⟩

/-- the same at the bank: the module account's outflow in one gauge trigger is at most the allocation -/
theorem epoch_outflow_le_allocation (l l' : Ledger) (i : Nat) (now : Int) (d : DistData) (g : Gauge)
    (hg : l.gauges[i]? = some g) (h : stepB l (.trigger i now d) = .ok l') :
    l'.bal ≤ l.bal ∧
    (l'.bal = l.bal ∨ l.bal - l'.bal ≤ (splitAt g.deposit.toNat g.total g.triggered : Int)) := by
  cases stepB_cases h with
  | skip => exact ⟨Int.le_refl _, Or.inl rfl⟩
  | @trigger _ _ _ g0 g' sends hg0 ht =>
  cases hg.symm.trans hg0
  obtain ⟨_, hnn, hc⟩ := epoch_pays_le_allocation g g' now d sends ht
  have hb := sendAll_bounds sends hnn l.bal
  refine ⟨hb.2, ?_⟩
  rcases hc with rfl | ⟨_, _, hs, _⟩
  · exact Or.inl rfl
  · exact Or.inr (by simp only; omega)

example : trigger (newGauge 1000 3 0) 5 (.ok [300, 33]) =
    .ok ({ newGauge 1000 3 0 with triggered := 1, distributed := 333 }, [300, 33]) := by decide
-- a calculated total above the allocation (333) is refused and the epoch is not counted
example : trigger (newGauge 1000 3 0) 5 (.ok [300, 34]) = .ok (newGauge 1000 3 0, []) := by decide

/-- **Cumulative paid never exceeds the deposit**: for every deposit, epoch count, start time and every finite
history of trigger attempts (arbitrary block times, arbitrary distribution data incl. errors and panics), the
recorded distributed amount stays within the allocations of the epochs triggered so far, hence within the
deposit; the deposit itself never changes and at most `total` epochs are ever counted. -/
theorem cumulative_le_deposit (deposit : Int) (total : Nat) (start : Int) (hist : List (Int × DistData))
    (hd : 0 ≤ deposit) (g : Gauge) (hg : g = runGauge (newGauge deposit total start) hist) :
    0 ≤ g.distributed ∧
    g.distributed ≤ (prefixSum deposit.toNat total g.triggered : Int) ∧
    g.distributed ≤ deposit ∧ g.deposit = deposit ∧ g.triggered ≤ total := by
  obtain ⟨hinv, hdep, ht⟩ := runGauge_inv (newGauge deposit total start) hist (newGauge_inv deposit total start hd)
  rw [← hg] at hinv hdep ht
  have hdep' : g.deposit = deposit := hdep
  have ht' : g.total = total := ht
  have hle := GInv_le_deposit _ hinv
  obtain ⟨h1, h2, _, h4⟩ := hinv
  rw [hdep', ht'] at h4
  exact ⟨h1, h4, by omega, hdep', by omega⟩

example : (runGauge (newGauge 10 3 0) [(1, .ok [3]), (2, .err), (9, .ok [2, 1]), (9, .ok [9]), (20, .ok [4]), (21, .ok [1])]).distributed = 10 := by
  decide

/-- skipped epochs: after a gap of more than two durations the clock only moves forward; no gauge is triggered
in that block, so the skipped epochs' allocations are not paid later in a burst -/
theorem epoch_clock_skips_are_not_repaid (e : Epoch) (now : Int) (hf : e.fresh = false)
    (hgap : e.cur + e.dur * 2 < now) : (epochStep e now).2 = false := by
  unfold epochStep
  rw [if_neg (by simp [hf]), if_pos hgap]

/-- and a block triggers a duration's gauges at most once -/
theorem epoch_clock_one_trigger_per_block (e : Epoch) (now : Int) :
    (epochStep e now).2 = true → (epochStep e now).1.count = e.count + 1 ∧ (epochStep e now).1.cur = e.cur + e.dur := by
  unfold epochStep
  split_ifs
  · intro h; cases h
  · intro h; cases h
  · intro _; exact ⟨rfl, rfl⟩
  · intro h; cases h

/-- **Chain halt** (epochs.go:38-44, "In case of chain halt/stop"): when a block arrives more than two durations after the
current epoch start, the clock jumps forward by a whole number `k ≥ 2` of durations — it stays on its grid —, lands within one
duration before the block time, counts NO epoch (`CurrentEpoch` unchanged) and triggers nothing in that block; the epoch that
is running at the restart is triggered by the first block after `cur' + dur`, i.e. less than one duration later. -/
theorem epoch_clock_halt_realigns (e : Epoch) (now : Int) (hf : e.fresh = false) (hd : 0 < e.dur)
    (hgap : e.cur + e.dur * 2 < now) :
    (epochStep e now).2 = false ∧ (epochStep e now).1.count = e.count ∧ (epochStep e now).1.dur = e.dur ∧
    (∃ k : Int, 2 ≤ k ∧ (epochStep e now).1.cur = e.cur + e.dur * k) ∧
    (epochStep e now).1.cur ≤ now ∧ now < (epochStep e now).1.cur + e.dur := by
  unfold epochStep
  rw [if_neg (by simp [hf]), if_pos hgap]
  rw [Int.tdiv_eq_ediv_of_nonneg (show 0 ≤ now - e.cur by omega)]
  have h1 : (now - e.cur) / e.dur * e.dur ≤ now - e.cur := Int.ediv_mul_le _ (ne_of_gt hd)
  have h2 : now - e.cur < ((now - e.cur) / e.dur + 1) * e.dur := Int.lt_ediv_add_one_mul_self _ hd
  have h3 : 2 ≤ (now - e.cur) / e.dur := (Int.le_ediv_iff_mul_le hd).mpr (by omega)
  refine ⟨rfl, rfl, rfl, ⟨(now - e.cur) / e.dur, h3, rfl⟩, ?_, ?_⟩
  · simp only; linarith
  · simp only; linarith

example : epochStep { fresh := false, cur := 1000, dur := 100, count := 7 } 1675
    = ({ fresh := false, cur := 1600, dur := 100, count := 7 }, false) := by decide

theorem epochStep_running (e : Epoch) (now : Int) (hf : e.fresh = false) (hd : 0 < e.dur) :
    (epochStep e now).1.fresh = false ∧ (epochStep e now).1.dur = e.dur ∧
    (((epochStep e now).2 = true ∧ (epochStep e now).1.cur = e.cur + e.dur ∧ (epochStep e now).1.cur < now) ∨
     ((epochStep e now).2 = false ∧ e.cur ≤ (epochStep e now).1.cur ∧ (epochStep e now).1.cur ≤ max e.cur now)) := by
  by_cases hgap : e.cur + e.dur * 2 < now
  · obtain ⟨a, _, c, ⟨k, hk, hk'⟩, d, _⟩ := epoch_clock_halt_realigns e now hf hd hgap
    refine ⟨?_, c, Or.inr ⟨a, ?_, le_trans d (le_max_right _ _)⟩⟩
    · unfold epochStep; rw [if_neg (by simp [hf]), if_pos hgap]; exact hf
    · have := Int.mul_le_mul_of_nonneg_left hk hd.le
      omega
  · unfold epochStep
    rw [if_neg (by simp [hf]), if_neg hgap]
    split
    · exact ⟨hf, rfl, Or.inl ⟨rfl, rfl, by simp only; omega⟩⟩
    · exact ⟨hf, rfl, Or.inr ⟨rfl, le_refl _, le_max_left _ _⟩⟩

/-- **No burst after a halt, for any history of block times**: however the blocks are spaced (early, late, after one or
many halts), the number of times a duration's gauges have been triggered up to time `T` is at most `(T − cur₀) / dur`:
every trigger moves the clock by one duration and the clock never passes the block time. -/
theorem epoch_clock_no_burst (e : Epoch) (times : List Int) (T : Int) (hf : e.fresh = false) (hd : 0 < e.dur)
    (ht : ∀ t ∈ times, t ≤ T) :
    ((runEpoch e times).2 : Int) * e.dur ≤ (runEpoch e times).1.cur - e.cur ∧
    (runEpoch e times).1.cur ≤ max e.cur T ∧ (runEpoch e times).1.dur = e.dur := by
  induction times generalizing e with
  | nil => simp [runEpoch]
  | cons now rest ih =>
    have hnow : now ≤ T := ht now (List.mem_cons_self ..)
    obtain ⟨hf', hd', hc⟩ := epochStep_running e now hf hd
    obtain ⟨i1, i2, i3⟩ := ih (epochStep e now).1 hf' (by rw [hd']; exact hd) (fun t h => ht t (List.mem_cons_of_mem _ h))
    simp only [runEpoch]
    rw [hd'] at i1 i3
    refine ⟨?_, ?_, i3⟩
    · rcases hc with ⟨h1, h2, _⟩ | ⟨h1, h2, _⟩
      · simp only [h1, if_true]; push_cast; linarith
      · simp only [h1, Bool.false_eq_true, if_false, Nat.add_zero]; omega
    · have : (epochStep e now).1.cur ≤ max e.cur T := by
        rcases hc with ⟨_, _, h3⟩ | ⟨_, _, h3⟩ <;> omega
      omega

-- a clock at 1000 with duration 100 and blocks at 1101, 1150, 1675 (halt), 1690, 1701: two triggers in 701 time units
example : runEpoch { fresh := false, cur := 1000, dur := 100, count := 0 } [1101, 1150, 1675, 1690, 1701]
    = ({ fresh := false, cur := 1700, dur := 100, count := 2 }, 2) := by decide

/-- one payout per active farmer (or none at all when the total farmed value is zero) -/
theorem farmer_share_lengths (conv : Int → Int × Int) (a : Int) (lp rs : List Int)
    (h : sharesPlain conv a lp = .ok rs) :
    rs.length = lp.length ∨ rs = [] ∧ sumL lp = 0 := by
  unfold sharesPlain at h
  dsimp only at h
  split_ifs at h with hS
  · cases h; exact Or.inr ⟨rfl, hS⟩
  · exact Or.inl (mapE_get _ _ _ h).1

/-- **Farmer share (explicit bound)**: for every conversion `conv` with upward relative error ≤ 2⁻⁵³, every
allocation `a ≥ 0`, every list of farmed values `lp` (raw 10⁻¹⁸ units, non-negative, positive total `S`), the
`i`-th payout `r` satisfies, with `s` the `i`-th value and `P = 10¹⁸`,
  `r · 2⁵³ · 2P²S ≤ (2⁵³+1) · (2·a·s·P² + (s + P)·S)`,   i.e.   `r ≤ (1+2⁻⁵³)·(a·s/S + (s/P + 1)/(2P))`. -/
theorem farmer_share_le_prorata (conv : Int → Int × Int) (hc : FloatUpper conv) (a : Int) (lp rs : List Int)
    (ha : 0 ≤ a) (hnn : ∀ s ∈ lp, 0 ≤ s) (h : sharesPlain conv a lp = .ok rs)
    (i : Nat) (s r : Int) (hs : lp[i]? = some s) (hr : rs[i]? = some r) :
    r * TWO53 * (2 * Dec.P * Dec.P * sumL lp) ≤ (TWO53 + 1) * (2 * a * s * Dec.P * Dec.P + (s + Dec.P) * sumL lp) := by
  obtain ⟨hS, hf⟩ := shares_get (rewardOf conv a (sumL lp)) lp rs hnn h i s r hs hr
  exact rewardOf_prorata conv hc a (sumL lp) s r ha hS (hnn s (List.mem_of_getElem? hs)) hf

/-- **The literal 10⁻¹² clause, where it holds**: farmed value at least one value unit (`s ≥ 10¹⁸` raw, i.e. one
micro-dollar at the usual oracle scale) and total farmed value at most 999000 × the epoch allocation. -/
theorem farmer_share_le_prorata_1e12_partial (conv : Int → Int × Int) (hc : FloatUpper conv) (a : Int)
    (lp rs : List Int) (ha : 0 ≤ a) (hnn : ∀ s ∈ lp, 0 ≤ s) (h : sharesPlain conv a lp = .ok rs)
    (i : Nat) (s r : Int) (hs : lp[i]? = some s) (hr : rs[i]? = some r)
    (hs1 : Dec.P ≤ s) (hSA : sumL lp ≤ 999000 * a * Dec.P) :
    r * 1000000000000 * sumL lp ≤ 1000000000001 * a * s := by
  have hB := farmer_share_le_prorata conv hc a lp rs ha hnn h i s r hs hr
  have hSpos : 0 < sumL lp := by
    have h1 := le_sumL_of_mem lp hnn s (List.mem_of_getElem? hs)
    have := Dec.P_pos
    omega
  -- `hK` of `prorata_1e12` holds up to `K = 999888` (10⁻¹² − 2⁻⁵³ ≈ 0.999889·10⁻¹²); 999000 is a round number below it
  exact prorata_1e12 r a (sumL lp) s 999000 ha hSpos hs1 hSA (by decide) hB

/-- the hypothesis is satisfiable: the exact IEEE-754 round-to-nearest-even conversion has it -/
theorem f64_satisfies_float_hypothesis : FloatUpper f64 := by
  intro p hp
  unfold f64
  split
  · have : p = 0 := by omega
    subst this; simp
  · obtain ⟨e, hn, he⟩ := f64parts_spec p.toNat (by omega)
    have h := f64_scaled_upper p.toNat e hn
    rw [he]
    refine ⟨by positivity, ?_⟩
    dsimp only
    zify at h
    rw [Int.toNat_of_nonneg hp] at h
    simp only [Dec.P, TWO53, P18, Nat.cast_ofNat] at *
    linarith

/-- **The literal 10⁻¹² clause is false of the code**: allocation 4 000 000, two farmers with farmed values
599 999 999 998 and 59 400 000 000 002 (total 6·10¹³).  `multiplier = 0.000000066666666667` (rounded up in the 18th
digit), the first farmer is paid 40000 although its pro-rata share is 39999.99999986…: 3.3·10⁻¹² above. -/
theorem farmer_share_1e12_counterexample :
    sharesPlain f64 4000000 [599999999998 * Dec.P, 59400000000002 * Dec.P] = .ok [40000, 3960000] ∧
    40000 * 1000000000000 * (60000000000000 * Dec.P) > 1000000000001 * 4000000 * (599999999998 * Dec.P) := by
  constructor
  · decide
  · decide

example : sharesPlain f64 10000000000 [2000000000 * Dec.P, 4000000000 * Dec.P, 6000000000 * Dec.P, 8000000000 * Dec.P]
    = .ok [1000000000, 2000000000, 3000000000, 4000000000] := by decide

/-- master-pool mode: the same bound with the eligible value `min(master, child)`; a zero eligible value gets
nothing -/
theorem master_share_le_prorata (conv : Int → Int × Int) (hc : FloatUpper conv) (a : Int) (lp child rs : List Int)
    (ha : 0 ≤ a) (hnn : ∀ s ∈ zipMin lp child, 0 ≤ s) (h : sharesMaster conv a lp child = .ok rs)
    (i : Nat) (s r : Int) (hs : (zipMin lp child)[i]? = some s) (hr : rs[i]? = some r) :
    ProRata r a s (sumL (zipMin lp child)) := by
  obtain ⟨hS, hf⟩ := shares_get (fun s => if s = 0 then .ok 0 else rewardOf conv a (sumL (zipMin lp child)) s)
    (zipMin lp child) rs hnn h i s r hs hr
  have hs0 : 0 ≤ s := hnn s (List.mem_of_getElem? hs)
  split_ifs at hf
  · cases hf; exact prorata_zero a s _ ha hs0 hS.le
  · exact rewardOf_prorata conv hc a _ s r ha hS hs0 hf

/-- positions as the chain produces them: non-negative amounts, positive asset decimals -/
def FarmersOk (fs : List Farmer) : Prop :=
  ∀ f ∈ fs, (0 ≤ f.master.amt ∧ 0 < f.master.dec) ∧ ∀ p ∈ f.children, 0 ≤ p.amt ∧ 0 < p.dec

/-- the reward weight of a farmer in a master-pool gauge IS `min(master value, Σ over child pools of the value farmed
there)` — every child pool counts, none overwrites another -/
theorem weight_is_min_of_master_and_child_sum (f : Farmer) :
    weight f = (if posValue f.master ≤ sumL (f.children.map posValue) then posValue f.master
                else sumL (f.children.map posValue)) := rfl

/-- **Farmer share in master/child configurations, from the farmed positions**: for every set of farmers with
arbitrary positions in the master pool and in any number of child pools, every price and every allocation, the
`i`-th payout is within the rounding slack of `alloc · wᵢ / Σ w` where `w = min(master value, Σ child values)`. -/
theorem master_child_share_le_prorata (conv : Int → Int × Int) (hc : FloatUpper conv) (a : Int) (fs : List Farmer)
    (rs : List Int) (ha : 0 ≤ a) (hok : FarmersOk fs) (h : sharesFrom conv a true fs = .ok rs)
    (i : Nat) (f : Farmer) (r : Int) (hf : fs[i]? = some f) (hr : rs[i]? = some r) :
    r * TWO53 * (2 * Dec.P * Dec.P * sumL (fs.map weight))
      ≤ (TWO53 + 1) * (2 * a * weight f * Dec.P * Dec.P + (weight f + Dec.P) * sumL (fs.map weight)) := by
  have key := master_share_le_prorata conv hc a (fs.map fun f => posValue f.master) (fs.map fun f => childValue f.children) rs ha
  rw [zipMin_map] at key
  refine key (fun s hs => ?_) h i (weight f) r (by rw [List.getElem?_map, hf]; rfl) hr
  obtain ⟨g, hg, rfl⟩ := List.mem_map.mp hs
  exact weight_nonneg g (hok g hg).1 (hok g hg).2

/-- plain gauges (and master gauges without child pools): weight = value farmed in the gauge's pool -/
theorem plain_share_le_prorata_from_positions (conv : Int → Int × Int) (hc : FloatUpper conv) (a : Int) (fs : List Farmer)
    (rs : List Int) (ha : 0 ≤ a) (hok : FarmersOk fs) (h : sharesFrom conv a false fs = .ok rs)
    (i : Nat) (f : Farmer) (r : Int) (hf : fs[i]? = some f) (hr : rs[i]? = some r) :
    r * TWO53 * (2 * Dec.P * Dec.P * sumL (fs.map (fun f => posValue f.master)))
      ≤ (TWO53 + 1) * (2 * a * posValue f.master * Dec.P * Dec.P
          + (posValue f.master + Dec.P) * sumL (fs.map (fun f => posValue f.master))) := by
  refine farmer_share_le_prorata conv hc a _ rs ha (fun s hs => ?_) h i _ r (by rw [List.getElem?_map, hf]; rfl) hr
  obtain ⟨g, hg, rfl⟩ := List.mem_map.mp hs
  exact posValue_nonneg _ (hok g hg).1.1 (hok g hg).1.2

-- A: master 1000, child pools 600 + 400 (sum 1000); B: master 1000, one child pool 1000; C: children only does not
-- farm the master pool and is not in the list.  Equal weights ⇒ equal halves of the allocation.
example : sharesFrom f64 1000000000 true
    [{ master := ⟨500, 1000000, 1000000⟩, children := [⟨300, 1000000, 1000000⟩, ⟨200, 1000000, 1000000⟩] },
     { master := ⟨500, 1000000, 1000000⟩, children := [⟨500, 1000000, 1000000⟩] }]
    = .ok [500000000, 500000000] := by decide
-- if the last child pool overwrote the sum (weight 400 instead of 1000) the second farmer would get 714 285 714
example : weight { master := ⟨500, 1000000, 1000000⟩, children := [⟨300, 1000000, 1000000⟩, ⟨200, 1000000, 1000000⟩] }
    = 1000 * Dec.P := by decide

/-- **Custody**: after ANY sequence of operations from the empty ledger — gauge creations (accepted or rejected), pool
creations (swap-fee gauges), external-programme creations, donations, begin blockers consisting of any gauge triggers /
swap-fee gauge triggers (with any distribution data and any outcome of the fee transfer) / programme payouts /
deactivations in any order (a panicking block is rolled back) — the rewards module account holds at least the sum of all
gauges' undistributed remainders plus all swap-fee gauges' deposits plus all programmes' available rewards (signed: a
programme that over-paid counts negatively, D20 / D42 / D43), and every gauge's remainder is non-negative. -/
theorem custody_ge_remaining (ops : List Op) (l : Ledger) (hl : l = run Ledger.empty ops) :
    remGauges l.gauges + remExts l.exts + remSfs l.sfs ≤ l.bal ∧
    ∀ g ∈ l.gauges, 0 ≤ gaugeRem g ∧ 0 ≤ g.distributed ∧ g.triggered ≤ g.total := by
  subst hl
  obtain ⟨⟨hg, hb⟩, _⟩ := run_ok Ledger.empty ops empty_ok
  exact ⟨hb, fun g hgm => ⟨GInv_rem_nonneg g (hg g hgm), (hg g hgm).1, (hg g hgm).2.1⟩⟩

/-- the clause as worded (ACTIVE gauges and programmes).  The hypothesis that no programme's `AvailableRewards`
is negative is NOT enforced by the code (`AvailableRewards -= tracker` without comparison; D20, D42, D43); the monitor
tests it. -/
theorem custody_ge_active_remaining (ops : List Op) (l : Ledger) (hl : l = run Ledger.empty ops)
    (hx : ∀ x ∈ l.exts, 0 ≤ x.avail) :
    remActiveGauges l.gauges + remActiveExts l.exts + remSfs l.sfs ≤ l.bal := by
  obtain ⟨hb, hg⟩ := custody_ge_remaining ops l hl
  have h1 := remActiveGauges_le l.gauges fun g hgm => (hg g hgm).1
  have h2 := remActiveExts_le _ hx
  omega

/-- **The external programmes have no `paid ≤ available` guard, and their share arithmetic can exceed it**
(iter.go:60-90): 9·10¹⁸ base units available on the last day, six lockers with equal balances ⇒ each share is
0.166666666666666667 (rounded UP in the 18th digit), each payout 1 500 000 000 000 000 003, total 18 above what
the programme has.  With a gauge holding 1000 of the same denomination in the module account the custody clause
fails: balance 982 < the gauge's undistributed 1000, and `AvailableRewards` is −18. -/
theorem ext_overpay_counterexample :
    extPays 9000000000000000000 1 6000000000 (List.replicate 6 1000000000) = List.replicate 6 1500000000000000003 ∧
    run Ledger.empty
      [.createGauge 1000 10 0 0 86400000000000 43200000000000 true 1000,
       .createExt 9000000000000000000 9000000000000000000,
       .block [.extPay 0 (extPays 9000000000000000000 1 6000000000 (List.replicate 6 1000000000))]]
    = { bal := 982, gauges := [newGauge 1000 10 0], exts := [{ avail := -18, active := true }] } := by
  constructor <;> decide

/-- under the invariant the bank can never refuse a gauge's reward send for lack of funds: every receiver gets
exactly the calculated reward -/
theorem farmers_receive_calculated (l : Ledger) (hl : LInv l) (hx : ∀ x ∈ l.exts, 0 ≤ x.avail)
    (hsf : ∀ s ∈ l.sfs, 0 ≤ s.deposit) (i : Nat) (g g' : Gauge) (now : Int) (d : DistData) (sends : List Int)
    (hg : l.gauges[i]? = some g) (ht : trigger g now d = .ok (g', sends)) :
    sendAll l.bal sends = (l.bal - sumL sends, sends) := by
  obtain ⟨hgi, hb⟩ := hl
  obtain ⟨_, hnn, hc⟩ := epoch_pays_le_allocation g g' now d sends ht
  apply sendAll_exact sends hnn
  have h0 := fun g hgm => GInv_rem_nonneg g (hgi g hgm)
  have h1 := gaugeRem_le_remGauges l.gauges h0 g (List.mem_of_getElem? hg)
  have h2 := remExts_nonneg l.exts hx
  have h3 := remSfs_nonneg l.sfs hsf
  rcases hc with rfl | ⟨_, _, hs, hcap⟩
  · have := h0 g (List.mem_of_getElem? hg)
    simp only [sumL]; omega
  · unfold gaugeRem at h1; omega

-- non-vacuity: a concrete history through creation, triggers, an external programme and a rejected gauge
example :
    run Ledger.empty
      [.createGauge 1000 3 0 0 86400000000000 43200000000000 true 5000,
       .createGauge 5 9 0 0 86400000000000 43200000000000 true 5000,     -- rejected: deposit < epochs
       .createExt 700 700,
       .block [.trigger 0 10 (.ok [300, 33]), .extPay 0 [100, 0, 50]],
       .block [.trigger 0 20 (.ok [333]), .trigger 0 20 (.ok [334]), .extDeactivate 0]]
    = { bal := 550,
        gauges := [{ deposit := 1000, distributed := 1000, triggered := 3, total := 3, active := true, start := 0 }],
        exts := [{ avail := 550, active := false }] } := by decide

/-- **One swap-fee epoch**: what is handed out is at most what the gauge collected at the previous epoch (its
`DepositAmount`), every coin is non-negative, nothing is handed out from an empty gauge, the payment is always booked
(`distributed' = distributed + paid`); in the gauge's denomination the record moves by exactly what was paid and what
arrived (`deposit' = deposit − paid + received`) — also when the fee transfer fails (nothing arrives, epoch not counted) —,
except when the fees arrive in ANOTHER denomination (`SwapFeeDistrDenom` changed): then the deposit of this denomination is
dropped to 0 (never relabelled), i.e. owed ≤ deposit − paid. -/
theorem sf_epoch_pays_le_collected (g g' : SfGauge) (d : DistData) (x : Xfer) (sends : List Int) (recv : Int)
    (h : sfTrigger g d x = .ok (g', sends, recv)) (hg : 0 ≤ g.deposit) :
    (∀ r ∈ sends, 0 ≤ r) ∧ 0 ≤ recv ∧ sumL sends ≤ g.deposit ∧
    g'.distributed = g.distributed + sumL sends ∧ 0 ≤ g'.deposit ∧ g'.deposit ≤ g.deposit - sumL sends + recv ∧
    ((∀ amt, x ≠ .moved amt) → g'.deposit = g.deposit - sumL sends + recv) ∧
    (x = .err → recv = 0 ∧ g'.triggered = g.triggered) ∧ (∀ amt, x = .moved amt → g'.triggered = g.triggered + 1 → g'.deposit = 0 ∧ recv = 0) := by
  obtain ⟨h1, hs, h6, hc⟩ := sfTrigger_cases g g' d x sends recv h hg
  obtain ⟨h2, hn, hle⟩ := sfTrigger_bounds g g' d x sends recv h hg
  refine ⟨h1, h2, hs, h6, hn, hle, ?_⟩
  rcases hc with ⟨rfl, rfl, rfl⟩ | ⟨rfl, rfl, ht, hd⟩ | ⟨amt, rfl, rfl, _, hd⟩ | ⟨amt, rfl, rfl, _, hd⟩
  · exact ⟨fun _ => by simp only [sumL]; omega, fun _ => ⟨rfl, rfl⟩, fun _ _ ht => by omega⟩
  · exact ⟨fun _ => by omega, fun _ => ⟨rfl, ht⟩, nofun⟩
  · exact ⟨fun _ => hd, nofun, nofun⟩
  · exact ⟨fun hx => absurd rfl (hx amt), nofun, fun _ _ _ => ⟨hd, rfl⟩⟩

/-- **Change of the swap-fee denomination, per denomination**: a gauge holding a remainder of 500 of the old denomination
(an epoch without farmers) receives 300 of the NEW one: in the old denomination's ledger its deposit drops to 0 (the 500
stay in the account, owed to nobody), in the new denomination's ledger it arrives with exactly the 300 that came in, next
to an unrelated gauge's 1000 — both ledgers satisfy the custody inequality (instances of `custody_ge_remaining`). Relabelling
the remainder (deposit 800 of the new denomination against 300 received) would break it: 1000 + 800 > 1300. -/
theorem sf_denom_change_keeps_custody_per_denom :
    run Ledger.empty [.createSf, .block [.sfTrigger 0 (.ok []) (.ok 500)], .block [.sfTrigger 0 (.ok []) (.moved 300)]]
      = { bal := 500, gauges := [], exts := [], sfs := [{ deposit := 0, distributed := 0, triggered := 2 }] } ∧
    run Ledger.empty [.createGauge 1000 10 1000 0 86400000000000 43200000000000 true 1000, .block [.sfArrive 300 2]]
      = { bal := 1300, gauges := [newGauge 1000 10 1000], exts := [], sfs := [{ deposit := 300, distributed := 0, triggered := 2 }] } ∧
    (1000 : Int) + 800 > 1300 := by
  refine ⟨by decide, by decide, by decide⟩

example : sfTrigger { deposit := 36000, distributed := 0, triggered := 1 } (.ok [35999]) (.ok 500)
    = .ok ({ deposit := 501, distributed := 35999, triggered := 2 }, [35999], 500) := by decide
-- the fee transfer fails after the distribution: the payment is booked, the epoch is not counted
example : sfTrigger { deposit := 36000, distributed := 0, triggered := 1 } (.ok [36000]) .err
    = .ok ({ deposit := 0, distributed := 36000, triggered := 1 }, [36000], 0) := by decide

/-- **Finding D44 (repaired by repository commit b0fa4d4), kept as a theorem about the step AS IT WAS**: before the fix a
failed fee transfer `continue`d before `SetGauge` (`sfTriggerBeforeFix`): the distribution was paid and the record kept
`DepositAmount = 36000`; repeated over three epochs 108 000 leave the module account for 36 000 collected, and an ordinary
gauge's 100 000 held in the same account is backed by 28 000 — the custody inequality of `custody_ge_remaining` fails for
that step function, while the repaired step books the payment once and pays nothing afterwards. -/
theorem sf_gauge_leak_before_fix_counterexample :
    let g : SfGauge := { deposit := 36000, distributed := 0, triggered := 1 }
    sfTriggerBeforeFix g (.ok [36000]) .err = .ok (g, [36000], 0) ∧
    (100000 : Int) + g.deposit > 136000 - 3 * 36000 ∧
    sfTrigger g (.ok [36000]) .err = .ok ({ deposit := 0, distributed := 36000, triggered := 1 }, [36000], 0) ∧
    run Ledger.empty
      [.createGauge 100000 10 1000 0 86400000000000 43200000000000 true 100000, .createSf,
       .block [.sfTrigger 0 (.ok []) (.ok 36000)],
       .block [.sfTrigger 0 (.ok [36000]) .err], .block [.sfTrigger 0 (.ok [36000]) .err], .block [.sfTrigger 0 (.ok [36000]) .err]]
    = { bal := 100000, gauges := [newGauge 100000 10 1000], exts := [], sfs := [{ deposit := 0, distributed := 36000, triggered := 1 }] } := by
  refine ⟨by decide, by decide, by decide, by decide⟩

section ExtProgrammes
open Comdex.ExtReward

/-- **Locker / vault programme, one epoch — what holds exactly.**  Whenever `DistributeExtRewardLocker` / `…Vault` pays an
epoch of a programme with non-negative `AvailableRewards`, a positive total share and eligible positions that add up to at most
the total share: every payment is non-negative and, with `n` eligible positions and `E = Dec(avail).Quo(Dec(daysLeft))`,
`paid · 2·10³⁶ ≤ E·(2·10¹⁸ + n) + n·10¹⁸`   i.e.   `paid ≤ E·(1 + n/(2·10¹⁸)) + n/(2·10¹⁸)`,   `E ≤ avail/daysLeft + ½·10⁻¹⁸`:
the epoch allocation plus a rounding excess of at most `n/2` units in the 18th decimal of the allocation (finding D20). -/
theorem ext_share_epoch_bound (p : Prog) (now total : Int) (users : List User) (pays : List Int)
    (h : shareOutcome p now total users = .ok (.pay pays))
    (ha : 0 ≤ p.avail) (ht : 0 < total) (hu : ∀ u ∈ users, 0 ≤ u.amt)
    (hsum : sumL ((users.filter (eligible p now)).map (·.amt)) ≤ total) :
    (∀ r ∈ pays, 0 ≤ r) ∧
    shareBoundOk p (users.filter (eligible p now)).length (sumL pays) = true ∧
    0 ≤ epochRewards p ∧ 2 * epochRewards p * p.daysLeft ≤ 2 * p.avail * Dec.P + p.daysLeft := by
  obtain ⟨⟨_, _, hc, hnn⟩, hp⟩ := shareOutcome_visit p now total users _ h
  cases hp pays rfl
  have hd := daysLeft_pos p hc
  refine ⟨hnn, ?_, epochRewards_bounds p ha hd⟩
  rw [sumL_userPay]
  exact share_bound p total _ ha hd ht (fun u hu' => hu u (List.mem_filter.mp hu').1) hsum

/-- **The clause as worded, where it holds** (locker / vault): when `(avail + 2·daysLeft)·(n + 1) < 10¹⁸` — any 6-decimal
token amount below 10¹⁸/(n+1) base units — the epoch pays at most `avail / daysLeft`. -/
theorem ext_share_epoch_cap_partial (p : Prog) (now total : Int) (users : List User) (pays : List Int)
    (h : shareOutcome p now total users = .ok (.pay pays))
    (ha : 0 ≤ p.avail) (ht : 0 < total) (hu : ∀ u ∈ users, 0 ≤ u.amt)
    (hsum : sumL ((users.filter (eligible p now)).map (·.amt)) ≤ total)
    (hsmall : (p.avail + 2 * p.daysLeft) * (((users.filter (eligible p now)).length : Int) + 1) < Dec.P) :
    capOk p (sumL pays) = true := by
  obtain ⟨hnn, hb, _, hE1⟩ := ext_share_epoch_bound p now total users pays h ha ht hu hsum
  obtain ⟨_, _, hc, _⟩ := (shareOutcome_visit p now total users _ h).1
  have hd := daysLeft_pos p hc
  exact capOk_of_le p _ (sumL_nonneg pays hnn)
    (share_cap_arith _ _ _ _ _ (Int.natCast_nonneg _) ha hd ((shareBoundOk_iff ..).mp hb) hE1 hsmall)

-- three lockers 200 / 300 / 500 of a total share 1000, 9000 available, 3 days left: 600 + 900 + 1500 = the allocation 3000
example : shareOutcome (newProg 9000 3 1 0 DAY) 100000 1000 [⟨200, 5⟩, ⟨300, 6⟩, ⟨500, 7⟩] = .ok (.pay [600, 900, 1500]) := by decide
-- a locker created 10 s ago is not eligible for a 3600 s lock-up (except on the last day)
example : shareOutcome (newProg 9000 3 3600 0 DAY) 100000 1000 [⟨200, 5⟩, ⟨300, 6⟩, ⟨500, 99990⟩] = .ok (.pay [600, 900, 0]) := by decide
example : shareOutcome { newProg 9000 3 3600 0 DAY with count := 2 } 100000 1000 [⟨200, 5⟩, ⟨300, 6⟩, ⟨500, 99990⟩]
    = .ok (.pay [1800, 2700, 4500]) := by decide
example : capOk (newProg 9000 3 1 0 DAY) 3000 = true := by decide

/-- `D` is the oracle VALUE of the available rewards over the days left: `2·D·daysLeft ≤ 2·value + daysLeft` -/
theorem ext_lend_daily_value (p : Prog) (tr : Dec) (ht : 0 ≤ tr) (hc : (p.count : Int) < p.days) :
    0 ≤ lendDaily p tr ∧ 2 * lendDaily p tr * p.daysLeft ≤ 2 * tr + p.daysLeft :=
  ⟨Dec.quo_nonneg tr _ ht (Dec.ofInt_pos (daysLeft_pos p hc)), Dec.quo_ofInt_upper tr p.daysLeft ht (daysLeft_pos p hc)⟩

/-- **Lend programmes, any number of them handled in one block.**  `DistributeExtRewardLend` keeps `addrArr`, `amountArr` and
`totalAmount` across the programmes of one block.  For every list of programmes and environments (prices, borrowers, farmed
positions — non-negative), every programme that pays does so from an accumulator whose total IS the sum of the truncated
weights it holds (`accOk`), with a positive total, and its payout obeys
`paid · 2·10³⁶·T ≤ (2·D + T)·Σw + n·10¹⁸·T`   i.e.   `paid ≤ (D/T + ½ulp)·Σw + n/(2·10¹⁸)`
with `D` the daily VALUE of the programme's own `AvailableRewards`, `T` the accumulated total, `Σw` the accumulated weights. -/
theorem ext_lend_block_each_programme_bounded (now : Int) (pes : List (Prog × LendEnv))
    (he : ∀ pe ∈ pes, EnvOk pe.2) (hav : ∀ pe ∈ pes, 0 ≤ pe.1.avail) :
    ∀ ao ∈ lendBlock now pes Acc.empty, accOk ao.1 = true ∧
      ∀ pays, ao.2 = .pay pays →
        0 < ao.1.tot ∧ (∀ r ∈ pays, 0 ≤ r) ∧
        ∃ pe ∈ pes, ∃ tr, value pe.2.reward pe.1.avail = some tr ∧ 0 ≤ lendDaily pe.1 tr ∧
          lendBoundOk ao.1.ws ao.1.tot (lendDaily pe.1 tr) (sumL pays) = true := by
  intro ao hao
  obtain ⟨i, hi⟩ := List.getElem?_of_mem hao
  obtain ⟨pe, hpe, hacc, hp⟩ := lendBlock_get now pes Acc.empty consistent_empty he i ao hi
  have hpe := List.mem_of_getElem? hpe
  refine ⟨(accOk_iff _).mpr hacc, ?_⟩
  intro pays hpay
  obtain ⟨_, _, hc, htot, tr, htr, rfl⟩ := hp pays hpay
  have htr0 : 0 ≤ tr := value_nonneg _ _ _ (he pe hpe).reward (hav pe hpe) htr
  have hD := (ext_lend_daily_value pe.1 tr htr0 hc).1
  obtain ⟨hnn, hb⟩ := lend_bound ao.1.ws ao.1.tot (lendDaily pe.1 tr) hacc.2 htot hD
  exact ⟨htot, hnn, pe, hpe, tr, htr, hD, hb⟩

/-- the accumulated weights exceed the accumulated total only by their fractional parts: `T·10¹⁸ ≤ Σw < (T + n)·10¹⁸` -/
theorem ext_lend_weights_vs_total (a : Acc) (h : accOk a = true) :
    a.tot * Dec.P ≤ sumL a.ws ∧ sumL a.ws + (a.ws.length : Int) ≤ (a.tot + (a.ws.length : Int)) * Dec.P := by
  obtain ⟨h1, h2⟩ := (accOk_iff a).mp h
  have i1 := sumL_map_affine_le a.ws Dec.truncateInt id Dec.P 1 0 fun w hw => by
    have := Dec.truncateInt_mul_le (h2 w hw); simp only [id]; linarith
  have i2 := sumL_map_affine_le a.ws id Dec.truncateInt 1 Dec.P (Dec.P - 1) fun w hw => by
    have := Dec.lt_truncateInt_succ w; simp only [id]; linarith
  rw [List.map_id] at i1 i2
  rw [h1]
  exact ⟨by linarith, by linarith⟩

/-- when the reward token's price record is exactly one value unit per base unit (`twa = decimals`) the value of an amount is
the amount -/
theorem ext_lend_value_at_par (pr : Price) (amt : Int) (hf : pr.found = true) (ht : 0 < pr.twa) (hpar : pr.twa = pr.dec)
    (ha : 0 ≤ amt) : value pr amt = some (Dec.ofInt amt) := by
  unfold value
  rw [if_neg (by simp [hf]), if_neg (by omega), Dec.mul_ofInt, ← hpar, Dec.quo_ofInt,
    show Dec.ofInt amt * pr.twa * Dec.P = Dec.ofInt amt * Dec.P * pr.twa by ring,
    Int.mul_tdiv_cancel _ (ne_of_gt ht), Dec.chopRound_exact]

/-- **The clause as worded, where it holds** (lend): reward token at par, weights without fractional part (`Σw = T·10¹⁸`),
`(T + n + 1)·daysLeft < 2·10¹⁸`. -/
theorem ext_lend_epoch_cap_partial (p : Prog) (pr : Price) (ws : List Dec) (tot : Int)
    (hf : pr.found = true) (ht : 0 < pr.twa) (hpar : pr.twa = pr.dec) (ha : 0 ≤ p.avail) (hc : (p.count : Int) < p.days)
    (hw : ∀ w ∈ ws, 0 ≤ w) (htot : 0 < tot) (hint : sumL ws = tot * Dec.P)
    (hsmall : (tot + (ws.length : Int) + 1) * p.daysLeft < 2 * Dec.P) :
    ∃ tr, value pr p.avail = some tr ∧ capOk p (sumL (lendPays ws tot (lendDaily p tr))) = true := by
  refine ⟨Dec.ofInt p.avail, ext_lend_value_at_par pr p.avail hf ht hpar ha, ?_⟩
  have hd := daysLeft_pos p hc
  obtain ⟨hD0, hD1⟩ := ext_lend_daily_value p _ (Dec.ofInt_nonneg ha) hc
  obtain ⟨hnn, hb⟩ := lend_bound ws tot _ hw htot hD0
  rw [lendBoundOk_iff, hint] at hb
  exact capOk_of_le p _ (sumL_nonneg _ hnn) (lend_cap_arith _ _ _ _ _ _ hd htot hb hD1 hsmall)

def parPrice : Price := { found := true, active := true, twa := 1000000, dec := 1000000 }
def twoBorrowers : List Borrower := [⟨false, 1000, true, 5000, 5000⟩, ⟨false, 1000, true, 5000, 5000⟩]
def envTwo : LendEnv :=
  { halt := false, stats := true, asset := parPrice, quote := parPrice, base := parPrice, borrowers := twoBorrowers, rewardAsset := true, reward := parPrice }
/-- witness X1 of the harness (`harness/c19_ext_test.go`): borrowed asset and quote coin at par, base coin at 2, reward token at 12 -/
def envValue : LendEnv :=
  { halt := false, stats := true, asset := parPrice, quote := parPrice, base := { parPrice with twa := 2000000 }, rewardAsset := true,
    reward := { parPrice with twa := 12000000 },
    borrowers := [⟨false, 1000000000, true, 5000000000, 5000000000⟩, ⟨false, 1000000000, true, 4999999999, 4999999999⟩] }
/-- witness X2 of the harness (`harness/c19_ext_test.go`): three borrowers of 19 base units of an asset priced 0.1 -/
def envTrunc : LendEnv :=
  { halt := false, stats := true, asset := { parPrice with twa := 100000 }, quote := parPrice, base := parPrice, rewardAsset := true,
    reward := parPrice, borrowers := [⟨false, 19, true, 5000, 5000⟩, ⟨false, 19, true, 5000, 5000⟩, ⟨false, 19, true, 5000, 5000⟩] }

-- two borrowers whose eligible value is 1000 each, 600 available, 2 days left: 150 + 150 = the allocation 300; a second
-- programme due in the same block pays the FOUR accumulated entries 75 each = its own allocation 300
example : lendBlock 100000 [(newProg 600 2 1 0 LENDFIRST, envTwo), (newProg 600 2 1 0 LENDFIRST, envTwo)]
    Acc.empty
    = [(⟨[1000 * Dec.P, 1000 * Dec.P], 2000⟩, .pay [150, 150]),
       (⟨[1000 * Dec.P, 1000 * Dec.P, 1000 * Dec.P, 1000 * Dec.P], 4000⟩, .pay [75, 75, 75, 75])] := by decide

/-- **A lend programme pays the oracle VALUE of its daily allocation as a token AMOUNT** (iter.go:280-295): reward token priced
12 value units per base unit, 1 200 000 000 available, 2 days left, two borrowers with weight 10⁹ each ⇒ 3 600 000 000 each:
7 200 000 000 paid in one epoch of a programme funded with 1 200 000 000 (allocation 600 000 000). -/
theorem ext_lend_value_as_amount_counterexample :
    let e := envValue
    let p := newProg 1200000000 2 1 0 LENDFIRST
    (lendOne p 100000 e Acc.empty).2.1 = .pay [3600000000, 3600000000] ∧
    capOk p 7200000000 = false ∧ (p.apply 100000 (.pay [3600000000, 3600000000])).avail = -6000000000 := by
  decide

/-- **`totalAmount` sums the TRUNCATED weights, the payouts use the untruncated ones** (iter.go:273-274, 288-292): three
borrowers of 19 base units of an asset priced 0.1 (weight 1.9 each, total 3): the programme pays 633 333 × 3 = 1 899 999 of a daily
allocation of 1 000 000; on the last day this exceeds what the programme has. -/
theorem ext_lend_truncated_total_counterexample :
    let e := envTrunc
    let p := newProg 3000000 3 1 0 LENDFIRST
    (lendOne p 100000 e Acc.empty).1 = ⟨[1900000000000000000, 1900000000000000000, 1900000000000000000], 3⟩ ∧
    (lendOne p 100000 e Acc.empty).2.1 = .pay [633333, 633333, 633333] ∧ capOk p 1899999 = false := by
  decide

/-- the visits the code can produce are valid (`ValidVisit`): an epoch is paid only when the programme is active, due and has
epochs left; it is switched off only when due with no epochs left -/
theorem ext_share_visit_valid (p : Prog) (now total : Int) (users : List User) (o : Outcome)
    (h : shareOutcome p now total users = .ok o) : ValidVisit p now o :=
  (shareOutcome_visit p now total users o h).1

/-- **Cumulative paid = funding − AvailableRewards**, the funding and the duration never change — for any history of visits -/
theorem ext_cumulative_is_funding_minus_available (amount days minLock now first : Int) (hist : List (Int × Outcome)) :
    paidTotal hist = amount - (runProg (newProg amount days minLock now first) hist).avail ∧
    (runProg (newProg amount days minLock now first) hist).total = amount := by
  obtain ⟨h1, h2, _⟩ := runProg_fields (newProg amount days minLock now first) hist
  simp only [newProg] at h1 h2 ⊢
  exact ⟨by omega, h2⟩

/-- **At most `DurationDays` epochs are ever paid**, one per visit, whatever the block times (a pause of many days pays one
epoch at the next block, the missed days are not paid in a burst: the duration stretches) -/
theorem ext_epochs_le_duration (amount days minLock now first : Int) (hd : 0 ≤ days) (hist : List (Int × Outcome))
    (hv : ValidHist (newProg amount days minLock now first) hist) :
    ((runProg (newProg amount days minLock now first) hist).count : Int) ≤ days :=
  (runProg_count (newProg amount days minLock now first) hist hv hd).1

theorem ext_one_epoch_per_visit (p : Prog) (now : Int) (pays : List Int) :
    (p.apply now (.pay pays)).count = p.count + 1 ∧ (p.apply now (.pay pays)).start = now + DAY ∧
    ¬ ((p.apply now (.pay pays)).start < now) := by
  simp only [Prog.apply, DAY]; refine ⟨trivial, trivial, by omega⟩

/-- after an epoch was paid at block time `now` the programme is not due again in that block -/
theorem ext_not_due_twice (p : Prog) (now total : Int) (users : List User) (pays : List Int) :
    shareOutcome (p.apply now (.pay pays)) now total users = .ok .skip := by
  unfold shareOutcome
  split
  · rfl
  · rw [if_pos (by simp only [Prog.apply, DAY]; omega)]

/-- **Cumulative paid ≤ funding and AvailableRewards ≥ 0 — provided every epoch respects the clause as worded.**  The code does
not enforce that (`AvailableRewards -= tracker` without comparison): `ext_overpay_counterexample`,
`ext_lend_value_as_amount_counterexample`, `ext_lend_truncated_total_counterexample`. -/
theorem ext_available_nonneg_of_epoch_caps (amount days minLock now first : Int) (ha : 0 ≤ amount) (hist : List (Int × Outcome))
    (hv : ValidHist (newProg amount days minLock now first) hist) (hcap : CapHist (newProg amount days minLock now first) hist) :
    0 ≤ (runProg (newProg amount days minLock now first) hist).avail ∧ paidTotal hist ≤ amount := by
  have h := runProg_nonneg (newProg amount days minLock now first) hist hv hcap ha
  have h2 := (ext_cumulative_is_funding_minus_available amount days minLock now first hist).1
  exact ⟨h, by omega⟩

/-- an accepted activation message is funded and has at least one day; the ledger of the custody theorem accepts it too -/
theorem ext_accepted_programme_funded (amount days funds : Int) (aux : Bool) (h : ExtReward.createGuard amount days funds aux = true)
    (l : Ledger) : 0 < amount ∧ 1 ≤ days ∧ amount ≤ funds ∧
    step l (.createExt amount funds) = { l with bal := l.bal + amount, exts := l.exts ++ [{ avail := amount, active := true }] } := by
  simp only [ExtReward.createGuard, Bool.and_eq_true, decide_eq_true_eq] at h
  refine ⟨h.1.1.1, h.1.1.2, h.1.2, ?_⟩
  simp only [step]
  rw [if_pos (by simp only [Bool.and_eq_true, decide_eq_true_eq]; omega)]

-- a programme of 2 days through a pause: two epochs, then switched off; 900 booked of 900
example : runProg (newProg 900 2 1 0 DAY) [(86401, .pay [450]), (86402, .skip), (900000, .pay [450]), (990000, .off)]
    = { total := 900, avail := 0, days := 2, minLock := 1, active := false, start := 986400, count := 2 } := by decide

end ExtProgrammes

end Comdex.C19
