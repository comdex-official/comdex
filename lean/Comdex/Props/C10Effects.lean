import Comdex.Lemmas.Effects
import Comdex.Gen.Effects_auctionsV2
import Comdex.Gen.Effects_auction
/-!
# C10 — the EFFECT SKELETON of the Dutch auction bid / close paths, pinned

GOLDEN SKELETON (the weaker tie).  The regenerated table (extract/effects, from the Go source on every run) lists for each
entry point the ordered bank calls; the models of C10 (`Model/DutchV2.lean`, `DutchV1.lean`) keep their bank calls inside
the step functions, not as data — so the regenerated skeleton is compared,
item by item, with the reviewed literals `exp_…` in this file: bank op, ABSTRACT party and denomination texts (argument lists
of calls nested deeper than one level elided, `…`), "only if its own amount is positive", the signature of the path
conditions (polarity + 32-bit hash of the whole normalised condition text, legend below), loop / cache-closure flags.  Amount
expressions are not compared (the C10 correspondence runs do that).  A transfer that moved under another guard, lost or gained
a guard, changed party or denomination, disappeared or appeared makes `c10_pins` fail on the next run, whatever states the
generated population reaches.

Entry points: x/auctionsV2 `PlaceDutchAuctionBid` (bid, settlement and close path of second-generation Dutch auctions, incl. the
lend branch and the keeper incentive), x/auction `PlaceDutchAuctionBid` and `CloseDutchAuction` (first generation).  The
first-generation LEND auctions (`PlaceLendDutchAuctionBid`, `CloseDutchLendAuction`) are extracted too
(`Gen/Effects_auction_lend.lean`, 484 items: they inline most of x/lend and x/liquidation) but NOT pinned here.

| clause | theorem |
|---|---|
| bank skeleton of every entry point = reviewed literal | `c10_pins` |
| number of bank calls per entry point, no bank op the projection does not know, no opaque call | `c10_table` |

## legend of the condition hashes (hash, kind, normalised text; long texts head…hash…tail)

`1303515621 | if | true`: `if inc` of lend's `UpdateReserveBalances(…, inc bool)` (funds.go:18) inlined with `true`; items under `false` are dead.

| h | kind | text |
|---|---|---|
| 2699452619 | if | `ite(bid.Amount.GTE(auctionData.DebtToken.Amount), true, false) || !vault.GetAmountOfOtherToken(a…a0e660cb…ionPrice)#2).LTE(auctionData.CollateralToken.Amount)` |
| 1522965022 | if | `!vault.GetAmountOfOtherToken(auctionData.DebtAssetId, ite(liquidationsV2.GetLockedVault(auctionD…5ac69a1e…ionPrice)#2).LTE(auctionData.CollateralToken.Amount)` |
| 35060665 | if | `liquidationsV2.GetAppReserveFunds(auctionData.AppId, auctionData.DebtAssetId).TokenQuantity.Amou…0216fbb9…(auctionData.DebtAssetId).Twa))))#2)).Amount).GTE(0)` |
| 773236523 | pos | `auctionData.DebtToken.Sub(coin(auctionData.DebtToken.Denom, vault.GetAmountOfOtherToken(auctionD…2e16a72b…wa(auctionData.DebtAssetId).Twa))))#2)).Amount.GT(0)` |
| 3747897214 | if | `!isAutoBid` |
| 257021723 | if | `ite(!vault.GetAmountOfOtherToken(auctionData.DebtAssetId, ite(liquidationsV2.GetLockedVault(auct…0f51d71b…DebtAssetId).Twa))))#2, auctionData.DebtToken.Amoun…` |
| 1994310793 | if | `ite(!vault.GetAmountOfOtherToken(auctionData.DebtAssetId, ite(liquidationsV2.GetLockedVault(auct…76dec489…AssetId, auctionData.CollateralTokenAuctionPrice)#2…` |
| 2283529546 | if | `liquidationsV2.GetLockedVault(auctionData.AppId, auctionData.LockedVaultId).InitiatorType == "vault"` |
| 1406206363 | pos | `liquidationsV2.GetLockedVault(auctionData.AppId, auctionData.LockedVaultId).TargetDebt.Sub(coin(…53d1019b…nData.LockedVaultId).FeeToBeCollected)).Amount.GT(0)` |
| 1902970396 | if | `auctionData.CollateralToken.Amount.Sub(ite(!vault.GetAmountOfOtherToken(auctionData.DebtAssetId,…716d061c…ata.BonusAmount, auctionData.CollateralAssetId, auc…` |
| 4031669671 | if | `liquidationsV2.GetLockedVault(auctionData.AppId, auctionData.LockedVaultId).InitiatorType == "external"` |
| 3327513262 | pos | `(liquidationsV2.GetLiquidationWhiteListing(auctionData.AppId).KeeeperIncentive.Mul(sdk.NewDecFro…c655d2ae…ckedVaultId).FeeToBeCollected))).TruncateInt().GT(0)` |
| 3823014216 | if | `liquidationsV2.GetLockedVault(auctionData.AppId, auctionData.LockedVaultId).IsInternalKeeper` |
| 3901108360 | pos | `ite(liquidationsV2.GetLockedVault(auctionData.AppId, auctionData.LockedVaultId).IsInternalKeeper…e8863088…nData.LockedVaultId).FeeToBeCollected)).Amount.GT(0)` |
| 812416793 | if | `liquidationsV2.GetLockedVault(auctionData.AppId, auctionData.LockedVaultId).InitiatorType == "lend"` |
| 1303515621 | if | `true` |
| 2418059476 | pos | `ite(!lend.GetBorrowInterestTracker(liquidationsV2.GetLockedVault(auctionData.AppId, auctionData.…9020a8d4…nalVaultId)).ReservePoolInterest.TruncateInt().GT(0)` |
| 459660253 | pos | `(lend.GetBorrow(liquidationsV2.GetLockedVault(auctionData.AppId, auctionData.LockedVaultId).Orig…1b65dbdd…lVaultId)).ReservePoolInterest)).TruncateInt().GT(0)` |
| 2906957075 | pos | `lend.GetBorrow(liquidationsV2.GetLockedVault(auctionData.AppId, auctionData.LockedVaultId).OriginalVaultId).BridgedAssetAmount.Amount.GT(0)` |
| 3076460308 | pos | `auctionData.DebtToken.Amount.GT(0)` |
| 2357432509 | pos | `vault.GetAmountOfOtherToken(auctionData.DebtAssetId, ite(liquidationsV2.GetLockedVault(auctionDa…8c8390bd…d, auctionData.CollateralTokenAuctionPrice)#2).GT(0)` |
| 1985206634 | pos | `ite(vault.GetAmountOfOtherToken(auction.GetDutchAuction(appID, auctionMappingID, auctionID).Asse…7653d96a…pingID, auctionID).InflowTokenCurrentPrice)#2).GT(0)` |
| 991589844 | pos | `ite(vault.GetAmountOfOtherToken(auction.GetDutchAuction(appID, auctionMappingID, auctionID).Asse…3b1a75d4…onID).OutflowTokenCurrentPrice)#2, bid.Amount).GT(0)` |
| 3282727320 | if | `auction.GetDutchAuction(appID, auctionMappingID, auctionID).InflowTokenCurrentAmount.Add(coin(au…c3aa7198…uctionMappingID, auctionID).InflowTokenTargetAmount)` |
| 1338912237 | pos | `auction.GetDutchAuction(appID, auctionMappingID, auctionID).OutflowTokenCurrentAmount.Sub(coin(a…4fce2ded…flowTokenCurrentPrice)#2, bid.Amount))).Amount.GT(0)` |
| 3230750406 | if | `liquidation.GetLockedVault(auction.GetDutchAuction(appID, auctionMappingID, auctionID).AppId, au…c09156c6…MappingID, auctionID).LockedVaultId).AmountOut.GT(0)` |
| 883620043 | if | `auction.GetDutchAuction(appID, auctionMappingID, auctionID).InflowTokenTargetAmount.Amount.Sub(l…34aaf8cb…appingID, auctionID).LockedVaultId).AmountOut).GT(0)` |
| 1936985961 | if | `auction.GetDutchAuction(appID, auctionMappingID, auctionID).OutflowTokenCurrentAmount.Sub(coin(a…73740f69…uctionID).InflowTokenTargetAmount.Denom, ite(vault.…` |
| 3190515568 | if | `liquidation.GetLockedVault(dutchAuction.AppId, dutchAuction.LockedVaultId).AmountOut.GT(0)` |
| 3237281969 | if | `dutchAuction.InflowTokenTargetAmount.Amount.Sub(liquidation.GetLockedVault(dutchAuction.AppId, dutchAuction.LockedVaultId).AmountOut).GT(0)` |
-/
namespace Comdex.C10
open Comdex.Effects Comdex.Gen.Effects

def exp_auctionsV2_PlaceDutchAuctionBid : List APin := [
  ⟨"SendCoinsFromModuleToModule", "\"liquidationsV2\"", "\"auctionsV2\"", "auctionData.DebtToken.Sub(coin(…)).Denom", true, [(true, 2699452619), (true, 1522965022), (true, 35060665), (true, 773236523)], false, false⟩,
  ⟨"SendCoinsFromAccountToModule", "addr(bidder)", "\"auctionsV2\"", "auctionData.DebtToken.Denom", false, [(true, 2699452619), (true, 3747897214), (true, 257021723)], false, false⟩,
  ⟨"SendCoinsFromModuleToAccount", "\"auctionsV2\"", "addr(bidder)", "auctionData.CollateralToken.Denom", false, [(true, 2699452619), (true, 1994310793)], false, false⟩,
  ⟨"BurnCoins", "\"auctionsV2\"", "", "liquidationsV2.GetLockedVault(auctionData.AppId, auctionData.LockedVaultId).TargetDebt.Sub(coin(…)).Denom", true, [(true, 2699452619), (true, 2283529546), (true, 1406206363)], false, false⟩,
  ⟨"SendCoinsFromModuleToAccount", "\"auctionsV2\"", "addr(liquidationsV2.GetLockedVault(…).Owner)", "auctionData.CollateralToken.Denom", false, [(true, 2699452619), (true, 1902970396)], false, false⟩,
  ⟨"SendCoinsFromModuleToAccount", "\"auctionsV2\"", "addr(liquidationsV2.GetLockedVault(…).InternalKeeperAddress)", "auctionData.DebtToken.Denom", true, [(true, 2699452619), (true, 4031669671), (true, 3327513262)], false, false⟩,
  ⟨"SendCoinsFromModuleToAccount", "\"auctionsV2\"", "addr(liquidationsV2.GetLockedVault(…).ExternalKeeperAddress)", "liquidationsV2.GetLockedVault(auctionData.AppId, auctionData.LockedVaultId).TargetDebt.Sub(coin(…)).Denom", false, [(true, 2699452619), (true, 4031669671)], false, false⟩,
  ⟨"SendCoinsFromModuleToAccount", "\"auctionsV2\"", "addr(liquidationsV2.GetLockedVault(…).InternalKeeperAddress)", "auctionData.DebtToken.Denom", true, [(true, 2699452619), (false, 4031669671), (true, 2283529546), (true, 3823014216), (true, 3327513262)], false, false⟩,
  ⟨"SendCoinsFromModuleToModule", "\"auctionsV2\"", "\"collectorV1\"", "ite(liquidationsV2.GetLockedVault(…).IsInternalKeeper, ite(…), coin(…)).Denom", true, [(true, 2699452619), (false, 4031669671), (true, 2283529546), (true, 3901108360)], false, false⟩,
  ⟨"SendCoinsFromModuleToModule", "\"auctionsV2\"", "lend.GetPool(lend.GetLendPair(…).AssetOutPoolID).ModuleName", "liquidationsV2.GetLockedVault(auctionData.AppId, auctionData.LockedVaultId).TargetDebt.Denom", false, [(true, 2699452619), (false, 4031669671), (false, 2283529546), (true, 812416793)], false, false⟩,
  ⟨"SendCoinsFromModuleToModule", "lend.GetPool(lend.GetLendPair(…).AssetOutPoolID).ModuleName", "\"lendV2\"", "lend.GetBorrow(liquidationsV2.GetLockedVault(…).OriginalVaultId).AmountOut.Denom", false, [(true, 2699452619), (false, 4031669671), (false, 2283529546), (true, 812416793), (true, 1303515621)], false, false⟩,
  ⟨"SendCoinsFromModuleToModule", "\"lendV2\"", "lend.GetPool(lend.GetLendPair(…).AssetOutPoolID).ModuleName", "lend.GetBorrow(liquidationsV2.GetLockedVault(…).OriginalVaultId).AmountOut.Denom", false, [(true, 2699452619), (false, 4031669671), (false, 2283529546), (true, 812416793), (false, 1303515621)], false, false⟩,
  ⟨"SendCoinsFromModuleToModule", "lend.GetPool(lend.GetLendPair(…).AssetOutPoolID).ModuleName", "\"lendV2\"", "auctionData.DebtToken.Denom", true, [(true, 2699452619), (false, 4031669671), (false, 2283529546), (true, 812416793), (true, 2418059476), (true, 1303515621)], false, false⟩,
  ⟨"SendCoinsFromModuleToModule", "\"lendV2\"", "lend.GetPool(lend.GetLendPair(…).AssetOutPoolID).ModuleName", "auctionData.DebtToken.Denom", true, [(true, 2699452619), (false, 4031669671), (false, 2283529546), (true, 812416793), (true, 2418059476), (false, 1303515621)], false, false⟩,
  ⟨"MintCoins", "", "lend.GetPool(lend.GetLendPair(…).AssetOutPoolID).ModuleName", "asset.GetAsset(lend.GetAssetRatesParams(…).CAssetID).Denom", true, [(true, 2699452619), (false, 4031669671), (false, 2283529546), (true, 812416793), (true, 459660253)], false, false⟩,
  ⟨"SendCoinsFromModuleToModule", "lend.GetPool(lend.GetLendPair(…).AssetOutPoolID).ModuleName", "lend.GetPool(lend.GetLend(…).PoolID).ModuleName", "lend.GetBorrow(liquidationsV2.GetLockedVault(…).OriginalVaultId).BridgedAssetAmount.Denom", true, [(true, 2699452619), (false, 4031669671), (false, 2283529546), (true, 812416793), (true, 2906957075)], false, false⟩,
  ⟨"SendCoinsFromAccountToModule", "addr(bidder)", "\"auctionsV2\"", "auctionData.DebtToken.Denom", true, [(false, 2699452619), (true, 3747897214), (true, 3076460308)], false, false⟩,
  ⟨"SendCoinsFromModuleToAccount", "\"auctionsV2\"", "addr(bidder)", "auctionData.CollateralToken.Denom", true, [(false, 2699452619), (true, 2357432509)], false, false⟩]

def exp_auction_PlaceDutchAuctionBid : List APin := [
  ⟨"SendCoinsFromAccountToModule", "bidder", "\"auctionV1\"", "auction.GetDutchAuction(appID, auctionMappingID, auctionID).InflowTokenTargetAmount.Denom", true, [(true, 1985206634)], false, false⟩,
  ⟨"SendCoinsFromModuleToAccount", "\"auctionV1\"", "bidder", "auction.GetDutchAuction(appID, auctionMappingID, auctionID).OutflowTokenInitAmount.Denom", true, [(true, 991589844)], false, false⟩,
  ⟨"SendCoinsFromModuleToAccount", "\"auctionV1\"", "addr(liquidation.GetLockedVault(…).Owner)", "auction.GetDutchAuction(appID, auctionMappingID, auctionID).OutflowTokenCurrentAmount.Sub(coin(…)).Denom", true, [(true, 3282727320), (true, 1338912237)], false, false⟩,
  ⟨"BurnCoins", "\"auctionV1\"", "", "auction.GetDutchAuction(appID, auctionMappingID, auctionID).InflowTokenCurrentAmount.Add(coin(…)).Denom", false, [(true, 3282727320), (true, 3230750406)], false, false⟩,
  ⟨"SendCoinsFromModuleToModule", "\"auctionV1\"", "\"collectorV1\"", "auction.GetDutchAuction(appID, auctionMappingID, auctionID).InflowTokenCurrentAmount.Add(coin(…)).Denom", false, [(true, 3282727320), (true, 883620043)], false, false⟩,
  ⟨"SendCoinsFromModuleToModule", "\"collectorV1\"", "\"auctionV1\"", "asset.GetAsset(auction.GetDutchAuction(…).AssetInId).Denom", false, [(false, 3282727320), (true, 1936985961)], false, false⟩,
  ⟨"BurnCoins", "\"auctionV1\"", "", "auction.GetDutchAuction(appID, auctionMappingID, auctionID).InflowTokenCurrentAmount.Add(coin(…)).Denom", false, [(false, 3282727320), (true, 1936985961), (true, 3230750406)], false, false⟩,
  ⟨"SendCoinsFromModuleToModule", "\"auctionV1\"", "\"collectorV1\"", "auction.GetDutchAuction(appID, auctionMappingID, auctionID).InflowTokenCurrentAmount.Add(coin(…)).Denom", false, [(false, 3282727320), (true, 1936985961), (true, 883620043)], false, false⟩]

def exp_auction_CloseDutchAuction : List APin := [
  ⟨"BurnCoins", "\"auctionV1\"", "", "dutchAuction.InflowTokenCurrentAmount.Denom", false, [(true, 3190515568)], false, false⟩,
  ⟨"SendCoinsFromModuleToModule", "\"auctionV1\"", "\"collectorV1\"", "dutchAuction.InflowTokenCurrentAmount.Denom", false, [(true, 3237281969)], false, false⟩]

def pinPairs : List (String × List APin × List APin) := [
  ("auctionsV2_PlaceDutchAuctionBid", apins h_auctionsV2_PlaceDutchAuctionBid, exp_auctionsV2_PlaceDutchAuctionBid),
  ("auction_PlaceDutchAuctionBid", apins h_auction_PlaceDutchAuctionBid, exp_auction_PlaceDutchAuctionBid),
  ("auction_CloseDutchAuction", apins h_auction_CloseDutchAuction, exp_auction_CloseDutchAuction)]

/-- **Golden skeleton**: the entry points whose regenerated bank skeleton differs from the reviewed literal — none -/
theorem c10_pins : (pinPairs.filter fun p => p.2.1 != p.2.2).map (·.1) = [] :=
  filter_bne_eq_nil _ (by rfl)

def pinned : List Handler := [h_auctionsV2_PlaceDutchAuctionBid, h_auction_PlaceDutchAuctionBid, h_auction_CloseDutchAuction]

theorem c10_table :
    pinned.map (fun h => (h.module ++ "_" ++ h.name, (bankItems h).length)) = [("auctionsV2_PlaceDutchAuctionBid", 18), ("auction_PlaceDutchAuctionBid", 8), ("auction_CloseDutchAuction", 2)] ∧
    (∀ h ∈ pinned, unknownBankOps h = [] ∧ opaqueCalls h = []) := by
  decide +kernel

example : pinPairs.length = 3 ∧ (pinPairs.map (·.2.2.length)).sum = 28 := by decide

end Comdex.C10
