import Comdex.Lemmas.Liquidation
import Comdex.Lemmas.LiquidationDec
/-!
# C09 — Liquidation is safe and live: only unsafe positions are seized, and all are

Property clause → theorem  (model: `Comdex/Model/Liquidation.lean`, both generations; `Props/C09Pure.lean` ties the slice
bounds of the model to the Go source)

* "a vault whose collateral value / total debt (principal + accrued interest + closing fee) is at or above the
  product's liquidation ratio, and a borrow whose debt-to-collateral ratio is at or below the applicable threshold,
  is never seized, neither by the per-block sweep nor by anyone's liquidate message"
    → `C09.safe_never_seized` (vaults, all four entry points; borrows of generation 2), `C09.v1_borrow_safe_never_seized`
      (borrows of generation 1; ONE test for sweep and message, finding D38:
      `C09.v1_msg_borrow_ignored_emode_before_fix_counterexample`); the tests themselves: `C09.ratio_test_safe_side_exact`,
      `C09.borrow_ratio_test_safe_side_exact` (the `Dec` roundings never turn an exact ratio on the safe side into a failing
      test), `C09.unsafe_test_is_strict`, `C09.borrow_threshold_cases`, `C09.borrow_at_or_below_threshold_is_safe`;
      judged after the accrual: `C09.vault_safe_after_accrual_not_seized`, `C09.vault_decision_is_on_recorded_debt`,
      `C09.borrow_decision_after_accrual`; emergency controls and whitelisting: `C09.guarded_vault_never_seized`,
      `C09.guards_reject`.
* batched sweep: `C09.slice_in_bounds` (needs `batch < 2^63` and `off + batch < 2^63`: beyond that Go's `int` addition wraps,
  `C09.slice_in_bounds_wrap_counterexample`, finding D41), `C09.slice_panics_iff_counter_exceeds_list` (the list is sliced by
  bounds computed from an independent counter — used by C15), `C09.panic_reachable_if_counter_gt_length`,
  `C09.pass_follows_abstract_sweep`, `C09.v2_vault_offset_independent_of_borrow_pass` (finding D16),
  `C09.nonvault_seizure_leaves_vault_window` (seeded change s107; monitor `vault_counter_follows_vault_seizures`).
* "every position on the unsafe side is seized within a bounded number of blocks (at most two full sweeps)"
    → FALSE as stated: `C09.two_sweeps_counterexample` (D9, replayed on the real code of both generations by the harness);
      what holds: `C09.sweep_live_partial`, `C09.two_sweeps_if_one_shift` (excluded adversarial condition: a position BEFORE the
      unsafe one is deleted during the sweep), `C09.sweep_live_varbatch_partial` (governance changes the batch size mid-sweep),
      `C09.zero_batch_processes_nothing` (why `> 0` is validated), `C09.unsafe_processed_is_seized` (a position handed to the step
      IS seized under the property's enabling conditions), `C09.v2_witness_seized`.
* "seizure moves exactly the recorded collateral into auction custody and opens exactly one auction for it"
    → vaults: `C09.seize_moves_exactly_collateral`, `C09.seize_opens_one_auction`; borrows of generation 2:
      `C09.borrow_step_atomic`, `C09.flagged_borrow_is_backed`, `C09.failing_step_leaves_no_writes`,
      `C09.v2_borrow_witness_atomic` (finding D6), `C09.auction_type_follows_whitelisting`; generation-1 borrow sell-off:
      `C09.v1_borrow_seizure_effect`, `C09.v1_selloff_records` and — FALSE for the transfers —
      `C09.v1_selloff_can_exceed_collateral_counterexample` (D33); the messages that seize nobody:
      `C09.external_liquidation_touches_no_position`, `C09.keeper_message_is_step_plus_mark`.
-/
namespace Comdex.C09
open Comdex.Liquidation

/-- **Safe positions are never seized, guarded positions neither** — both block hooks, the generation-2 liquidate message and the
generation-1 vault message; all states, all inputs (generation-1 borrows: `v1_borrow_safe_never_seized`).
`Removes e w w'`: `w'.vaults ⊆ w.vaults` and every vault of `w` missing in `w'` satisfies `vaultUnsafe e` (the code's
`CR(amountIn, principal + interest + closingFee) < MinCr` on the recorded debt) AND `GuardsOff` (no ESM, no kill switch for its
app, app whitelisted for liquidation in one of the generations).  `KeepsB`: an unflagged borrow that fails `borrowUnsafe e`
(ratio AFTER the accrual > applicable threshold), or whose app has the kill switch on, or is not whitelisted, is still there
with an identical record. -/
theorem safe_never_seized :
    (∀ e batch w w', NodupIds w → NodupB w → (blockV2 e batch w).world? = some w' → Removes e w w' ∧ KeepsB e w w') ∧
    (∀ e batch w w', AppsUnique e → NodupIds w → (blockV1 e batch w).world? = some w' → Removes e w w') ∧
    (∀ e liqType id w w', NodupIds w → NodupB w → msgLiquidateV2 e liqType id w = some w' → Removes e w w' ∧ KeepsB e w w') ∧
    (∀ e app id w w', NodupIds w → msgLiquidateVaultV1 e app id w = some w' → Removes e w w') :=
  ⟨fun e batch w w' hn hb h => let r := blockV2_rel e batch w w' hn hb (Outcome.world?_eq_some.1 h); ⟨r.removes, r.keeps⟩,
   fun e batch w w' hU hn h => (blockV1_rel e batch w w' hU hn (Outcome.world?_eq_some.1 h)).1,
   fun e t id w w' hn hb h => let r := msgLiquidateV2_rel e t id w w' hn hb h; ⟨r.removes, r.keeps⟩,
   fun e a id w w' hn h => (msgLiquidateVaultV1_rel e a id w w' hn h).removes⟩

/-- **Guard on ⇒ nothing seized** (corollary, contrapositive form): whatever the entry point, a vault whose app has the ESM
executed, or the kill switch on, or is whitelisted in neither generation, is still there afterwards. -/
theorem guarded_vault_never_seized (e : Env) (w w' : World) (hr : Removes e w w') (q : Vault) (hq : q ∈ w.vaults)
    (hg : (e.app q.app).esm = true ∨ (e.app q.app).kill = true ∨ ((e.app q.app).wl2 = false ∧ (e.app q.app).wl1 = false)) :
    q ∈ w'.vaults := by
  apply Classical.byContradiction
  intro hn
  obtain ⟨_, h1, h2, h3⟩ := hr.2 q hq hn
  rcases hg with hg | hg | hg
  · rw [h1] at hg; cases hg
  · rw [h2] at hg; cases hg
  · rcases h3 with h3 | h3
    · rw [hg.1] at h3; cases h3
    · rw [hg.2] at h3; cases h3

/-- **The guards of the liquidate messages and of the per-position steps reject outright** (`none` = the transaction
fails / the wrapped step is rolled back): generation 2 vault step under ESM, kill switch or missing whitelisting;
generation 2 borrow step under the kill switch (an unflagged borrow); generation 1 message for an app that is not whitelisted
or has ESM / kill switch on; and the generation 1 sweep skips such an app entirely. -/
theorem guards_reject :
    (∀ (e : Env) (id : Nat) (w : World) (v : Vault), w.vaults.find? (·.id == id) = some v →
      ((e.app v.app).esm = true ∨ (e.app v.app).kill = true ∨ (e.app v.app).wl2 = false) → liquidateVaultV2 e id w = none) ∧
    (∀ (e : Env) (id : Nat) (w : World) (b : Borrow), w.borrows.find? (·.id == id) = some b → b.liquidated = false →
      (e.app b.app).kill = true → liquidateBorrowV2 e id w = none) ∧
    (∀ (e : Env) (app id : Nat) (w : World),
      ((e.app app).wl1 = false ∨ (e.app app).kill = true ∨ (e.app app).esm = true) → msgLiquidateVaultV1 e app id w = none) ∧
    (∀ (e : Env) (batch : Nat) (a : App) (rest : List App) (w : World), (a.kill = true ∨ a.esm = true) →
      appsLoopV1 e batch (a :: rest) w = appsLoopV1 e batch rest w) := by
  refine ⟨fun e id w v hf hg => ?_, fun e id w b hf hl hk => ?_, fun e app id w hg => ?_, fun e batch a rest w hg => appsLoopV1_skip hg⟩
  · refine Option.eq_none_iff_forall_ne_some.2 fun w' h => ?_
    obtain ⟨v', _, _, hf', h1, h2, h3, _⟩ := liquidateVaultV2_eq_some.1 h
    cases hf.symm.trans hf'
    rcases hg with hg | hg | hg
    · rw [h1] at hg; cases hg
    · rw [h2] at hg; cases hg
    · rw [h3] at hg; cases hg
  · refine Option.eq_none_iff_forall_ne_some.2 fun w' h => ?_
    obtain ⟨b', hf', h⟩ := liquidateBorrowV2_eq_some.1 h
    cases hf.symm.trans hf'
    rw [if_neg (by rw [hl]; exact Bool.false_ne_true), hk] at h
    cases h.1
  · refine Option.eq_none_iff_forall_ne_some.2 fun w' h => ?_
    obtain ⟨h1, h2, h3, _⟩ := msgLiquidateVaultV1_eq_some.1 h
    rcases hg with hg | hg | hg
    · rw [h1] at hg; cases hg
    · rw [h2] at hg; cases hg
    · rw [h3] at hg; cases hg

/-- the test is the strict one: a vault exactly AT the liquidation ratio is not unsafe -/
theorem unsafe_test_is_strict (e : Env) (v : Vault) (p : Product) (hp : e.product? v.prod = some p)
    (h : vaultCR e p v.amountIn v.totalOut = some p.minCr) : vaultUnsafe e v = false := by
  refine Bool.eq_false_iff.2 fun hu => ?_
  obtain ⟨cr, hcr, hlt⟩ := (vaultUnsafe_iff e v p hp).1 hu
  cases h.symm.trans hcr
  exact Int.lt_irrefl _ hlt

/-- `Dec` rounding, vaults: if the exact quotient collateral value / debt value is at or above the liquidation ratio
(`minCr · vout ≤ vin · 10¹⁸` on raw values) the computed ratio `vin.Quo(vout)` does not test below it. -/
theorem ratio_test_safe_side_exact (vin vout minCr : Dec) (hin : 0 ≤ vin) (hout : 0 < vout)
    (h : minCr * vout ≤ vin * Dec.P) : ¬ (Dec.quo vin vout < minCr) := by
  exact Int.not_lt.mpr (Dec.quo_ge_of_ratio_ge vin vout minCr hin hout h)

/-- `Dec` rounding, borrows: if debt value / collateral value is at or below the threshold the computed ratio does not
test above it. -/
theorem borrow_ratio_test_safe_side_exact (tout tin thr : Dec) (hout : 0 ≤ tout) (hin : 0 < tin)
    (h : tout * Dec.P ≤ thr * tin) : ¬ (Dec.quo tout tin > thr) := by
  exact Int.not_lt.mpr (Dec.quo_le_of_ratio_le tout tin thr hout hin h)

/-- **Which threshold applies to which kind of borrow** (liquidate.go:300-356): a same-pool borrow (no bridged amount) is
judged against the collateral asset's threshold; a cross-pool borrow whose bridged coin is the FIRST transit asset of the
lender's pool against collateral threshold × first transit asset's threshold; every other cross-pool borrow against
collateral threshold × SECOND transit asset's threshold; the collateral threshold is the e-mode one iff the pair is in e-mode. -/
theorem borrow_threshold_cases (b : Borrow) :
    (b.bridgedAmount = 0 → borrowThreshold b = b.baseThreshold) ∧
    (b.bridgedAmount ≠ 0 → b.bridgedAsset = b.firstTransit → borrowThreshold b = Dec.mul b.baseThreshold b.ltFirst) ∧
    (b.bridgedAmount ≠ 0 → b.bridgedAsset ≠ b.firstTransit → borrowThreshold b = Dec.mul b.baseThreshold b.ltSecond) ∧
    (b.baseThreshold = if b.emode then b.elt else b.lt) := by
  refine ⟨fun h => ?_, fun h1 h2 => ?_, fun h1 h2 => ?_, rfl⟩
  · unfold borrowThreshold Borrow.bridge; simp [h]
  · unfold borrowThreshold Borrow.bridge; simp [h1, h2]
  · unfold borrowThreshold Borrow.bridge; simp [h1, h2]

/-- **A borrow at or below its applicable threshold is not unsafe** — all three cases, all inputs: if the exact quotient
debt value / collateral value is `≤ borrowThreshold b` the code's test `ratio.GT(threshold)` fails, so (by
`safe_never_seized`) neither the sweep nor a message touches it. -/
theorem borrow_at_or_below_threshold_is_safe (e : Env) (b : Borrow) (tin tout : Dec)
    (hin : e.valueOf b.assetIn b.amountIn = some tin) (hout : e.valueOf b.assetOut b.debt = some tout)
    (hpos : 0 < tin) (hnn : 0 ≤ tout) (h : tout * Dec.P ≤ borrowThreshold b * tin) : borrowUnsafe e b = false := by
  refine Bool.eq_false_iff.2 fun hu => ?_
  obtain ⟨r, hr, hgt⟩ := (borrowUnsafe_iff e b).1 hu
  obtain ⟨tin', tout', hin', hout', _, rfl⟩ := borrowRatio_eq_some.1 hr
  cases hin.symm.trans hin'
  cases hout.symm.trans hout'
  exact borrow_ratio_test_safe_side_exact tout tin (borrowThreshold b) hnn hpos h hgt

/-- **`GetSliceStartEndForLiquidations` stays inside the list** for every non-negative length and all offsets and
batch sizes (negative ones included) whose sum does not leave the Go `int` range, also after the wrap-around second
call (offset 0: there the batch size alone must be in range, `hb`).  (Without the range hypotheses the statement is FALSE of the
code: `slice_in_bounds_wrap_counterexample`.) -/
theorem slice_in_bounds (len off batch : Int) (hl : 0 ≤ len) (hb : batch < 9223372036854775808)
    (hw : off + batch < 9223372036854775808) :
    (0 ≤ (sliceBoundsI len off batch).1 ∧ (sliceBoundsI len off batch).1 ≤ (sliceBoundsI len off batch).2 ∧
      (sliceBoundsI len off batch).2 ≤ len) ∧
    (0 ≤ (sweepBoundsI len off batch).1 ∧ (sweepBoundsI len off batch).1 ≤ (sweepBoundsI len off batch).2 ∧
      (sweepBoundsI len off batch).2 ≤ len) :=
  ⟨sliceBoundsI_bounds len off batch hl hw, sweepBoundsI_bounds len off batch hl hb hw⟩

/-- Go `int` addition wraps: with a batch size of `MaxInt64` and offset 1 the helper returns a NEGATIVE end, the
caller's `vaults[1:end]` then panics (reproduced on the real function of both generations; needs the governance
parameter `LiquidationBatchSize ≥ 2^63 − offset`, which `validateLiquidationBatchSize` accepts; finding D41).  The translation
of the Go function computes the same pair: `pure_sliceStartEnd_wrap_witness` in `Props/C09Pure.lean`. -/
theorem slice_in_bounds_wrap_counterexample :
    sliceBoundsI 5 1 9223372036854775807 = (1, -9223372036854775808) := by decide

/-- **The slice expression panics exactly when the stored counter promises more than the list holds.**
The bounds come from the counter `c = LengthOfVault` (an independent `uint64`), the list has `n` entries:
the pass panics iff `c` reads negative as an `int` or `n <` the range end; for `batch > 0` the end is
`min (off+batch) c` while the offset is inside, `min batch c` after a wrap. Hence: never when `c ≤ n`; and when
`c > n` and `batch > 0` the offset `n` — reached by the sweep itself — panics (`panic_reachable_if_counter_gt_length`).
(`hb`, `hw`: offset + batch stays inside the Go `int` range, see `slice_in_bounds_wrap_counterexample`.) -/
theorem slice_panics_iff_counter_exceeds_list (batch key off : Nat) (f : Vault → World → Option World) (w : World)
    (hb : toGoInt batch < 9223372036854775808) (hw : toGoInt off + toGoInt batch < 9223372036854775808) :
    (vaultPass batch key off f w = none ↔
      (toGoInt w.counter < 0 ∨
       (w.vaults.length : Int) < (sweepBoundsI (toGoInt w.counter) (toGoInt off) (toGoInt batch)).2)) ∧
    (0 ≤ toGoInt w.counter → 0 ≤ toGoInt off → 0 < toGoInt batch →
      (sweepBoundsI (toGoInt w.counter) (toGoInt off) (toGoInt batch)).2 =
        if toGoInt off < toGoInt w.counter then min (toGoInt off + toGoInt batch) (toGoInt w.counter)
        else min (toGoInt batch) (toGoInt w.counter)) ∧
    (0 ≤ toGoInt w.counter → toGoInt w.counter ≤ w.vaults.length → vaultPass batch key off f w ≠ none) := by
  have hiff := (vaultPass_none_iff batch key off f w).trans (goSlice_sweep_none_iff w.vaults _ _ _ hb hw)
  refine ⟨hiff, fun hc ho hb0 => sweepBoundsI_end _ _ _ hc ho hb0 hw, fun hc hle hnone => ?_⟩
  have := (sweepBoundsI_bounds (toGoInt w.counter) (toGoInt off) (toGoInt batch) hc hb hw).2.2
  have := hiff.1 hnone
  omega

theorem panic_reachable_if_counter_gt_length (batch key : Nat) (f : Vault → World → Option World) (w : World)
    (hb : 0 < batch) (hb' : batch < 2 ^ 63) (hc : w.vaults.length < w.counter) (hc' : w.counter < 2 ^ 63)
    (hw : w.vaults.length + batch < 2 ^ 63) :
    vaultPass batch key w.vaults.length f w = none := by
  rw [vaultPass_none_iff, toGoInt_small w.counter hc', toGoInt_small batch hb', toGoInt_small w.vaults.length (by omega),
    goSlice_sweep_none_iff _ _ _ _ (by omega) (by omega), sweepBoundsI_end _ _ _ (by omega) (by omega) (by omega) (by omega),
    if_pos (by omega)]
  omega

/-- the concrete pass follows the abstract sweep: with a consistent counter it stores `(sweepBounds n off batch).2` (the map from
a history of `World`s to a sequence of `Sw` is not formalised) -/
theorem pass_follows_abstract_sweep (batch key off : Nat) (f : Vault → World → Option World) (w w' : World)
    (hc : w.counter = w.vaults.length) (h63 : w.counter < 2 ^ 63) (ho : off < 2 ^ 63) (hb : batch < 2 ^ 63)
    (hw : off + batch < 2 ^ 63) (h : vaultPass batch key off f w = some w') :
    w'.offsets.get? key = some (sweepBounds w.vaults.length off batch).2 := by
  rw [vaultPass_offset batch key off f w w' h]
  have h1 : toGoInt w.counter = (w.vaults.length : Int) := by rw [toGoInt_small _ h63, hc]
  have h2 : toGoInt batch = batch := toGoInt_small _ hb
  have h3 : toGoInt off = off := toGoInt_small _ ho
  rw [h1, h2, h3, sweepBounds_cast _ _ _ (by omega)]
  simp

/-- **Liveness of the sweep** (`sweep_live_varbatch` at a constant batch size): a sweep that starts at block `t` hands the position
at index `i` to the per-position step in block `t + i / batch`, provided the position stays at index `i` during these blocks —
i.e. it persists and no position BEFORE it is deleted in the meantime (the excluded adversarial condition; appends and
deletions behind it are free). `Evolves`: each block stores its range end as the next offset, as the code does. -/
theorem sweep_live_partial (batch : Nat) (hb : 0 < batch) (r : Nat → Sw) (hev : Evolves batch r)
    (t i p : Nat) (hstart : (r t).starts batch = true)
    (hpos : ∀ k, k ≤ i / batch → (r (t+k)).l[i]? = some p) :
    p ∈ (r (t + i / batch)).processed batch :=
  have ⟨h1, h2⟩ := covered_const_div batch t i hb
  sweep_live_varbatch (fun _ => batch) (fun _ => hb) r (evolvesV_const.2 hev) t i p (i / batch) hstart h1 h2 hpos

/-- **Two sweeps suffice if positions before `p` are deleted in at most one block** (`d`): for any two sweep starts
`w1 < w2`, `p` is processed in the sweep started at `w1` or in the one started at `w2`. -/
theorem two_sweeps_if_one_shift (batch : Nat) (hb : 0 < batch) (r : Nat → Sw) (hev : Evolves batch r)
    (p : Nat) (idx : Nat → Nat) (T : Nat) (hidx : ∀ k, k ≤ T → (r k).l[idx k]? = some p)
    (d : Nat) (hshift : ∀ k, k < T → k ≠ d → idx (k+1) = idx k)
    (w1 w2 : Nat) (h12 : w1 < w2) (hs1 : (r w1).starts batch = true) (hs2 : (r w2).starts batch = true)
    (hT1 : w1 + idx w1 / batch ≤ T) (hT2 : w2 + idx w2 / batch ≤ T) :
    p ∈ (r (w1 + idx w1 / batch)).processed batch ∨ p ∈ (r (w2 + idx w2 / batch)).processed batch :=
  two_sweeps_varbatch (fun _ => batch) (fun _ => hb) r (evolvesV_const.2 hev) p idx T hidx d hshift w1 w2 h12 hs1 hs2 _ _
    (covered_const_div batch w1 _ hb) (covered_const_div batch w2 _ hb) hT1 hT2

/-- D9 schedule (per block: the ids deleted, the ids appended): batch 1, positions 1…6, position 6 unsafe throughout; the owners of
1, 2 and 3 close their positions after blocks 5, 9 and 12 (just before the offset reaches position 6). -/
def d9Schedule : List (List Nat × List Nat) :=
  [([],[]),([],[]),([],[]),([],[]),([1],[]),([],[]),([],[]),([],[]),([2],[]),([],[]),([],[]),([3],[]),([],[]),([],[]),([],[]),([],[])]

def d9States : List Sw := Sw.run 1 (· == 6) d9Schedule { l := [1,2,3,4,5,6], off := 0 }

/-- **"At most two full sweeps" is false.** On the D9 schedule the unsafe position 6 is present before each of the
first 15 blocks, is not handed to the step in blocks 1–14 although four sweeps start in that time (blocks 1, 6, 10, 13),
and is seized only in block 15 > 2·⌈6/1⌉ = 12. The harness replays the schedule on the real sweeps of both generations. -/
theorem two_sweeps_counterexample :
    ((d9States.take 15).all (fun s => s.l.contains 6) = true) ∧
    ((d9States.take 14).all (fun s => !(s.processed 1).contains 6) = true) ∧
    (((d9States.take 14).zipIdx.filter (fun x => x.1.starts 1)).map (·.2 + 1) = [1, 6, 10, 13]) ∧
    ((d9States.getD 14 default).processed 1 = [6]) ∧
    ((d9States.getD 15 default).l.contains 6 = false) := by
  decide

/-- **A processed unsafe position IS seized** when liquidation and its auction type are enabled for the app, no
emergency control is on, prices are active and custody holds the recorded collateral — vaults of generation 2 and 1 (unsafe
on the recorded debt; `k` = the amounts computed after the accrual) and borrows of generation 2 (unsafe AFTER the accrual,
same-pool, cross-pool and e-mode alike: `borrowUnsafe` is the test on `borrowThreshold`). -/
theorem unsafe_processed_is_seized :
    (∀ (e : Env) (id : Nat) (w : World) (v : Vault) (p : Product) (k : Amounts),
      w.vaults.find? (·.id == id) = some v → e.product? v.prod = some p →
      (e.app v.app).esm = false → (e.app v.app).kill = false → (e.app v.app).wl2 = true → (e.app v.app).dutch2 = true →
      e.priceActive p.assetIn = true → e.priceActive p.assetOut = true →
      v.amountIn ≤ w.vaultBal.get p.assetIn → vaultUnsafe e v = true → amountsV2 e p v = some k →
      ∃ w', liquidateVaultV2 e id w = some w' ∧ handOver w v p.assetIn k = some w' ∧ ∀ q, q ∈ w'.vaults → q.id ≠ v.id) ∧
    (∀ (e : Env) (a : Nat) (w : World) (v : Vault) (p : Product) (k : Amounts),
      v.app = a → e.product? v.prod = some p → (e.app a).auc1 = true →
      e.priceActive p.assetIn = true → (p.outOracle = true → e.priceActive p.assetOut = true) →
      v.amountIn ≤ w.vaultBal.get p.assetIn → vaultUnsafe e v = true → amountsV1 e p v = some k →
      ∃ w', liquidateVaultV1 e a v w = some w' ∧ handOver w v p.assetIn k = some w' ∧ ∀ q, q ∈ w'.vaults → q.id ≠ v.id) ∧
    (∀ (e : Env) (id : Nat) (w : World) (b : Borrow) (r : Dec),
      w.borrows.find? (·.id == id) = some b → b.liquidated = false → borrowRatio e b = some r → borrowUnsafe e b = true →
      (e.app b.app).kill = false → (e.app b.app).wl2 = true → (e.app b.app).dutch2 = true →
      e.priceActive b.assetIn = true → e.priceActive b.assetOut = true →
      b.amountIn ≤ w.poolBal.get b.assetIn → b.amountIn ≤ w.poolBal.get b.cAsset →
      liquidateBorrowV2 e id w = some (borrowSeized e w id b r)) := by
  refine ⟨fun e id w v p k hf hp hesm hkill hwl hdutch hpi hpo hb hu hk => ?_,
    fun e a w v p k happ hp hauc hpi hpo hb hu hk => ?_, fun e id w b r hf hl hr hu hkill hwl hd hpi hpo hb1 hb2 => ?_⟩
  · obtain ⟨cr, hcr, hlt⟩ := (vaultUnsafe_iff e v p hp).1 hu
    obtain ⟨w', hw'⟩ : ∃ w', handOver w v p.assetIn k = some w' := ⟨_, handOver_eq_some.2 ⟨fun _ => hb, rfl⟩⟩
    exact ⟨w', liquidateVaultV2_eq_some.2 ⟨v, p, cr, hf, hesm, hkill, hwl, hp, hcr, (if_pos hlt).mpr ⟨hdutch, hpi, hpo, k, hk, hw'⟩⟩,
      hw', handOver_removes_id w w' v _ k hw'⟩
  · obtain ⟨cr, hcr, hlt⟩ := (vaultUnsafe_iff e v p hp).1 hu
    obtain ⟨w', hw'⟩ : ∃ w', handOver w v p.assetIn k = some w' := ⟨_, handOver_eq_some.2 ⟨fun _ => hb, rfl⟩⟩
    exact ⟨w', liquidateVaultV1_eq_some.2 ⟨happ, p, cr, hp, hcr, (if_pos hlt).mpr ⟨hpo, hauc, hpi, k, hk, hw'⟩⟩,
      hw', handOver_removes_id w w' v _ k hw'⟩
  · obtain ⟨r', hr', hgt⟩ := (borrowUnsafe_iff e b).1 hu
    cases hr.symm.trans hr'
    refine liquidateBorrowV2_eq_some.2 ⟨b, hf, ?_⟩
    rw [if_neg (by rw [hl]; exact Bool.false_ne_true)]
    exact ⟨hkill, r, hr, (if_pos hgt).mpr ⟨hwl, hb1, hb2, Or.inl hd, fun _ => ⟨hpi, hpo⟩, rfl⟩⟩

/-- **Vaults: safe after the accrual ⇒ not seized.** Both generations take the decision on the RECORDED debt and book the
interest afterwards. If the interest the seizure would book is non-negative (`interest ≤ intPost`) and the vault is at or
above the liquidation ratio on the debt AFTER that accrual, then it is not unsafe on the recorded debt either (the ratio is
antitone in the debt, `vaultCR_anti_debt`), hence — `safe_never_seized` — never seized. -/
theorem vault_safe_after_accrual_not_seized (e : Env) (v : Vault) (p : Product) (crPost : Dec)
    (hp : e.product? v.prod = some p) (hn : EnvNonneg e p) (h0 : 0 ≤ v.totalOut) (hacc : v.interest ≤ v.intPost)
    (hpost : vaultCR e p v.amountIn v.totalOutPost = some crPost) (hsafe : p.minCr ≤ crPost) : vaultUnsafe e v = false := by
  refine Bool.eq_false_iff.2 fun hu => ?_
  obtain ⟨cr, hpre, hlt⟩ := (vaultUnsafe_iff e v p hp).1 hu
  have hle : v.totalOut ≤ v.totalOutPost := by unfold Vault.totalOut Vault.totalOutPost; omega
  have := vaultCR_anti_debt e p v.amountIn v.totalOut v.totalOutPost cr crPost hn hle hpre hpost
  exact Int.not_lt.mpr (Int.le_trans hsafe this) hlt

/-- The converse fails, and the model says so: the decision ignores interest that is not booked yet. Recorded debt
1 000 000 (ratio 1.5004 ≥ 1.5), 50 000 of interest would be booked by the seizure (ratio after: 1.429): the vault is NOT
seized by the generation-2 hook; once the interest is on the record it is. -/
theorem vault_decision_is_on_recorded_debt :
    let e : Env := { assets := [{ id := 1, decimals := 1000000, price := some 1800000 }, { id := 2, decimals := 1000000, price := some 1000000 }]
                     products := [{ id := 1, app := 1, minCr := 1500000000000000000, assetIn := 1, assetOut := 2, outOracle := true, outFixed := 1000000 }]
                     apps := [{ id := 1, wl2 := true, dutch2 := true }] }
    let v : Vault := { id := 1, app := 1, prod := 1, amountIn := 833600, amountOut := 1000000, interest := 0, closingFee := 0, intPost := 50000 }
    let w : World := { vaults := [v], counter := 1, vaultBal := [(1, 833600)] }
    (∃ w', (blockV2 e 5 w).world? = some w' ∧ w'.vaults = [v]) ∧
    (∃ w', (blockV2 e 5 { w with vaults := [{ v with interest := 50000 }] }).world? = some w' ∧ w'.vaults = [] ∧
       w'.newLocked.map (·.debt) = [1050000]) := by
  refine ⟨⟨_, rfl, by decide⟩, ⟨_, rfl, by decide, by decide⟩⟩

/-- **Borrows: the decision is taken after the accrual.** `borrowUnsafe` compares
`(principal + trunc(interest after the in-memory accrual)) · price / collateral value` with the applicable threshold; so
(`safe_never_seized`) safe-after-accrual borrows are never touched and (`unsafe_processed_is_seized`) unsafe-after-accrual
borrows that are reached are seized. -/
theorem borrow_decision_after_accrual (e : Env) (b : Borrow) :
    b.debt = b.principal + Dec.truncateInt b.interestPost ∧
    (borrowUnsafe e b = true ↔ ∃ r, borrowRatio e b = some r ∧ r > borrowThreshold b) :=
  ⟨rfl, borrowUnsafe_iff e b⟩

/-- **The vault offset after a generation-2 block is the vault pass's own range end**, whatever the borrow pass does
(any number of borrows, any outcomes of their steps): the two sweeps keep separate offsets. With `pass_follows_abstract_sweep` the
stored vault offset obeys the recurrence that `sweep_live_partial` assumes as `Evolves`. -/
theorem v2_vault_offset_independent_of_borrow_pass (e : Env) (batch : Nat) (w w' : World) (h : blockV2 e batch w = .ok w') :
    w'.offsets.get? 0 =
      some (sweepBoundsI (toGoInt w.counter) (toGoInt ((w.offsets.get? 0).getD 0)) (toGoInt batch)).2.toNat := by
  obtain ⟨w1, hvp, hbp⟩ := blockV2_ok h
  rw [(borrowPassV2_vaultSide e batch w1 w' hbp).2.2.2]
  exact vaultPass_offset batch 0 _ _ w w1 hvp

def witEnv : Env :=
  { assets := [{ id := 1, decimals := 1000000, price := some 1800000 }, { id := 2, decimals := 1000000, price := some 1000000 }]
    products := [{ id := 1, app := 1, minCr := 1500000000000000000, assetIn := 1, assetOut := 2, outOracle := true, outFixed := 1000000,
                   penalty := 120000000000000000 }]
    apps := [{ id := 1, wl2 := true, dutch2 := true, wl1 := true, auc1 := true }] }

def witWorld : World :=
  { vaults := [{ id := 1, app := 1, prod := 1, amountIn := 1500001, amountOut := 1000000, interest := 0, closingFee := 0 },
               { id := 2, app := 1, prod := 1, amountIn := 1500001, amountOut := 1000000, interest := 0, closingFee := 0 },
               { id := 3, app := 1, prod := 1, amountIn := 800251, amountOut := 1000000, interest := 0, closingFee := 0 }]
    counter := 3, vaultBal := [(1, 3800253), (2, 0)], auctionBal := [(1, 0), (2, 0)] }

def iterV2 : Nat → World → Option World
  | 0, w => some w
  | n+1, w => match blockV2 witEnv 1 w with
    | .ok w' => iterV2 n w'
    | _ => none

/-- the witness of finding D16 (batch 1, three vaults, the third at ratio 1.44 < 1.5): seized in block 3, exactly
`amountIn` auctioned. The harness runs the same population on the real code. -/
theorem v2_witness_seized :
    vaultUnsafe witEnv (witWorld.vaults.getD 2 default) = true ∧
    ∃ w, iterV2 3 witWorld = some w ∧ w.vaults.map (·.id) = [1, 2] ∧ w.newAuctions.map (·.amount) = [800251] := by
  exact ⟨by decide, _, rfl, by decide, by decide⟩

/-- **A borrow step does nothing or everything, and hands over exactly what was pledged**: a successful
`LiquidateIndividualBorrow` leaves the state unchanged or produces `borrowSeized e w id b r` for an unflagged borrow `b`, unsafe
after the accrual at ratio `r`, with every guard passed:
* exactly `b.amountIn` (the pledged cTokens, 1:1 in the underlying) of the collateral asset moves pool → auction account, the
  same amount of cTokens is burnt from the pool account, and the pool held at least that much of both;
* locked vault: collateral `b.amountIn`, `DebtToken` = the principal (NOT the accrued interest), `FeeToBeCollected` =
  trunc(principal · LiquidationPenalty), `BonusToBeGiven` = trunc(principal · LiquidationBonus), `TargetDebt` = principal + fee,
  ratio `r`; exactly one auction over (`b.assetIn`, `b.amountIn`) with the same target;
* pool totals and the lend position shrink by exactly what left: `TotalBorrowed(outPool, assetOut) −= principal`,
  `TotalLend(pool, assetIn) −= amountIn`, lend position `−= amountIn` (deleted when nothing is left). -/
theorem borrow_step_atomic (e : Env) (id : Nat) (w w' : World) (h : liquidateBorrowV2 e id w = some w') :
    w' = w ∨ ∃ b r, w.borrows.find? (·.id == id) = some b ∧ b.liquidated = false ∧ borrowRatio e b = some r ∧
      borrowUnsafe e b = true ∧ (e.app b.app).kill = false ∧ (e.app b.app).wl2 = true ∧
      ((e.app b.app).dutch2 = true ∨ (e.app b.app).english2 = true) ∧
      b.amountIn ≤ w.poolBal.get b.assetIn ∧ b.amountIn ≤ w.poolBal.get b.cAsset ∧ w' = borrowSeized e w id b r ∧
      w'.auctionBal.get b.assetIn = w.auctionBal.get b.assetIn + b.amountIn ∧
      w'.totalBorrowed.get (statKey b.outPool b.assetOut) = w.totalBorrowed.get (statKey b.outPool b.assetOut) - b.principal ∧
      w'.totalLend.get (statKey b.pool b.assetIn) = w.totalLend.get (statKey b.pool b.assetIn) - b.amountIn ∧
      (∃ l a, w'.newLocked = w.newLocked ++ [l] ∧ w'.newAuctions = w.newAuctions ++ [a] ∧
        l.amountIn = b.amountIn ∧ a.amount = b.amountIn ∧ a.asset = b.assetIn ∧ a.locked = l.id ∧ l.orig = b.id ∧
        l.debt = b.principal ∧ l.fee = Dec.truncateInt (Dec.mul (Dec.ofInt b.principal) b.pen) ∧
        l.bonus = Dec.truncateInt (Dec.mul (Dec.ofInt b.principal) b.bon) ∧ l.target = l.debt + l.fee ∧ a.target = l.target ∧ l.cr = r) := by
  rcases liquidateBorrowV2_cases e id w w' h with h | ⟨b, r, hf, hl, hr, hu, hk, hwl, hd, hb1, hb2, rfl⟩
  · exact Or.inl h
  · exact Or.inr ⟨b, r, hf, hl, hr, hu, hk, hwl, hd, hb1, hb2, rfl, Bal.get_add_self _ _ _,
      (Bal.get_add_self _ _ _).trans (Int.sub_eq_add_neg).symm, (Bal.get_add_self _ _ _).trans (Int.sub_eq_add_neg).symm,
      _, _, rfl, rfl, rfl, rfl, rfl, rfl, rfl, rfl, rfl, rfl, rfl, rfl, rfl⟩

/-- a failing step inside `ApplyFuncIfNoError` leaves no writes (the sweep then goes on with the next position) -/
theorem failing_step_leaves_no_writes (f : World → Option World) (w : World) (h : f w = none) : applyIfNoError f w = w := by
  unfold applyIfNoError; rw [h]; rfl

/-- **Every flagged borrow is backed**: after any generation-2 block hook and any generation-2 liquidate message, a
borrow that is flagged `IsLiquidated` was flagged before or there is a locked vault for it in the book `newLocked` and an auction for
that locked vault over the locked amount in the book `newAuctions`; the books only grow. -/
theorem flagged_borrow_is_backed :
    (∀ e batch w w', NodupIds w → NodupB w → (blockV2 e batch w).world? = some w' → Backed w w' ∧ Grows w w') ∧
    (∀ e liqType id w w', NodupIds w → NodupB w → msgLiquidateV2 e liqType id w = some w' → Backed w w' ∧ Grows w w') :=
  ⟨fun e batch w w' hn hb h => let r := blockV2_rel e batch w w' hn hb (Outcome.world?_eq_some.1 h); ⟨r.backed, r.grows⟩,
   fun e t id w w' hn hb h => let r := msgLiquidateV2_rel e t id w w' hn hb h; ⟨r.backed, r.grows⟩⟩

def leakEnv : Env :=
  { assets := [{ id := 6, decimals := 1000000, price := some 1400000 }, { id := 7, decimals := 1000000, price := some 2000000 }]
    apps := [{ id := 3, wl2 := true, dutch2 := false }] }

def leakWorld : World :=
  { borrows := [{ id := 1, app := 3, pool := 1, assetIn := 6, assetOut := 7, amountIn := 100000000, principal := 65000000, cAsset := 9, lendId := 1, outPool := 1,
                  bridgedAmount := 0, bridgedAsset := 0, firstTransit := 8, secondTransit := 6, liquidated := false, emode := false,
                  lt := 750000000000000000, elt := 0, ltFirst := 850000000000000000, ltSecond := 750000000000000000 }]
    poolBal := [(6, 1000000000), (9, 1000000000)], auctionBal := [(6, 0)], lendBal := [(1, 100000000)] }

/-- the witness of finding D6 (lend app whitelisted, no auction type activated, borrow unsafe): the hook leaves the
borrow, custody and books untouched and only advances the borrow offset; with Dutch auctions activated the same
borrow is seized completely. -/
theorem v2_borrow_witness_atomic :
    borrowUnsafe leakEnv (leakWorld.borrows.getD 0 default) = true ∧
    (blockV2 leakEnv 5 leakWorld).world? = some { leakWorld with offsets := [(0, 0), (1, 1)] } ∧
    (∃ w', (blockV2 { leakEnv with apps := [{ id := 3, wl2 := true, dutch2 := true }] } 5 leakWorld).world? = some w' ∧
      w'.borrows.map (·.liquidated) = [true] ∧ w'.auctionBal.get 6 = 100000000 ∧ w'.newAuctions.map (·.amount) = [100000000]) := by
  refine ⟨by decide, rfl, _, rfl, by decide, by decide, by decide⟩

/-- what both vault hand-overs have in common, in terms of the amounts `k` written on the locked vault -/
def VaultHandedOver (w w' : World) (v : Vault) (asset : Nat) (k : Amounts) : Prop :=
  w'.auctionBal.get asset = w.auctionBal.get asset + v.amountIn ∧
  w'.vaultBal.get asset = w.vaultBal.get asset - v.amountIn ∧
  (∀ a', a' ≠ asset → w'.auctionBal.get a' = w.auctionBal.get a' ∧ w'.vaultBal.get a' = w.vaultBal.get a') ∧
  w'.poolBal = w.poolBal ∧ w'.lendBal = w.lendBal ∧ w'.totalLend = w.totalLend ∧ w'.totalBorrowed = w.totalBorrowed ∧
  (v.amountIn ≤ w.vaultBal.get asset ∨ v.amountIn = 0) ∧
  w'.auctionId = w.auctionId + 1 ∧ w'.lockedId = w.lockedId + 1 ∧
  w'.newAuctions = w.newAuctions ++ [{ id := w.auctionId + 1, locked := w.lockedId + 1, asset := asset, amount := v.amountIn, target := k.target }] ∧
  w'.newLocked = w.newLocked ++ [{ id := w.lockedId + 1, orig := v.id, app := v.app, amountIn := v.amountIn, isBorrow := false,
                                   debt := k.debt, target := k.target, fee := k.fee, bonus := k.bonus, cr := k.cr, collValue := k.collValue }]

theorem vaultHandedOver_of (w w' : World) (v : Vault) (a : Nat) (k : Amounts) (hnn : 0 ≤ v.amountIn)
    (h : handOver w v a k = some w') : VaultHandedOver w w' v a k := by
  obtain ⟨hg, rfl⟩ := handOver_eq_some.1 h
  by_cases hp : v.amountIn > 0
  · refine ⟨?_, ?_, fun a' hne => ⟨?_, ?_⟩, rfl, rfl, rfl, rfl, Or.inl (hg hp), rfl, rfl, rfl, rfl⟩ <;> dsimp only <;> rw [if_pos hp]
    · exact Bal.get_add_self _ _ _
    · rw [Bal.get_add_self]; omega
    · exact Bal.get_add_other _ _ _ _ hne
    · exact Bal.get_add_other _ _ _ _ hne
  · have h0 : v.amountIn = 0 := by omega
    refine ⟨?_, ?_, fun a' hne => ⟨?_, ?_⟩, rfl, rfl, rfl, rfl, Or.inr h0, rfl, rfl, rfl, rfl⟩ <;> dsimp only <;> rw [if_neg hp]
    · omega
    · omega

theorem VaultHandedOver.one_auction {w w' : World} {v : Vault} {a : Nat} {k : Amounts} (hv : VaultHandedOver w w' v a k) :
    w'.auctionId = w.auctionId + 1 ∧ w'.lockedId = w.lockedId + 1 ∧
      ∃ l au, w'.newLocked = w.newLocked ++ [l] ∧ w'.newAuctions = w.newAuctions ++ [au] ∧ au.locked = l.id ∧
        au.amount = l.amountIn ∧ au.target = l.target ∧ l.id = w.lockedId + 1 ∧ au.id = w.auctionId + 1 := by
  obtain ⟨_, _, _, _, _, _, _, _, h1, h2, h3, h4⟩ := hv
  exact ⟨h1, h2, _, _, h4, h3, rfl, rfl, rfl, rfl, rfl⟩

/-- **Seizure moves exactly the recorded collateral into auction custody** (and nothing else, no other asset, no lend
accounting): every successful per-vault step of either generation either changes nothing or hands over the vault `v`, unsafe
on its recorded debt and unguarded: auction custody of the collateral asset grows by exactly `v.amountIn` — the WHOLE recorded
collateral, the amount written on the locked vault and on the auction —, the vault module's shrinks by the same and held at
least that much. The amounts on the locked vault are what the code computes AFTER booking the interest:
generation 2 `DebtToken = principal + interest(after accrual) + closing fee`, `FeeToBeCollected = trunc(DebtToken · LiquidationPenalty)`,
`BonusToBeGiven = 0`, `TargetDebt = DebtToken + FeeToBeCollected` = the auction's debt, ratio recomputed on that debt;
generation 1 `AmountOut = principal`, `InterestAccumulated = interest(after accrual) + closing fee`, `CollateralToBeAuctioned` =
value of the collateral, auction inflow target `= principal + trunc(principal · penalty) + interest + closing fee`. -/
theorem seize_moves_exactly_collateral :
    (∀ (e : Env) (id : Nat) (w w' : World), (∀ q, q ∈ w.vaults → 0 ≤ q.amountIn) → liquidateVaultV2 e id w = some w' →
      w' = w ∨ ∃ v p k, w.vaults.find? (·.id == id) = some v ∧ e.product? v.prod = some p ∧ vaultUnsafe e v = true ∧
        GuardsOff e v.app ∧ VaultHandedOver w w' v p.assetIn k ∧
        k.debt = v.amountOut + v.intPost + v.closingFee ∧ k.fee = Dec.truncateInt (Dec.mul (Dec.ofInt k.debt) p.penalty) ∧
        k.bonus = 0 ∧ k.target = k.debt + k.fee ∧ vaultCR e p v.amountIn k.debt = some k.cr) ∧
    (∀ (e : Env) (a : Nat) (v : Vault) (w w' : World), 0 ≤ v.amountIn → liquidateVaultV1 e a v w = some w' →
      w' = w ∨ ∃ p k, v.app = a ∧ e.product? v.prod = some p ∧ vaultUnsafe e v = true ∧ VaultHandedOver w w' v p.assetIn k ∧
        k.debt = v.amountOut ∧ k.fee = v.intPost + v.closingFee ∧
        k.target = v.amountOut + Dec.truncateInt (Dec.mul (Dec.ofInt v.amountOut) p.penalty) + k.fee ∧
        vaultCR e p v.amountIn (v.amountOut + v.intPost + v.closingFee) = some k.cr ∧
        e.valueOf p.assetIn v.amountIn = some k.collValue) := by
  constructor
  · intro e id w w' hnn h
    rcases liquidateVaultV2_cases e id w w' h with h | ⟨v, p, k, hf, hp, hu, hg, _, hk, ho⟩
    · exact Or.inl h
    have hv := vaultHandedOver_of w w' v p.assetIn k (hnn v (List.mem_of_find?_eq_some hf)) ho
    exact Or.inr ⟨v, p, k, hf, hp, hu, hg, hv, amountsV2_spec hk⟩
  · intro e a v w w' hnn h
    rcases liquidateVaultV1_cases e a v w w' h with h | ⟨p, k, ha, hp, hu, _, hk, ho⟩
    · exact Or.inl h
    have hv := vaultHandedOver_of w w' v p.assetIn k hnn ho
    exact Or.inr ⟨p, k, ha, hp, hu, hv, amountsV1_spec hk⟩

/-- **Seizure opens exactly one auction for it**: whenever a per-vault step of either generation changes the state, the
auction counter and the locked-vault counter advance by exactly one and exactly one auction record and one locked-vault
record are appended, the auction being for that locked vault, over the collateral asset, of exactly the locked amount, with
the locked vault's target as its debt. (Borrows: `borrow_step_atomic`, `flagged_borrow_is_backed`.) -/
theorem seize_opens_one_auction :
    (∀ (e : Env) (id : Nat) (w w' : World), (∀ q, q ∈ w.vaults → 0 ≤ q.amountIn) → liquidateVaultV2 e id w = some w' →
      w' = w ∨ (w'.auctionId = w.auctionId + 1 ∧ w'.lockedId = w.lockedId + 1 ∧
        ∃ l a, w'.newLocked = w.newLocked ++ [l] ∧ w'.newAuctions = w.newAuctions ++ [a] ∧ a.locked = l.id ∧
          a.amount = l.amountIn ∧ a.target = l.target ∧ l.id = w.lockedId + 1 ∧ a.id = w.auctionId + 1)) ∧
    (∀ (e : Env) (a : Nat) (v : Vault) (w w' : World), 0 ≤ v.amountIn → liquidateVaultV1 e a v w = some w' →
      w' = w ∨ (w'.auctionId = w.auctionId + 1 ∧ w'.lockedId = w.lockedId + 1 ∧
        ∃ l au, w'.newLocked = w.newLocked ++ [l] ∧ w'.newAuctions = w.newAuctions ++ [au] ∧ au.locked = l.id ∧
          au.amount = l.amountIn ∧ au.target = l.target ∧ l.id = w.lockedId + 1 ∧ au.id = w.auctionId + 1)) := by
  constructor
  · intro e id w w' hnn h
    rcases seize_moves_exactly_collateral.1 e id w w' hnn h with h | ⟨v, p, k, _, _, _, _, hv, _⟩
    · exact Or.inl h
    · exact Or.inr hv.one_auction
  · intro e a v w w' hnn h
    rcases seize_moves_exactly_collateral.2 e a v w w' hnn h with h | ⟨p, k, _, _, _, hv, _⟩
    · exact Or.inl h
    · exact Or.inr hv.one_auction

/-- **What the generation-1 sell-off keeps consistent**: the collateral left on the locked vault / the borrow and the
reduction of the lend position (and of `TotalLend`) add up to the collateral the position held; nothing is negative.
(The TRANSFERS `toAuction`, `toReserve` and the burnt cTokens `totalDeduction` are not capped — next theorem.) -/
theorem v1_selloff_records (i : SellOffIn) (o : SellOffOut) (h : sellOffV1 i = some o) (hin : 0 ≤ i.amountIn) :
    0 ≤ o.newAmountIn ∧ o.newAmountIn + o.lendReduction = i.amountIn ∧ o.lendReduction ≤ i.amountIn ∧
    0 ≤ o.toAuction ∧ 0 ≤ o.toReserve ∧ 0 ≤ o.totalDeduction ∧
    (o.totalDeduction < i.amountIn → o.lendReduction = o.totalDeduction) := by
  unfold sellOffV1 at h
  obtain ⟨_, h⟩ := Option.ite_none_left_eq_some.1 h
  obtain ⟨_, h⟩ := Option.ite_none_left_eq_some.1 h
  obtain ⟨_, h⟩ := Option.ite_none_left_eq_some.1 h
  obtain ⟨_, h⟩ := Option.ite_none_left_eq_some.1 h
  obtain ⟨hneg, h⟩ := Option.ite_none_left_eq_some.1 h
  cases h
  simp only
  split <;> omega

/-- **The generation-1 sell-off can move more collateral than the position held** (finding D33; the harness reproduces it by a
direct call of the real `UpdateLockedBorrows`): collateral 1 083 074 820 at price 1.66, debt 892 889 230 at price 2.00 (ratio 0.993),
LTV 0.81, bonus 0.05: 1 394 003 545 units are sent pool → auction account and as many cTokens burnt, the records are capped
at zero. The excess comes out of the pool, i.e. from the other lenders. -/
theorem v1_selloff_can_exceed_collateral_counterexample :
    ∃ o, sellOffV1 { amountIn := 1083074820, updatedOut := 892889230, pIn := 1660000, pOut := 2000000, dIn := 1000000, dOut := 1000000,
                     c := 810000000000000000, pen := 0, bon := 50000000000000000 } = some o ∧
      o.toAuction = 1394003545 ∧ o.toAuction > 1083074820 ∧ o.totalDeduction = 1394003545 ∧ o.newAmountIn = 0 ∧ o.lendReduction = 1083074820 := by
  exact ⟨_, rfl, by decide, by decide, by decide, by decide, by decide⟩

/-- **Generation-1 borrows: a borrow that is safe under the applicable threshold is seized by NEITHER the sweep NOR the message.**
ONE test for both paths (finding D38): `borrowUnsafe` = ratio after the accrual > `borrowThreshold`
(e-mode threshold iff the pair is in e-mode, × the transit asset's threshold for the two cross-pool cases).
(1) after any generation-1 block hook and (2) after anybody's `MsgLiquidateBorrow` (any id) an unflagged borrow that fails this test,
or whose app has the kill switch on, still has an identical record (`KeepsB1`); the message touches no vault either. -/
theorem v1_borrow_safe_never_seized :
    (∀ e batch w w', AppsUnique e → NodupIds w → NodupB w → (blockV1 e batch w).world? = some w' → KeepsB1 e w w') ∧
    (∀ e id w w', NodupB w → msgLiquidateBorrowV1 e id w = some w' → KeepsB1 e w w' ∧ Removes e w w') :=
  ⟨fun e batch w w' hU hn hb h => ((blockV1_rel e batch w w' hU hn (Outcome.world?_eq_some.1 h)).2 hb).1,
   fun e id w w' hb h => ⟨(liquidateBorrowV1_keeps e false id w w' hb h).1,
     .of_vaults_eq e (liquidateBorrowV1_vaults e false id w w' h)⟩⟩

def emodeEnv : Env :=
  { assets := [{ id := 6, decimals := 1000000, price := some 1000000 }, { id := 7, decimals := 1000000, price := some 1000000 }]
    apps := [{ id := 3, lendAuc1 := true }] }

/-- an e-mode pair: normal threshold 0.80, e-mode threshold 0.85; debt 82 against collateral 100 (ratio 0.82) -/
def emodeWorld : World :=
  { borrows := [{ id := 1, app := 3, pool := 1, assetIn := 6, assetOut := 7, amountIn := 100000000, principal := 82000000, cAsset := 9, lendId := 1,
                  outPool := 1, bridgedAmount := 0, bridgedAsset := 0, firstTransit := 8, secondTransit := 6, liquidated := false, emode := true,
                  lt := 800000000000000000, elt := 850000000000000000, ltFirst := 0, ltSecond := 0,
                  ltv := 750000000000000000, pen := 50000000000000000, epen := 50000000000000000, bon := 50000000000000000 }]
    poolBal := [(6, 1000000000), (9, 1000000000)], auctionBal := [(6, 0)], reserveBal := [(6, 0)], lendBal := [(1, 100000000)] }

/-- what a `MsgLiquidateBorrow` that compares with `LiquidationThreshold` whatever the pair's e-mode does (finding D38:
`msgLiquidateBorrowV1BeforeFix` / `borrowThresholdMsgV1BeforeFix` model the code before commit f18ae51; the correspondence run reports
such a message as `safe_never_seized` on the witness `c09WitnessEmodeMsgV1`). E-mode pair, normal threshold 0.80, e-mode threshold
0.85, ratio 0.82: the borrow is safe (`borrowUnsafe = false`), the block hook leaves it alone (only its offset moves), that message
flags it, sends 42 000 000 units of its collateral to the auction account and opens an auction over 40 000 000; the message of the
model (`msgLiquidateBorrowV1`) succeeds and changes nothing. -/
theorem v1_msg_borrow_ignored_emode_before_fix_counterexample :
    borrowUnsafe emodeEnv (emodeWorld.borrows.getD 0 default) = false ∧
    (blockV1 emodeEnv 5 emodeWorld).world? = some { emodeWorld with offsets := [(3, 1)] } ∧
    (∃ w', msgLiquidateBorrowV1BeforeFix emodeEnv 1 emodeWorld = some w' ∧ w'.borrows.map (·.liquidated) = [true] ∧
      w'.auctionBal.get 6 = 42000000 ∧ w'.newAuctions.map (·.amount) = [40000000] ∧ w'.newLocked.map (·.orig) = [1]) ∧
    msgLiquidateBorrowV1 emodeEnv 1 emodeWorld = some emodeWorld := by
  refine ⟨by decide, rfl, ⟨_, rfl, by decide, by decide, by decide, by decide⟩, rfl⟩

/-- **What a generation-1 borrow seizure does** (sweep body and message alike): a successful step changes nothing or it addressed
an unflagged borrow `b`, kill switch off, unsafe at ratio `r`, and `SeizedV1` holds for the sell-off `o = sellOffV1 (b.sellOffIn e)`:
`o.toAuction` units went pool → auction account, `o.toReserve` pool → reserve (the pool held them and `totalDeduction` cTokens);
the borrow is flagged and keeps `o.newAmountIn`; the lend position and `TotalLend` shrink by `o.lendReduction`, with
`newAmountIn + lendReduction = amountIn` (the records are consistent — the transfers are NOT capped: D33); one locked vault
(`CollateralToBeAuctioned = selloff`) and one LEND auction (Dutch, over `trunc(selloff / unit value of the collateral)` units,
target `trunc(selloff / unit value of the debt asset)`) are appended; the vault side and the vault auction id are untouched. -/
theorem v1_borrow_seizure_effect (e : Env) (sweep : Bool) (id : Nat) (w w' : World) (h : liquidateBorrowV1 e sweep id w = some w') :
    w' = w ∨ ∃ b r i o, w.borrows.find? (·.id == id) = some b ∧ b.liquidated = false ∧ (e.app b.app).kill = false ∧
      borrowRatio e b = some r ∧ borrowUnsafe e b = true ∧ SeizedV1 e sweep b r w w' i o ∧
      (0 ≤ b.amountIn → o.newAmountIn + o.lendReduction = b.amountIn ∧ 0 ≤ o.newAmountIn ∧ 0 ≤ o.toAuction ∧ 0 ≤ o.toReserve) := by
  rcases liquidateBorrowV1_cases e sweep id w w' h with h | ⟨b, r, hf, hl, hk, hr, hu, hs⟩
  · exact Or.inl h
  obtain ⟨i, o, S⟩ := seizeBorrowV1_spec e sweep b r w w' hs
  refine Or.inr ⟨b, r, i, o, hf, hl, hk, hr, hu, S, fun hnn => ?_⟩
  have hi := Borrow.sellOffIn_amountIn S.hin
  have hrec := v1_selloff_records i o S.hout (hi ▸ hnn)
  rw [hi] at hrec
  exact ⟨hrec.2.1, hrec.1, hrec.2.2.2.1, hrec.2.2.2.2.1⟩

/-- **The auction a seizure opens is of the type the app's whitelisting selects — and with no type enabled nothing is seized.**
(1) a generation-2 borrow step that changes the state appends exactly one auction, Dutch iff `IsDutchActivated`, and the app has
Dutch or English activated; ids advance by one; (2) a vault of an app WITHOUT Dutch activated is never seized (English-only
apps included: liquidate.go:136) — a successful step changes nothing; (3) a borrow of an app with neither type activated is
never seized. In (2)/(3) the failing attempt is an error (`none`), whose writes both callers drop: no collateral moves
without an auction. -/
theorem auction_type_follows_whitelisting :
    (∀ (e : Env) (id : Nat) (w w' : World), liquidateBorrowV2 e id w = some w' →
      w' = w ∨ ∃ b a, w.borrows.find? (·.id == id) = some b ∧ w'.newAuctions = w.newAuctions ++ [a] ∧
        a.dutch = (e.app b.app).dutch2 ∧ ((e.app b.app).dutch2 = true ∨ (e.app b.app).english2 = true) ∧
        w'.auctionId = w.auctionId + 1 ∧ w'.lockedId = w.lockedId + 1 ∧ a.amount = b.amountIn) ∧
    (∀ (e : Env) (id : Nat) (w w' : World) (v : Vault), w.vaults.find? (·.id == id) = some v → (e.app v.app).dutch2 = false →
      liquidateVaultV2 e id w = some w' → w' = w) ∧
    (∀ (e : Env) (id : Nat) (w w' : World) (b : Borrow), w.borrows.find? (·.id == id) = some b →
      (e.app b.app).dutch2 = false → (e.app b.app).english2 = false → liquidateBorrowV2 e id w = some w' → w' = w) := by
  refine ⟨fun e id w w' h => ?_, fun e id w w' v hf hd h => ?_, fun e id w w' b hf hd he h => ?_⟩
  · rcases liquidateBorrowV2_cases e id w w' h with h | ⟨b, r, hf, _, _, _, _, _, hty, _, _, rfl⟩
    · exact Or.inl h
    · exact Or.inr ⟨b, _, hf, rfl, rfl, hty, rfl, rfl, rfl⟩
  · rcases liquidateVaultV2_cases e id w w' h with h | ⟨v', _, _, hf', _, _, _, hd', _, _⟩
    · exact h
    · cases hf.symm.trans hf'
      rw [hd] at hd'; cases hd'
  · rcases liquidateBorrowV2_cases e id w w' h with h | ⟨b', _, hf', _, _, _, _, _, hty, _⟩
    · exact h
    · cases hf.symm.trans hf'
      rcases hty with hty | hty
      · rw [hd] at hty; cases hty
      · rw [he] at hty; cases hty

/-- **`MsgLiquidateExternalKeeper` and `MsgAppReserveFunds` seize nobody.** An accepted external liquidation touches no vault, no
borrow, neither counter nor offsets, neither vault nor pool custody; it needed positive reserve funds for (app, debt asset), the app
whitelisted with Dutch auctions and the sender holding the collateral; `collAmt` enters auction custody against one locked vault
(original id 0) and one Dutch auction. An accepted reserve-funds message changes only the reserve and the module's own account. -/
theorem external_liquidation_touches_no_position :
    (∀ (e : Env) (app ca da : Nat) (camt damt ub : Int) (w w' : World), msgLiquidateExternalV2 e app ca da camt damt ub w = some w' →
      w'.vaults = w.vaults ∧ w'.counter = w.counter ∧ w'.offsets = w.offsets ∧ w'.borrows = w.borrows ∧ w'.vaultBal = w.vaultBal ∧
      w'.poolBal = w.poolBal ∧ 0 < w.appReserve.get (statKey app da) ∧ (e.app app).wl2 = true ∧ (e.app app).dutch2 = true ∧ camt ≤ ub ∧
      w'.auctionBal.get ca = w.auctionBal.get ca + camt ∧ w'.lockedId = w.lockedId + 1 ∧ w'.auctionId = w.auctionId + 1 ∧
      ∃ l a, w'.newLocked = w.newLocked ++ [l] ∧ w'.newAuctions = w.newAuctions ++ [a] ∧ l.orig = 0 ∧ l.amountIn = camt ∧
        a.amount = camt ∧ a.asset = ca ∧ a.locked = l.id ∧ a.dutch = true ∧ a.target = l.target ∧ l.target = l.debt + l.fee ∧ l.debt = damt) ∧
    (∀ (e : Env) (app asset : Nat) (dok : Bool) (amt ub : Int) (w w' : World), msgAppReserveFunds e app asset dok amt ub w = some w' →
      w'.vaults = w.vaults ∧ w'.borrows = w.borrows ∧ w'.vaultBal = w.vaultBal ∧ w'.poolBal = w.poolBal ∧ w'.auctionBal = w.auctionBal ∧
      w'.newLocked = w.newLocked ∧ w'.newAuctions = w.newAuctions ∧ amt ≤ ub ∧
      w'.appReserve.get (statKey app asset) = w.appReserve.get (statKey app asset) + amt) := by
  constructor
  · intro e app ca da camt damt ub w w' h
    obtain ⟨pen, bon, _, hres, hub, hwl, hd, rfl⟩ := msgLiquidateExternalV2_effect h
    refine ⟨rfl, rfl, rfl, rfl, rfl, rfl, hres, hwl, hd, hub, ?_, rfl, rfl, _, _, rfl, rfl, rfl, rfl, rfl, rfl, rfl, rfl, rfl, rfl, rfl⟩
    show (if camt = 0 then w.auctionBal else w.auctionBal.add ca camt).get ca = _
    split
    · next h0 => rw [h0, Int.add_zero]
    · exact Bal.get_add_self _ _ _
  · intro e app asset dok amt ub w w' h
    obtain ⟨hub, rfl⟩ := msgAppReserveFunds_effect h
    exact ⟨rfl, rfl, rfl, rfl, rfl, rfl, rfl, hub, Bal.get_add_self _ _ _⟩

/-- the index window `totalVaults[start:end]` the NEXT generation-2 vault pass will look at: computed from the vault COUNTER
(`LengthOfVault`) and the vault sweep's own offset (key 0), liquidate.go:43-57 -/
def vaultWindow (batch : Nat) (w : World) : Int × Int :=
  sweepBoundsI (toGoInt w.counter) (toGoInt ((w.offsets.get? 0).getD 0)) (toGoInt batch)

/-- **A non-vault seizure leaves the vault sweep's window untouched.** In generation 2 `CreateLockedVault` is shared by the vault
liquidation, the borrow liquidation, the external-keeper liquidation (and the collector kick-offs); the vault counter is decremented
by the VAULT liquidation only (liquidate.go:151-152). So: a borrow step, a whole borrow pass, an accepted `MsgLiquidateExternalKeeper`
and an accepted `MsgAppReserveFunds` leave the vault list, the vault counter and — for every batch size — the window of the next vault
pass exactly as they were: no position at the tail of the vault list drops out of the sweep because something else was seized.
(Seeded change s107 moves the decrement into `CreateLockedVault`; monitors `vault_counter_follows_vault_seizures`,
`seized_within_bound`.) -/
theorem nonvault_seizure_leaves_vault_window (batch : Nat) :
    (∀ (e : Env) (id : Nat) (w w' : World), liquidateBorrowV2 e id w = some w' →
      w'.vaults = w.vaults ∧ w'.counter = w.counter ∧ vaultWindow batch w' = vaultWindow batch w) ∧
    (∀ (e : Env) (b : Nat) (w w' : World), borrowPassV2 e b w = .ok w' →
      w'.vaults = w.vaults ∧ w'.counter = w.counter ∧ vaultWindow batch w' = vaultWindow batch w) ∧
    (∀ (e : Env) (app ca da : Nat) (camt damt ub : Int) (w w' : World), msgLiquidateExternalV2 e app ca da camt damt ub w = some w' →
      w'.vaults = w.vaults ∧ w'.counter = w.counter ∧ vaultWindow batch w' = vaultWindow batch w) ∧
    (∀ (e : Env) (app asset : Nat) (dok : Bool) (amt ub : Int) (w w' : World), msgAppReserveFunds e app asset dok amt ub w = some w' →
      w'.vaults = w.vaults ∧ w'.counter = w.counter ∧ vaultWindow batch w' = vaultWindow batch w) := by
  refine ⟨?_, ?_, ?_, ?_⟩
  · intro e id w w' h
    have r := liquidateBorrowV2_vaultSide e id w w' h
    exact ⟨r.1, r.2.1, by unfold vaultWindow; rw [r.2.1, r.2.2.2]⟩
  · intro e b w w' h
    have r := borrowPassV2_vaultSide e b w w' h
    exact ⟨r.1, r.2.1, by unfold vaultWindow; rw [r.2.1, r.2.2.2]⟩
  · intro e app ca da camt damt ub w w' h
    have r := external_liquidation_touches_no_position.1 e app ca da camt damt ub w w' h
    exact ⟨r.1, r.2.1, by unfold vaultWindow; rw [r.2.1, r.2.2.1]⟩
  · intro e app asset dok amt ub w w' h
    obtain ⟨_, rfl⟩ := msgAppReserveFunds_effect h
    exact ⟨rfl, rfl, rfl⟩

/-- **`MsgLiquidateInternalKeeper` = the per-position step + the keeper mark**: the delivered message is `msgLiquidateV2` (to which
`safe_never_seized`, `seize_opens_one_auction`, `borrow_step_atomic` apply) followed by setting `IsInternalKeeper` on the locked
vaults it appended; the mark changes nothing else. -/
theorem keeper_message_is_step_plus_mark (e : Env) (liqType id : Nat) (w w'' : World) (h : msgLiquidateV2K e liqType id w = some w'') :
    ∃ w', msgLiquidateV2 e liqType id w = some w' ∧ w'' = markViaMsg w.newLocked.length w' ∧
      w''.vaults = w'.vaults ∧ w''.borrows = w'.borrows ∧ w''.vaultBal = w'.vaultBal ∧ w''.poolBal = w'.poolBal ∧
      w''.auctionBal = w'.auctionBal ∧ w''.newAuctions = w'.newAuctions ∧ w''.lockedId = w'.lockedId ∧ w''.auctionId = w'.auctionId ∧
      w''.newLocked.map (fun l => { l with viaMsg := false }) = w'.newLocked.map (fun l => { l with viaMsg := false }) := by
  unfold msgLiquidateV2K at h
  cases hm : msgLiquidateV2 e liqType id w with
  | none => rw [hm] at h; cases h
  | some w' =>
    rw [hm] at h
    simp only [Option.map_some, Option.some.injEq] at h
    subst h
    refine ⟨w', rfl, rfl, rfl, rfl, rfl, rfl, rfl, rfl, rfl, rfl, ?_⟩
    unfold markViaMsg
    simp only [List.map_append, List.map_map]
    conv => rhs; rw [← List.take_append_drop w.newLocked.length w'.newLocked, List.map_append]
    rfl

/-- **Liveness under governance changes of the batch size** (`LiquidationBatchSize` is a parameter; the validator only demands
`> 0`): block `k` runs with batch `bt k > 0`. A sweep that starts at block `t` covers the indices `[covered K, covered (K+1))`
in its block `t + K` (`covered K` = sum of the first `K` batch sizes). If position `p` stays at index `i` up to that block it is
handed to the step there; and that block exists with `K ≤ i`: a position is reached at most `i` blocks after the sweep start
whatever governance does to the batch size. Excluded as in `sweep_live_partial`: a position BEFORE `p` is deleted meanwhile. -/
theorem sweep_live_varbatch_partial (bt : Nat → Nat) (hb : ∀ k, 0 < bt k) (r : Nat → Sw) (hev : EvolvesV bt r) (t i p : Nat)
    (hstart : (r t).starts (bt t) = true) :
    ∃ K, K ≤ i ∧ covered bt t K ≤ i ∧ i < covered bt t (K+1) ∧
      ((∀ k, k ≤ K → (r (t+k)).l[i]? = some p) → p ∈ (r (t + K)).processed (bt (t+K))) := by
  obtain ⟨K, hK, h1, h2⟩ := covered_block_exists bt hb t i
  exact ⟨K, hK, h1, h2, sweep_live_varbatch bt hb r hev t i p K hstart h1 h2⟩

/-- a zero batch size — which would stop every sweep: the range is always empty — is not a valid parameter value
(`validateLiquidationBatchSize`, both generations; the harness replays `SetParams(0)`: the parameter store panics) -/
theorem zero_batch_processes_nothing (s : Sw) : s.processed 0 = [] := by
  unfold Sw.processed
  simp only
  rw [sweepBounds_eq, if_neg (fun h => Nat.lt_irrefl 0 h.2)]
  rfl

-- `safe_never_seized`: the uniqueness hypotheses hold of a non-trivial state on which the generation-1 hook really seizes
-- (`AppsUnique witEnv`: one app record)
example : NodupIds witWorld ∧ NodupB witWorld ∧
    ∃ w', (blockV1 witEnv 3 witWorld).world? = some w' ∧ w'.vaults.map (·.id) = [1, 2] ∧ w'.auctionBal.get 1 = 800251 ∧
      w'.newLocked.map (·.target) = [1120000] :=
  ⟨by unfold NodupIds; decide, by unfold NodupB; decide, _, rfl, by decide, by decide, by decide⟩

-- `unsafe_processed_is_seized`: all hypotheses hold of vault 3 of the witness
example : witWorld.vaults.find? (·.id == 3) = some (witWorld.vaults.getD 2 default) ∧
    (witEnv.app 1).wl2 = true ∧ witEnv.priceActive 1 = true ∧ vaultUnsafe witEnv (witWorld.vaults.getD 2 default) = true ∧
    vaultUnsafe witEnv (witWorld.vaults.getD 0 default) = false := by decide

-- `sweep_live_partial` / `two_sweeps_if_one_shift`: the recurrence `Evolves` holds along every run of the executable sweep
-- (`Sw.run_evolves`), e.g. D9's
example : ∀ k, k < 16 → (d9States.getD (k+1) default).off =
    (sweepBounds (d9States.getD k default).l.length (d9States.getD k default).off 1).2 :=
  fun k hk => Sw.run_evolves 1 _ d9Schedule _ k hk

-- `slice_panics_iff_counter_exceeds_list`: a counter one above the list length panics at offset = length
example : vaultPass 1 0 3 (fun v => liquidateVaultV2 witEnv v.id) { witWorld with counter := 4 } = none := by decide

-- `ratio_test_safe_side_exact` at equality: ratio exactly 1.5
example : ¬ (Dec.quo (3 * Dec.P) (2 * Dec.P) < 1500000000000000000) := by decide

-- `v1_borrow_safe_never_seized` / `v1_borrow_seizure_effect`: the hypotheses hold of the e-mode witness; with the e-mode threshold
-- lowered to 0.81 the same borrow (ratio 0.82) IS unsafe and the message really seizes it (lend-auction id 1, vault-auction id 0)
def emodeWorldUnsafe : World :=
  { emodeWorld with borrows := emodeWorld.borrows.map (fun b => { b with elt := 810000000000000000 }) }

example : AppsUnique emodeEnv ∧ NodupIds emodeWorld ∧ NodupB emodeWorld ∧ NodupB emodeWorldUnsafe ∧
    ∃ w', msgLiquidateBorrowV1 emodeEnv 1 emodeWorldUnsafe = some w' ∧ w'.borrows.map (·.liquidated) = [true] ∧
      w'.lendAuctionId = 1 ∧ w'.auctionId = 0 :=
  ⟨by unfold AppsUnique; decide, by unfold NodupIds; decide, by unfold NodupB; decide, by unfold NodupB; decide,
   _, rfl, by decide, by decide, by decide⟩

-- `auction_type_follows_whitelisting`: English-only whitelisting — the borrow of the leak witness is sold by an English auction
example : ∃ w', (blockV2 { leakEnv with apps := [{ id := 3, wl2 := true, dutch2 := false, english2 := true }] } 5 leakWorld).world? = some w' ∧
    w'.borrows.map (·.liquidated) = [true] ∧ w'.newAuctions.map (·.dutch) = [false] ∧ w'.auctionBal.get 6 = 100000000 :=
  ⟨_, rfl, by decide, by decide, by decide⟩

-- `external_liquidation_touches_no_position`: an accepted external liquidation
example : ∃ w', msgLiquidateExternalV2 { witEnv with aucParams2 := some (100000000000000000, 0) } 1 1 2 5000 4000 9000
      { witWorld with appReserve := [(statKey 1 2, 10)] } = some w' ∧ w'.vaults = witWorld.vaults ∧ w'.newLocked.map (·.target) = [4400] :=
  ⟨_, rfl, rfl, by decide⟩

-- `sweep_live_varbatch_partial`: batch sizes 2, 1, 3, … cover index 4 in the third block of the sweep
example : covered (fun k => [2, 1, 3].getD k 1) 0 2 ≤ 4 ∧ 4 < covered (fun k => [2, 1, 3].getD k 1) 0 3 := by decide

-- `nonvault_seizure_leaves_vault_window`: the English-only seizure of the leak witness's borrow, with three vaults in the same world:
-- counter 3 and window (0, 2) before and after
example : ∃ w', liquidateBorrowV2 { leakEnv with apps := [{ id := 3, wl2 := true, english2 := true }] } 1
      { leakWorld with vaults := witWorld.vaults, counter := 3 } = some w' ∧ w'.borrows.map (·.liquidated) = [true] ∧
      w'.counter = 3 ∧ vaultWindow 2 w' = (0, 2) :=
  ⟨_, rfl, by decide, by decide, by decide⟩

end Comdex.C09
