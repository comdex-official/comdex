import Comdex.Lemmas.Locker
import Comdex.Lemmas.Effects
import Comdex.Gen.Effects_locker
import Comdex.Gen.Effects_collector
import Comdex.Gen.Effects_rewards
import Comdex.Gen.Effects_vault
/-!
# C13 — the EFFECT SKELETON of the locker messages and of the fee inflows is the model's

`Gen/Effects_locker.lean`, `Effects_collector.lean`, `Effects_rewards.lean`, `Effects_vault.lean` are regenerated from the Go
source on every run (extract/effects).  `Model/Locker.lean` has its bank calls INSIDE `step` (not as data), so the tie has two
halves, both for ALL inputs:

1. **named op lists** (`createOps`, `depositOps`, `withdrawOps`, `closeOps`, `rewardCalcOps`; `feeVaultOps`, `feeCloseOps`)
   are proved to be what the model's own `step` does to the bank (`create_bank`, `deposit_bank`, `withdraw_bank`, `close_bank`,
   `rewardCalc_bank`) resp. to the whole state (`feeVault_runs`, `feeClose_runs`) — a SEMANTIC anchor (`step` is not
   *defined* through the lists);
2. the skeleton of these lists (kind, parties, denomination, "only if positive") is proved EQUAL to the regenerated skeleton
   of the Go handler, on the path selected by the truth values of the handler's branch conditions (`locker_effects`,
   `vault_fee_inflows`).

The remaining entry points of the collector / rewards books are PINNED against a reviewed literal (weaker tie, "golden
skeleton": `collector_pins`), because the model folds them into larger steps.

## reviewed role table (x/locker)

| text | role |
|---|---|
| `"lockerV1"` | `Acct.locker` |
| `"collectorV1"` | `Acct.collector` |
| `addr(msg.Depositor)` | the signer `Acct.user u` |
| `asset.GetAsset(msg.AssetId).Denom`, `asset.GetAsset(locker.GetLocker(msg.LockerId).AssetDepositId).Denom` (MsgLockerRewardCalc) | the locker's asset |

## reviewed condition table (x/locker; `lockerVal e1 e2 g`)

| Go condition (in `CalculateLockerRewards`, inlined) | meaning | model |
|---|---|---|
| early `return nil` on `!rewards.GetReward(…)#2` (e1) | asset not whitelisted for rewards | `Rw.none` |
| early `return nil` on `….LockerSavingRate.IsZero()` (e2) | saving rate zero | `Rw.none` |
| `….RewardsAccumulated….GTE(sdk.OneDec())` (g) | at least one whole coin accrued | `Rw.pay ρ` iff ¬e1 ∧ ¬e2 ∧ g |
| `msg.Amount.GT(0)` | true (ValidateBasic rejected `≤ 0`; the model has an unconditional `send`) | — |

The texts of e1 / e2 / g contain the whole accrual expression (printed head…hash…tail); they are recognised by their
beginning and end (`isE1`, `isE2`, `isG`), so a change of the accrual arithmetic (C18's subject) does not touch this tie.

## clause → theorem

| clause | theorem |
|---|---|
| what `step` does to the bank in the five locker messages = running the named op list | `create_bank`, `deposit_bank`, `withdraw_bank`, `close_bank`, `rewardCalc_bank` (with `reward_bank`) |
| regenerated bank skeleton of the five messages = skeleton of the op lists, all 8 truth assignments of (e1, e2, g) | `locker_go_all`, `locker_effects` |
| `Op.feeVault` / `Op.feeClose` = running `feeVaultOps` / `feeCloseOps` | `feeVault_runs`, `feeClose_runs` |
| the transfers INTO the collector and the `UpdateCollector` calls of MsgCreate / Draw / Repay / Close (none in Deposit / Withdraw), with their guards, are those lists (seed s71: closing fee moved under the interest guard) | `vault_fee_inflows` |
| golden skeletons of `GetAmountFromCollector`, `WasmMsgGetSurplusFund`, `LockerIterateRewards`, `CalculateLockerRewards` | `collector_pins` |
| every bank call classified, no opaque call, table shape | `locker_table` |
-/
namespace Comdex.C13
open Comdex.Locker Comdex.Effects Comdex.Gen.Effects

inductive LOp where
  | send (src dst : Acct) (d : Nat) (x : Int)
  | sendPos (src dst : Acct) (d : Nat) (x : Int)   -- `if x.GT(0) { send }`
  deriving Repr

def LOp.run (b : Bank) : LOp → Option Bank
  | .send a c d x => b.send a c d x
  | .sendPos a c d x => if x > 0 then b.send a c d x else some b

def runOps (b : Bank) : List LOp → Option Bank
  | [] => some b
  | op :: ops => match op.run b with
    | none => none
    | some b1 => runOps b1 ops

theorem runOps_append (b : Bank) (l1 l2 : List LOp) :
    runOps b (l1 ++ l2) = (runOps b l1).bind fun b1 => runOps b1 l2 := by
  induction l1 generalizing b with
  | nil => simp [runOps]
  | cons op rest ih =>
    simp only [List.cons_append, runOps]
    cases op.run b with
    | none => simp
    | some b1 => simpa using ih b1

/-- the pay branch of `CalculateLockerRewards` (rewards.go:596-601) -/
def rewardOps (asset : Nat) : Rw → List LOp
  | .pay ρ => [.sendPos .collector .locker asset ρ]
  | _ => []

def createOps (u asset : Nat) (amt : Int) : List LOp := [.send (.user u) .locker asset amt]
def depositOps (u asset : Nat) (amt : Int) (rw : Rw) : List LOp := rewardOps asset rw ++ [.send (.user u) .locker asset amt]
def withdrawOps (u asset : Nat) (amt : Int) (rw : Rw) : List LOp := rewardOps asset rw ++ [.send .locker (.user u) asset amt]
/-- `net` = the locker's balance after the reward was credited -/
def closeOps (u asset : Nat) (net : Int) (rw : Rw) : List LOp := rewardOps asset rw ++ [.sendPos .locker (.user u) asset net]
def rewardCalcOps (asset : Nat) (rw : Rw) : List LOp := rewardOps asset rw

theorem reward_bank {s s1 : State} {id app asset : Nat} {rw : Rw} (h : reward s id app asset rw = some s1) :
    runOps s.bank (rewardOps asset rw) = some s1.bank := by
  cases rw with
  | none => cases h; rfl
  | fail => cases h
  | pay ρ =>
    obtain ⟨_, _, b, -, -, -, hb, rfl⟩ := payReward_spec (show payReward s id app asset ρ = some s1 from h)
    simp only [rewardOps, runOps, LOp.run, hb]

theorem runOps_reward_then {s s1 : State} {id app asset : Nat} {rw : Rw} {op : LOp} {b : Bank}
    (hr : reward s id app asset rw = some s1) (hop : op.run s1.bank = some b) :
    runOps s.bank (rewardOps asset rw ++ [op]) = some b := by
  rw [runOps_append, reward_bank hr]; simp only [Option.bind_some, runOps, hop]

theorem create_bank {s s' : State} {u app asset : Nat} {amt : Int} (h : step s (.create u app asset amt) = some s') :
    runOps s.bank (createOps u asset amt) = some s'.bank := by
  obtain ⟨lk, b, -, -, -, -, hs, rfl⟩ := create_spec h
  simp only [createOps, runOps, LOp.run, hs]

theorem deposit_bank {s s' : State} {u app asset id : Nat} {amt : Int} {rw : Rw}
    (h : step s (.deposit u app asset id amt rw) = some s') :
    runOps s.bank (depositOps u asset amt rw) = some s'.bank := by
  obtain ⟨_, _, _, b, -, -, -, -, hr, -, hs, rfl⟩ := deposit_spec h
  exact runOps_reward_then hr hs

theorem withdraw_bank {s s' : State} {u app asset id : Nat} {amt : Int} {rw : Rw}
    (h : step s (.withdraw u app asset id amt rw) = some s') :
    runOps s.bank (withdrawOps u asset amt rw) = some s'.bank := by
  obtain ⟨_, _, _, b, -, -, -, hr, -, hs, rfl⟩ := withdraw_spec h
  exact runOps_reward_then hr hs

theorem close_bank {s s' : State} {u app asset id : Nat} {rw : Rw}
    (h : step s (.close u app asset id rw) = some s') :
    ∃ net, runOps s.bank (closeOps u asset net rw) = some s'.bank := by
  obtain ⟨l, _, _, b, -, hr, -, hs, rfl⟩ := close_spec h
  exact ⟨l.net + rw.amount, runOps_reward_then (op := .sendPos ..) hr hs⟩

/-- the witness is the asset of the locker named in the message -/
theorem rewardCalc_bank {s s' : State} {app id : Nat} {rw : Rw} (h : step s (.rewardCalc app id rw) = some s') :
    ∃ asset, runOps s.bank (rewardCalcOps asset rw) = some s'.bank := by
  obtain ⟨l, -, -, hr⟩ := rewardCalc_spec h
  exact ⟨l.asset, reward_bank hr⟩

inductive LRole where
  | signer | locker | collector
  deriving DecidableEq, Repr

inductive LDen where
  | asset
  deriving DecidableEq, Repr

abbrev LSkel := Skel LRole LDen

def tAsset : String := "asset.GetAsset(msg.AssetId).Denom"
def tLockerAsset : String := "asset.GetAsset(locker.GetLocker(msg.LockerId).AssetDepositId).Denom"

def lockerRoles : Roles LRole LDen where
  acct := fun t =>
    if t == "\"lockerV1\"" then some .locker
    else if t == "\"collectorV1\"" then some .collector
    else if t == "addr(msg.Depositor)" then some .signer
    else none
  denom := fun t => if t == tAsset || t == tLockerAsset then some .asset else none

def isE1 (t : String) : Bool := t.startsWith "!rewards.GetReward(" && t.endsWith ")#2"
def isE2 (t : String) : Bool := t.startsWith "collector.GetCollectorLookupTable(" && t.endsWith ").LockerSavingRate.IsZero()"
def isG (t : String) : Bool := t.startsWith "rewards.GetLockerRewardTracker(" && t.endsWith ".GTE(sdk.OneDec())"

def lockerVal (e1 e2 g : Bool) : Val := fun t =>
  if t == "msg.Amount.GT(0)" then some true
  else if isE1 t then some e1
  else if isE2 t then some e2
  else if isG t then some g
  else none

/-- the reward is paid iff neither early exit is taken and a whole coin has accrued -/
def rwOf (e1 e2 g : Bool) (ρ : Int) : Rw := if !e1 && !e2 && g then .pay ρ else .none

def roleOf (u : Nat) : Acct → Option LRole
  | .user n => if n = u then some .signer else none
  | .locker => some .locker
  | .collector => some .collector
  | _ => none

def opSkel (u asset : Nat) : LOp → Option LSkel
  | .send a b d _ => match roleOf u a, roleOf u b with
    | some x, some y => if d = asset then some ⟨.send, some x, some y, .asset, false⟩ else none
    | _, _ => none
  | .sendPos a b d _ => match roleOf u a, roleOf u b with
    | some x, some y => if d = asset then some ⟨.send, some x, some y, .asset, true⟩ else none
    | _, _ => none

def modelSkel (u asset : Nat) : List LOp → Option (List LSkel)
  | [] => some []
  | op :: rest => match opSkel u asset op, modelSkel u asset rest with
    | some a, some l => some (a :: l)
    | _, _ => none

def skReward (pay : Bool) : List LSkel := if pay then [⟨.send, some .collector, some .locker, .asset, true⟩] else []
def paid (e1 e2 g : Bool) : Bool := !e1 && !e2 && g

theorem modelSkel_eq_mapM (u asset : Nat) (l : List LOp) : modelSkel u asset l = l.mapM (opSkel u asset) := by
  induction l with
  | nil => rfl
  | cons op rest ih =>
    rw [modelSkel, ih, List.mapM_cons]
    cases opSkel u asset op <;> cases rest.mapM (opSkel u asset) <;> rfl

theorem modelSkel_append {u asset : Nat} {l1 l2 : List LOp} {a b : List LSkel}
    (h1 : modelSkel u asset l1 = some a) (h2 : modelSkel u asset l2 = some b) :
    modelSkel u asset (l1 ++ l2) = some (a ++ b) := by
  rw [modelSkel_eq_mapM] at *
  rw [List.mapM_append, h1, h2]; rfl

theorem rewardOps_skel (u asset : Nat) (e1 e2 g : Bool) (ρ : Int) :
    modelSkel u asset (rewardOps asset (rwOf e1 e2 g ρ)) = some (skReward (paid e1 e2 g)) := by
  unfold rwOf paid skReward
  split <;> simp [rewardOps, modelSkel, opSkel, roleOf]

/-- what the regenerated table says about the five messages, for one truth assignment (a `def` with an instance, as `GoIs`) -/
def goLocker (e1 e2 g : Bool) : Prop :=
  GoIs lockerRoles (lockerVal e1 e2 g) h_locker_MsgCreateLocker [⟨.send, some .signer, some .locker, .asset, false⟩] ∧
  GoIs lockerRoles (lockerVal e1 e2 g) h_locker_MsgDepositAsset
    (skReward (paid e1 e2 g) ++ [⟨.send, some .signer, some .locker, .asset, false⟩]) ∧
  GoIs lockerRoles (lockerVal e1 e2 g) h_locker_MsgWithdrawAsset
    (skReward (paid e1 e2 g) ++ [⟨.send, some .locker, some .signer, .asset, false⟩]) ∧
  GoIs lockerRoles (lockerVal e1 e2 g) h_locker_MsgCloseLocker
    (skReward (paid e1 e2 g) ++ [⟨.send, some .locker, some .signer, .asset, true⟩]) ∧
  GoIs lockerRoles (lockerVal e1 e2 g) h_locker_MsgLockerRewardCalc (skReward (paid e1 e2 g))

instance (e1 e2 g : Bool) : Decidable (goLocker e1 e2 g) := by unfold goLocker; exact inferInstance

/-- all 8 truth assignments of (e1, e2, g), in one statement so that the table is reduced once -/
theorem locker_go_all : ∀ e1 e2 g, goLocker e1 e2 g := by decide +kernel

theorem locker_effects (u asset : Nat) (amt net ρ : Int) (e1 e2 g : Bool) :
    goSkel lockerRoles (lockerVal e1 e2 g) h_locker_MsgCreateLocker = modelSkel u asset (createOps u asset amt) ∧
    goSkel lockerRoles (lockerVal e1 e2 g) h_locker_MsgDepositAsset
      = modelSkel u asset (depositOps u asset amt (rwOf e1 e2 g ρ)) ∧
    goSkel lockerRoles (lockerVal e1 e2 g) h_locker_MsgWithdrawAsset
      = modelSkel u asset (withdrawOps u asset amt (rwOf e1 e2 g ρ)) ∧
    goSkel lockerRoles (lockerVal e1 e2 g) h_locker_MsgCloseLocker
      = modelSkel u asset (closeOps u asset net (rwOf e1 e2 g ρ)) ∧
    goSkel lockerRoles (lockerVal e1 e2 g) h_locker_MsgLockerRewardCalc
      = modelSkel u asset (rewardCalcOps asset (rwOf e1 e2 g ρ)) := by
  obtain ⟨create, deposit, withdraw, close, rewardCalc⟩ := locker_go_all e1 e2 g
  have rw := rewardOps_skel u asset e1 e2 g ρ
  exact ⟨create.trans (by simp [createOps, modelSkel, opSkel, roleOf]),
    deposit.trans (modelSkel_append rw (by simp [modelSkel, opSkel, roleOf])).symm,
    withdraw.trans (modelSkel_append rw (by simp [modelSkel, opSkel, roleOf])).symm,
    close.trans (modelSkel_append rw (by simp [modelSkel, opSkel, roleOf])).symm,
    rewardCalc.trans rw.symm⟩

inductive COp where
  | update (k : Nat × Nat) (total : Int)            -- `UpdateCollector`, unconditional
  | creditPos (d : Nat) (x : Int)                   -- `if x.GT(0) { SendCoinsFromModuleToModule(vault → collector) }`
  | creditUpdatePos (k : Nat × Nat) (d : Nat) (x : Int)   -- `if x.GT(0) { send; UpdateCollector }` (one guard for both)
  deriving Repr

def COp.run (s : State) : COp → Option State
  | .update k t => updateCollector s k t
  | .creditPos d x => if x > 0 then creditCollector s d x else some s
  | .creditUpdatePos k d x => if x > 0 then (creditCollector s d x).bind fun s1 => updateCollector s1 k x else some s

def runC (s : State) : List COp → Option State
  | [] => some s
  | op :: ops => (op.run s).bind fun s1 => runC s1 ops

/-- opening / draw-down fee, stability interest at repay (vault msg_server.go:131-141, 683-695, 723-732) -/
def feeVaultOps (app asset : Nat) (x : Int) : List COp := [.creditUpdatePos (app, asset) asset x]
/-- vault close (msg_server.go:845-858): the record first, then interest and closing fee EACH under its own guard -/
def feeCloseOps (app asset : Nat) (interest closing : Int) : List COp :=
  [.update (app, asset) (interest + closing), .creditPos asset interest, .creditPos asset closing]

/-- `step` on the two fee ops is written as the bind chain that `runC` unfolds to; the list run ends in `bind some` -/
theorem feeVault_runs (s : State) (app asset : Nat) (x : Int) :
    step s (.feeVault app asset x) = runC s (feeVaultOps app asset x) := by
  simp only [step, feeVaultOps, runC, COp.run, Option.bind_fun_some]

theorem feeClose_runs (s : State) (app asset : Nat) (interest closing : Int) :
    step s (.feeClose app asset interest closing) = runC s (feeCloseOps app asset interest closing) := by
  simp only [step, feeCloseOps, runC, COp.run, Option.bind_fun_some]

/-- how the vault handlers feed the collector, as the tie sees it -/
inductive CSkel where
  | update                       -- `UpdateCollector` under no guard of its own
  | credit (pos : Bool)          -- transfer vault → collector (`pos`: under the positivity test of its own amount)
  | updateWithPrev               -- `UpdateCollector` under exactly the guards of the transfer before it
  deriving DecidableEq, Repr

def cskelOf : COp → List CSkel
  | .update _ _ => [.update]
  | .creditPos _ _ => [.credit true]
  | .creditUpdatePos _ _ _ => [.credit true, .updateWithPrev]

def sameGuards (a b : Item) : Bool :=
  a.conds.map (fun c => (c.pol, c.text)) == b.conds.map (fun c => (c.pol, c.text))

/-- the collector-bound part of a vault handler on the path selected by `val`: transfers whose destination is the collector
account and `UpdateCollector` calls, in source order.  `none` = a condition is not in the table (an `UpdateCollector` must sit
either under exactly the guards of the transfer before it, or under conditions the table knows). -/
def inflowItems (val : Val) (prev : Option Item) : List Item → Option (List CSkel)
  | [] => some []
  | it :: rest =>
    let isCredit := it.kind == "bank" && it.dst == "\"collectorV1\""
    let isUpd := it.kind == "write" && it.op == "collector.UpdateCollector"
    if isCredit then
      match onPath val it with
      | none => none
      | some false => inflowItems val prev rest
      | some true =>
        if it.src == "\"vaultV1\"" then (inflowItems val (some it) rest).map (CSkel.credit (isPos val it) :: ·) else none
    else if isUpd then
      match prev with
      | some p =>
        -- the transfer before it is on the path; under exactly its guards the record call is too
        if sameGuards p it then (inflowItems val none rest).map (CSkel.updateWithPrev :: ·)
        else match onPath val it with
          | some true => (inflowItems val none rest).map (CSkel.update :: ·)
          | some false => inflowItems val prev rest
          | none => none
      | none =>
        match onPath val it with
        | some true => (inflowItems val none rest).map (CSkel.update :: ·)
        | some false => inflowItems val none rest
        | none => none
    else inflowItems val prev rest

def inflow (val : Val) (h : Handler) : Option (List CSkel) := inflowItems val none h.items

/-- the condition texts of `Props/C01Effects.lean` (`C01.cCreate`, `cDraw`, `cRepay`), written out again (no import of that
file here): a change of one of these Go conditions has to be entered in both files -/
def cCreate : String := "asset.GetPairsVault(msg.ExtendedPairVaultId).DrawDownFee.IsZero() && msg.AmountOut.GT(0)"
def cDraw : String := "asset.GetPairsVault(msg.ExtendedPairVaultId).DrawDownFee.IsZero() && msg.Amount.GT(0)"
def cRepay : String := "msg.Amount.LTE(vault.GetVault(msg.UserVaultId).InterestAccumulated)"

def skFeeVault : List CSkel := (feeVaultOps 0 0 0).flatMap cskelOf
def skFeeClose : List CSkel := (feeCloseOps 0 0 0 0).flatMap cskelOf

/-- **The fee inflows of the vault handlers are `feeVaultOps` / `feeCloseOps`.**  With a zero draw-down fee nothing reaches
the collector at create / draw; otherwise exactly one guarded (transfer + record) pair; at repay one such pair in either
branch; at close the record unconditionally, then interest and closing fee each under ITS OWN positivity guard.
MsgDepositAndDraw and the three stable-mint messages pay the collector too (`C01.vault_table_shape`) and are not covered. -/
theorem vault_fee_inflows :
    inflow (valOf [(cCreate, true)]) h_vault_MsgCreate = some [] ∧
    inflow (valOf [(cCreate, false)]) h_vault_MsgCreate = some skFeeVault ∧
    inflow (valOf [(cDraw, true)]) h_vault_MsgDraw = some [] ∧
    inflow (valOf [(cDraw, false)]) h_vault_MsgDraw = some skFeeVault ∧
    inflow (valOf [(cRepay, true)]) h_vault_MsgRepay = some skFeeVault ∧
    inflow (valOf [(cRepay, false)]) h_vault_MsgRepay = some skFeeVault ∧
    inflow (valOf []) h_vault_MsgClose = some skFeeClose ∧
    inflow (valOf []) h_vault_MsgDeposit = some [] ∧ inflow (valOf []) h_vault_MsgWithdraw = some [] := by
  decide +kernel

def tRw (x : String) : Bool := x.startsWith "rewards.GetLockerRewardTracker("

/-- bank calls of the remaining entry points of the collector / rewards books: op, parties, denomination text, positivity
class, signature of the path conditions (polarity, hash of the whole condition text), loop and cache flags -/
theorem collector_pins :
    pins h_collector_GetAmountFromCollector
      = [⟨"SendCoinsFromModuleToModule", "\"collectorV1\"", "\"auctionV1\"", "asset.GetAsset(assetID).Denom", false, [], false, false⟩] ∧
    pins h_collector_WasmMsgGetSurplusFund
      = [⟨"SendCoinsFromModuleToAccount", "\"collectorV1\"", "addr", "amount.Denom", false, [], false, false⟩] ∧
    pins h_collector_LockerIterateRewards
      = [⟨"SendCoinsFromModuleToModule", "\"collectorV1\"", "\"lockerV1\"", "asset.GetAsset(assetID).Denom", true,
          [(true, 3212819272), (true, 2528488180), (false, 3898808028), (false, 2351626753), (true, 2997954978),
           (false, 2904832541), (true, 1333273752)], true, false⟩] ∧
    pins h_rewards_CalculateLockerRewards
      = [⟨"SendCoinsFromModuleToModule", "\"collectorV1\"", "\"lockerV1\"", "asset.GetAsset(assetID).Denom", true,
          [(false, 3725782858), (false, 42584694), (true, 535384918), (true, 1024859244)], false, false⟩] ∧
    pins h_collector_DecreaseNetFeeCollectedData = [] ∧ pins h_collector_UpdateCollector = [] ∧
    pins h_collector_SetNetFeeCollectedData = [] ∧ pins h_rewards_CalculateVaultInterest = [] ∧
    -- in `LockerIterateRewards` the transfer comes AFTER the net-fee record was decreased and is skipped (`continue`) when that fails
    ((bankItems h_collector_LockerIterateRewards).map fun it => (it.conds.filter (·.kind == "continue")).length) = [1] :=
  ⟨rfl, rfl, rfl, rfl, rfl, rfl, rfl, rfl, rfl⟩

/-- the six collector and two rewards entry points are the eight of `collector_pins` -/
theorem locker_table :
    handlers_locker.map (fun h => (h.name, (bankItems h).length)) =
      [("MsgCreateLocker", 1), ("MsgDepositAsset", 2), ("MsgWithdrawAsset", 2), ("MsgCloseLocker", 2), ("MsgLockerRewardCalc", 1)] ∧
    (∀ h ∈ handlers_locker, allBankClassified lockerRoles h = true ∧ unknownBankOps h = [] ∧ opaqueCalls h = []) ∧
    (∀ h ∈ handlers_collector ++ handlers_rewards, unknownBankOps h = [] ∧ opaqueCalls h = []) ∧
    handlers_collector.length = 6 ∧ handlers_rewards.length = 2 ∧
    (∀ h ∈ handlers_locker, ownWritesAfterBank h = true) := by
  decide +kernel

example : modelSkel 7 3 (depositOps 7 3 100 (.pay 5)) =
    some [⟨.send, some .collector, some .locker, .asset, true⟩, ⟨.send, some .signer, some .locker, .asset, false⟩] := by
  decide +kernel
example : modelSkel 7 3 (depositOps 7 3 100 .none) ≠ modelSkel 7 3 (depositOps 7 3 100 (.pay 5)) := by decide +kernel
example : rwOf false false true 5 = .pay 5 ∧ rwOf true false true 5 = .none := by decide
example : skFeeClose = [.update, .credit true, .credit true] ∧ skFeeVault = [.credit true, .updateWithPrev] := by decide
example : step { assets := [2], fees := [((1, 2), 0)] } (.feeClose 1 2 7 3) =
    runC { assets := [2], fees := [((1, 2), 0)] } (feeCloseOps 1 2 7 3) := feeClose_runs _ 1 2 7 3
example : (step { assets := [2], fees := [((1, 2), 0)] } (.feeClose 1 2 7 3)).isSome = true := by decide +kernel

end Comdex.C13
