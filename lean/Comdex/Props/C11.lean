import Comdex.Lemmas.English
import Comdex.Lemmas.LimitBid
import Comdex.Lemmas.LimitFill
import Comdex.Props.C10
/-!
# C11 — Bidders' funds are safe: standing bid held, losers refunded, own deposit only

Property clause → theorem
* "the auction custody holds exactly the standing best bid"                         → `C11.custody_holds_standing_bid`
* "each new accepted bid improves on the previous one by at least the configured bid factor"
                                                                                    → `C11.bid_improves_by_factor`
  (increasing bids `new ≥ old + ⌈factor·old⌉`; mirrored for debt auctions, where the bid is a decreasing lot:
   `new ≤ old − ⌈factor·old⌉`; `⌈·⌉` is the code's `MulInt.Ceil.TruncateInt`, and `C11.bid_factor_is_at_least_the_factor`
   shows that increment is ≥ `factor·old` as an exact rational and < 1 unit above it; `C11.bid_never_worsens`:
   the accepted bid is never worse than the standing one as long as the standing debt lot is not negative, which
   `C11.debt_lots_stay_nonneg` guarantees once `ValidateBasic` refuses negative debt bids;
   `C11.debt_bid_improves_counterexample`: on the tree as found a debt bid can be *higher* than the standing one)
* "the outbid bidder is refunded in full in the same transaction"                   → `C11.outbid_refunded_in_full`
                                                                                      (+ `C11.bid_moves_only_the_two_bidders`)
* "at the end exactly one bidder receives the lot"                                  → `C11.exactly_one_winner`
                                                                                      (+ `C11.no_close_without_a_bid`, `C11.settle_only_when_due`,
                                                                                       `C11.closed_auctions_have_a_winner`,
                                                                                       `C11.emergency_close_refunds_bidder` for the shutdown path)
* "while no one else has lost anything"                                             → `C11.losers_whole` (+ `C11.user_ledger`)
* "a limit-bid depositor can withdraw or cancel at most their own outstanding deposit, in the deposited asset"
                                                                                    → `C11.limit_withdraw_le_own_deposit`,
                                                                                      `C11.limit_cancel_own_deposit`
* "… minus the stated fee"                                                          → `C11.limit_payout_exact`, `C11.limit_cancel_exact`
                                                                                      (+ `C11.limit_payout_le_amount`)
* "the recorded total of limit bids equals the sum of individual deposits"          → `C11.bidvalue_eq_sum_deposits`
* "… and is fully held in custody"                                                  → `C11.bidvalue_in_custody`
                                                                                      (+ `C11.market_total_covered`)
* the unrepaired `WithdrawLimitAuctionBid` (no guard, defect D5) violates the clause → `C11.limit_withdraw_le_own_deposit_counterexample`
* the same three limit-bid clauses ACROSS AUTO-FILLS by a Dutch auction (joint model `Model/LimitFill.lean`: book + auction +
  module account; every history of deposit / withdraw / cancel / market bid / begin-block, any number of bidders per premium):
    "recorded total = sum of deposits"           → `C11.fill_bidvalue_eq_sum_deposits_partial` (`= Σ + exact`; the clause itself is
                                                    false after an exact fill: `C11.fill_bidvalue_exact_counterexample`, D40)
    "fully held in custody"                      → `C11.fill_bidvalue_in_custody` (exact ledger with every remainder named),
                                                    `C11.fill_deposits_covered`; `C11.fill_overcharge_counterexample` (D24)
    "at most their own outstanding deposit"      → `C11.fill_withdraw_le_own_deposit`, `C11.fill_touches_only_the_bucket`

Quantification: every finite list of ops — `start` (activator), `bid` / `dbid` (user messages with arbitrary sender,
auction id, denomination, amount), `tick` (any block time), `settle` (the block hook looking at any auction; it closes
or restarts only when the auction's window has passed, or at once under emergency shutdown), `esm` (the shutdown
status flips), and for the second generation also `deposit` / `cancel` /
`withdraw` with arbitrary denomination and amount — from any state with no live auctions.  The only hypothesis on
the history is that user messages are not signed by the custody module account (`UsersOnly`).  The real block hook
is the op list `blockOps` (`C11.real_block_hook_is_covered`).
-/
namespace Comdex.C11
open Comdex.English

/-- **Custody holds exactly the standing bids.**  After any history, in every denomination, the auction module
account holds what it held at the start plus, for every live auction, its standing bid (and for a
first-generation surplus auction its lot) — nothing more, nothing less. -/
theorem custody_holds_standing_bid (s0 : State) (ops : List Op) (h0 : s0.live = []) (hc : s0.cust ≠ s0.coll)
    (hu : UsersOnly s0.cust ops) (d : Denom) :
    bal (run s0 ops).bank s0.cust d = bal s0.bank s0.cust d + sumBy (held d) (run s0 ops).live := by
  have k := run_keeps s0 ops (.of_empty hc h0) hu
  have := k.gap d
  simp only [custGap, k.cust, h0, sumBy] at this
  clear * - this
  omega

/-- non-vacuity: a first-generation surplus auction with a lot of 10 and a standing bid of 7 — the hypotheses hold
and custody holds 7 of the bid denomination and 10 of the lot denomination -/
def custodyDemo0 : State :=
  { bank := [((2, 0), 50), ((1, 1), 10)], cust := 0, coll := 1, live := [], closed := [], now := 0 }
def custodyDemoOps : List Op :=
  [.start { app := 1, mapping := 1, id := 1, kind := .surplusV1, payDenom := 0, lotDenom := 1, pay := 0, lot := 10, lot0 := 10,
            bidder := none, nbids := 0, factor := 0, endT := 10, bidEndT := 10, dur := 10, bidDur := 5 },
   .bid 2 1 1 1 0 7]

example : custodyDemo0.live = [] ∧ custodyDemo0.cust ≠ custodyDemo0.coll ∧ UsersOnly custodyDemo0.cust custodyDemoOps ∧
    bal (run custodyDemo0 custodyDemoOps).bank 0 0 = 7 ∧ sumBy (held 0) (run custodyDemo0 custodyDemoOps).live = 7 ∧
    bal (run custodyDemo0 custodyDemoOps).bank 0 1 = 10 ∧ sumBy (held 1) (run custodyDemo0 custodyDemoOps).live = 10 := by
  refine ⟨rfl, by decide, ?_, by decide⟩
  intro op h
  simp only [custodyDemoOps, List.mem_cons, List.mem_nil_iff, or_false] at h
  rcases h with h | h <;> subst h <;> simp [Op.sender?, custodyDemo0]

/-- **Each accepted bid improves on the standing one by the bid factor**, with the code's exact rounding
`⌈factor·standing⌉ = (factor.MulInt standing).Ceil.TruncateInt`; mirrored for debt auctions, where the bid is the
(decreasing) amount of tokens the bidder is willing to receive.  The new record carries exactly that bid. -/
theorem bid_improves_by_factor {s s' : State} {op : Op} (h : step s op = some s') (who : Acct) (id : Nat) (amt : Int)
    (hop : (∃ app mp dn, op = .bid who app mp id dn amt) ∨ (∃ app mp dn ed ea, op = .dbid who app mp id dn amt ed ea)) :
    ∃ a a', findAuc s.live id = some a ∧ findAuc s'.live id = some a' ∧ a'.bidder = some who ∧
      (a.kind.increasing = true → a'.pay = amt ∧ a'.lot = a.lot ∧
          ∀ p, a.bidder = some p → amt ≥ a.pay + ceilChange a.factor a.pay) ∧
      (a.kind.increasing = false → a'.lot = amt ∧ a'.pay = a.pay ∧
          ∀ p, a.bidder = some p → amt ≤ a.lot - ceilChange a.factor a.lot) := by
  obtain ⟨a, a', payIn, hf, ha, u, -⟩ := placed_accepted h hop
  obtain ⟨b, rfl, -⟩ := accept_spec ha
  have hid : a'.id = id := u.id.trans (findAuc_mem hf).2
  refine ⟨a, a', hf, ?_, u.bidder, fun hi => ?_, fun hi => ?_⟩
  · rw [← hid]; exact findAuc_setAuc_self (hid ▸ hf)
  · obtain ⟨h1, h2, h3⟩ := u.inc hi
    exact ⟨u.pay.trans h1.symm, h2, h3⟩
  · obtain ⟨h1, h2, h3⟩ := u.dec hi
    exact ⟨h2, u.pay.trans h1, h3⟩

/-- the increment `⌈factor·x⌉` demanded by the code is at least `factor·x` and less than one unit above it
(raw `Dec`: both sides multiplied by 10^18) -/
theorem bid_factor_is_at_least_the_factor (f : Dec) (x : Int) :
    ceilChange f x * Dec.P ≥ f * x ∧ (0 ≤ f * x → ceilChange f x * Dec.P < f * x + Dec.P) :=
  ceilChange_bounds f x

example : ceilChange 10000000000000000 1000 = 10 ∧ ceilChange 10000000000000000 1001 = 11 ∧
    ceilChange 333333333333333333 1000000000 = 333333334 ∧ ceilChange 0 5 = 0 := by decide

/-- **An accepted bid never worsens the standing one** (bid factor ≥ 0): an increasing bid is at least the standing
bid; a decreasing (debt) bid is at most the standing lot *provided that lot is not negative*. -/
theorem bid_never_worsens {s s' : State} {op : Op} (h : step s op = some s') (who : Acct) (id : Nat) (amt : Int)
    (hop : (∃ app mp dn, op = .bid who app mp id dn amt) ∨ (∃ app mp dn ed ea, op = .dbid who app mp id dn amt ed ea)) :
    ∃ a, findAuc s.live id = some a ∧ ∀ p, a.bidder = some p → 0 ≤ a.factor →
      (a.kind.increasing = true → 0 ≤ a.pay → a.pay ≤ amt) ∧ (a.kind.increasing = false → 0 ≤ a.lot → amt ≤ a.lot) := by
  obtain ⟨a, a', hf, -, -, hi, hd⟩ := bid_improves_by_factor h who id amt hop
  refine ⟨a, hf, ?_⟩
  intro p hp hfac
  constructor
  · intro hk h0
    have := (hi hk).2.2 p hp
    have := ceilChange_nonneg a.factor a.pay hfac h0
    omega
  · intro hk h0
    have := (hd hk).2.2 p hp
    have := ceilChange_nonneg a.factor a.lot hfac h0
    omega

/-- with a `ValidateBasic` that refuses negative debt bids (`debtFloor = some fl`, `fl ≥ 0`) the standing lot of every
debt auction stays non-negative over every history, so `bid_never_worsens` applies to every accepted debt bid -/
theorem debt_lots_stay_nonneg (s0 : State) (ops : List Op) (h0 : s0.live = []) (fl : Int)
    (hfl : s0.debtFloor = some fl) (hf0 : 0 ≤ fl) (hst : ∀ op ∈ ops, ∀ a, op = .start a → 0 ≤ a.lot) :
    ∀ a ∈ (run s0 ops).live, a.kind.increasing = false → 0 ≤ a.lot :=
  run_lotsOk s0 ops (by intro a ha; rw [h0] at ha; simp at ha) fl hfl hf0 hst

/-- a first-generation debt auction: 2 000 000 tokens on offer for a payment of 200 000, bid factor 1 % -/
def debtDemo (factor : Dec) : State :=
  { bank := [((2, 1), 1000000), ((3, 1), 1000000), ((4, 1), 1000000)], cust := 0, coll := 1, closed := [], now := 0,
    live := [{ app := 1, mapping := 2, id := 1, kind := .debtV1, payDenom := 1, lotDenom := 2, pay := 200000, lot := 2000000,
               lot0 := 2000000, bidder := none, nbids := 0, factor := factor, endT := 300, bidEndT := 300, dur := 300, bidDur := 300 }] }

/-- **Counterexample (negative debt bids, tree as found: `MsgPlaceDebtBid.ValidateBasic` checks no coin)**: after an
opening bid, a bid of −1000 is accepted; then −990, which is *higher* than the standing −1000, is accepted as an
"improvement".  With an (absurd) bid factor of 250 % the bound flips sign: after −3 000 000 a bid of 4 500 000 is
accepted and the close mints 4 500 000 tokens to the bidder although the auction offered at most 2 000 000.  With
`debtFloor = some 1` (a `ValidateBasic` that demands a positive bid) all of these are refused. -/
theorem debt_bid_improves_counterexample :
    (((run (debtDemo 10000000000000000) [.dbid 2 1 2 1 2 2000000 1 200000, .dbid 3 1 2 1 2 (-1000) 1 200000,
          .dbid 4 1 2 1 2 (-990) 1 200000]).live.map fun a => (a.lot, a.bidder)) = [(-990, some 4)]) ∧
    (((run (debtDemo 2500000000000000000) [.dbid 2 1 2 1 2 2000000 1 200000, .dbid 3 1 2 1 2 (-3000000) 1 200000,
          .dbid 4 1 2 1 2 4500000 1 200000, .tick 301, .settle 1]).closed.map fun a => (a.lot, a.bidder)) = [(4500000, some 4)]) ∧
    (bal (run (debtDemo 2500000000000000000) [.dbid 2 1 2 1 2 2000000 1 200000, .dbid 3 1 2 1 2 (-3000000) 1 200000,
          .dbid 4 1 2 1 2 4500000 1 200000, .tick 301, .settle 1]).bank 4 2 = 4500000) ∧
    (((run { debtDemo 10000000000000000 with debtFloor := some 1 } [.dbid 2 1 2 1 2 2000000 1 200000,
          .dbid 3 1 2 1 2 (-1000) 1 200000, .dbid 4 1 2 1 2 0 1 200000]).live.map fun a => (a.lot, a.bidder)) = [(2000000, some 2)]) := by
  decide +kernel

/-- what an accepted bid moves: the new bidder pays exactly its own stake, the previous bidder gets back exactly
the stake it had paid, and no other account (besides the custody) changes in any denomination -/
theorem bid_moves_only_the_two_bidders {s s' : State} {op : Op} (h : step s op = some s') (who : Acct) (id : Nat) (amt : Int)
    (hop : (∃ app mp dn, op = .bid who app mp id dn amt) ∨ (∃ app mp dn ed ea, op = .dbid who app mp id dn amt ed ea)) :
    ∃ a, findAuc s.live id = some a ∧ ∀ y e, y ≠ s.cust →
      bal s'.bank y e = bal s.bank y e
        - (if who = y ∧ a.payDenom = e then (if a.kind.increasing then amt else a.pay) else 0)
        + (if a.bidder = some y ∧ a.payDenom = e then a.pay else 0) := by
  obtain ⟨a, a', payIn, hf, ha, u, -⟩ := placed_accepted h hop
  obtain ⟨b, rfl, hu, -⟩ := accept_spec ha
  refine ⟨a, hf, fun y e hy => (hu y e hy).trans ?_⟩
  cases hi : a.kind.increasing with
  | true => rw [(u.inc hi).1]; rfl
  | false => rw [(u.dec hi).1]; rfl

/-- **The outbid bidder is refunded in full in the same transaction**: its balance in the bid denomination grows
by exactly the stake it had paid, and its other balances do not move. -/
theorem outbid_refunded_in_full {s s' : State} {op : Op} (h : step s op = some s') (who : Acct) (id : Nat) (amt : Int)
    (hop : (∃ app mp dn, op = .bid who app mp id dn amt) ∨ (∃ app mp dn ed ea, op = .dbid who app mp id dn amt ed ea))
    (a : Auction) (hf : findAuc s.live id = some a) (p : Acct) (hp : a.bidder = some p) (hne : p ≠ who) (hpc : p ≠ s.cust) :
    bal s'.bank p a.payDenom = bal s.bank p a.payDenom + a.pay ∧
    ∀ e, e ≠ a.payDenom → bal s'.bank p e = bal s.bank p e := by
  obtain ⟨_, hf2, hb⟩ := bid_moves_only_the_two_bidders h who id amt hop
  cases hf.symm.trans hf2
  refine ⟨?_, fun e he => ?_⟩
  · rw [hb p a.payDenom hpc]; simp [hp, Ne.symm hne]
  · rw [hb p e hpc]; simp [Ne.symm he]

/-- **At the end exactly one bidder receives the lot.**  When the block hook closes an auction (normal operation:
the app is not in emergency shutdown, or the auction is second-generation), the standing bidder `w` receives
exactly the lot, and no other user account changes in any denomination. -/
theorem exactly_one_winner {s s' : State} {id : Nat} (h : step s (.settle id) = some s')
    (a : Auction) (hf : findAuc s.live id = some a) (w : Acct) (hw : a.bidder = some w) (hn : emergency s a = false) :
    s'.closed = a :: s.closed ∧ s'.live = delAuc s.live id ∧
    ∀ x d, x ≠ s.cust → x ≠ s.coll →
      bal s'.bank x d = bal s.bank x d + (if w = x ∧ a.lotDenom = d then payout a else 0) := by
  obtain ⟨_, hf2, hr⟩ := settle_spec h
  cases hf.symm.trans hf2
  rcases hr with ⟨he, -⟩ | ⟨-, -, ⟨hb, -⟩ | ⟨w2, b, hb, hcb, rfl⟩⟩
  · cases hn.symm.trans he
  · cases hw.symm.trans hb
  · cases hw.symm.trans hb
    exact ⟨rfl, rfl, (closeBank_spec hcb).1⟩

/-- an auction without a bid is never closed in normal operation: the hook restarts it and moves no funds -/
theorem no_close_without_a_bid {s s' : State} {id : Nat} (h : step s (.settle id) = some s')
    (a : Auction) (hf : findAuc s.live id = some a) (hb : a.bidder = none) (hn : emergency s a = false) :
    s'.bank = s.bank ∧ s'.closed = s.closed := by
  obtain ⟨_, hf2, hr⟩ := settle_spec h
  cases hf.symm.trans hf2
  rcases hr with ⟨he, -⟩ | ⟨-, -, ⟨-, rfl⟩ | ⟨w2, b, hb2, -, -⟩⟩
  · cases hn.symm.trans he
  · exact ⟨rfl, rfl⟩
  · cases hb.symm.trans hb2

/-- the hook acts only when the window has passed (or, first generation, under emergency shutdown) -/
theorem settle_only_when_due {s s' : State} {id : Nat} (h : step s (.settle id) = some s') :
    ∃ a, findAuc s.live id = some a ∧ (due s.now a = true ∨ emergency s a = true) := by
  obtain ⟨a, hf, hr⟩ := settle_spec h
  rcases hr with ⟨he, -⟩ | ⟨-, hd, -⟩
  · exact ⟨a, hf, Or.inr he⟩
  · exact ⟨a, hf, Or.inl hd⟩

/-- **Emergency shutdown loses nobody anything**: when the first-generation hook closes an auction because the
app is in emergency shutdown, the standing bidder gets back exactly its stake, nobody receives the lot, no other
user account moves, and the auction is not recorded as won. -/
theorem emergency_close_refunds_bidder {s s' : State} {id : Nat} (h : step s (.settle id) = some s')
    (a : Auction) (hf : findAuc s.live id = some a) (he : emergency s a = true) :
    s'.closed = s.closed ∧ s'.live = delAuc s.live id ∧
    ∀ x d, x ≠ s.cust → x ≠ s.coll →
      bal s'.bank x d = bal s.bank x d + (if a.bidder = some x ∧ a.payDenom = d then a.pay else 0) := by
  obtain ⟨_, hf2, hr⟩ := settle_spec h
  cases hf.symm.trans hf2
  rcases hr with ⟨-, b, heb, rfl⟩ | ⟨hn, -⟩
  · exact ⟨rfl, rfl, (esmBank_spec heb).1⟩
  · cases he.symm.trans hn

/-- every auction that was ever closed has a bidder on record: its winner -/
theorem closed_auctions_have_a_winner (s0 : State) (ops : List Op) (h0 : s0.closed = []) :
    ∀ c ∈ (run s0 ops).closed, ∃ w, c.bidder = some w := by
  intro c hc
  exact Option.isSome_iff_exists.mp (closed_have_winner s0 ops (by rw [h0]; exact fun _ h => nomatch h) c hc)

/-- **The users' ledger.**  After any history, every user's balance equals its initial balance, minus what it
currently has locked as standing bids, plus the lots it won (against the stake paid for them). -/
theorem user_ledger (s0 : State) (ops : List Op) (h0 : s0.live = []) (h1 : s0.closed = []) (hc : s0.cust ≠ s0.coll)
    (hu : UsersOnly s0.cust ops) (x : Acct) (hx1 : x ≠ s0.cust) (hx2 : x ≠ s0.coll) (d : Denom) :
    bal (run s0 ops).bank x d =
      bal s0.bank x d - sumBy (stakeOf x d) (run s0 ops).live + sumBy (gainOf x d) (run s0 ops).closed := by
  have := (run_keeps s0 ops (.of_empty hc h0) hu).net x d hx1 hx2
  simp only [userNet, h0, h1, sumBy] at this
  clear * - this
  omega

/-- **Nobody else has lost anything.**  A user who holds no standing bid and has won no auction has, after any
history (any number of bids placed and outbid, any timing), exactly its initial balance in every denomination. -/
theorem losers_whole (s0 : State) (ops : List Op) (h0 : s0.live = []) (h1 : s0.closed = []) (hc : s0.cust ≠ s0.coll)
    (hu : UsersOnly s0.cust ops) (x : Acct) (hx1 : x ≠ s0.cust) (hx2 : x ≠ s0.coll)
    (hl : ∀ a ∈ (run s0 ops).live, a.bidder ≠ some x) (hw : ∀ c ∈ (run s0 ops).closed, c.bidder ≠ some x) (d : Denom) :
    bal (run s0 ops).bank x d = bal s0.bank x d := by
  rw [user_ledger s0 ops h0 h1 hc hu x hx1 hx2 d]
  rw [sumBy_zero _ _ (fun a ha => by unfold stakeOf; simp [hl a ha]),
      sumBy_zero _ _ (fun c hcm => by unfold gainOf; simp [hw c hcm])]
  omega

/-- the real block hook (`tick`, then `settle` of every live auction) is one of the histories quantified over -/
theorem real_block_hook_is_covered (s : State) (now : Int) (cust : Acct) : UsersOnly cust (blockOps s now) := by
  intro op hop who hw
  rcases List.mem_cons.mp hop with rfl | hop
  · cases hw
  · obtain ⟨a, -, rfl⟩ := List.mem_map.mp hop
    cases hw

/-- non-vacuity: three bidders, one is outbid, one wins, the third only watches -/
def demo0 : State :=
  { bank := [((2, 0), 100), ((3, 0), 100), ((4, 0), 100), ((1, 1), 50)], cust := 0, coll := 1, live := [], closed := [], now := 0 }
def demoOps : List Op :=
  [.start { app := 1, mapping := 1, id := 1, kind := .surplusV1, payDenom := 0, lotDenom := 1, pay := 0, lot := 50, lot0 := 50,
            bidder := none, nbids := 0, factor := 100000000000000000, endT := 10, bidEndT := 10, dur := 10, bidDur := 5 },
   .bid 2 1 1 1 0 20, .bid 3 1 1 1 0 21, .bid 3 1 1 1 0 22, .tick 11, .settle 1]

example : (run demo0 demoOps).live = [] ∧ (run demo0 demoOps).closed.length = 1 ∧
    bal (run demo0 demoOps).bank 2 0 = 100 ∧ bal (run demo0 demoOps).bank 3 0 = 78 ∧ bal (run demo0 demoOps).bank 3 1 = 50 ∧
    bal (run demo0 demoOps).bank 4 0 = 100 ∧ bal (run demo0 demoOps).bank 0 0 = 0 ∧ bal (run demo0 demoOps).bank 0 1 = 0 := by decide +kernel

open Comdex.LimitBid in
/-- **A depositor withdraws at most its own outstanding deposit, in the deposited asset.**  An accepted
`withdraw` finds the caller's own record, the coin is in the record's denomination, the amount is covered by the
record, and no other depositor's record changes. -/
theorem limit_withdraw_le_own_deposit {s s' : LimitBid.State} {who : Acct} {coll debt : Nat} {prem : Int} {denom : Denom} {amt : Int}
    (h : LimitBid.step s (.withdraw who coll debt prem denom amt) = some s') :
    ∃ rec, getK s.deps ⟨debt, coll, prem, who⟩ = some rec ∧ 0 < amt ∧ amt ≤ rec ∧
      denomOf s.assets debt = some denom ∧
      ∀ k', k' ≠ (⟨debt, coll, prem, who⟩ : Key) → getK s'.deps k' = getK s.deps k' := by
  obtain ⟨rec, hk, hd, ha, hle, p⟩ := withdraw_pays h
  exact ⟨rec, hk, ha, hle, hd, p.others⟩

open Comdex.LimitBid in
/-- the same for `cancel`: only the caller's own record is removed -/
theorem limit_cancel_own_deposit {s s' : LimitBid.State} {who : Acct} {coll debt : Nat} {prem : Int}
    (h : LimitBid.step s (.cancel who coll debt prem) = some s') :
    ∃ rec, getK s.deps ⟨debt, coll, prem, who⟩ = some rec ∧
      ∀ k', k' ≠ (⟨debt, coll, prem, who⟩ : Key) → getK s'.deps k' = getK s.deps k' := by
  obtain ⟨rec, dd, hk, -, hc⟩ := cancel_spec h
  exact ⟨rec, hk, (cancelCore_pays hc).others⟩

open Comdex.LimitBid in
/-- **The payout is the amount minus the stated fee, as the code computes it**: a partial withdraw pays
`amt − ⌊withdrawalFee·amt⌋`, a full one `amt − ⌊closingFee·amt⌋` (the cancel path), to the caller, in the deposited
denomination; no other user account moves. -/
theorem limit_payout_exact {s s' : LimitBid.State} {who : Acct} {coll debt : Nat} {prem : Int} {denom : Denom} {amt : Int}
    (h : LimitBid.step s (.withdraw who coll debt prem denom amt) = some s') :
    ∃ rec, getK s.deps ⟨debt, coll, prem, who⟩ = some rec ∧
      ∀ y e, y ≠ s.eng.cust →
        bal s'.eng.bank y e = bal s.eng.bank y e +
          (if who = y ∧ denom = e then amt - (if amt = rec then fee s.closingFee amt else fee s.withdrawalFee amt) else 0) := by
  obtain ⟨rec, hk, -, -, -, p⟩ := withdraw_pays h
  exact ⟨rec, hk, p.users⟩

open Comdex.LimitBid in
/-- `cancel` pays the whole outstanding deposit minus the closing fee -/
theorem limit_cancel_exact {s s' : LimitBid.State} {who : Acct} {coll debt : Nat} {prem : Int}
    (h : LimitBid.step s (.cancel who coll debt prem) = some s') (hp : Pos s) :
    ∃ rec dd, getK s.deps ⟨debt, coll, prem, who⟩ = some rec ∧ denomOf s.assets debt = some dd ∧
      ∀ y e, y ≠ s.eng.cust →
        bal s'.eng.bank y e = bal s.eng.bank y e + (if who = y ∧ dd = e then rec - fee s.closingFee rec else 0) := by
  obtain ⟨rec, dd, hk, hd, hc⟩ := cancel_spec h
  have p := cancelCore_pays hc
  rw [if_pos (pos_of_getK hp hk)] at p
  exact ⟨rec, dd, hk, hd, p.users⟩

open Comdex.LimitBid in
/-- the fee is never negative, so the payout never exceeds the amount asked for -/
theorem limit_payout_le_amount (rate : Dec) (amt : Int) (hr : 0 ≤ rate) (ha : 0 ≤ amt) : amt - fee rate amt ≤ amt := by
  have := fee_nonneg rate amt hr ha
  omega

open Comdex.LimitBid in
/-- **The recorded total of a market equals the sum of its individual deposits** — after any history of deposits,
partial withdrawals, cancels and auction activity, for every (debt asset, collateral asset) market. -/
theorem bidvalue_eq_sum_deposits (s0 : LimitBid.State) (ops : List LimitBid.Op)
    (hd : s0.deps = []) (hb : s0.bv = []) (hl : s0.eng.live = []) (hc : s0.eng.cust ≠ s0.eng.coll)
    (hu : UsersOnlyL s0.eng.cust ops) (debt coll : Nat) :
    getD0 (LimitBid.run s0 ops).bv (debt, coll) = marketSum (LimitBid.run s0 ops).deps debt coll ∧
    (∀ kv ∈ (LimitBid.run s0 ops).deps, kv.2 > 0) := by
  have k := run_from_empty s0 ops hd hb hl hc hu
  exact ⟨k.bv debt coll, k.pos⟩

open Comdex.LimitBid in
/-- **The deposits are fully held in custody.**  In every denomination the module account holds exactly: what it
held at the start + the standing English bids + the sum of all outstanding limit-bid deposits in that
denomination + the fees it retained. -/
theorem bidvalue_in_custody (s0 : LimitBid.State) (ops : List LimitBid.Op)
    (hd : s0.deps = []) (hb : s0.bv = []) (hf : s0.fees = []) (hl : s0.eng.live = []) (hc : s0.eng.cust ≠ s0.eng.coll)
    (hu : UsersOnlyL s0.eng.cust ops) (d : Denom) :
    bal (LimitBid.run s0 ops).eng.bank s0.eng.cust d =
      bal s0.eng.bank s0.eng.cust d + sumBy (held d) (LimitBid.run s0 ops).eng.live
        + denomSum (LimitBid.run s0 ops) d + getD0 (LimitBid.run s0 ops).fees d := by
  have k := run_from_empty s0 ops hd hb hl hc hu
  have := k.gap d
  simp only [gapL, custGap, denomSum, k.frame.cust, hd, hf, hl, sumBy, sumK, getD0, getK] at this ⊢
  clear * - this
  omega

open Comdex.LimitBid in
/-- corollary: with non-negative fee rates, the recorded total of any market is covered by the custody balance
of its debt denomination net of the initial balance and of the standing English bids -/
theorem market_total_covered (s0 : LimitBid.State) (ops : List LimitBid.Op)
    (hd : s0.deps = []) (hb : s0.bv = []) (hf : s0.fees = []) (hl : s0.eng.live = []) (hc : s0.eng.cust ≠ s0.eng.coll)
    (hu : UsersOnlyL s0.eng.cust ops) (hcf : 0 ≤ s0.closingFee) (hwf : 0 ≤ s0.withdrawalFee)
    (debt coll : Nat) (d : Denom) (hdd : denomOf s0.assets debt = some d) :
    getD0 (LimitBid.run s0 ops).bv (debt, coll) ≤
      bal (LimitBid.run s0 ops).eng.bank s0.eng.cust d - bal s0.eng.bank s0.eng.cust d
        - sumBy (held d) (LimitBid.run s0 ops).eng.live := by
  obtain ⟨hsum, hpos⟩ := bidvalue_eq_sum_deposits s0 ops hd hb hl hc hu debt coll
  have hcust := bidvalue_in_custody s0 ops hd hb hf hl hc hu d
  have hfn := run_fees s0 ops (fun e => by rw [hf]; exact Int.le_refl 0) hcf hwf
  have kept := run_from_empty s0 ops hd hb hl hc hu
  have hle : marketSum (LimitBid.run s0 ops).deps debt coll ≤ denomSum (LimitBid.run s0 ops) d := by
    refine sumK_le_of_imp _ _ _ (fun k hk => ?_) hpos
    simp only [inMarket, decide_eq_true_eq] at hk
    simp only [inDenom, decide_eq_true_eq, kept.frame.assets, hk.1, hdd]
  have := hfn d
  clear * - hsum hcust hle this
  omega

open Comdex.LimitBid in
/-- A (account 2) has deposited 100 and B (account 3) 900 at the same key; custody holds 1000. -/
def d5State : LimitBid.State :=
  { eng := { bank := [((0, 2), 1000)], cust := 0, coll := 1, live := [], closed := [], now := 0 },
    deps := [(⟨3, 2, 5, 2⟩, 100), (⟨3, 2, 5, 3⟩, 900)], bv := [((3, 2), 1000)], fees := [],
    assets := [(1, 0), (2, 1), (3, 2), (4, 3)], closingFee := 0, withdrawalFee := 0 }

open Comdex.LimitBid in
/-- **Counterexample (D5)**: `WithdrawLimitAuctionBid` as it stands in the unrepaired tree (`guarded = false`) lets A
withdraw 600 against a deposit of 100: A is paid 600, its record becomes −500 and the recorded total 400 is below
B's deposit of 900; it also pays out in a denomination (1) that was never deposited in this market.  The repaired
guard rejects both. -/
theorem limit_withdraw_le_own_deposit_counterexample :
    ((withdrawStep false d5State 2 2 3 5 2 600).map fun s =>
        (getK s.deps ⟨3, 2, 5, 2⟩, getD0 s.bv (3, 2), bal s.eng.bank 2 2, bal s.eng.bank 0 2)) = some (some (-500), 400, 600, 400) ∧
    ((withdrawStep false { d5State with eng := { d5State.eng with bank := [((0, 2), 1000), ((0, 1), 77)] } } 2 2 3 5 1 50).map fun s =>
        (getK s.deps ⟨3, 2, 5, 2⟩, bal s.eng.bank 2 1, bal s.eng.bank 0 1)) = some (some 50, 50, 27) ∧
    (withdrawStep true d5State 2 2 3 5 2 600).isNone = true ∧
    (withdrawStep true d5State 2 2 3 5 1 50).isNone = true := by decide +kernel

open Comdex.LimitBid in
/-- non-vacuity of the limit-bid theorems: deposit, partial withdraw with a 1 % fee, full withdraw of the rest -/
example :
    let s0 : LimitBid.State :=
      { eng := { bank := [((2, 2), 1000)], cust := 0, coll := 1, live := [], closed := [], now := 0 },
        deps := [], bv := [], fees := [], assets := [(2, 1), (3, 2)], closingFee := 10000000000000000, withdrawalFee := 10000000000000000 }
    let s := LimitBid.run s0 [.deposit 2 2 3 5 2 1000, .withdraw 2 2 3 5 2 400, .withdraw 2 2 3 5 1 100, .withdraw 2 2 3 5 2 601]
    getK s.deps ⟨3, 2, 5, 2⟩ = some 600 ∧ getD0 s.bv (3, 2) = 600 ∧ bal s.eng.bank 2 2 = 396 ∧ bal s.eng.bank 0 2 = 604 ∧
      getD0 s.fees 2 = 4 := by decide +kernel

/-! ## limit bids auto-filled by a Dutch auction: the joint model (`Model/LimitFill.lean`)

The book of one market, one second-generation Dutch auction of that pair and the module account they share.  Histories: any finite
list of `deposit` / `cancel` / `withdraw` (any bidder, premium, amount), market bids, reserve top-ups and begin-blocks (price update,
restart, the shutdown branch, then `LimitOrderBid` with ANY number of bidders in the bucket, partial fills and fills that close the
auction), from the state right after the activator.  Nothing is assumed about the limit bids: D7 (several bidders at one
premium, stale auction value) and D24 (fill clipped by exhausted collateral) are part of the model. -/

section Fill
open Comdex.DutchV2 Comdex.LimitFill
open Comdex.LimitBid (getK)

-- `Dec.fits` (reached through `DutchPrice.chk`) compares with 2^315; let the concrete witnesses below evaluate it
set_option exponentiation.threshold 512

theorem fill_init (je : JEnv) (a : Auc) (b : DutchV2.Bank) (r : Option Int) (hs : C10.Start je.e a) :
    JInv (b.get .auction .debt) je (initJ je a b r) := by
  refine ⟨C10.init_invW je.e a b r hs, ?_⟩
  refine ⟨by intro kv hkv; simp [initJ] at hkv, ?_, ?_, by simp [initJ]⟩
  · simp [initJ, total, LimitBid.sumK]
  · simp [initJ, initSt, total, LimitBid.sumK]

/-- **The recorded total of the market equals the sum of the individual deposits — up to the deposits consumed by exact fills.**
After any history `BidValue = Σ records + exact`, every record is positive, and `exact ≥ 0` is the sum of the deposits that were
equal to the auction's remaining debt when they were filled: for those `LimitOrderBid` deletes the record and returns before
it reduces `BidValue` (`auctions.go:561-566`).  `_partial`: the clause itself ("equals") is false of the code after the first exact
fill — `fill_bidvalue_exact_counterexample`. -/
theorem fill_bidvalue_eq_sum_deposits_partial (je : JEnv) (hw : WfJEnv je) (a : Auc) (b : DutchV2.Bank) (r : Option Int)
    (hs : C10.Start je.e a) (ops : List LimitFill.Op) (hops : ∀ op ∈ ops, WfOpJ op) :
    let s := LimitFill.run je (initJ je a b r) ops
    s.bv = total s.deps + s.exact ∧ 0 ≤ s.exact ∧ (∀ kv ∈ s.deps, kv.2 > 0) := by
  obtain ⟨-, hb⟩ := LimitFill.run_inv hw ops _ (fill_init je a b r hs) hops
  exact ⟨hb.bv, hb.exact_nonneg, hb.pos⟩

/-- **The deposits in custody — the exact ledger of the shared module account, for every history.**  With `other0` what the
account held of the debt denomination at the start:

  `custody + short + esmOut = other0 + Σ records + fees retained + over + booked + P`,
  `P = paid` while the auction is open, `P = paid + need − target ≥ 0` once it is closed.

Every term on the right except `over` is ≥ 0.  So the records are fully covered (`fill_deposits_covered`) unless money left the
account that should not have: `short` (a reserve draw the close needed and did not get — C10's D23) and `esmOut` (`TriggerEsm` under
shutdown — D39).  `over` is what fills debited from deposits beyond what the auction charged (D24: it stays in the account,
claimed by no record); `P` after the close is what several bidders at one premium paid beyond the target (D7: stays as well). -/
theorem fill_bidvalue_in_custody (je : JEnv) (hw : WfJEnv je) (a : Auc) (b : DutchV2.Bank) (r : Option Int)
    (hs : C10.Start je.e a) (ops : List LimitFill.Op) (hops : ∀ op ∈ ops, WfOpJ op) :
    let s := LimitFill.run je (initJ je a b r) ops
    (∀ a', s.d.auc = some a' →
      s.d.bank.get .auction .debt + s.d.short + s.d.esmOut =
        b.get .auction .debt + total s.deps + s.fees + s.over + s.d.booked + s.d.paid) ∧
    (s.d.auc = none →
      s.d.bank.get .auction .debt + s.d.short + s.d.esmOut =
        b.get .auction .debt + total s.deps + s.fees + s.over + s.d.booked + (s.d.paid + s.d.need - je.e.target) ∧
      0 ≤ s.d.paid + s.d.need - je.e.target) ∧
    0 ≤ s.d.paid ∧ 0 ≤ s.d.booked ∧ 0 ≤ s.d.short ∧ 0 ≤ s.d.esmOut ∧ 0 ≤ total s.deps := by
  obtain ⟨hwi, hb⟩ := LimitFill.run_inv hw ops _ (fill_init je a b r hs) hops
  simp only
  refine ⟨?_, ?_, hwi.paid_nonneg, hwi.booked_nonneg, hwi.short_nonneg, hwi.esm_nonneg, total_nonneg hb.pos⟩
  · intro a' ha'
    obtain ⟨-, -, o3⟩ := hwi.open_ a' ha'
    rw [o3, hb.cust]
  · intro hn
    obtain ⟨c1, c2⟩ := hwi.closed hn
    exact ⟨by have := hb.cust; clear * - this c2; omega, by clear * - c1; omega⟩

/-- **Fully held in custody**, in the form the clause is meant: if no reserve draw was skipped, `TriggerEsm` paid nothing out and
no fill charged more than it debited, the module account holds at least what it held at the start plus every outstanding
deposit plus the fees it retained — whatever the auction did in between (partial fills, closing fills, several bidders at one
premium). -/
theorem fill_deposits_covered (je : JEnv) (hw : WfJEnv je) (a : Auc) (b : DutchV2.Bank) (r : Option Int)
    (hs : C10.Start je.e a) (ops : List LimitFill.Op) (hops : ∀ op ∈ ops, WfOpJ op)
    (h1 : (LimitFill.run je (initJ je a b r) ops).d.short = 0) (h2 : (LimitFill.run je (initJ je a b r) ops).d.esmOut = 0)
    (h3 : 0 ≤ (LimitFill.run je (initJ je a b r) ops).over) :
    let s := LimitFill.run je (initJ je a b r) ops
    b.get .auction .debt + total s.deps + s.fees ≤ s.d.bank.get .auction .debt := by
  obtain ⟨o, c, p1, p2, -, -, -⟩ := fill_bidvalue_in_custody je hw a b r hs ops hops
  simp only at o c p1 p2 ⊢
  cases hauc : (LimitFill.run je (initJ je a b r) ops).d.auc with
  | some a' => have := o a' hauc; clear * - this h1 h2 h3 p1 p2; omega
  | none => obtain ⟨c1, c2⟩ := c hauc; clear * - c1 c2 h1 h2 h3 p2; omega

/-- **A begin-block touches only the records of the auction's current premium bucket**: every record at another premium is
exactly what it was (no other depositor is debited, whatever happens in the loop). -/
theorem fill_touches_only_the_bucket (je : JEnv) (s : JSt) (esm : Bool) (now twaC twaD : Int) (actC actD : Bool) (a : Auc) (k : Int)
    (ha : (if esm then tickIterEsm je.e s.d now twaC actC twaD actD else tickIter je.e s.d now twaC actC twaD actD).auc = some a)
    (hk : bucket a = .ok (some k)) (key : RKey) (hne : key.1 ≠ k) :
    getK (LimitFill.step je s (.tick esm now twaC actC twaD actD)).deps key = getK s.deps key := by
  rcases step_tick je s esm now twaC actC twaD actD with h | h
  · rw [h]
  rcases fillJ_cases h with h | ⟨a', k', ha', hk', h⟩
  · rw [h]
  cases ha.symm.trans ha'
  cases hk.symm.trans hk'
  exact fillLoopJ_frame _ _ _ h key hne

/-- **A depositor withdraws at most their own outstanding deposit** — in the joint model too, i.e. also for a record that an
auto-fill has already reduced: an accepted `withdraw` finds the caller's own record and `0 < amt ≤ record`; the guard reads the
record as the fills left it. -/
theorem fill_withdraw_le_own_deposit (je : JEnv) (s s' : JSt) (who : Nat) (prem amt : Int)
    (h : stepE je s (.withdraw who prem amt) = .ok s') :
    ∃ rec, getK s.deps (prem, who) = some rec ∧ 0 < amt ∧ amt ≤ rec := by
  obtain ⟨rec, hk, ha, hle, -⟩ := withdraw_ok (show withdrawStep je s who prem amt = .ok s' from h)
  exact ⟨rec, hk, ha, hle⟩

/-! ### witnesses (replayed on the real begin-blocker by `TestC11Fill`, first sequences of the run) -/

def fEnv : JEnv := { e := C10.wEnv, order := [4, 1, 3, 2] }
def fBank : DutchV2.Bank := [((.auction, .coll), 1000000), ((.bidder 1, .debt), 10000000), ((.bidder 2, .debt), 10000000),
  ((.bidder 3, .debt), 10000000), ((.bidder 4, .debt), 10000000), ((.reserve, .debt), 100000000)]
def fInit : JSt := initJ fEnv (C10.wAuc 1680000000000000000000000 1400000000000000000000000) fBank (some 100000000)

/-- **`BidValue` is not reduced by an exact fill** (`auctions.go:561-566`): b1 deposits exactly the target 1 120 000 at premium 9,
b2 500 000 at premium 20; the block at +2950 s fills the auction from b1's deposit and closes it: b1's record is gone, the
recorded total still says 1 620 000 although only b2's 500 000 are outstanding. -/
theorem fill_bidvalue_exact_counterexample :
    let s := LimitFill.run fEnv fInit [.deposit 1 9 1120000, .deposit 2 20 500000, .tick false 2950 1400000 true 1000000 true]
    s.d.auc = none ∧ s.deps = [((20, 2), 500000)] ∧ s.bv = 1620000 ∧ s.exact = 1120000 ∧ total s.deps = 500000 := by decide +kernel

/-- D7 in the joint model: b1 and b2 wait with 400 000 each at premium 9 and are both filled against the value read before the
loop (the record then asks for 720 000 more although 800 000 of 1 120 000 are paid).  Every limit-bid clause holds: both records
are gone, `BidValue` = Σ records = b3's 250 000, and the module account holds b3's deposit plus everything the two paid. -/
example :
    let s := LimitFill.run fEnv fInit [.deposit 1 9 400000, .deposit 2 9 400000, .deposit 3 10 250000,
      .tick false 2950 1400000 true 1000000 true]
    (s.d.auc.map fun a => a.debt) = some 720000 ∧ s.deps = [((10, 3), 250000)] ∧ s.bv = 250000 ∧ s.d.paid = 800000 ∧
      s.d.bank.get .auction .debt = 250000 + 800000 ∧ s.over = 0 ∧ s.exact = 0 := by decide +kernel

/-- **D24 in the joint model** (`auctions.go:561-572`): collateral worth 990 000 at the posted price, remaining target 1 120 000, b1
has 2 000 000 waiting at premium 1: the fill closes the auction, the auction charges 990 000 (the reserve adds 130 000), but the
record is debited by the whole 1 120 000: 130 000 stay in the module account, claimed by no record (`over`). -/
theorem fill_overcharge_counterexample :
    let s := LimitFill.run fEnv (initJ fEnv (C10.wAuc 1200000000000000000000000 1000000000000000000000000) fBank (some 100000000))
      [.deposit 1 1 2000000, .tick false 2100 1000000 true 1000000 true]
    s.d.auc = none ∧ s.deps = [((1, 1), 880000)] ∧ s.bv = 880000 ∧ s.d.paid = 990000 ∧ s.over = 130000 ∧
      s.d.bank.get .auction .debt = 880000 + 130000 := by decide +kernel

/-- non-vacuity of the `fill_…` theorems: the witness environment is well-formed, the record the activator wrote is a `Start`, the
operations are well-formed, and in the run "b1 deposits 3 000 000 at premium 9, b2 600 000 at premium 20, block at +2950 s" the fill
(a) leaves b2's record alone (premium 20 ≠ bucket 9), (b) leaves b1 a record of 1 880 000 from which b1 then withdraws 880 000 — accepted,
880 001 more than the rest — refused, and (c) the hypotheses of `fill_deposits_covered` hold (no shortfall, no shutdown, `over = 0`) -/
example :
    WfJEnv fEnv ∧ C10.Start fEnv.e (C10.wAuc 1680000000000000000000000 1400000000000000000000000) ∧
    (∀ op ∈ [LimitFill.Op.deposit 1 9 3000000, .deposit 2 20 600000, .tick false 2950 1400000 true 1000000 true, .withdraw 1 9 880000], WfOpJ op) ∧
    (let s := LimitFill.run fEnv fInit [.deposit 1 9 3000000, .deposit 2 20 600000, .tick false 2950 1400000 true 1000000 true]
     s.deps = [((9, 1), 1880000), ((20, 2), 600000)] ∧ s.bv = 2480000 ∧ s.d.auc = none ∧ s.d.short = 0 ∧ s.d.esmOut = 0 ∧ s.over = 0 ∧
     s.d.bank.get .auction .debt = 2480000 ∧
     (LimitFill.stepE fEnv s (.withdraw 1 9 880000)).toBool = true ∧ (LimitFill.stepE fEnv s (.withdraw 1 9 1880001)).toBool = false) := by
  refine ⟨⟨⟨by decide, by decide, by decide, by decide, by decide, by decide⟩, by decide⟩,
    ⟨rfl, rfl, rfl, by decide, by decide, by decide, by decide, by decide, rfl⟩, ?_, by decide⟩
  intro op hop
  simp only [List.mem_cons, List.mem_nil_iff, or_false] at hop
  rcases hop with h | h | h | h <;> subst h <;> simp [WfOpJ]

end Fill

end Comdex.C11