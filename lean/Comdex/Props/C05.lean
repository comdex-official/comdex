import Comdex.Lemmas.AmmMatchDust
import Comdex.Lemmas.AmmFindPriceBook
import Comdex.Lemmas.AmmPool
import Comdex.Lemmas.AmmRanged
import Comdex.Lemmas.AmmKeeper
import Comdex.Lemmas.AmmOrders
import Comdex.Model.AmmMultiView
/-!
# C05 — Batch matching conserves coins and never fills an order beyond its limits

Models: `Model/AmmMatch.lean` (x/liquidity/amm: match.go, orderbook.go, util.go), `AmmDust`, `AmmTick` (tick.go, `FindMatchPrice`),
`AmmPool`, `AmmRanged` (pool.go), `AmmMultiView`, `AmmKeeper`, `AmmOrders` (the keeper's glue).  All statements are about the
executable model that the correspondence harness ties to the real code on every run, and quantify over **every** list of
well-formed orders (`Wf`: positive price, `0 ≤ paid`, `0 ≤ open ≤ amount`, the remaining offer coin covers — buy: `paid ≤
offer`; sell: `paid + open ≤ offer`), every positive match price / last price, every insertion order, batch-id mix and
priority tie-break.  `Wf`, `GoodFill` (one allowed fill), `Reach` (any number of them) are in `Model/AmmMatch.lean`; `Delta o o'`
(Lemmas/AmmMatch.lean) collects the per-order facts between the state before (`o`) and after (`o'`) matching.

Property clause → theorem
* "no order pays more than its offer coin, is filled beyond its amount" (and `FillOrder`'s panic is unreachable from every
  call site: `FulfillOrder`, the final loop of `DistributeOrderAmountToOrders`, through `DistributeOrderAmountToTick`,
  `MatchAtSinglePrice`, `Match`)                                        → `fill_within_limits` (+ `_single`, `_distribute`, `_step`)
* "or trades at a price worse than its own limit price by more than one smallest quote unit per individual fill"
                                                                         → `fill_price_within_limit` (per fill, both directions),
                                                                           `fill_price_booked` (what `FillOrder` books),
                                                                           `fill_price_within_limit_engine` (every fill of `Match`),
                                                                           `fill_price_within_limit_single` (of `MatchAtSinglePrice`)
* "An order that is matched receives a strictly positive amount"         → `matched_receives_positive` (+ `_single`, `_fresh`)
* "quote paid by buyers ≥ quote received by sellers, dust < number of individual fills"
      lists of fills at one price / several rounds, given base conservation → `quote_dust_bounds`, `quote_dust_bounds_rounds`
      COMPOSED over every result of `Match` / `MatchAtSinglePrice` (nothing assumed but well-formed orders with distinct ids):
      `0 ≤ dust`, `lo·L ≤ dust·10¹⁸ ≤ hi·L + #fills·(10¹⁸−1)` with `L ≥ 0` the base coin defect D2 dropped; `L = 0` and
      `dust < #fills` wherever nothing is lost; the statement IS the monitor  → `quote_dust_bounds_match`, `quote_dust_bounds_single`
      the clause as written is FALSE of the code (consequence of D2)     → `quote_dust_counterexample`
* "matching exchanges exactly as much base coin as buyers receive and sellers pay"
      FALSE of the code (defect D2)                                      → `base_conserved_counterexample`
      true when nothing is lost in the re-runs of the pro-rata distribution → `base_conserved_partial` (the plan of one distribution),
                                                                           `base_conserved_partial_step` (one round of the loop),
                                                                           `base_conserved_partial_single`, `base_conserved_partial_match`
      always true on the buy side                                        → `base_conserved_partial_buys`
      exactly when                                                       → `base_conserved_iff_lossless` (+ `_single`), `distribution_exact_iff_lossless`
* the price of a pair's first batch (`FindMatchPrice`)                   → `found_price_in_spread`, `found_price_iff_crossing`,
                                                                           `found_price_amounts_positive`,
                                                                           `found_price_unmatchable_counterexample`,
                                                                           `limit_respected_first_batch`, `price_uniform_first_batch`
* the first batch with pools, at any positive price                     → `limit_respected_first_batch_pools`
* pool orders (the pool never buys above / sells below its curve price, never offers more than it holds)
      basic pools                                                        → `pool_buy_amount_on_curve`, `pool_sell_amount_on_curve`,
                                                                           `pool_buy_orders_within_reserves_and_curve`,
                                                                           `pool_sell_orders_within_reserves_and_curve`,
                                                                           `pool_offers_within_reserves`
      ranged pools (virtual reserves; `DeriveTranslation` modelled)      → `ranged_buy_amount_on_curve`, `ranged_sell_amount_on_curve`,
                                                                           `ranged_buy_keeps_product`, `ranged_sell_keeps_product`,
                                                                           `ranged_pool_buy_orders_within_reserves_and_curve`,
                                                                           `ranged_pool_sell_orders_within_reserves_and_curve`,
                                                                           `ranged_limit_orders_covered`, `ranged_pool_offers_within_reserves`
* stored orders across batches (`NewUserOrder` → matcher → `ApplyMatchResult` → expiry)
      limit orders                                                       → `order_within_amount` (+ `_after_batch`, `_step`, `_validated`),
                                                                           `offered_amount_within_open`
      the fitted price of a limit order (both directions)                → `place_ok_limit_order`, `placed_price_within_limit`
      limit + market + MM orders (MM cancellation)                       → `order_within_amount_all_orders`,
                                                                           `market_order_price_on_grid`, `mm_order_ticks_on_grid`

-/
namespace Comdex.C05
open Comdex.Amm

/-! ## every order after matching is an input order after allowed fills -/

/-- `OrderBook.Match` on `NewOrderBook(os…)`: never a panic; every order of the resulting book is one of the given orders
with the facts of `Delta` -/
theorem match_delta (os : List Order) (hw : ∀ o ∈ os, Wf o) (lp : Int) (hlp : 0 < lp) :
    matchBook (newBook os) lp = .noMatch ∨
    ∃ b' mp q, matchBook (newBook os) lp = .ok b' mp q ∧ ∀ o' ∈ b'.orders, ∃ o ∈ os, Delta o o' :=
  (matchBook_ok (newBook os) lp hlp (newBook_ok os hw)).imp id fun ⟨b', mp, q, h, r⟩ =>
    ⟨b', mp, q, h, newBook_delta os hw r⟩

/-- the same for `OrderBook.MatchAtSinglePrice` (first batch of a pair: price from `FindMatchPrice`; any price here) -/
theorem single_delta (os : List Order) (hw : ∀ o ∈ os, Wf o) (p : Int) (hp : 0 < p) :
    matchAtSinglePrice (newBook os) p = .noMatch ∨
    ∃ b' q, matchAtSinglePrice (newBook os) p = .ok b' q ∧ ∀ o' ∈ b'.orders, ∃ o ∈ os, Delta o o' :=
  (matchAtSinglePrice_ok (newBook os) p hp (newBook_ok os hw)).imp id fun ⟨b', q, h, r⟩ =>
    ⟨b', q, h, newBook_delta os hw r⟩

theorem within_limits_of_delta {os post : List Order} (h : ∀ o' ∈ post, ∃ o ∈ os, Delta o o') :
    ∀ o' ∈ post, 0 ≤ o'.paid ∧ o'.paid ≤ o'.offer ∧ 0 ≤ o'.opn ∧ o'.opn ≤ o'.amount := fun o' ho' =>
  (h o' ho').elim fun _ d => d.2.wf.within_limits

/-- **No order pays more than its offer coin or is filled beyond its amount, and `FillOrder` never panics** — `Match`. -/
theorem fill_within_limits (os : List Order) (hw : ∀ o ∈ os, Wf o) (lp : Int) (hlp : 0 < lp) :
    matchBook (newBook os) lp ≠ .panic ∧
    ∀ b' mp q, matchBook (newBook os) lp = .ok b' mp q →
      ∀ o' ∈ b'.orders, 0 ≤ o'.paid ∧ o'.paid ≤ o'.offer ∧ 0 ≤ o'.opn ∧ o'.opn ≤ o'.amount := by
  refine ⟨?_, fun b' mp q h => within_limits_of_delta (match_delta_of os hw lp hlp h)⟩
  rcases match_delta os hw lp hlp with h | ⟨_, _, _, h, _⟩ <;> rw [h] <;> simp

/-- the same for `MatchAtSinglePrice` -/
theorem fill_within_limits_single (os : List Order) (hw : ∀ o ∈ os, Wf o) (p : Int) (hp : 0 < p) :
    matchAtSinglePrice (newBook os) p ≠ .panic ∧
    ∀ b' q, matchAtSinglePrice (newBook os) p = .ok b' q →
      ∀ o' ∈ b'.orders, 0 ≤ o'.paid ∧ o'.paid ≤ o'.offer ∧ 0 ≤ o'.opn ∧ o'.opn ≤ o'.amount := by
  refine ⟨?_, fun b' q h => within_limits_of_delta (single_delta_of os hw p hp h)⟩
  rcases single_delta os hw p hp with h | ⟨_, _, h, _⟩ <;> rw [h] <;> simp

/-- the same for a direct call of `DistributeOrderAmountToOrders` / `DistributeOrderAmountToTick` with any amount `≥ 0` on
orders whose limit admits the price: it terminates (fuel not exhausted), does not divide by zero, does not panic -/
theorem fill_within_limits_distribute (os : List Order) (amt p : Int) (hp : 0 < p) (hamt : 0 ≤ amt)
    (hw : ∀ o ∈ os, Wf o ∧ Within o p) :
    (∃ os' q, distributeToOrders os amt p = some (os', q) ∧ All2 Reach os os') ∧
    (∃ os' q, distributeToTick os amt p = some (os', q) ∧ All2 Reach os os') :=
  ⟨(distributeToOrders_within os amt p hp hamt hw).imp fun _ => Exists.imp fun _ h =>
      ⟨h.1, all2_imp (fun _ _ => FillAt.reach) h.2⟩,
   (distributeToTick_spec os amt p hp hamt hw).imp fun _ => Exists.imp fun _ h =>
      ⟨h.1, all2_imp (fun _ _ => FillAt.reach) h.2.fills⟩⟩

/-- one `FillOrder` within `MatchableAmount` keeps the order within its limits (the step all of the above rest on) -/
theorem fill_within_limits_step (o : Order) (a p : Int) (hw : Wf o) (g : GoodFill o a p) :
    fillOrder o a p = some (fillRaw o a p) ∧ Wf (fillRaw o a p).1 :=
  ⟨fillOrder_le g.le, fillRaw_wf o a p hw g⟩

/-- **one fill**: a buyer filled for `a` at price `p ≤ L` pays `⌈p·a⌉ ≤ ⌈L·a⌉`; a seller filled at `p ≥ L` receives
`⌊p·a⌋ ≥ ⌊L·a⌋` — i.e. never worse than the limit price by a whole quote unit -/
theorem fill_price_within_limit (p L a : Int) (ha : 0 ≤ a) :
    (0 ≤ p → p ≤ L → quoteCeil p a ≤ quoteCeil L a) ∧ (0 ≤ L → L ≤ p → quoteFloor L a ≤ quoteFloor p a) :=
  ⟨fun _ h => quoteCeil_mono p L a h ha, fun h0 h => quoteFloor_mono L p a h0 h ha⟩

/-- what `FillOrder` books for such a fill is exactly that -/
theorem fill_price_booked (o : Order) (a p : Int) :
    (o.dir = .buy → (fillRaw o a p).1.paid = o.paid + quoteCeil p a ∧ (fillRaw o a p).1.received = o.received + a) ∧
    (o.dir = .sell → (fillRaw o a p).1.paid = o.paid + a ∧ (fillRaw o a p).1.received = o.received + quoteFloor p a) := by
  constructor <;> intro h <;> unfold fillRaw <;> rw [h] <;> exact ⟨rfl, rfl⟩

theorem price_within_of_delta {os post : List Order} (h : ∀ o' ∈ post, ∃ o ∈ os, Delta o o') :
    ∀ o' ∈ post, ∃ o ∈ os, o'.id = o.id ∧ o'.price = o.price ∧ o'.dir = o.dir ∧
      (o.dir = .buy → (o'.paid - o.paid) * Dec.P ≤ o.price * (o.opn - o'.opn) + ((o'.fills : Int) - o.fills) * (Dec.P - 1)) ∧
      (o.dir = .sell → o.price * (o.opn - o'.opn) ≤ (o'.received - o.received) * Dec.P + ((o'.fills : Int) - o.fills) * (Dec.P - 1)) :=
  fun o' ho' => (h o' ho').imp fun _ d => ⟨d.1, d.2.id_eq, d.2.price_eq, d.2.dir_eq, d.2.buy_price, d.2.sell_price⟩

/-- **every fill the engine makes is at a price within the order's limit**, hence over a whole `Match`: a buyer pays at
most `limit × filled` plus less than one quote unit per fill, a seller receives at least `limit × filled` minus less than one
quote unit per fill (`fills` = ghost count of `FillOrder` calls on the order; raw prices are ×10^18 = `Dec.P`) -/
theorem fill_price_within_limit_engine (os : List Order) (hw : ∀ o ∈ os, Wf o) (lp : Int) (hlp : 0 < lp)
    (b' : Book) (mp q : Int) (h : matchBook (newBook os) lp = .ok b' mp q) :
    ∀ o' ∈ b'.orders, ∃ o ∈ os, o'.id = o.id ∧ o'.price = o.price ∧ o'.dir = o.dir ∧
      (o.dir = .buy → (o'.paid - o.paid) * Dec.P ≤ o.price * (o.opn - o'.opn) + ((o'.fills : Int) - o.fills) * (Dec.P - 1)) ∧
      (o.dir = .sell → o.price * (o.opn - o'.opn) ≤ (o'.received - o.received) * Dec.P + ((o'.fills : Int) - o.fills) * (Dec.P - 1)) :=
  price_within_of_delta (match_delta_of os hw lp hlp h)

/-- the same for `MatchAtSinglePrice`: it never touches a tick beyond the match price -/
theorem fill_price_within_limit_single (os : List Order) (hw : ∀ o ∈ os, Wf o) (p : Int) (hp : 0 < p)
    (b' : Book) (q : Int) (h : matchAtSinglePrice (newBook os) p = .ok b' q) :
    ∀ o' ∈ b'.orders, ∃ o ∈ os, o'.id = o.id ∧ o'.price = o.price ∧ o'.dir = o.dir ∧
      (o.dir = .buy → (o'.paid - o.paid) * Dec.P ≤ o.price * (o.opn - o'.opn) + ((o'.fills : Int) - o.fills) * (Dec.P - 1)) ∧
      (o.dir = .sell → o.price * (o.opn - o'.opn) ≤ (o'.received - o.received) * Dec.P + ((o'.fills : Int) - o.fills) * (Dec.P - 1)) :=
  price_within_of_delta (single_delta_of os hw p hp h)

theorem positive_of_delta {os post : List Order} (h : ∀ o' ∈ post, ∃ o ∈ os, Delta o o') :
    ∀ o' ∈ post, ∃ o ∈ os, o'.id = o.id ∧ (o'.opn < o.opn → o.received < o'.received) :=
  fun o' ho' => (h o' ho').imp fun _ d => ⟨d.1, d.2.id_eq, d.2.positive⟩

/-- **an order that was filled (its open amount went down) received a strictly positive amount** — `Match` -/
theorem matched_receives_positive (os : List Order) (hw : ∀ o ∈ os, Wf o) (lp : Int) (hlp : 0 < lp)
    (b' : Book) (mp q : Int) (h : matchBook (newBook os) lp = .ok b' mp q) :
    ∀ o' ∈ b'.orders, ∃ o ∈ os, o'.id = o.id ∧ (o'.opn < o.opn → o.received < o'.received) :=
  positive_of_delta (match_delta_of os hw lp hlp h)

/-- in the words of the code: for fresh orders (`NewBaseOrder`: open = amount, received = 0), `IsMatched() ⇒ received > 0` -/
theorem matched_receives_positive_fresh (os : List Order) (hw : ∀ o ∈ os, Wf o)
    (hfresh : ∀ o ∈ os, o.opn = o.amount ∧ o.received = 0) (lp : Int) (hlp : 0 < lp)
    (b' : Book) (mp q : Int) (h : matchBook (newBook os) lp = .ok b' mp q) :
    ∀ o' ∈ b'.orders, o'.isMatched = true → 0 < o'.received := by
  intro o' ho' hm
  obtain ⟨o, ho, d⟩ := match_delta_of os hw lp hlp h o' ho'
  obtain ⟨f1, f2⟩ := hfresh o ho
  unfold Order.isMatched at hm
  simp only [decide_eq_true_eq] at hm
  have := d.positive (by rw [f1, ← d.amount_eq]; exact hm)
  omega

/-- the same for `MatchAtSinglePrice` -/
theorem matched_receives_positive_single (os : List Order) (hw : ∀ o ∈ os, Wf o) (p : Int) (hp : 0 < p)
    (b' : Book) (q : Int) (h : matchAtSinglePrice (newBook os) p = .ok b' q) :
    ∀ o' ∈ b'.orders, ∃ o ∈ os, o'.id = o.id ∧ (o'.opn < o.opn → o.received < o'.received) :=
  positive_of_delta (single_delta_of os hw p hp h)

/-- **Rounding dust of the fills at one price**, given that base coin is conserved among them (`Σ bs = Σ ss`): buyers pay
`Σ⌈p·b⌉`, sellers receive `Σ⌊p·s⌋`; the difference is `≥ 0` and `< #fills` (it is 0 when there is no fill) -/
theorem quote_dust_bounds (p : Int) (hp : 0 ≤ p) (bs ss : List Int) (hb : ∀ a ∈ bs, 0 ≤ a) (hs : ∀ a ∈ ss, 0 ≤ a)
    (hc : sumInt bs = sumInt ss) :
    0 ≤ roundDust p bs ss ∧ (0 < bs.length + ss.length → roundDust p bs ss < bs.length + ss.length) ∧
    (bs.length + ss.length = 0 → roundDust p bs ss = 0) := by
  have h := roundDust_rounded p hp bs ss hs
  rw [hc, Int.sub_self] at h
  obtain ⟨h0, _, h1⟩ := h.dust
  exact ⟨h0, by omega, by omega⟩

/-- a round of the two-sided loop of `Match`: price, buy fills, sell fills -/
abbrev Round := Int × List Int × List Int

def roundsDust (rs : List Round) : Int := sumInt (rs.map fun r => roundDust r.1 r.2.1 r.2.2)
def roundsFills (rs : List Round) : Int := sumInt (rs.map fun r => (r.2.1.length : Int) + r.2.2.length)

/-- **dust over several rounds at different prices** (what `Match` returns as `quoteCoinDiff`), each round conserving base
coin: `0 ≤ dust` and `dust·10^18 ≤ #fills·(10^18 − 1)`, hence `dust < #fills` as soon as there is a fill -/
theorem quote_dust_bounds_rounds (rs : List Round)
    (h : ∀ r ∈ rs, 0 ≤ r.1 ∧ (∀ a ∈ r.2.1, 0 ≤ a) ∧ (∀ a ∈ r.2.2, 0 ≤ a) ∧ sumInt r.2.1 = sumInt r.2.2) :
    0 ≤ roundsDust rs ∧ roundsDust rs * Dec.P ≤ roundsFills rs * (Dec.P - 1) ∧
    (0 < roundsFills rs → roundsDust rs < roundsFills rs) := by
  -- a round that conserves base coin leaves nothing to value, so rounds at different prices add
  have key : RoundedIn 0 0 0 (roundsFills rs) (roundsDust rs) := by
    induction rs with
    | nil => exact RoundedIn.zero 0 0
    | cons r rs ih =>
      obtain ⟨hp, _, hs, hc⟩ := h r (by simp)
      have h1 := roundDust_rounded r.1 hp r.2.1 r.2.2 hs
      rw [hc, Int.sub_self] at h1
      exact (h1.of_zero.add (ih fun x hx => h x (by simp [hx]))).congr rfl rfl rfl
  obtain ⟨k0, k1, k2⟩ := key.dust
  exact ⟨k0, k1, fun _ => by omega⟩

/-! ## base conservation -/

/-- **The plan of `DistributeOrderAmountToOrders` adds up to exactly the amount it was given — PARTIAL**: true when the orders that
are finally filled, after the function's re-runs on fewer orders, can still absorb the amount (`lossless`, a decidable
predicate mirroring the recursion).  Without it the statement is false: `base_conserved_counterexample`.  That distinct orders are
then filled for what the plan says is `distributeToTick_exact` (used in `base_conserved_partial_step`). -/
theorem base_conserved_partial (os : List Order) (amt p : Int) (hp : 0 < p) (hamt : 0 ≤ amt) (hw : ∀ o ∈ os, Wf o)
    (hl : lossless (os.length + 1) os amt p = true) :
    ∃ plan, planOrders (os.length + 1) os amt p = some plan ∧ planSum plan = amt := by
  obtain ⟨plan, hpl⟩ := planOrders_some (os.length + 1) os amt p hp hamt hw (by omega)
  exact ⟨plan, hpl, planOrders_sum _ os amt p hp hamt hw hl plan hpl⟩

/-- **the buy side never loses anything**: the plan for a list of buy orders that can absorb `amt` adds up to exactly `amt` -/
theorem base_conserved_partial_buys (os : List Order) (amt p : Int) (hp : 0 < p) (hamt : 0 ≤ amt) (hw : ∀ o ∈ os, Wf o)
    (hb : ∀ o ∈ os, o.dir = .buy) (hle : amt ≤ totalMatchable os p) :
    ∃ plan, planOrders (os.length + 1) os amt p = some plan ∧ planSum plan = amt :=
  base_conserved_partial os amt p hp hamt hw (lossless_buys _ os amt p hp hamt hw hb hle)

/-- **`MatchAtSinglePrice` on any book of distinct well-formed orders — base coin, PARTIAL; quote coin, exact.**
With `x` the amount found by `FindMatchableAmountAtSinglePrice`: the buyers receive exactly `x` base coin
(`ticksFilled` = sum of the decreases of the open amounts = base coin received by buyers / paid by sellers, see
`Delta.buy_recv`, `Delta.sell_paid`); the sellers pay exactly `x` **if** nothing is lost in the re-runs of the pro-rata
distribution on the one partially filled sell group (`ticksLossless`, decidable); and the returned `quoteCoinDiff` is
exactly the quote coin paid by the buyers minus the quote coin received by the sellers. -/
theorem base_conserved_partial_single (os : List Order) (hw : ∀ o ∈ os, Wf o) (hnd : os.Nodup) (p : Int) (hp : 0 < p)
    (b' : Book) (q : Int) (h : matchAtSinglePrice (newBook os) p = .ok b' q) :
    ∃ x, findMatchableAmount (newBook os) p = some x ∧ 0 < x ∧
      q = ticksQuote (newBook os).buys b'.buys + ticksQuote (newBook os).sells b'.sells ∧
      ticksFilled (newBook os).buys b'.buys = x ∧
      (ticksLossless (newBook os).sells x p = true →
        ticksFilled (newBook os).sells b'.sells = ticksFilled (newBook os).buys b'.buys) := by
  obtain ⟨x, hx, hpos, s⟩ :=
    matchAtSinglePrice_settled (newBook os) p hp (newBook_ok os hw) (newBook_nodup os hnd) b' q h
  exact ⟨x, hx, hpos, s.quote, s.filled, s.base.exact_iff.mpr⟩

/-- **`OrderBook.Match` on any book of orders with distinct ids — base coin, PARTIAL; quote coin, exact.**
The returned `quoteCoinDiff` is exactly the quote coin paid by the buyers minus the quote coin received by the sellers
(what is left in escrow is what is sent to the dust collector); and the base coin received by the buyers equals the base coin
paid by the sellers **if** no sell-side distribution — in the single-price step at the last price or in any iteration of the
two-sided loop — lost a remainder (`matchLossless`, a decidable ghost computed along the run; the buy side never loses
anything).  `ticksFilled`: as for `base_conserved_partial_single`. -/
theorem base_conserved_partial_match (os : List Order) (hw : ∀ o ∈ os, Wf o) (hids : (os.map (·.id)).Nodup)
    (lp : Int) (hlp : 0 < lp) (b' : Book) (mp q : Int) (h : matchBook (newBook os) lp = .ok b' mp q) :
    q = ticksQuote (newBook os).buys b'.buys + ticksQuote (newBook os).sells b'.sells ∧
    (matchLossless (newBook os) lp = true →
      ticksFilled (newBook os).buys b'.buys = ticksFilled (newBook os).sells b'.sells) :=
  matchBook_account (newBook os) lp hlp (newBook_ok os hw) (newBook_ids os hids) b' mp q h

/-- **one iteration of the two-sided loop of `Match`** (`DistributeOrderAmountToTick` on a buy tick and on a sell tick with
the same amount `X ≤` both ticks' matchable totals, match.go:283-294): the buy tick is filled for exactly `X`; the sell tick
too if nothing is lost; both returned quote differences are exact (the building block of `base_conserved_partial_match`). -/
theorem base_conserved_partial_step (bt st : List Order) (X p : Int) (hp : 0 < p) (hX : 0 ≤ X)
    (hb : ∀ o ∈ bt, Wf o ∧ o.dir = .buy) (hs : ∀ o ∈ st, Wf o) (hbn : bt.Nodup) (hsn : st.Nodup)
    (hXb : X ≤ totalMatchable bt p)
    (bt' st' : List Order) (q1 q2 : Int)
    (h1 : distributeToTick bt X p = some (bt', q1)) (h2 : distributeToTick st X p = some (st', q2)) :
    filledOf bt bt' = X ∧ q1 = quoteOf bt bt' ∧ q2 = quoteOf st st' ∧
    (groupsLossless (groupOrders st) X p = true → filledOf st st' = filledOf bt bt') := by
  obtain ⟨a1, _, a2⟩ := distributeToTick_exact bt X p hp hX (fun o ho => (hb o ho).1) hbn bt' q1 h1
  obtain ⟨c1, _, c2⟩ := distributeToTick_exact st X p hp hX hs hsn st' q2 h2
  have hl : groupsLossless (groupOrders bt) X p = true := by
    apply groupsLossless_buys _ X p hp hX
    · intro g hg o ho; exact hb o (mem_groupOrders bt g hg o ho)
    · rw [sum_groupOrders]; exact hXb
  exact ⟨a2.mpr hl, a1, c1, fun h => by rw [c2.mpr h, a2.mpr hl]⟩

/-! ### the exact characterisation of defect D2 -/

/-- **Base coin over a whole `Match`, exactly**: the sellers never pay more base coin than the buyers receive, and they pay
exactly as much **if and only if** `matchLossless` holds — i.e. no sell-side pro-rata distribution (in the single-price step at
the last price or in an iteration of the two-sided loop) re-ran on orders that cannot absorb the amount it was given.  The
ghost is computed from the INPUT alone, so it predicts on which books D2 strikes (the driver uses it: a non-conserving real
result is reported as the known `base_conserved` only where the ghost predicts it, as `base_conserved_unexplained` otherwise). -/
theorem base_conserved_iff_lossless (os : List Order) (hw : ∀ o ∈ os, Wf o) (hids : (os.map (·.id)).Nodup)
    (lp : Int) (hlp : 0 < lp) (b' : Book) (mp q : Int) (h : matchBook (newBook os) lp = .ok b' mp q) :
    ticksFilled (newBook os).sells b'.sells ≤ ticksFilled (newBook os).buys b'.buys ∧
    (ticksFilled (newBook os).buys b'.buys = ticksFilled (newBook os).sells b'.sells ↔
      matchLossless (newBook os) lp = true) :=
  have s := matchBook_settled (newBook os) lp hlp (newBook_ok os hw) (newBook_ids os hids) b' mp q h
  ⟨s.base.le, eq_comm.trans s.base.exact_iff⟩

/-- the same for `MatchAtSinglePrice` (first batch): with `x` the matchable amount, buyers receive `x`, sellers pay `≤ x`, and
`= x` iff `ticksLossless` -/
theorem base_conserved_iff_lossless_single (os : List Order) (hw : ∀ o ∈ os, Wf o) (hnd : os.Nodup) (p : Int) (hp : 0 < p)
    (b' : Book) (q : Int) (h : matchAtSinglePrice (newBook os) p = .ok b' q) :
    ∃ x, findMatchableAmount (newBook os) p = some x ∧ ticksFilled (newBook os).buys b'.buys = x ∧
      ticksFilled (newBook os).sells b'.sells ≤ x ∧
      (ticksFilled (newBook os).sells b'.sells = x ↔ ticksLossless (newBook os).sells x p = true) := by
  obtain ⟨x, hx, _, s⟩ :=
    matchAtSinglePrice_settled (newBook os) p hp (newBook_ok os hw) (newBook_nodup os hnd) b' q h
  exact ⟨x, hx, s.filled, s.sold.le, s.sold.exact_iff⟩

/-- and at its root: the plan of `DistributeOrderAmountToOrders` adds up to at most `amt`, and to exactly `amt` iff the orders that
are finally filled after its re-runs can absorb `amt` (`lossless`) -/
theorem distribution_exact_iff_lossless (os : List Order) (amt p : Int) (hp : 0 < p) (hamt : 0 ≤ amt) (hw : ∀ o ∈ os, Wf o)
    (plan : List (Order × Int)) (h : planOrders (os.length + 1) os amt p = some plan) :
    planSum plan ≤ amt ∧ (planSum plan = amt ↔ lossless (os.length + 1) os amt p = true) := by
  have hok := (planOrders_plan _ os amt p hp hamt hw plan h).2
  exact ⟨hok.sum.le, hok.sum.exact_iff⟩

/-! ### the witness of defect D2 (DESIGN.md §7): two sells 15000 @ 0.0001 of one batch, a buy 16000 @ 0.0002, last price 0.00009 -/

def d2s1 : Order := { id := 0, kind := 2, oid := 0, dir := .sell, price := 100000000000000, amount := 15000,
                      offer := 15000, opn := 15000, paid := 0, received := 0, batchId := 0 }
def d2s2 : Order := { d2s1 with id := 1 }
def d2b : Order := { id := 2, kind := 2, oid := 0, dir := .buy, price := 200000000000000, amount := 16000,
                     offer := 4, opn := 16000, paid := 0, received := 0, batchId := 0 }
def d2Orders : List Order := [d2s1, d2s2, d2b]
def d2After : List Order :=
  [{ d2s1 with opn := 0, paid := 15000, received := 1, fills := 1 }, d2s2,
   { d2b with opn := 0, paid := 2, received := 16000, fills := 1 }]

theorem d2_wf : ∀ o ∈ d2Orders, Wf o := by decide

/-- **Base coin is NOT conserved by the code as it is**: on the witness, `Match` fills the buyer for 16000 base coin while the
sellers together hand over 15000 (the pro-rata shares 8000 + 8000 are each worth 0 quote units, the re-run on the first seller
alone can absorb only 15000 and the remaining 1000 are silently dropped, match.go:385-390). -/
theorem base_conserved_counterexample :
    matchBook (newBook d2Orders) 90000000000000 =
      .ok ⟨[⟨200000000000000, [{ d2b with opn := 0, paid := 2, received := 16000, fills := 1 }]⟩],
           [⟨100000000000000, [{ d2s1 with opn := 0, paid := 15000, received := 1, fills := 1 }, d2s2]⟩]⟩
          100000000000000 1 ∧
    buyReceived d2Orders d2After = 16000 ∧ sellPaid d2Orders d2After = 15000 ∧
    monBaseConserved d2Orders d2After = false ∧
    lossless 3 (sortOrders [d2s1, d2s2]) 16000 100000000000000 = false := by
  decide +kernel

/-- on the D2 witness the ghost of `base_conserved_partial_match` is false (the theorem does not apply there) -/
example : matchLossless (newBook d2Orders) 90000000000000 = false := by decide +kernel

/-! ## non-vacuity: the hypotheses are satisfiable on non-trivial books -/

def exBuy1 : Order := { id := 0, kind := 0, oid := 7, dir := .buy, price := 1100000000000000000, amount := 10000,
                        offer := 11000, opn := 10000, paid := 0, received := 0, batchId := 2 }
def exBuy2 : Order := { id := 1, kind := 0, oid := 8, dir := .buy, price := 1100000000000000000, amount := 5000,
                        offer := 5500, opn := 5000, paid := 0, received := 0, batchId := 0 }
def exSell1 : Order := { id := 2, kind := 1, oid := 1, dir := .sell, price := 900000000000000000, amount := 12000,
                         offer := 12000, opn := 12000, paid := 0, received := 0, batchId := 0 }
def exOrders : List Order := [exBuy1, exBuy2, exSell1]

theorem ex_wf : ∀ o ∈ exOrders, Wf o := by decide

/-- a real match happens on the example (so the theorems above are not about `noMatch` only): all three orders are
filled, the older batch first, base coin 12000 = 12000, dust 0 -/
def exResult : Option (Int × Int × List (Nat × Int × Int × Int)) :=
  match matchBook (newBook exOrders) 1000000000000000000 with
  | .ok b' mp q => some (mp, q, b'.orders.map fun (o : Order) => (o.id, o.opn, o.paid, o.received))
  | _ => none

example : exResult =
    some (1000000000000000000, 0, [(0, 0, 10000, 10000), (1, 3000, 2000, 2000), (2, 0, 12000, 12000)]) := by rfl

theorem ex_lossless : (exOrders.map (·.id)).Nodup ∧ matchLossless (newBook exOrders) 1000000000000000000 = true := by
  decide +kernel

/-- the hypotheses of `base_conserved_partial_match` hold on the example (distinct ids, nothing lost) -/
example : (exOrders.map (·.id)).Nodup ∧ matchLossless (newBook exOrders) 1000000000000000000 = true := ex_lossless

example : (fill_within_limits exOrders ex_wf 1000000000000000000 (by decide)).1 =
    (fill_within_limits exOrders ex_wf 1000000000000000000 (by decide)).1 := rfl

/-- `quote_dust_bounds` on a non-trivial round: buyers 7 + 5 at price 0.3, sellers 12: pay ⌈2.1⌉+⌈1.5⌉ = 5, receive ⌊3.6⌋ = 3 -/
example : roundDust 300000000000000000 [7, 5] [12] = 2 ∧ sumInt [7, 5] = sumInt [12] := by decide +kernel

/-- `base_conserved_partial`'s hypothesis holds on a partially filled group of sells whose shares are worth something -/
example : lossless 3 [{ d2s1 with amount := 30000, opn := 30000, offer := 30000 }, { d2s2 with amount := 30000, opn := 30000, offer := 30000 }]
    31000 100000000000000 = true := by decide +kernel

/-! ## the dust clause on every result of the engine (composed over all ticks, groups and rounds)

`pre = (newBook os).orders`, `post = b'.orders`: the orders of the book before and after the call, in book order; `buyPaid`,
`sellReceived`, `buyReceived`, `sellPaid`, `fillCount`, `baseLost = buyReceived − sellPaid` are the sums the driver computes on
the REAL result (`Model/AmmMatch.lean`, `Model/AmmDust.lean`); `priceLo` / `priceHi` = lowest sell / highest buy limit price. -/

/-- **quote_dust_bounds for every result of `OrderBook.Match`** (single-price step at the last price + the two-sided loop,
ticks touched several times, any batch / priority mix).  The returned `quoteCoinDiff` is exactly what the buyers paid minus
what the sellers received; it is `≥ 0`; the buyers never receive less base coin than the sellers pay (`0 ≤ L`); and
`lo·L ≤ quoteCoinDiff·10¹⁸ ≤ hi·L + #fills·(10¹⁸ − 1)`: the dust is the value of the base coin the sell side failed to deliver
(defect D2; priced between the lowest sell and the highest buy limit of the book) plus LESS THAN ONE quote unit per individual
fill.  Where nothing is lost (`matchLossless`, decidable from the input; the buy side never loses) this is the property's clause
literally: `0 ≤ dust < #fills` (`dust = 0` without fills).  Hypotheses: well-formed orders with distinct ids, positive last
price — nothing else.  The first conjunct is literally what the driver evaluates on every REAL `Match` result (monitor
`quote_dust`). -/
theorem quote_dust_bounds_match (os : List Order) (hw : ∀ o ∈ os, Wf o) (hids : (os.map (·.id)).Nodup)
    (lp : Int) (hlp : 0 < lp) (b' : Book) (mp q : Int) (h : matchBook (newBook os) lp = .ok b' mp q) :
    monQuoteDustAt (newBook os).orders b'.orders q (priceLo (newBook os).orders) (priceHi (newBook os).orders) = true ∧
    (matchLossless (newBook os) lp = true →
      baseLost (newBook os).orders b'.orders = 0 ∧ monDustBelowFills (newBook os).orders b'.orders q = true) :=
  matchBook_monDust (newBook os) lp hlp (newBook_ok os hw) (newBook_ids os hids) (newBook_nonempty os) b' mp q h

/-- the same for `MatchAtSinglePrice` (a pair's first batch), exact in the price: `p·L ≤ quoteCoinDiff·10¹⁸ ≤ p·L + #fills·(10¹⁸−1)` -/
theorem quote_dust_bounds_single (os : List Order) (hw : ∀ o ∈ os, Wf o) (hnd : os.Nodup) (p : Int) (hp : 0 < p)
    (b' : Book) (q : Int) (h : matchAtSinglePrice (newBook os) p = .ok b' q) :
    monQuoteDustAt (newBook os).orders b'.orders q p p = true ∧
    (∀ x, findMatchableAmount (newBook os) p = some x → ticksLossless (newBook os).sells x p = true →
      baseLost (newBook os).orders b'.orders = 0 ∧ monDustBelowFills (newBook os).orders b'.orders q = true) :=
  matchAtSinglePrice_monDust (newBook os) p hp (newBook_ok os hw) (newBook_nodup os hnd) b' q h

/-! ### the clause as written (`dust < #fills` unconditionally) is FALSE of the code: a consequence of defect D2

sells 1000 @ 0.1 and 5 × 10 @ 0.1 (one batch), a buy of 1045 @ 0.2, last price 0.09.  The loop trades 1045 at 0.1: the buyer is
filled for 1045 and pays ⌈104.5⌉ = 105.  The sell tick gets 1045 of its 1050 to distribute: pro-rata 995 + 5×9, the remainder 5
tops the big seller up to 1000; the five shares of 9 are worth ⌊0.9⌋ = 0, so the function re-runs on the big seller alone with
the same 1045, fills him for 1000 (he receives 100) and drops 45.  `quoteCoinDiff` = 5 with 2 individual fills. -/

def dustS : Order := { id := 0, kind := 2, oid := 0, dir := .sell, price := 100000000000000000, amount := 1000,
                       offer := 1000, opn := 1000, paid := 0, received := 0, batchId := 0 }
def dustSm (i : Nat) : Order := { dustS with id := i, amount := 10, offer := 10, opn := 10 }
def dustB : Order := { id := 6, kind := 2, oid := 0, dir := .buy, price := 200000000000000000, amount := 1045,
                       offer := 209, opn := 1045, paid := 0, received := 0, batchId := 0 }
def dustOrders : List Order := [dustS, dustSm 1, dustSm 2, dustSm 3, dustSm 4, dustSm 5, dustB]

theorem dust_wf : ∀ o ∈ dustOrders, Wf o := by decide

/-- **`dust < #fills` is NOT true of the code as it is** (only of results that conserve base coin): on the witness `Match`
returns `quoteCoinDiff = 5` after 2 individual fills; 45 base coin were dropped (D2), worth 4.5 quote units, which the buyer
paid and nobody received.  The strongest true form (`quote_dust_bounds_match`) holds on the witness. -/
theorem quote_dust_counterexample :
    ∃ b', matchBook (newBook dustOrders) 90000000000000000 = .ok b' 100000000000000000 5 ∧
      fillCount (newBook dustOrders).orders b'.orders = 2 ∧ baseLost (newBook dustOrders).orders b'.orders = 45 ∧
      monDustBelowFills (newBook dustOrders).orders b'.orders 5 = false ∧
      monQuoteDustAt (newBook dustOrders).orders b'.orders 5 (priceLo (newBook dustOrders).orders)
        (priceHi (newBook dustOrders).orders) = true ∧
      matchLossless (newBook dustOrders) 90000000000000000 = false := by
  refine ⟨⟨[⟨200000000000000000, [{ dustB with opn := 0, paid := 105, received := 1045, fills := 1 }]⟩],
           [⟨100000000000000000, [{ dustS with opn := 0, paid := 1000, received := 100, fills := 1 },
              dustSm 1, dustSm 2, dustSm 3, dustSm 4, dustSm 5]⟩]⟩, ?_, ?_, ?_, ?_, ?_, ?_⟩ <;> decide +kernel

/-- non-vacuity of `quote_dust_bounds_match`: its hypotheses hold on the witness (and on `exOrders`, where nothing is lost) -/
example : (∀ o ∈ dustOrders, Wf o) ∧ (dustOrders.map (·.id)).Nodup ∧
    (exOrders.map (·.id)).Nodup ∧ matchLossless (newBook exOrders) 1000000000000000000 = true :=
  ⟨dust_wf, by decide, ex_lossless⟩

/-- non-vacuity of `quote_dust_bounds_single`: the D2 single-price book (three user orders of one batch) really matches at 0.0001 -/
example : d2Orders.Nodup ∧ (match matchAtSinglePrice (newBook d2Orders) 100000000000000 with | .ok _ _ => true | _ => false) = true :=
  by decide +kernel

/-! ## FindMatchPrice (the price of a pair's first batch)

`T prec k` is the tick of index `k` at precision `prec` (`TickFromIndex`), `hiIdx prec` the index of `HighestTick`. -/

/-- the order prices are ticks of precision `prec` (what `ValidateMsgLimitOrder` / `PriceLimits` establish) -/
def OnGrid (os : List Order) (prec : Nat) : Prop :=
  ∀ o ∈ os, ∃ k, k ≤ hiIdx prec ∧ o.price = ((T prec k : Nat) : Int)

/-- **a match price found by `FindMatchPrice` lies between the lowest sell and the highest buy price of the book
(inclusive), is positive and on the tick grid** -/
theorem found_price_in_spread (os : List Order) (prec : Nat) (hprec : 10 ^ prec < 2 ^ 300 - 1) (hw : ∀ o ∈ os, Wf o)
    (hg : OnGrid os prec) (p : Int) (h : findMatchPrice (makeView (newBook os)) prec = some p) :
    ∃ ls hb, (makeView (newBook os)).lowestSellPrice = some ls ∧ (makeView (newBook os)).highestBuyPrice = some hb ∧
      ls ≤ p ∧ p ≤ hb ∧ 0 < p ∧ isTick p prec = true ∧ monMatchPrice (makeView (newBook os)) prec p = true :=
  findMatchPrice_in_spread _ prec hprec (makeView_ok os prec hw hg) p h

/-- **found ⇔ the book crosses** (there is a buy and a sell, and the highest buy price is not below the lowest sell price) -/
theorem found_price_iff_crossing (os : List Order) (prec : Nat) (hprec : 10 ^ prec < 2 ^ 300 - 1)
    (hw : ∀ o ∈ os, Wf o) (hg : OnGrid os prec) :
    (findMatchPrice (makeView (newBook os)) prec).isSome = monCrossing (makeView (newBook os)) :=
  findMatchPrice_isSome _ prec hprec (makeView_ok os prec hw hg)

/-- **at a found match price both sides of the book offer a positive amount** (amounts as the order-book view counts them:
every order's matchable amount at its OWN price) -/
theorem found_price_amounts_positive (os : List Order) (prec : Nat) (hprec : 10 ^ prec < 2 ^ 300 - 1)
    (hw : ∀ o ∈ os, Wf o) (hg : OnGrid os prec) (p : Int) (h : findMatchPrice (makeView (newBook os)) prec = some p) :
    0 < (makeView (newBook os)).buyAmountOver p ∧ 0 < (makeView (newBook os)).sellAmountUnder p := by
  obtain ⟨ls, hb, hls, hhb, h1, h2, _⟩ := found_price_in_spread os prec hprec hw hg p h
  have hv := makeView_ok os prec hw hg
  exact ⟨(View.buy_pos_iff hv hb hhb p).mpr h2, (View.sell_pos_iff hv ls hls p).mpr h1⟩

/-- …but NOT necessarily a positive `MatchableAmount` at the match price itself: a buy of 1 @ 2.0 and a sell of 3 @ 0.4
cross, `FindMatchPrice` answers 0.4, and at 0.4 the buyer's one unit is worth ⌊0.4⌋ = 0 quote units, so `MatchableAmount`
is 0 and `MatchAtSinglePrice` matches nothing (harmless: the batch simply does not trade). -/
theorem found_price_unmatchable_counterexample :
    let b : Order := { id := 0, kind := 2, oid := 0, dir := .buy, price := 2000000000000000000, amount := 1, offer := 2,
                       opn := 1, paid := 0, received := 0, batchId := 0 }
    let s : Order := { id := 1, kind := 2, oid := 0, dir := .sell, price := 400000000000000000, amount := 3, offer := 3,
                       opn := 3, paid := 0, received := 0, batchId := 0 }
    findMatchPrice (makeView (newBook [b, s])) 1 = some 400000000000000000 ∧
    totalMatchable [b] 400000000000000000 = 0 ∧ matchFirstBatch (newBook [b, s]) 1 = .noMatch := by
  decide +kernel

/-- the keeper's first batch (`FindMatchPrice` then `MatchAtSinglePrice` at the price the MODEL finds): never a panic; every
order of the result is an input order with the facts of `Delta` — **limit_respected** (`Delta.buy_price`, `Delta.sell_price`,
`Delta.wf`, `Delta.positive`) not for an arbitrary fed price but for the price `FindMatchPrice` returns -/
theorem limit_respected_first_batch (os : List Order) (prec : Nat) (hprec : 10 ^ prec < 2 ^ 300 - 1)
    (hw : ∀ o ∈ os, Wf o) (hg : OnGrid os prec) :
    matchFirstBatch (newBook os) prec = .noMatch ∨
    ∃ b' q, matchFirstBatch (newBook os) prec = .ok b' q ∧ ∀ o' ∈ b'.orders, ∃ o ∈ os, Delta o o' := by
  unfold matchFirstBatch
  cases hf : findMatchPrice (makeView (newBook os)) prec with
  | none => left; rfl
  | some p =>
    obtain ⟨_, _, _, _, _, _, hp, _⟩ := found_price_in_spread os prec hprec hw hg p hf
    exact single_delta os hw p hp

/-- **price_uniform**: in the first batch every order is either untouched or filled exactly ONCE, for some amount `a > 0`
within `MatchableAmount`, at the ONE price `p` that `FindMatchPrice` returned — a buyer pays `⌈p·a⌉` and receives `a`, a seller
pays `a` and receives `⌊p·a⌋` (`fill_price_booked`), and `p` is within every filled order's limit -/
theorem price_uniform_first_batch (os : List Order) (prec : Nat) (hprec : 10 ^ prec < 2 ^ 300 - 1)
    (hw : ∀ o ∈ os, Wf o) (hg : OnGrid os prec) (b' : Book) (q : Int)
    (h : matchFirstBatch (newBook os) prec = .ok b' q) :
    ∃ p, findMatchPrice (makeView (newBook os)) prec = some p ∧
      ∀ o' ∈ b'.orders, ∃ o ∈ os, o' = o ∨ ∃ a, GoodFill o a p ∧ o' = (fillRaw o a p).1 := by
  unfold matchFirstBatch at h
  cases hf : findMatchPrice (makeView (newBook os)) prec with
  | none => rw [hf] at h; cases h
  | some p =>
    rw [hf] at h
    simp only at h
    obtain ⟨_, _, _, _, _, _, hp, _⟩ := found_price_in_spread os prec hprec hw hg p hf
    refine ⟨p, rfl, ?_⟩
    obtain ⟨_, st⟩ := matchAtSinglePrice_run (newBook os) p hp (newBook_ok os hw) b' q h
    intro o' ho'
    obtain ⟨o, ho, r⟩ := bookOrders_of_all2 (fun r => r.2) st.buys st.sells ho'
    exact ⟨o, mem_newBook os o ho, r⟩

/-- non-vacuity: the example book is on the grid of precision 1 (0.9 and 1.1 are the ticks of index 1520 and 1531), crosses, and its first
batch trades at the tick 1.1 (the demand 15000 exceeds the supply 12000 up to there) -/
example : findMatchPrice (makeView (newBook exOrders)) 1 = some 1100000000000000000 ∧
    (match matchFirstBatch (newBook exOrders) 1 with | .ok _ _ => true | _ => false) = true ∧
    T 1 1520 = 900000000000000000 ∧ T 1 1531 = 1100000000000000000 := by
  decide +kernel

/-! ## the pool side of a batch (basic pools)

`Model/AmmPool.lean`: `rx` quote reserve, `ry` base reserve; raw prices are ×10^18 (`Dec.P`). -/

/-- **`BasicPool.BuyAmountOver`**: the amount `a` a pool offers to buy at price `t` costs at most its quote reserve, and
`t·(ry + a) ≤ rx`, i.e. the pool pays at most `rx / (ry + a)` — on its constant-product curve the trade does not decrease
`rx·ry` (before the buyer-side rounding-up of the payment, which costs the pool less than one quote unit) -/
theorem pool_buy_amount_on_curve (pl : BPool) (t a : Int) (hry : 0 ≤ pl.ry) (ht : minPoolPrice ≤ t)
    (h : pl.buyAmountOver t = some a) (ha : 0 < a) :
    quoteCeil t a ≤ pl.rx ∧ t * (pl.ry + a) ≤ pl.rx * Dec.P :=
  (buyAmountOver_spec pl t a hry ht h).2 ha

/-- **`BasicPool.SellAmountUnder`**: the amount `a` offered for sale at `t` is covered by the base reserve and `rx ≤ t·(ry − a)`,
i.e. the pool receives at least `rx / (ry − a)` per unit.  For prices up to 10^18 (raw `10³⁶ = Dec.PP`), where what `QuoRoundUp`
loses (less than `t·10⁻³⁶`) stays below one raw unit. -/
theorem pool_sell_amount_on_curve (pl : BPool) (t a : Int) (hrx : 0 ≤ pl.rx) (ht0 : 0 < t) (ht : t ≤ Dec.PP)
    (h : pl.sellAmountUnder t = some a) (ha : 0 < a) :
    a ≤ pl.ry ∧ pl.rx * Dec.P ≤ t * (pl.ry - a) :=
  (sellAmountUnder_spec pl t a hrx ht0 ht h).2 ha

/-- **`PoolBuyOrders`**: every order the tick loop places is (replayed on the running reserves, `monPoolBuys`) covered by the
quote reserve and not above the curve; the only other order is the one `BuyAmountTo` contributes at the upper price limit when
the pool price is above it (approximate square roots: monitored, not proved).  Hence the pool never offers more quote coin
than it holds. -/
theorem pool_buy_orders_within_reserves_and_curve (pl : BPool) (lowest highest : Int) (prec : Nat) (hry : 0 ≤ pl.ry)
    (hlow : minPoolPrice ≤ lowest) : BuysOk pl highest (poolBuyOrders pl lowest highest prec) :=
  poolBuyOrders_ok pl lowest highest prec hry hlow

/-- **`PoolSellOrders`** (price limits up to 10^18, as for `pool_sell_amount_on_curve`): every order the tick loop places is
(replayed on the running reserves, `monPoolSells`) covered by the base reserve and not below the curve; the only other order is the
one `SellAmountTo` contributes at the lower price limit when the pool price is below it, and that one too is covered by the base
reserve.  Hence the pool never offers more base coin than it holds. -/
theorem pool_sell_orders_within_reserves_and_curve (pl : BPool) (lowest highest : Int) (prec : Nat) (hrx : 0 ≤ pl.rx)
    (hry : 0 ≤ pl.ry) (hhigh : highest ≤ Dec.PP) : SellsOk pl lowest (poolSellOrders pl lowest highest prec) :=
  poolSellOrders_ok pl lowest highest prec hrx hry hhigh

/-- the totals: quote coin offered by the buy orders ≤ `rx`, base coin offered by the sell orders ≤ `ry` (for lists that satisfy
the replayed conditions) -/
theorem pool_offers_within_reserves (pl : BPool) (bl sl : List (Int × Int)) (hb : monPoolBuys pl bl = true)
    (hs : monPoolSells pl sl = true) :
    (bl ≠ [] → sumInt (bl.map fun pa => quoteCeil pa.1 pa.2) ≤ pl.rx) ∧ (sl ≠ [] → sumInt (sl.map fun pa => pa.2) ≤ pl.ry) :=
  ⟨fun hne => (covered_total (·.rx) _ (fun pl pa => ⟨pl.rx - quoteCeil pa.1 pa.2, pl.ry + pa.2⟩) monPoolBuys (fun s x rest h => by
      unfold monPoolBuys at h
      simp only [Bool.and_eq_true, decide_eq_true_eq] at h
      exact ⟨h.1.1.2, rfl, h.2⟩) pl bl hb).resolve_right hne,
   fun hne => (covered_total (·.ry) _ (fun pl pa => ⟨pl.rx + quoteFloor pa.1 pa.2, pl.ry - pa.2⟩) monPoolSells (fun s x rest h => by
      unfold monPoolSells at h
      simp only [Bool.and_eq_true, decide_eq_true_eq] at h
      exact ⟨h.1.1.2, rfl, h.2⟩) pl sl hs).resolve_right hne⟩

/-- non-vacuity: a pool 10^6 : 10^6 (price 1.0) inside the limits 0.9 … 1.1 at precision 2 places 37 buy orders starting at 0.999
and they satisfy the replayed conditions -/
example : (poolBuyOrders ⟨1000000, 1000000⟩ 900000000000000000 1100000000000000000 2).length = 37 ∧
    monPoolBuys ⟨1000000, 1000000⟩ (poolBuyOrders ⟨1000000, 1000000⟩ 900000000000000000 1100000000000000000 2) = true ∧
    monPoolSells ⟨1000000, 1000000⟩ (poolSellOrders ⟨1000000, 1000000⟩ 900000000000000000 1100000000000000000 2) = true := by
  decide +kernel

/-! ## the pool side of a batch (ranged pools)

`Model/AmmRanged.lean`: `DeriveTranslation`, the `RangedPool` curve functions and `PoolBuyOrders` / `PoolSellOrders` over a ranged
pool, bit for bit.  `X = xComp = rx + transX`, `Y = yComp = ry + transY` are the VIRTUAL reserves (Dec raws, ×10^18 = `Dec.P`); the
pool's curve is `X·Y = const`; `rx`, `ry` are the REAL reserves.  The translation comes out of approximate square roots; every
statement below holds for ANY translation with non-negative virtual reserves (what the monitor checks on every real pool). -/

/-- **`RangedPool.BuyAmountOver`**: the amount `a` a ranged pool offers to buy at price `t` costs at most its REAL quote reserve,
and `t·(Y + a) ≤ X` up to half a unit of the 18th decimal (`Dec.Mul` rounds): the pool pays at most `X/(Y + a)` — on its virtual
constant-product curve -/
theorem ranged_buy_amount_on_curve (pl : RPool) (t a : Int) (hrx : 0 ≤ pl.rx) (hY : 0 ≤ pl.yComp) (ht0 : 0 < t)
    (h : pl.buyAmountOver t = some a) (ha : 0 < a) :
    quoteCeil t a ≤ pl.rx ∧ t * (pl.yComp + a * Dec.P) ≤ pl.xComp * Dec.P + Dec.half :=
  (rBuyAmountOver_spec pl t a hrx hY ht0 h).2 ha

/-- **`RangedPool.SellAmountUnder`**: the amount `a` offered for sale at `t` is covered by the REAL base reserve, and
`X/t ≤ Y − a` up to `t·10⁻³⁶` (`QuoRoundUp` rounds twice): the pool receives at least `X/(Y − a)` per unit; every price -/
theorem ranged_sell_amount_on_curve (pl : RPool) (t a : Int) (hX : 0 ≤ pl.xComp) (hY : 0 ≤ pl.yComp)
    (h : pl.sellAmountUnder t = some a) (ha : 0 < a) :
    0 < t ∧ a ≤ pl.ry ∧ 0 ≤ pl.yComp - a * Dec.P ∧
    pl.xComp * Dec.PP ≤ t * (pl.yComp - a * Dec.P) * Dec.P + t :=
  (rSellAmountUnder_spec pl t a hX hY h).2 ha

/-- **no value extraction, buy side**: an order on the curve (`t·(Y + a) ≤ X + ½·10⁻¹⁸`), fully filled — the pool pays `c = ⌈t·a⌉`
and receives `a` — leaves the virtual product at least `X·Y − (Y + a)·1 quote unit − a·½·10⁻¹⁸`: nothing but the rounding of the
payment to a whole quote unit can lower it -/
theorem ranged_buy_keeps_product (X Y t a : Int) (hY : 0 ≤ Y) (ha : 0 ≤ a) (ht : 0 ≤ t)
    (hc : t * (Y + a * Dec.P) ≤ X * Dec.P + Dec.half) :
    X * Y - Dec.P * (Y + a * Dec.P) - a * Dec.half ≤ (X - quoteCeil t a * Dec.P) * (Y + a * Dec.P) := by
  have hP := Dec.P_pos
  have hq : 0 ≤ Y + a * Dec.P := by have := Int.mul_nonneg ha (Int.le_of_lt hP); omega
  have h0 := quoteCeil_mul_le t a
  have h1 : quoteCeil t a * Dec.P * (Y + a * Dec.P) ≤ (t * a + (Dec.P - 1)) * (Y + a * Dec.P) :=
    Int.mul_le_mul_of_nonneg_right h0 hq
  have h2 : a * (t * (Y + a * Dec.P)) ≤ a * (X * Dec.P + Dec.half) := Int.mul_le_mul_of_nonneg_left hc ha
  linarith [h1, h2]

/-- **no value extraction, sell side**: the pool gives `a` and receives `r = ⌊t·a⌋`; with `Y' = Y − a`:
`X'·Y' ≥ X·Y − Y'·1 quote unit − a·t·10⁻³⁶` -/
theorem ranged_sell_keeps_product (X Y t a : Int) (ha : 0 ≤ a) (ht : 0 ≤ t) (hY' : 0 ≤ Y - a * Dec.P)
    (hc : X * Dec.PP ≤ t * (Y - a * Dec.P) * Dec.P + t) :
    Dec.P * (X * Y) - a * t - Dec.PP * (Y - a * Dec.P) ≤ Dec.P * ((X + quoteFloor t a * Dec.P) * (Y - a * Dec.P)) := by
  have hP := Dec.P_pos
  have h0 := le_quoteFloor_mul t a (Int.mul_nonneg ht ha)
  have h1 : (t * a - (Dec.P - 1)) * (Y - a * Dec.P) ≤ quoteFloor t a * Dec.P * (Y - a * Dec.P) :=
    Int.mul_le_mul_of_nonneg_right (by omega) hY'
  have h2 : a * (X * Dec.PP) ≤ a * (t * (Y - a * Dec.P) * Dec.P + t) := Int.mul_le_mul_of_nonneg_left hc ha
  have hPP : Dec.PP = Dec.P * Dec.P := rfl
  rw [hPP] at h2 ⊢
  linarith [Int.mul_le_mul_of_nonneg_left h1 (Int.le_of_lt hP), h2, Int.mul_nonneg (Int.le_of_lt hP) hY']

/-- **`PoolBuyOrders` over a ranged pool** (positive lower price limit): every order the tick loop places is — replayed on the
running reserves, `monRPoolBuys` — covered by the REAL quote reserve and not above the virtual curve, given that the state the loop
starts from (the pool itself, or the pool after the one `BuyAmountTo` order at the upper limit, translation derived again) has
non-negative real quote and virtual base reserve -/
theorem ranged_pool_buy_orders_within_reserves_and_curve (pl : RPool) (lowest highest : Int) (prec : Nat) (hlow : 0 < lowest) :
    RBuysOk pl highest (rPoolBuyOrders pl lowest highest prec) :=
  rPoolBuyOrders_ok pl lowest highest prec hlow

/-- **`PoolSellOrders` over a ranged pool**: every order the tick loop places is — replayed on the running reserves,
`monRPoolSells` — covered by the REAL base reserve and not below the virtual curve, given that the state the loop starts from has
non-negative virtual reserves -/
theorem ranged_pool_sell_orders_within_reserves_and_curve (pl : RPool) (lowest highest : Int) (prec : Nat) :
    RSellsOk pl lowest (rPoolSellOrders pl lowest highest prec) :=
  rPoolSellOrders_ok pl lowest highest prec

/-- the one order at the price limit (`BuyAmountTo` / `SellAmountTo`, approximate square roots — not proved to be on the curve)
is at least covered by the REAL reserves -/
theorem ranged_limit_orders_covered (pl : RPool) (t a : Int) (hrx : 0 ≤ pl.rx) (hry : 0 ≤ pl.ry) (ht0 : 0 < t) :
    (pl.buyAmountTo t = some a → 0 ≤ a ∧ (0 < a → quoteCeil t a ≤ pl.rx)) ∧
    (pl.sellAmountTo t = some a → 0 ≤ a ∧ a ≤ pl.ry) :=
  ⟨fun h => rBuyAmountTo_covered pl t a hrx ht0 h, fun h => rSellAmountTo_covered pl t a hry h⟩

/-- the totals: quote coin offered by the tick-loop buy orders ≤ `rx`, base coin offered by the sell orders ≤ `ry` -/
theorem ranged_pool_offers_within_reserves (pl : RPool) (bl sl : List (Int × Int)) (hb : monRPoolBuys pl bl = true)
    (hs : monRPoolSells pl sl = true) :
    (bl ≠ [] → sumInt (bl.map fun pa => quoteCeil pa.1 pa.2) ≤ pl.rx) ∧ (sl ≠ [] → sumInt (sl.map fun pa => pa.2) ≤ pl.ry) :=
  ⟨fun hne => (covered_total (·.rx) _ (fun pl pa => { pl with rx := pl.rx - quoteCeil pa.1 pa.2, ry := pl.ry + pa.2 }) monRPoolBuys
      (fun s x rest h => by
        unfold monRPoolBuys at h
        simp only [Bool.and_eq_true, decide_eq_true_eq] at h
        exact ⟨h.1.1.2, rfl, h.2⟩) pl bl hb).resolve_right hne,
   fun hne => (covered_total (·.ry) _ (fun pl pa => { pl with rx := pl.rx + quoteFloor pa.1 pa.2, ry := pl.ry - pa.2 }) monRPoolSells
      (fun s x rest h => by
        unfold monRPoolSells at h
        simp only [Bool.and_eq_true, decide_eq_true_eq] at h
        exact ⟨h.1.1.2, rfl, h.2⟩) pl sl hs).resolve_right hne⟩

/-- non-vacuity: the ranged pool 10^6 : 10^6 on [0.9, 1.1] (`NewRangedPool` derives the translation ≈ 1.94·10^7 : 1.95·10^7, price
0.9952…) places 47 buy and 15 sell orders inside the limits 0.9 … 1.1 at precision 2, its virtual reserves are non-negative and
the orders pass the replayed conditions -/
def exRanged : RPool := ⟨1000000, 1000000, 900000000000000000, 1100000000000000000,
  19388616655548310034032496, 19486292924390644719857716⟩

example : RPool.new 1000000 1000000 900000000000000000 1100000000000000000 = some exRanged := by
  decide +kernel

example : exRanged.price = some 995232115971257888 ∧ 0 ≤ exRanged.xComp ∧ 0 ≤ exRanged.yComp ∧
    (rPoolBuyOrders exRanged 900000000000000000 1100000000000000000 2).length = 47 ∧
    (rPoolSellOrders exRanged 900000000000000000 1100000000000000000 2).length = 15 ∧
    monRPoolBuys exRanged (rPoolBuyOrders exRanged 900000000000000000 1100000000000000000 2) = true ∧
    monRPoolSells exRanged (rPoolSellOrders exRanged 900000000000000000 1100000000000000000 2) = true := by
  decide +kernel

example : exRanged.buyAmountOver 995000000000000000 = some 4779 ∧ exRanged.sellAmountUnder 996000000000000000 ≠ some 0 := by
  decide +kernel

/-! ## the keeper's first batch of a pair WITH pools (`Model/AmmMultiView.lean`)

`FindMatchPrice` walks `MultipleOrderViews{book view, pool curves…}`; each pool then places one buy and one sell order at the found
price — `BuyAmountOver(p)` / `SellAmountUnder(p)`, the amounts of `pool_buy_amount_on_curve` / `ranged_buy_amount_on_curve` … — and
the book is matched at that single price. -/

theorem poolOrdersAt_wf (pools : List (Nat × PoolV)) (p : Int) (hp : 0 < p) (firstId : Nat) :
    ∀ o ∈ poolOrdersAt pools p firstId, Wf o ∧ o.price = p ∧ o.kind = 1 := by
  induction pools generalizing firstId with
  | nil => intro o ho; simp [poolOrdersAt] at ho
  | cons x rest ih =>
    intro o ho
    unfold poolOrdersAt at ho
    simp only at ho
    -- the pool's buy order, its sell order, the orders of the other pools
    simp only [List.mem_append, List.mem_ite_nil_right, List.mem_singleton] at ho
    rcases ho with (⟨hc, rfl⟩ | ⟨hc, rfl⟩) | h1
    · exact ⟨Wf.fresh hp (Int.le_of_lt hc) rfl rfl rfl, rfl, rfl⟩
    · exact ⟨Wf.fresh hp (Int.le_of_lt hc) rfl rfl rfl, rfl, rfl⟩
    · exact ih _ o h1

/-- **limits respected in a first batch with pools**: at any positive match price (in particular the one `FindMatchPrice` returns
for the multiple view) the book of the user orders plus the pools' orders at that price is matched without a panic, and every
order of the result — user or pool — is an input order after allowed fills (`Delta`: within offer and amount, at a price within
its limit, a matched order receives something) -/
theorem limit_respected_first_batch_pools (os : List Order) (hw : ∀ o ∈ os, Wf o) (pools : List (Nat × PoolV))
    (prec firstId : Nat) (p : Int) (hp : 0 < p)
    (hf : (matchFirstBatchPools os pools prec firstId).1 = some p) :
    (matchFirstBatchPools os pools prec firstId).2.1 = poolOrdersAt pools p firstId ∧
    ((matchFirstBatchPools os pools prec firstId).2.2 = .noMatch ∨
     ∃ b' q, (matchFirstBatchPools os pools prec firstId).2.2 = .ok b' q ∧
       ∀ o' ∈ b'.orders, ∃ o ∈ os ++ poolOrdersAt pools p firstId, Delta o o') := by
  unfold matchFirstBatchPools at hf ⊢
  simp only at hf ⊢
  cases hm : findMatchPriceM ⟨makeView (newBook os), pools.map (·.2)⟩ prec with
  | none => rw [hm] at hf; cases hf
  | some p' =>
    rw [hm] at hf
    simp only at hf ⊢
    cases hf
    refine ⟨rfl, ?_⟩
    have hfold : (poolOrdersAt pools p firstId).foldl addOrder (newBook os) = newBook (os ++ poolOrdersAt pools p firstId) := by
      unfold newBook; rw [List.foldl_append]
    rw [hfold]
    apply single_delta _ _ p hp
    intro o ho
    rcases List.mem_append.mp ho with h | h
    · exact hw o h
    · exact (poolOrdersAt_wf pools p hp firstId o h).1

/-- non-vacuity: a buy of 1000 @ 1.05, a sell of 500 @ 0.95 and the basic pool 10⁶ : 10⁶ (price 1.0) at precision 2: the multiple
view finds the price 1.01, the pool places a sell order of 9900 there, the buyer gets 500 from the seller and 500 from the pool -/
example :
    let b : Order := { id := 0, kind := 0, oid := 1, dir := .buy, price := 1050000000000000000, amount := 1000, offer := 1050,
                       opn := 1000, paid := 0, received := 0, batchId := 1 }
    let s : Order := { id := 1, kind := 0, oid := 2, dir := .sell, price := 950000000000000000, amount := 500, offer := 500,
                       opn := 500, paid := 0, received := 0, batchId := 1 }
    let r := matchFirstBatchPools [b, s] [(1, PoolV.basic ⟨1000000, 1000000⟩)] 2 2
    r.1 = some 1010000000000000000 ∧ (r.2.1.map fun (o : Order) => (o.id, o.amount)) = [(2, 9900)] ∧
    (match r.2.2 with
     | .ok b' q => some (q, b'.orders.map fun (o : Order) => (o.id, o.opn, o.paid, o.received))
     | _ => none) = some (0, [(0, 0, 1010, 1000), (1, 0, 500, 505), (2, 9400, 500, 505)]) := by
  decide +kernel

/-! ## stored orders over several batches (the keeper's glue around the matcher)

`Model/AmmKeeper.lean`: `NewUserOrder` (which amounts of a stored order the matcher sees), the matcher as `keeper.Match` calls it,
`ApplyMatchResult` (write-back), expiry, pruning; one pair without pools. `PlaceOk`: what `ValidateMsgLimitOrder` lets through
(non-negative amount; the price fitted to the grid is a positive tick). -/

/-- **the amount offered to the matcher never exceeds what is still open** (and the amm order is well-formed): the fact the
conversion `NewUserOrder` has to establish in every batch — for a buy `min(OpenAmount, RemainingOfferCoin / Price)`, for a sell
`OpenAmount` -/
theorem offered_amount_within_open (prec : Nat) (so : SOrder) (h : SInv prec so) :
    Wf (newUserOrder so) ∧ (newUserOrder so).amount ≤ so.openAmt ∧ (newUserOrder so).offer = so.remaining :=
  ⟨newUserOrder_wf h, (newUserOrder_fields so).2.2.2.2.2.2.2.2, (newUserOrder_fields so).2.2.2.1⟩

/-- **no stored order is ever filled beyond its amount — across batches.** For every run of any number of batches from the
empty pair (limit orders placed in every block, then convert all live orders, match with the modelled matcher, write back,
expire, prune), every stored order has `0 ≤ OpenAmount ≤ Amount`, `0 ≤ RemainingOfferCoin ≤ OfferCoin`; a buy has received
exactly `Amount − OpenAmount ≤ Amount` base coin; a sell has paid exactly `Amount − OpenAmount` base coin; and over its whole life
a buyer paid at most `limit × filled` plus less than one quote unit per fill, a seller received at least `limit × filled` minus
less than one quote unit per fill. -/
theorem order_within_amount (prec : Nat) (hprec : 10 ^ prec < 2 ^ 300 - 1) (bs : List Batch)
    (hok : ∀ b ∈ bs, ∀ x ∈ b.placed, PlaceOk prec x.1 x.2.1 x.2.2.1) :
    ∀ so ∈ (runBatches KState.init prec bs).orders,
      0 ≤ so.openAmt ∧ so.openAmt ≤ so.amount ∧ 0 ≤ so.remaining ∧ so.remaining ≤ so.offer ∧
      (so.dir = .buy → so.received = so.amount - so.openAmt ∧ so.received ≤ so.amount) ∧
      (so.dir = .sell → so.offer - so.remaining = so.amount - so.openAmt) ∧
      monOrderWithinAmount so = true ∧ monOrderLimit so = true := by
  intro so hso
  have h := (runBatches_inv prec hprec KState.init bs (KInv.init prec) hok).inv so hso
  refine ⟨h.open_nonneg, h.open_le, h.rem_nonneg, h.rem_le, ?_, fun hs => (h.sell_paid hs).1, h.monitors.1, h.monitors.2⟩
  intro hb
  have := h.buy_recv hb
  have := h.open_nonneg
  exact ⟨by assumption, by omega⟩

/-- the same at the moment the harness looks: right after a block's `EndBlocker` (finished orders not yet pruned), after any
earlier history -/
theorem order_within_amount_after_batch (prec : Nat) (hprec : 10 ^ prec < 2 ^ 300 - 1) (bs : List Batch) (b : Batch)
    (hok : ∀ b ∈ bs, ∀ x ∈ b.placed, PlaceOk prec x.1 x.2.1 x.2.2.1) (hb : ∀ x ∈ b.placed, PlaceOk prec x.1 x.2.1 x.2.2.1) :
    ∀ so ∈ (batchStep (placeAll (runBatches KState.init prec bs) prec b.placed) prec b.now).orders,
      monOrderWithinAmount so = true ∧ monOrderLimit so = true := by
  intro so hso
  have h0 := runBatches_inv prec hprec KState.init bs (KInv.init prec) hok
  exact ((batchStep_inv prec hprec _ b.now (placeAll_inv prec _ b.placed h0 hb)).inv so hso).monitors

/-- one batch from ANY state that satisfies the invariant (`Amm.batchStep_inv`: the induction step, usable for pairs with a history) -/
theorem order_within_amount_step (prec : Nat) (hprec : 10 ^ prec < 2 ^ 300 - 1) (s : KState) (now : Int) (h : KInv prec s) :
    KInv prec (batchStep s prec now) :=
  batchStep_inv prec hprec s now h

/-- **`PlaceOk` is what `ValidateMsgLimitOrder` establishes, for BOTH directions**: a message price between `LowestTick` and
`HighestTick` (the check of swap.go:59-68 for a pair without last price), fitted to the grid — `PriceToDownTick` for a buy,
`PriceToUpTick` for a sell — is a positive tick whose index does not exceed the highest tick's -/
theorem place_ok_limit_order (prec : Nat) (hprec : 10 ^ prec < 2 ^ 300 - 1) (d : Dir) (x : Nat) (amount : Int) (ha : 0 ≤ amount)
    (h1 : lowestTick prec ≤ (x : Int)) (h2 : (x : Int) ≤ highestTick prec) : PlaceOk prec d (x : Int) amount := by
  have h1' : 10 ^ prec ≤ x := by unfold lowestTick at h1; exact_mod_cast h1
  have h2' : x ≤ T prec (hiIdx prec) := by rw [highestTick_eq prec hprec] at h2; exact_mod_cast h2
  cases d with
  | buy => exact placeOk_buy prec x amount ha h1' h2'
  | sell => exact placeOk_sell prec x amount ha h1' h2'

/-- **the price an order is stored with is never worse for the orderer than the price of the message**: a buy is fitted down, a sell
up (monitor `placed_price_within_limit` on every real stored limit order) -/
theorem placed_price_within_limit (prec x : Nat) (hx : lowestTick prec ≤ (x : Int)) :
    priceToDownTick (x : Int) prec ≤ (x : Int) ∧ (x : Int) ≤ priceToUpTick (x : Int) prec :=
  fitted_price_within_limit prec x (by unfold lowestTick at hx; exact_mod_cast hx)

/-- `order_within_amount` with the assumption on the placed orders discharged: every limit order whose message price lies between
the lowest and the highest tick and whose amount is not negative -/
theorem order_within_amount_validated (prec : Nat) (hprec : 10 ^ prec < 2 ^ 300 - 1) (bs : List Batch)
    (hok : ∀ b ∈ bs, ∀ x ∈ b.placed, 0 ≤ x.2.2.1 ∧ ∃ n : Nat, x.2.1 = (n : Int) ∧ lowestTick prec ≤ (n : Int) ∧ (n : Int) ≤ highestTick prec) :
    ∀ so ∈ (runBatches KState.init prec bs).orders,
      0 ≤ so.openAmt ∧ so.openAmt ≤ so.amount ∧ 0 ≤ so.remaining ∧ so.remaining ≤ so.offer ∧
      monOrderWithinAmount so = true ∧ monOrderLimit so = true := by
  intro so hso
  have h := order_within_amount prec hprec bs (by
    intro b hb x hx
    obtain ⟨ha, n, hn, l1, l2⟩ := hok b hb x hx
    rw [hn]
    exact place_ok_limit_order prec hprec x.1 n x.2.2.1 ha l1 l2) so hso
  exact ⟨h.1, h.2.1, h.2.2.1, h.2.2.2.1, h.2.2.2.2.2.2.1, h.2.2.2.2.2.2.2⟩

/-- non-vacuity: at precision 4 the message price 1.00005 lies strictly between the ticks 1.0000 and 1.0001: a sell order is
fitted up, a buy order down -/
example : priceToUpTick 1000050000000000000 4 = 1000100000000000000 ∧ priceToDownTick 1000050000000000000 4 = 1000000000000000000 ∧
    lowestTick 4 ≤ 1000050000000000000 ∧ (1000050000000000000 : Int) ≤ highestTick 4 := by
  decide +kernel

/-! ## market orders and MM orders at the keeper level (`Model/AmmOrders.lean`)

A market order is stored with the limit price `last price ± MaxPriceLimitRatio` fitted to the grid and the offer coin
`OfferCoinAmount(dir, price, amount)`; an MM order is a ladder of tick orders (`MMOrderTicks`), the orderer's previous ladder is
canceled first.  After placement they are ordinary stored orders. -/

/-- **the limit price of a market order is a positive tick of the grid** whenever the last price moved by the ratio lies between
the lowest and the highest tick (`x` = that product, a natural number) -/
theorem market_order_price_on_grid (prec : Nat) (hprec : 10 ^ prec < 2 ^ 300 - 1) (d : Dir) (lp ratio : Int) (x : Nat)
    (hx : (match d with | .buy => Dec.mul lp (Dec.one + ratio) | .sell => Dec.mul lp (Dec.one - ratio)) = (x : Int))
    (h1 : 10 ^ prec ≤ x) (h2 : x ≤ T prec (hiIdx prec)) : GridPrice prec (marketPrice prec d lp ratio) := by
  have := fitted_grid prec d (x : Int) (by exact_mod_cast h1) (by exact_mod_cast h2)
  unfold marketPrice
  cases d <;> simp only at hx this ⊢ <;> rw [hx] <;> exact this

/-- **the tick ladder of an MM order** (`MMOrderTicks`, at least two ticks allowed): when both ends of the price range are ticks
between the lowest and the highest tick — what `MMOrder` checks — every tick order's price is a positive tick of the grid and every
amount is `≥ 0` -/
theorem mm_order_ticks_on_grid (prec : Nat) (hprec : 10 ^ prec < 2 ^ 300 - 1) (d : Dir) (a b : Nat) (amt : Int) (n : Nat)
    (hn : 2 ≤ n) (ha : 10 ^ prec ≤ a) (hab : a ≤ b) (hb : b ≤ T prec (hiIdx prec))
    (hga : GridPrice prec (a : Int)) (hgb : GridPrice prec (b : Int)) (hamt : 0 ≤ amt) :
    ∀ pa ∈ mmOrderTicks d (a : Int) (b : Int) amt n prec, GridPrice prec pa.1 ∧ 0 ≤ pa.2 :=
  mmOrderTicks_ok prec d a b amt n hn hab hga hgb hamt

/-- **the clauses checked by the monitors `order_within_amount` and `order_limit_respected`, for limit, market and MM orders
together**: for every run of any number
of batches from the empty pair in which every accepted message is acceptable in the state it is delivered in (`RunOk`: a limit
order's fitted price, a market order's computed price and an MM order's tick prices are grid prices, amounts `≥ 0` — discharged by
`place_ok_limit_order`, `market_order_price_on_grid`, `mm_order_ticks_on_grid`), every stored order — whatever its kind, also after
an MM cancellation — has `0 ≤ OpenAmount ≤ Amount`, `0 ≤ RemainingOfferCoin ≤ OfferCoin`, and passes `monOrderWithinAmount` and
`monOrderLimit` (a buyer paid at most its price × filled + <1 per fill; a seller received at least price × filled − <1 per fill,
where for a market order "its price" is the computed limit `last ± ratio`) -/
theorem order_within_amount_all_orders (prec : Nat) (hprec : 10 ^ prec < 2 ^ 300 - 1) (ratio : Int) (maxNumTicks : Nat)
    (bs : List MBatch) (hok : RunOk prec ratio maxNumTicks MState.init bs) :
    ∀ so ∈ (runMBatches MState.init prec ratio maxNumTicks bs).k.orders,
      0 ≤ so.openAmt ∧ so.openAmt ≤ so.amount ∧ 0 ≤ so.remaining ∧ so.remaining ≤ so.offer ∧
      monOrderWithinAmount so = true ∧ monOrderLimit so = true := by
  intro so hso
  have h := (runMBatches_inv prec hprec ratio maxNumTicks MState.init bs (KInv.init prec) hok).inv so hso
  exact ⟨h.open_nonneg, h.open_le, h.rem_nonneg, h.rem_le, h.monitors.1, h.monitors.2⟩

/-- non-vacuity: last price 1.0, ratio 10 %, precision 4: a market buy is stored with the limit 1.1 (= tick 1261000), a market sell
with 0.9; an MM buy ladder 0.97 … 0.9999 of 100000 in 10 ticks puts 10000 on each tick; the run below (limit orders making the last
price 1.0, then a market buy of 1000 against a limit sell of 600 @ 1.0) fills the market order for 600 at 1.0, not at its limit -/
example :
    let P : Int := 1000000000000000000
    marketPrice 4 .buy P (P / 10) = 11 * P / 10 ∧ marketPrice 4 .sell P (P / 10) = 9 * P / 10 ∧
    (mmOrderTicks .buy (97 * P / 100) (9999 * P / 10000) 100000 10 4).length = 10 ∧
    (mmOrderTicks .buy (97 * P / 100) (9999 * P / 10000) 100000 10 4).getLast? = some (9999 * P / 10000, 10000) ∧
    ((runMBatches MState.init 4 (P / 10) 10
        [⟨[.limit .buy P 100 0, .limit .sell P 100 0], 0⟩,
         ⟨[.market .buy 1000 3600, .limit .sell P 600 5], 5⟩]).k.orders.map
      fun (o : SOrder) => (o.id, o.price, o.openAmt, o.remaining, o.received, o.status.code)) =
      [(3, 11 * P / 10, 400, 500, 600, 3)] := by
  decide +kernel

/-- …and its hypotheses are satisfiable: the market order of that run is acceptable (`MsgOk`) at the last price 1.0 -/
example : MsgOk 4 100000000000000000 10 (some 1000000000000000000) (.market .buy 1000 3600) := by
  refine ⟨by decide, ?_⟩
  intro lp hlp
  cases hlp
  exact market_order_price_on_grid 4 (by decide) .buy _ _ 1100000000000000000 (by decide) (by decide)
    (by decide +kernel)

/-- non-vacuity: last price 1.0; a buy of 1000 @ 1.1 (offer 1100) is filled
600 at 1.0 (400 open, 500 quote left — which would buy 454 at 1.1); against a later sell of 1000 @ 1.0 it takes exactly its 400
open units (completed: received 1000, 100 quote left) and the seller keeps 600 -/
example :
    let P : Int := 1000000000000000000
    let b1 : Batch := ⟨[(.buy, P, 100, 0), (.sell, P, 100, 0)], 0⟩
    let b2 : Batch := ⟨[(.buy, 11 * P / 10, 1000, 3600), (.sell, P, 600, 5)], 5⟩
    let s2 := batchStep (placeAll (runBatches KState.init 4 [b1]) 4 b2.placed) 4 b2.now
    let s3 := batchStep (placeAll (prune s2) 4 [(.sell, P, 1000, 10)]) 4 10
    (s2.orders.map fun (o : SOrder) => (o.id, o.openAmt, o.remaining, o.received, o.status.code)) =
      [(3, 400, 500, 600, 3), (4, 0, 0, 600, 4)] ∧
    (s3.orders.map fun (o : SOrder) => (o.id, o.openAmt, o.remaining, o.received, o.status.code)) =
      [(3, 0, 100, 1000, 4), (5, 600, 600, 400, 6)] := by
  decide +kernel

end Comdex.C05
