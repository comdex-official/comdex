import Comdex.Props.C01
import Comdex.Lemmas.VaultRatio
/-!
# C03 — Vault risk limits: min collateral ratio, debt floor and debt ceiling hold

Property clause → theorem (for every amount — including the boundary values that make the ratio exactly the minimum —,
every oracle price, every asset decimal scale, every prior history incl. accrued interest):

* "whenever an owner's create, draw, withdraw or deposit-and-draw succeeds [outside emergency shutdown] the vault's
   collateral value divided by its debt value at the oracle price in force is at least the product's min CR"
      → `C03.create_accepted_ratio`, `C03.draw_accepted_ratio`, `C03.withdraw_accepted_ratio`,
        `C03.depositAndDraw_accepted_ratio`
   These are stated for the ratio **as the chain computes it** (`calcCR`: three 18-digit fixed-point roundings of
   `(amountIn·p_in/10^d_in) / (debt·p_out/10^d_out)`): accepted ⇒ `calcCR = some r ∧ r ≥ minCr`; and then for the
   EXACT products, with the slack of the three roundings made explicit and nothing else lost:
      → `C03.ratioOk_exact` (+ `create_accepted_ratio_exact`, `draw_accepted_ratio_exact`, `withdraw_accepted_ratio_exact`):
        `(minCr − ½u)·(debt·p_out/d_out − (½+u)·u) ≤ amountIn·p_in/d_in + ½u`  with `u = 10⁻¹⁸`, stated multiplied out
        over the integers (`ExactRatio`); with decimal scales dividing `10^18` only the last division rounds
      → `C03.ratioOk_exact_scales` (`ExactRatioScales`: exact ratio ≥ `minCr − ½u`). `ratioOk_exact_tight` shows that half unit
        is real: an accepted vault, unit scales, whose exact ratio is below `minCr` by exactly `½u`.
   For `draw` and `withdraw` the debt is principal + accrued interest + closing fee, i.e. stronger than the clause.
* "a vault's principal is never left below the product's debt floor unless the vault is closed"    → `C03.floor_kept`
* "the principal outstanding across a product never exceeds its debt ceiling"                      → `C03.ceiling_kept`
* "when the required oracle price is not active these operations fail"                            → `C03.inactive_price_rejects`
* floor / ceiling when the configuration CHANGES between messages (ceiling lowered below the outstanding principal, floor
  raised above a vault's principal — the clauses are then false of the state without any message): no accepted message makes
  an excess worse      → `C03.ceiling_excess_never_increases`, `C03.floor_deficit_never_increases`; limits that hold again
  keep holding         → `C03.limits_kept_from`
-/
namespace Comdex.C03
open Comdex.Vault Comdex.C01

/-- the decision the chain takes: the computed ratio exists and is at least `minCr` -/
def RatioOk (p : Product) (e : Env) (amountIn debt : Int) : Prop :=
  ∃ r, calcCR p e amountIn debt = some r ∧ r ≥ p.minCr

theorem verifyCR_ratio (p : Product) (e : Env) (a b : Int) (hesm : e.esm = false) (h : verifyCR p e a b = true) :
    RatioOk p e a b := by
  unfold verifyCR at h
  cases hc : calcCR p e a b with
  | none => simp [hc] at h
  | some r => simp [hc, hesm] at h; exact ⟨r, hc, h⟩

/-- accepted by the chain's check ⇒ the exact inequality, for every amount, price, decimal scale and `minCr ≥ ½·10⁻¹⁸` -/
theorem ratioOk_exact (p : Product) (e : Env) (a b : Int) (hdi : 0 < p.decIn) (hdo : 0 < p.decOut)
    (hm : (1 : Int) ≤ 2 * (p.minCr : Int)) (h : RatioOk p e a b) :
    ∃ pin pout, e.priceIn = some pin ∧ debtPrice p e = some pout ∧ ExactRatio p pin pout a b := by
  obtain ⟨r, hr, hge⟩ := h
  obtain ⟨pin, pout, hpi, hpo, hvin, hvout, rfl⟩ := calcCR_some p e a b r hr
  rw [valueOf_eq] at hvin hge
  rw [valueOf_eq b] at hvout hge
  have hnin := Int.le_of_lt (Dec.pos_of_chopRound_tdiv_pos hdi hvin)
  have hnout := Int.le_of_lt (Dec.pos_of_chopRound_tdiv_pos hdo hvout)
  exact ⟨pin, pout, hpi, hpo, ratio_chain (Int.sub_nonneg_of_le hm) hdi hdo (quo_ge _ _ p.minCr (Int.le_of_lt hvin) hvout hge)
    (value_upper _ _ hnin hdi) (value_lower _ _ hnout hdo)⟩

/-- **With real decimal scales** (`10^k`, `k ≤ 18`, i.e. any scale dividing `10^18`) the two value computations are
exact and only the final division rounds: accepted ⇒ `(2·minCr − 1)·(debt·pOut·dIn) ≤ 2·10^18·(amountIn·pIn·dOut)`, i.e.
the exact rational ratio `(amountIn·pIn/dIn)/(debt·pOut/dOut)` is at least `minCr − ½·10⁻¹⁸`. -/
theorem ratioOk_exact_scales (p : Product) (e : Env) (a b : Int) (hdi : 0 < p.decIn) (hdo : 0 < p.decOut)
    (hsi : p.decIn ∣ Dec.P) (hso : p.decOut ∣ Dec.P) (h : RatioOk p e a b) :
    ∃ pin pout : Nat, e.priceIn = some pin ∧ debtPrice p e = some pout ∧ 0 < a * (pin : Int) ∧ 0 < b * (pout : Int) ∧
      ExactRatioScales p pin pout a b := by
  obtain ⟨r, hr, hge⟩ := h
  obtain ⟨pin, pout, hpi, hpo, hvin, hvout, rfl⟩ := calcCR_some p e a b r hr
  have ein := valueOf_exact a pin p.decIn hdi hsi
  have eout := valueOf_exact b pout p.decOut hdo hso
  exact ⟨pin, pout, hpi, hpo, Int.pos_of_mul_pos_left (ein ▸ Int.mul_pos hvin hdi) Dec.P_pos,
    Int.pos_of_mul_pos_left (eout ▸ Int.mul_pos hvout hdo) Dec.P_pos,
    ratio_of_exact_values (Int.le_of_lt hdi) (Int.le_of_lt hdo) (quo_ge _ _ p.minCr (Int.le_of_lt hvin) hvout hge) ein eout⟩

theorem create_accepted_ratio (s s' : State) (p : Product) (e : Env) (from_ app prod : Nat) (amtIn amtOut : Int)
    (h : create s p e from_ app prod amtIn amtOut = some s') :
    e.esm = false ∧ RatioOk p e amtIn amtOut := by
  obtain ⟨g, -⟩ := create_eq_some.mp h
  exact ⟨g.noEsm, verifyCR_ratio p e amtIn amtOut g.noEsm g.ratio⟩

/-- an accepted draw leaves the vault with computed ratio ≥ minCr against principal + interest + closing fee -/
theorem draw_accepted_ratio (s s' : State) (p : Product) (e : Env) (from_ app prod vaultId : Nat) (amt : Int)
    (h : draw s p e from_ app prod vaultId amt = some s') :
    ∃ v ∈ s'.vaults, v.id = vaultId ∧ e.esm = false ∧
      RatioOk p e v.amountIn (v.amountOut + v.interest + v.closingFee) := by
  obtain ⟨v, hov, g, s1, hb, rfl⟩ := draw_eq_some.mp h
  obtain ⟨v0, i, rfl, ho⟩ := ownedVault_eq_some.mp hov
  refine ⟨_, mem_setVault (v0 := v0) ((runBank_effect _ s s1 hb).same.vaults.symm ▸ ho.mem) rfl, ho.id_eq, g.noEsm, ?_⟩
  have := verifyCR_ratio p e _ _ g.noEsm g.ratio
  simpa only [Int.add_right_comm _ amt] using this

theorem withdraw_accepted_ratio (s s' : State) (p : Product) (e : Env) (from_ app prod vaultId : Nat) (amt : Int)
    (hesm : e.esm = false) (h : withdraw s p e from_ app prod vaultId amt = some s') :
    ∃ v ∈ s'.vaults, v.id = vaultId ∧ RatioOk p e v.amountIn (v.amountOut + v.interest + v.closingFee) := by
  obtain ⟨v, hov, g, s1, hb, rfl⟩ := withdraw_eq_some.mp h
  obtain ⟨v0, i, rfl, ho⟩ := ownedVault_eq_some.mp hov
  refine ⟨_, mem_setVault (v0 := v0) ((runBank_effect _ s s1 hb).same.vaults.symm ▸ ho.mem) rfl, ho.id_eq, ?_⟩
  have := verifyCR_ratio p e _ _ hesm g.ratio
  simpa only [withdrawDebt, hesm, Bool.false_eq_true, if_false] using this

theorem depositAndDraw_accepted_ratio (s s' : State) (p : Product) (e : Env) (from_ app prod vaultId : Nat) (amt : Int)
    (h : depositAndDraw s p e from_ app prod vaultId amt = some s') :
    ∃ v ∈ s'.vaults, v.id = vaultId ∧ e.esm = false ∧
      RatioOk p { e with iota := some 0 } v.amountIn (v.amountOut + v.interest + v.closingFee) := by
  obtain ⟨-, -, y, -, s1, -, h⟩ := depositAndDraw_eq_some.mp h
  -- re-packed: the goal's `e.esm` is that of the draw's environment `{ e with iota := some 0 }` only up to reduction
  obtain ⟨v, hv, hid, hesm, hr⟩ := draw_accepted_ratio _ _ _ _ _ _ _ _ _ h
  exact ⟨v, hv, hid, hesm, hr⟩

theorem create_accepted_ratio_exact (s s' : State) (p : Product) (e : Env) (from_ app prod : Nat) (amtIn amtOut : Int)
    (hdi : 0 < p.decIn) (hdo : 0 < p.decOut) (hm : (1 : Int) ≤ 2 * (p.minCr : Int))
    (h : create s p e from_ app prod amtIn amtOut = some s') :
    ∃ pin pout, e.priceIn = some pin ∧ debtPrice p e = some pout ∧ ExactRatio p pin pout amtIn amtOut :=
  ratioOk_exact p e _ _ hdi hdo hm (create_accepted_ratio s s' p e from_ app prod amtIn amtOut h).2

theorem draw_accepted_ratio_exact (s s' : State) (p : Product) (e : Env) (from_ app prod vaultId : Nat) (amt : Int)
    (hdi : 0 < p.decIn) (hdo : 0 < p.decOut) (hm : (1 : Int) ≤ 2 * (p.minCr : Int))
    (h : draw s p e from_ app prod vaultId amt = some s') :
    ∃ v ∈ s'.vaults, v.id = vaultId ∧ ∃ pin pout, e.priceIn = some pin ∧ debtPrice p e = some pout ∧
      ExactRatio p pin pout v.amountIn (v.amountOut + v.interest + v.closingFee) := by
  obtain ⟨v, hv, hid, _, hr⟩ := draw_accepted_ratio s s' p e from_ app prod vaultId amt h
  exact ⟨v, hv, hid, ratioOk_exact p e _ _ hdi hdo hm hr⟩

theorem withdraw_accepted_ratio_exact (s s' : State) (p : Product) (e : Env) (from_ app prod vaultId : Nat) (amt : Int)
    (hdi : 0 < p.decIn) (hdo : 0 < p.decOut) (hm : (1 : Int) ≤ 2 * (p.minCr : Int))
    (hesm : e.esm = false) (h : withdraw s p e from_ app prod vaultId amt = some s') :
    ∃ v ∈ s'.vaults, v.id = vaultId ∧ ∃ pin pout, e.priceIn = some pin ∧ debtPrice p e = some pout ∧
      ExactRatio p pin pout v.amountIn (v.amountOut + v.interest + v.closingFee) := by
  obtain ⟨v, hv, hid, hr⟩ := withdraw_accepted_ratio s s' p e from_ app prod vaultId amt hesm h
  exact ⟨v, hv, hid, ratioOk_exact p e _ _ hdi hdo hm hr⟩

/-- **Debt floor**: after every history `EsmRegular` admits every open vault's principal is at least its product's debt floor. -/
theorem floor_kept (cfg : Nat → Option Product) (hc : CfgOk cfg) (h : History) (hu : UsersOk h) (hne : EsmRegular h) :
    ∀ v ∈ (runAll cfg State.init h).vaults, ∀ p, cfg v.product = some p → p.debtFloor ≤ v.amountOut := by
  obtain ⟨_, h', _, _⟩ := ledger_always cfg hc h hu hne
  exact h'.limits.1

/-- **Debt ceiling**: after every history `EsmRegular` admits the published principal of a product is at most its debt ceiling — the
quantity every mint is checked against; in histories without auction settlement it equals the principal recorded on
open, stable-mint and awaiting-auction vaults (`totals_eq`), so that sum is bounded too. (After a settlement the
published total is below the recorded sum by the settled vaults' interest and closing fees — finding D13 — so later
mints can push the recorded sum above the ceiling by that amount: not excluded by this theorem.) -/
theorem ceiling_kept (cfg : Nat → Option Product) (hc : CfgOk cfg) (h : History) (hu : UsersOk h) (hne : EsmRegular h) (prod : Nat)
    (p : Product) (hp : cfg prod = some p) :
    (runAll cfg State.init h).minted prod ≤ p.debtCeiling ∧
    (NoSettle h → mintedOfProduct (runAll cfg State.init h) prod ≤ p.debtCeiling) := by
  obtain ⟨G, h', _, e⟩ := ledger_always cfg hc h hu hne
  refine ⟨h'.limits.2 prod p hp, fun hn => ?_⟩
  have h2 := (h'.totals prod).2
  rw [e hn] at h2
  exact ((Int.add_zero _).symm.trans h2.symm) ▸ h'.limits.2 prod p hp

/-! ### The limits when the configuration CHANGES in the middle of a history

`floor_kept` / `ceiling_kept` are invariants of a FIXED configuration. A reconfiguration (`WasmUpdatePairsVault`) can lower
the ceiling below the outstanding principal or raise the floor above an open vault's principal — the update path checks
nothing — and then the clauses are false of the state without any message having been accepted. What the code guarantees,
and what is proved here for every state satisfying the ledger invariant (whatever the limits were before): **no accepted
message makes an excess worse**. -/

/-- **Ceiling, excess form**: after an accepted message the product's published minted total is at most its debt ceiling, or
at most what it was before — a total above a lowered ceiling can only come down. -/
theorem ceiling_excess_never_increases (cfg : Nat → Option Product) (hc : CfgOk cfg) (G : Gaps) (s : State) (e : Env) (m : Msg)
    (hm : m.userOk) (hne : m.esmRegular) (hinv : InvL cfg G s) (hg : GoodGaps G) (k : Nat) (p : Product) (hp : cfg k = some p) :
    (apply cfg s e m).minted k ≤ p.debtCeiling ∨ (apply cfg s e m).minted k ≤ s.minted k := by
  obtain ⟨_, _, h2, _, _⟩ := apply_invL_bounds cfg hc G s e m hm hne hinv hg 0 0
    (fun _ hq => (hc.ok hq).debtFloor_nonneg) (fun _ hv _ => (hinv.wf.vault_nonneg hv).amountOut)
  have := h2.2 k p hp
  unfold slack at this
  split at this
  · exact Or.inl this
  · exact Or.inr this

/-- **Floor, deficit form**: for every bound `b` up to the product's debt floor, "every open vault of the product owes at
least `b`" is kept by every accepted message — a principal below a raised floor can only go up (or the vault goes away),
and no vault newly falls below the floor. -/
theorem floor_deficit_never_increases (cfg : Nat → Option Product) (hc : CfgOk cfg) (G : Gaps) (s : State) (e : Env) (m : Msg)
    (hm : m.userOk) (hne : m.esmRegular) (hinv : InvL cfg G s) (hg : GoodGaps G) (k : Nat) (p : Product) (hp : cfg k = some p)
    (b : Int) (hb0 : 0 ≤ b) (hb : b ≤ p.debtFloor) (hall : ∀ v ∈ s.vaults, v.product = k → b ≤ v.amountOut) :
    ∀ v ∈ (apply cfg s e m).vaults, v.product = k → b ≤ v.amountOut := by
  have _ := hb0  -- the bound may be negative just as well
  obtain ⟨_, h1, h2, _, _⟩ := apply_invL_bounds cfg hc G s e m hm hne hinv hg k b
    (fun _ hq => by rw [hp] at hq; cases hq; exact hb) hall
  intro v hv hk
  obtain ⟨q, hq⟩ := Option.isSome_iff_exists.mp (h1.wf.vault_configured hv)
  have := h2.1 v hv q hq
  simpa only [hk, if_true] using this

/-- **Limits that hold after a reconfiguration keep holding**: if the new configuration's floor and ceiling are satisfied by
the state at the moment of the change (e.g. the ceiling was raised, the floor lowered, or the excess has been worked off),
they are satisfied after every later history under that configuration. -/
theorem limits_kept_from (cfg : Nat → Option Product) (hc : CfgOk cfg) (h : History) (hu : UsersOk h) (hne : EsmRegular h)
    (G : Gaps) (s : State) (hinv : InvL cfg G s) (hl : Limits cfg s) (hg : GoodGaps G) : Limits cfg (runAll cfg s h) := by
  obtain ⟨_, h', _, _⟩ := invG_always cfg hc h hu hne G s (hinv.withLimits hl) hg
  exact h'.limits

/-- **Fail closed on an inactive price**: create, draw, withdraw and deposit-and-draw are rejected (and a rejected
message changes nothing, `C01.rejected_no_change`) when the collateral price — or the debt price where the product
uses one — is missing or inactive. -/
theorem inactive_price_rejects (s : State) (p : Product) (e : Env) (from_ app prod vaultId : Nat) (a b : Int)
    (h : e.priceIn = none ∨ (p.outOracle = true ∧ e.priceOut = none)) :
    create s p e from_ app prod a b = none ∧ draw s p e from_ app prod vaultId a = none ∧
    withdraw s p e from_ app prod vaultId a = none ∧ depositAndDraw s p e from_ app prod vaultId a = none := by
  have hv : ∀ (e' : Env), e'.priceIn = e.priceIn → e'.priceOut = e.priceOut → ∀ x y, verifyCR p e' x y ≠ true := by
    intro e' h1 h2 x y; unfold verifyCR; rw [calcCR_none_of_inactive p e' x y (h1 ▸ h2 ▸ h)]; exact Bool.false_ne_true
  have no : ∀ {o : Option State}, (∀ s', o = some s' → False) → o = none :=
    fun hno => Option.eq_none_iff_forall_ne_some.mpr hno
  have hdraw : ∀ (t : State) (e' : Env), e'.priceIn = e.priceIn → e'.priceOut = e.priceOut → ∀ x, draw t p e' from_ app prod vaultId x = none :=
    fun t e' h1 h2 x => no fun s' hs => by obtain ⟨v, -, g, -⟩ := draw_eq_some.mp hs; exact hv e' h1 h2 _ _ g.ratio
  refine ⟨no fun s' hs => ?_, hdraw s e rfl rfl a, no fun s' hs => ?_, no fun s' hs => ?_⟩
  · exact hv e rfl rfl _ _ (create_eq_some.mp hs).1.ratio
  · obtain ⟨v, -, g, -⟩ := withdraw_eq_some.mp hs; exact hv e rfl rfl _ _ g.ratio
  · obtain ⟨_, -, y, -, s1, -, hd⟩ := depositAndDraw_eq_some.mp hs
    cases (hdraw s1 { e with iota := some 0 } rfl rfl y).symm.trans hd

example : ∃ s', create (runAll demoCfg State.init [(demoEnv, .fund 10 1 5000000)]) demoProduct demoEnv 10 1 1 3000000 2000000 = some s' :=
  ⟨_, rfl⟩
example : calcCR demoProduct demoEnv 3000000 2000000 = some 15000000000000000000 := by decide
-- exactly at the boundary: 300000·10 / 2000000·1 = 1.5 = minCr is accepted, one unit less collateral is rejected
example : verifyCR demoProduct demoEnv 300000 2000000 = true ∧ verifyCR demoProduct demoEnv 299999 2000000 = false := by decide

def unitProduct : Product := { demoProduct with decIn := 1, decOut := 1 }
def unitEnv : Env := { priceIn := some 1, priceOut := some 1 }
/-- the half-unit slack of `ratioOk_exact_scales` is real: with unit scales and unit prices, collateral `3·10^18 − 1`
against debt `2·10^18` has exact ratio `1.5 − 5·10⁻¹⁹ < minCr = 1.5`, and the chain accepts it (the quotient lands
exactly on a half and half-even rounding goes up to `1.500000000000000000`); one unit less is rejected. -/
theorem ratioOk_exact_tight :
    verifyCR unitProduct unitEnv (3 * 10^18 - 1) (2 * 10^18) = true ∧
    2 * ((3 * 10^18 - 1 : Int) * 1 * 1) < 3 * ((2 * 10^18 : Int) * 1 * 1) ∧
    verifyCR unitProduct unitEnv (3 * 10^18 - 2) (2 * 10^18) = false := by decide

/-! the state of `C01.demoEvents` right after the ceiling was lowered to
1 500 000 (< 2 000 000 outstanding) and the floor raised to 2 500 000 (> the vault's 2 000 000) -/
def tightState : State := (runC (demoCfg, State.init) (demoEvents.take 3)).2
example : tightState.minted 1 = 2000000 ∧ demoTight.debtCeiling = 1500000 ∧ demoTight.debtFloor = 2500000 ∧
    step demoCfgTight tightState demoEnv (.draw 10 1 1 1 1) = none ∧
    step demoCfgTight tightState demoEnv (.repay 10 1 1 1 600000) = none ∧
    (step demoCfgTight tightState demoEnv (.deposit 10 1 1 1 1000)).isSome ∧
    (step demoCfgTight tightState demoEnv (.close 10 1 1 1)).isNone := by decide
example : ∀ v ∈ tightState.vaults, v.product = 1 → (2000000 : Int) ≤ v.amountOut := by decide

end Comdex.C03
