import Comdex.Lemmas.EsmSnapshot
/-! # C14, ESM branch — the price snapshot after an emergency shutdown is only ever taken from ACTIVE feeds

Clause → theorem ("whenever the oracle price needed by an operation is missing or inactive, the operation fails rather than
proceeding with a stale or zero price" — after ExecuteESM the vault module and the redemption code read the snapshot that the
esm BeginBlocker takes, so the clause becomes a statement about how that snapshot is built)

| clause | theorem |
|---|---|
| a snapshot entry is only ever written from the TWA of a found, active feed, in some block since the shutdown | `snapshot_entries_only_from_active` |
| the status completes only in a block in which no found feed is inactive, and then every found feed has an entry | `snapshot_completes_only_when_all_active`, `snapshot_status_false_while_inactive` |
| a consumer gets a price only from a complete snapshot, and that price was an active feed's TWA | `snapshot_price_only_from_active` |
| feed inactive / missing in EVERY block since the shutdown ⇒ no price, whatever the history; an operation needing it is refused | `never_active_no_snapshot_price`, `never_active_unavailable` |
| an entry is never overwritten; a complete snapshot is final | `snapshot_entry_never_changes`, `snapshot_complete_is_final` |
| the model passes the driver's per-block monitor `snapshot_only_from_active` (`stepOk`) | `snapshot_monitor_sound` |

All for EVERY sequence of blocks and feed states (induction over the blocks and over the asset list, `Lemmas/EsmSnapshot.lean`).
`Drv/EsmSnapshot.lean` replays every real block on `snapshotStep` (DIFF) and evaluates `stepOk` on the real before/after (MON). -/
namespace Comdex.C14
open Comdex.EsmSnapshot

theorem snapshot_entries_only_from_active (blocks : List (List Feed)) (a p : Nat)
    (h : (a, p) ∈ (run {} blocks).entries) :
    ∃ fs ∈ blocks, ∃ f ∈ fs, f.asset = a ∧ f.found = true ∧ f.active = true ∧ f.twa = p := by
  rcases run_mem blocks {} a p h with h | ⟨fs, hfs, h⟩
  · simp at h
  · exact ⟨fs, hfs, activeAt_iff.mp h⟩

theorem snapshot_completes_only_when_all_active (blocks : List (List Feed)) (h : (run {} blocks).status = true) :
    ∃ fs ∈ blocks, ∀ f ∈ fs, f.found = true → f.active = true ∧ (lookup (run {} blocks).entries f.asset).isSome = true := by
  rcases run_status blocks {} h with h | h
  · simp at h
  · exact h

theorem snapshot_status_false_while_inactive (st : St) (fs : List Feed) (hs : st.status = false)
    (h : ∃ f ∈ fs, f.found = true ∧ f.active = false) : (snapshotStep st fs).status = false := by
  rw [snapshotStep_of_not_status hs]
  exact walk_inactive fs st.entries h

theorem snapshot_price_only_from_active (blocks : List (List Feed)) (a p : Nat)
    (h : snapshotPrice (run {} blocks) a = some p) :
    ∃ fs ∈ blocks, ∃ f ∈ fs, f.asset = a ∧ f.found = true ∧ f.active = true ∧ f.twa = p := by
  unfold snapshotPrice at h
  split at h
  · exact snapshot_entries_only_from_active blocks a p (lookup_mem h)
  · simp at h

theorem never_active_no_snapshot_price (blocks : List (List Feed)) (a : Nat)
    (h : ∀ fs ∈ blocks, activeIn fs a = false) : snapshotPrice (run {} blocks) a = none := by
  cases hp : snapshotPrice (run {} blocks) a with
  | none => rfl
  | some p =>
    obtain ⟨fs, hfs, f, hf, h1, h2, h3, _⟩ := snapshot_price_only_from_active blocks a p hp
    exact absurd (activeIn_iff.mpr ⟨f, hf, h1, h2, h3⟩) (by simp [h fs hfs])

theorem never_active_unavailable (blocks : List (List Feed)) (needs : List Nat) (a : Nat) (ha : a ∈ needs)
    (h : ∀ fs ∈ blocks, activeIn fs a = false) : available (run {} blocks) needs = false := by
  cases hv : available (run {} blocks) needs with
  | false => rfl
  | true =>
    simp only [available, List.all_eq_true] at hv
    have := hv a ha
    simp [never_active_no_snapshot_price blocks a h] at this

theorem snapshot_entry_never_changes (blocks : List (List Feed)) (st : St) (a p : Nat)
    (h : lookup st.entries a = some p) : lookup (run st blocks).entries a = some p :=
  run_lookup_stable blocks st a p h

theorem snapshot_complete_is_final (blocks : List (List Feed)) (st : St) (h : st.status = true) : run st blocks = st := by
  induction blocks with
  | nil => rfl
  | cons fs bs ih => rwa [run, List.foldl_cons, snapshotStep_of_status h]

/-- the model satisfies the decidable per-block form that the driver evaluates on the REAL before/after states -/
theorem snapshot_monitor_sound (st : St) (fs : List Feed) : stepOk fs st (snapshotStep st fs) = true := by
  simp only [stepOk, Bool.and_eq_true, List.all_eq_true]
  refine ⟨⟨?_, ?_⟩, ?_⟩
  · rintro ⟨a, p⟩ he
    have hsome := mem_lookup_isSome he
    cases hl : lookup st.entries a with
    | none => simp [hl] at hsome
    | some q => simp [step_lookup_stable st fs a q hl]
  · rintro ⟨a, p⟩ he
    rcases step_mem st fs a p he with h | h
    · simp [mem_lookup_isSome h]
    · simp [h]
  · cases hs : st.status
    · rw [snapshotStep_of_not_status hs]
      cases hw : (walk fs st.entries).2 with
      | false => simp
      | true =>
        simp only [Bool.not_true, Bool.or_false, Bool.false_or, List.all_eq_true, Bool.or_eq_true, Bool.not_eq_true',
          Bool.and_eq_true]
        intro f hf
        cases hfound : f.found with
        | false => simp
        | true => exact Or.inr (walk_done fs st.entries hw f hf hfound)
    · simp

/-! ## non-vacuity: the collateral feed (asset 1) is inactive with a stale TWA of 1180559 when the app is shut down, stays so for
two blocks and comes back with 846285 in the third; asset 2 is fine throughout (harness witness, notes/C14.md) -/

private def stale : List Feed := [⟨1, true, false, 1180559⟩, ⟨2, true, true, 1000000⟩]
private def later : List Feed := [⟨1, true, false, 1180559⟩, ⟨2, true, true, 990000⟩]
private def fresh : List Feed := [⟨1, true, true, 846285⟩, ⟨2, true, true, 990000⟩]

example : run {} [stale, later] = { entries := [], status := false } := by decide
example : run {} [stale, later, fresh] = { entries := [(1, 846285), (2, 990000)], status := true } := by decide
example : snapshotPrice (run {} [stale, later]) 1 = none ∧ available (run {} [stale, later]) [1, 2] = false := by decide
example : snapshotPrice (run {} [stale, later, fresh]) 1 = some 846285 := by decide
/-- an asset after the inactive one is not reached, one before it gets its entry at once and keeps it -/
example : run {} [[⟨2, true, true, 1000000⟩, ⟨1, true, false, 1180559⟩], [⟨2, true, true, 990000⟩, ⟨1, true, true, 846285⟩]] =
    { entries := [(2, 1000000), (1, 846285)], status := true } := by decide
/-- a MISSING record is skipped (`continue`): the snapshot completes without an entry, the consumer still gets no price -/
example : run {} [[⟨1, false, false, 0⟩, ⟨2, true, true, 1000000⟩]] = { entries := [(2, 1000000)], status := true } ∧
    available (run {} [[⟨1, false, false, 0⟩, ⟨2, true, true, 1000000⟩]]) [1, 2] = false := by decide
/-- what the per-block monitor rejects: an entry taken from the inactive feed's stored TWA, status set -/
example : stepOk stale {} { entries := [(1, 1180559), (2, 1000000)], status := true } = false := by decide
example : stepOk stale {} (snapshotStep {} stale) = true := by decide

end Comdex.C14
