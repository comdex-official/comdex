import Comdex.Lemmas.HooksSlice
import Comdex.Gen.Hooks
/-!
# C15 — Block hooks never halt the chain and never leave half-applied steps

Property clause → theorem
* "if it panics or reports failure at any point, none of its writes or coin movements are visible afterwards"
    → `wrapped_unit_atomic` (+ `wrapped_unit_commits`), for the wrapper *as written in the source*:
      `source_wrapper_is_good` (regenerated shape facts) + `good_shape_is_applyIfNoError` = `source_wrapper_atomic`;
      what each shape fact buys: `write_on_error_leaks_counterexample`, `no_recover_escapes_counterexample`,
      `live_ctx_leaks_counterexample`
* "… and the remaining units are still processed"
    → `remaining_units_run`, `failing_unit_skipped`, `fault_point_irrelevant`
* "begin-block and end-block processing … completes without panicking"
    → `blocker_total`, `blocker_all_started` for a blocker whose unwrapped parts are total
      (`plain_panic_halts_counterexample`: an unwrapped part that panics takes the blocker down), and over the
      regenerated table `unwrapped_calls_reviewed`: every call / panicking operator reached from a real
      Begin/EndBlocker OUTSIDE every ApplyFuncIfNoError closure is on the reviewed list below — `pureHelpers`,
      `storeAccess`, `expanded`, `opsTotal` (each with its justification; where the justification is a theorem it
      is stated: `slice_in_bounds` (`slice_wrap_counterexample`), `sweep_bounds_in_range`, `borrow_sweep_total`;
      `unwrapped_is_the_unwrapped_part`), `reviewedUnproved`
      (the IBC oracle request: read and exercised, not proved — one reason why the level is *partial*) or on one of the two
      defect lists `kickoffDC151`, `conditionalD3`:
  - **D-C15-1** (fixed in the repository by `6f0df35`, DESIGN.md §7) `kickoffDC151`: the surplus / debt kick-off of
    `liquidationsV2.BeginBlocker`, run unwrapped, cannot panic but moves the lot out of the collector BEFORE it knows an English
    auction can start and returns at the first failing entry: `kickoff_leaks_counterexample`, `kickoff_repeats` (n blocks ⇒ n
    lots), against `kickoff_complete_if_english_on`; the repair is `kickoff_wrapped_is_atomic`. With the repair the kick-off
    is the eighteenth wrapper site; `wrapper_sites_and_their_loops` and `table_pins` hold of the tree with and without it.
  - **D3** `conditionalD3`: `totalVaults[start:end]` in both vault sweeps is total only if the stored vault counter
    does not exceed the capacity of the stored vault list — `sweep_total_if_counter_le_cap`; the counter is NOT
    kept equal to the list on chain (double increment, `x/auction/keeper/dutch.go:554-559` +
    `x/vault/keeper/vault.go:605-606`): `d3_counterexample`, `d3_panics_when_counter_exceeds_cap`,
    `d3_underflow_counterexample`, `d3_only_in_the_vault_sweeps`; witness replayed first in the harness run (scenario
    `corpus.d3`).
  - **D6** (fixed in the repository by `c15713f`; no list): the second-generation borrow sweep calling
    `LiquidateIndividualBorrow` on the live context. What that does is `unwrapped_loop_leaks_counterexample` (model of
    `x/liquidationsV2/keeper/liquidate.go:248-254` before the fix), against `unwrapped_loop_ok_if_no_failure`. The table
    obligations demand the wrapper: without it `unwrapped_calls_reviewed`, `units_of_work_wrapped` and `table_pins` fail, and
    the harness reports the leak (`uloop` lines).
* every unit of work the property names sits in its own wrapper → `units_of_work_wrapped` (table): for every per-item
  unit the wrapper call is INSIDE the item loop (`loopOver` = the innermost loop statement enclosing the call,
  `innerLoops` = the loops written inside the closure) — `wrapper_sites_and_their_loops` pins all wrapper sites (18; 17 without the D-C15-1 repair) with their loops.
  What that buys, for ALL patterns of failing items: `per_item_loop_processes_ok_items`, `per_item_loop_flags` (exactly the
  items that do not fail are processed), `blocker_splits_per_item` (the blocker over all items = the one-item blockers in sequence — the relation
  the harness uses to find out, from the real code alone, which items are visible after a fault); what is lost when the
  wrapper and the loop swap places (seeded/s99, `x/liquidity/abci.go:18-19`): `one_wrapper_all_or_nothing`,
  `one_wrapper_for_all_counterexample`.
* "… or reports failure at any point": the wrapper only sees what the closure returns → `wrapped_units_propagate_errors`
  (every error produced inside a closure is returned, up to the reviewed list `swallowReviewed`),
  `units_use_their_cache_context`, `per_item_units_can_report_failure` (table).
* "vault count vs stored vault list … used to slice the list in both sweeps": the slice theorems hold for a counter and a
  list read at the same moment → `sweep_bounds_read_with_list` (table `sliceFacts`).
* the table is not empty / not stale → `table_pins`.

Level: proof of the wrapper logic and of the table obligations; what a Go panic and a real store write do is
exhibited by the fault-injection correspondence (`harness/c15_*_test.go`, `Drv/Hooks.lean`) — partial.
-/
namespace Comdex.C15
open Comdex.Hooks
open Comdex.Liquidation (toGoInt toGoInt_small sliceBoundsI_bounds sweepBoundsI_bounds sweepBoundsI_end)

/-- **Atomic**: a unit that fails — returned error or panic, at whatever point — leaves the state unchanged. -/
theorem wrapped_unit_atomic {σ : Type} (f : σ → Except Fail σ) (s : σ) (e : Fail) (h : f s = .error e) :
    applyIfNoError f s = (s, false) := by
  simp [applyIfNoError, h]

theorem wrapped_unit_commits {σ : Type} (f : σ → Except Fail σ) (s s' : σ) (h : f s = .ok s') :
    applyIfNoError f s = (s', true) := by
  simp [applyIfNoError, h]

/-- The wrapper of shape `goodShape`, run on code that may stop half-way with its writes made, is exactly
`applyIfNoError`, and no panic escapes it. -/
theorem good_shape_is_applyIfNoError {σ : Type} (f : Raw σ) (s : σ) :
    applyShaped goodShape f s = ((applyIfNoError f.toExcept s).1, (applyIfNoError f.toExcept s).2, false) := by
  unfold applyShaped applyIfNoError Raw.toExcept goodShape
  rcases h : f s with ⟨s', r⟩
  cases r with
  | none => simp
  | some e => cases e <;> simp

/-- The shape the extractor read off `types/utils.go` on this run is the good one. -/
theorem source_wrapper_is_good : Comdex.Gen.Hooks.wrapper = goodShape := rfl

/-- Hence for the wrapper in the source: partial writes of a failing step are never visible. -/
theorem source_wrapper_atomic {σ : Type} (f : Raw σ) (s s' : σ) (e : Fail) (h : f s = (s', some e)) :
    applyShaped Comdex.Gen.Hooks.wrapper f s = (s, false, false) := by
  rw [source_wrapper_is_good, good_shape_is_applyIfNoError]
  simp [applyIfNoError, Raw.toExcept, h]

example : applyShaped Comdex.Gen.Hooks.wrapper (fun (n : Nat) => (n + 7, some Fail.panic)) 1 = (1, false, false) :=
  source_wrapper_atomic _ 1 8 .panic rfl

/-- Each shape fact is needed. A wrapper that also writes when `err != nil` leaks the partial writes. -/
theorem write_on_error_leaks_counterexample :
    (applyShaped { goodShape with writeElsewhere := true } (fun (n : Nat) => (n + 7, some Fail.err)) 1).1 = 8 := by decide

/-- A wrapper without the deferred recover lets the panic out. -/
theorem no_recover_escapes_counterexample :
    (applyShaped { goodShape with deferRecover := false } (fun (n : Nat) => (n + 7, some Fail.panic)) 1).2.2 = true := by decide

/-- A wrapper that runs `f` on the live context leaks whatever was written before the failure. -/
theorem live_ctx_leaks_counterexample :
    (applyShaped { goodShape with runsOnCache := false } (fun (n : Nat) => (n + 7, some Fail.panic)) 1).1 = 8 := by decide

/-- **The fold continues**: every unit of a wrapped loop is processed, whatever the others do. -/
theorem remaining_units_run {σ : Type} (us : List (σ → Except Fail σ)) (s : σ) :
    (runUnits us s).2.length = us.length := by
  induction us generalizing s with
  | nil => rfl
  | cons f fs ih => simp [runUnits, ih]

theorem runUnits_append {σ : Type} (pre post : List (σ → Except Fail σ)) (s : σ) :
    runUnits (pre ++ post) s =
      ((runUnits post (runUnits pre s).1).1, (runUnits pre s).2 ++ (runUnits post (runUnits pre s).1).2) := by
  induction pre generalizing s with
  | nil => simp [runUnits]
  | cons f fs ih => simp [runUnits, ih]

/-- A unit that fails in the state it is reached in behaves exactly as if it had been skipped: same final
state, its flag is `false`, every other unit ran on the same states. -/
theorem failing_unit_skipped {σ : Type} (pre post : List (σ → Except Fail σ)) (f : σ → Except Fail σ) (s : σ) (e : Fail)
    (h : f (runUnits pre s).1 = .error e) :
    (runUnits (pre ++ f :: post) s).1 = (runUnits (pre ++ post) s).1 ∧
    (runUnits (pre ++ f :: post) s).2 = (runUnits pre s).2 ++ false :: (runUnits post (runUnits pre s).1).2 := by
  rw [runUnits_append, runUnits_append]
  simp [runUnits, applyIfNoError, h]

/-- **Crash-point independence** (what the fault-injection run compares): two ways of failing — the fault at
access `k` and the fault at access 0 — give the same run. -/
theorem fault_point_irrelevant {σ : Type} (pre post : List (σ → Except Fail σ)) (f g : σ → Except Fail σ) (s : σ)
    (e₁ e₂ : Fail) (hf : f (runUnits pre s).1 = .error e₁) (hg : g (runUnits pre s).1 = .error e₂) :
    runUnits (pre ++ f :: post) s = runUnits (pre ++ g :: post) s := by
  rw [runUnits_append, runUnits_append]
  simp [runUnits, applyIfNoError, hf, hg]

example : runUnits [fun n => .ok (n + 1), fun _ => .error Fail.panic, fun n => .ok (n * 10)] (1 : Nat) = (20, [true, false, true]) := rfl

theorem blocker_runs {σ : Type} (ps : List (Part σ))
    (h : ∀ p ∈ ps, ∀ g, p = Part.plain g → ∀ s, (g s).isSome = true) (s : σ) :
    (runBlocker ps s).isSome = true ∧ startedParts ps s = ps.length := by
  induction ps generalizing s with
  | nil => exact ⟨rfl, rfl⟩
  | cons p ps ih =>
    have ih' := ih (fun q hq => h q (List.mem_cons_of_mem _ hq))
    cases p with
    | wrapped f => simpa [runBlocker, startedParts, Nat.add_comm] using ih' _
    | plain g =>
      have hg := h (Part.plain g) (by simp) g rfl s
      cases hgs : g s with
      | none => simp [hgs] at hg
      | some s' => simpa [runBlocker, startedParts, hgs, Nat.add_comm] using ih' s'

/-- **No halt**: a blocker all of whose unwrapped parts are total returns normally, whatever the units do. -/
theorem blocker_total {σ : Type} (ps : List (Part σ))
    (h : ∀ p ∈ ps, ∀ g, p = Part.plain g → ∀ s, (g s).isSome = true) (s : σ) :
    (runBlocker ps s).isSome = true :=
  (blocker_runs ps h s).1

theorem blocker_all_started {σ : Type} (ps : List (Part σ))
    (h : ∀ p ∈ ps, ∀ g, p = Part.plain g → ∀ s, (g s).isSome = true) (s : σ) :
    startedParts ps s = ps.length :=
  (blocker_runs ps h s).2

example : runBlocker [Part.plain (fun n => some (n + 1)), Part.wrapped (fun _ => .error Fail.panic), Part.wrapped (fun n => .ok (n * 3))] (1 : Nat) = some 6 := rfl

/-- the hypothesis is needed: an unwrapped part that panics halts the blocker; the unit behind it never starts -/
theorem plain_panic_halts_counterexample :
    runBlocker [Part.wrapped (fun n => .ok (n + 1)), Part.plain (fun _ => none), Part.wrapped (fun n => .ok (n * 3))] (1 : Nat) = none ∧
    startedParts [Part.wrapped (fun n => .ok (n + 1)), Part.plain (fun _ => none), Part.wrapped (fun n => .ok (n * 3))] (1 : Nat) = 2 := by
  constructor <;> rfl

/-- **D6 (model)**: the same items run as an *unwrapped* loop: the failing item's partial writes stay, the loop stops,
the items behind it are not started. -/
theorem unwrapped_loop_leaks_counterexample :
    let items : List (Raw Nat) := [fun n => (n + 1, none), fun n => (n + 100, some Fail.err), fun n => (n * 3, none)]
    runUnwrappedLoop items 1 = (102, some Fail.err, 2) ∧
    (runUnits (items.map Raw.toExcept) 1) = (6, [true, false, true]) := by
  constructor <;> rfl

theorem unwrapped_loop_ok_if_no_failure {σ : Type} (items : List (Raw σ)) (h : ∀ f ∈ items, ∀ s, (f s).2 = none) (s : σ) :
    (runUnwrappedLoop items s).2.1 = none ∧ (runUnwrappedLoop items s).2.2 = items.length := by
  induction items generalizing s with
  | nil => exact ⟨rfl, rfl⟩
  | cons f fs ih =>
    have hf := h f (by simp) s
    have ih' := ih (fun g hg => h g (List.mem_cons_of_mem _ hg))
    rcases hfs : f s with ⟨s', r⟩
    rw [hfs] at hf
    simp only at hf
    subst hf
    simp [runUnwrappedLoop, hfs, ih' s']

theorem per_item_loop (oks : List Bool) (i : Nat) (s : List Nat) :
    runUnits (itemUnits oks i) s = (s ++ okItems oks i, oks) := by
  induction oks generalizing i s with
  | nil => simp [itemUnits, runUnits, okItems]
  | cons ok rest ih => cases ok <;> simp [itemUnits, runUnits, applyIfNoError, itemUnit, okItems, ih]

/-- **Every item under its own wrapper**: whatever the pattern of failing items (`oks`), exactly the items that do not
fail are processed, in order — a fault in item k leaves every item ≠ k processed. -/
theorem per_item_loop_processes_ok_items (oks : List Bool) (i : Nat) (s : List Nat) :
    (runUnits (itemUnits oks i) s).1 = s ++ okItems oks i := by
  rw [per_item_loop]

example : (runUnits (itemUnits [true, false, true] 1) []).1 = [1, 3] := by
  simpa [okItems] using per_item_loop_processes_ok_items [true, false, true] 1 []

theorem per_item_loop_flags (oks : List Bool) (i : Nat) (s : List Nat) :
    (runUnits (itemUnits oks i) s).2 = oks := by
  rw [per_item_loop]

/-- **The blocker over all items is the one-item blockers in sequence** — for arbitrary units. This is the relation by
which the harness computes, from the REAL blocker run on one-app lists, what the state must be after a fault in app k. -/
theorem blocker_splits_per_item {σ : Type} (us : List (σ → Except Fail σ)) (s : σ) :
    (runUnits us s).1 = us.foldl (fun t f => (runUnits [f] t).1) s := by
  induction us generalizing s with
  | nil => rfl
  | cons f fs ih => simp [runUnits, ih]

example : (runUnits [fun n => .ok (n + 1), fun _ => .error Fail.panic, fun n => .ok (n * 10)] (1 : Nat)).1 =
    [fun n => .ok (n + 1), fun _ => .error Fail.panic, fun n => .ok (n * 10)].foldl (fun t f => (runUnits [f] t).1) 1 :=
  blocker_splits_per_item _ 1

theorem seqAll_items (oks : List Bool) (i : Nat) (s : List Nat) :
    seqAll (itemUnits oks i) s = if oks.all id = true then .ok (s ++ okItems oks i) else .error .err := by
  induction oks generalizing i s with
  | nil => simp [itemUnits, seqAll, okItems]
  | cons ok rest ih =>
    cases ok
    · simp [itemUnits, seqAll, itemUnit]
    · simp only [itemUnits, seqAll, itemUnit, if_true, ih, okItems, List.all_cons, id, Bool.true_and]
      split <;> simp

/-- **One wrapper around the whole loop is all-or-nothing for the LIST**: if any item fails, no item is processed — the
items before the failing one are rolled back, the items after it are not started. -/
theorem one_wrapper_all_or_nothing (oks : List Bool) (i : Nat) (s : List Nat) :
    runAsOne (itemUnits oks i) s = if oks.all id = true then (s ++ okItems oks i, true) else (s, false) := by
  unfold runAsOne applyIfNoError
  rw [seqAll_items]
  by_cases h : oks.all id = true <;> simp [h]

example : runAsOne (itemUnits [true, true] 5) [4] = ([4, 5, 6], true) := by
  simpa [okItems] using one_wrapper_all_or_nothing [true, true] 5 [4]
example : (runUnits (itemUnits [false, true] 1) []).2 = [false, true] := per_item_loop_flags _ 1 []

/-- seeded/s99 in the model: three apps, the second one poisoned. Per-app wrappers: apps 1 and 3 processed. One wrapper for
all: nothing processed. -/
theorem one_wrapper_for_all_counterexample :
    runUnits (itemUnits [true, false, true] 1) [] = ([1, 3], [true, false, true]) ∧
    runAsOne (itemUnits [true, false, true] 1) [] = ([], false) := by
  constructor <;> rfl

/-! ## The surplus kick-off of the second generation run unwrapped (finding D-C15-1) -/

theorem kickoff_complete_if_english_on (lot : Int) (s : Kick) :
    surplusKickRaw lot true s =
      ({ collector := s.collector - lot, parked := s.parked + lot, netFees := s.netFees - lot,
         lockedVaults := s.lockedVaults + 1, auctions := s.auctions + 1, active := true }, none) := rfl

/-- **D-C15-1 — the kick-off is not all-or-nothing and stops the loop** (two due entries, the first app without English
auctions): the first entry's lot has left the collector and the record, no locked vault, no auction, the entry is not
marked; the step reports failure; the second entry is never started (`2` would be the count had both been started). (The
numbers of the harness witness, notes/C15.md.) -/
theorem kickoff_leaks_counterexample :
    runUnwrappedLoop [surplusKickRaw 200000 false, surplusKickRaw 200000 true]
        { collector := 11000000, parked := 0, netFees := 11000000, lockedVaults := 0, auctions := 0, active := false } =
      ({ collector := 10800000, parked := 200000, netFees := 10800000, lockedVaults := 0, auctions := 0, active := false },
       some Fail.err, 1) := rfl

/-- Because nothing marks the entry, **every block takes another lot** until the record falls below threshold + lot:
for every number of blocks `n` during which the entry stays due the collector is `n` lots short, with no auction. -/
theorem kickoff_repeats (threshold lot : Int) (n : Nat) (s : Kick) (hact : s.active = false)
    (hdue : s.netFees - (n : Int) * lot ≥ threshold) (hlot : 0 ≤ lot) :
    kickBlocks threshold lot n s =
      { s with collector := s.collector - n * lot, parked := s.parked + n * lot, netFees := s.netFees - n * lot } := by
  induction n generalizing s with
  | zero => simp [kickBlocks]
  | succ n ih =>
    have hc : ((n + 1 : Nat) : Int) * lot = n * lot + lot := by rw [Int.natCast_succ, Int.add_mul, Int.one_mul]
    have h2 : 0 ≤ (n : Int) * lot := Int.mul_nonneg (Int.natCast_nonneg n) hlot
    have hd : kickDue s threshold lot = true := by
      simp only [kickDue, hact, Bool.not_false, Bool.true_and, decide_eq_true_eq]; omega
    rw [kickBlocks, if_pos hd, show (surplusKickRaw lot false s).1 =
      { s with collector := s.collector - lot, parked := s.parked + lot, netFees := s.netFees - lot } from rfl,
      ih]
    · simp only [hc]; congr 1 <;> omega
    · exact hact
    · show s.netFees - lot - n * lot ≥ threshold; omega

example : kickBlocks 10200000 200000 3 { collector := 11000000, parked := 0, netFees := 11000000, lockedVaults := 0, auctions := 0, active := false } =
    { collector := 10400000, parked := 600000, netFees := 10400000, lockedVaults := 0, auctions := 0, active := false } := by
  decide

/-- the repair: the same step under the wrapper of `types/utils.go` leaves nothing behind, and (as a `runUnits` loop) the
entry behind it is processed -/
theorem kickoff_wrapped_is_atomic (lot : Int) (s : Kick) :
    applyShaped Comdex.Gen.Hooks.wrapper (surplusKickRaw lot false) s = (s, false, false) :=
  source_wrapper_atomic _ s _ .err rfl

example :
    (runUnits [(surplusKickRaw 200000 false).toExcept, (surplusKickRaw 200000 true).toExcept]
        { collector := 11000000, parked := 0, netFees := 11000000, lockedVaults := 0, auctions := 0, active := false }) =
      ({ collector := 10800000, parked := 200000, netFees := 10800000, lockedVaults := 1, auctions := 1, active := true }, [false, true]) := rfl

/-! ## The sweep prelude (`GetSliceStartEndForLiquidations`, `list[start:end]`) -/

/-- For a non-negative slice length the helper returns `0 ≤ start ≤ end ≤ sliceLen`, for every offset and batch size (negative
ones included: they arise from `int(uint64)`) whose sum does not wrap: `offset + batch` is a Go `int` addition, and a batch size
of at least `2⁶³ − offset`, which the parameter validation accepts, wraps — `slice_wrap_counterexample`, finding D41. -/
theorem slice_in_bounds (n off b : Int) (hn : 0 ≤ n) (hw : off + b < 2 ^ 63) :
    0 ≤ (sliceStartEnd n off b).1 ∧ (sliceStartEnd n off b).1 ≤ (sliceStartEnd n off b).2 ∧ (sliceStartEnd n off b).2 ≤ n := by
  rw [sliceStartEnd_eq]; exact sliceBoundsI_bounds n off b hn hw

theorem sweep_bounds_in_range (n off b : Int) (hn : 0 ≤ n) (hb : b < 2 ^ 63) (hw : off + b < 2 ^ 63) :
    0 ≤ (sweepBounds n off b).1 ∧ (sweepBounds n off b).1 ≤ (sweepBounds n off b).2 ∧ (sweepBounds n off b).2 ≤ n := by
  rw [sweepBounds_eq_sweepBoundsI]; exact sweepBoundsI_bounds n off b hn hb hw

/-- **Vault sweeps are total if the counter does not exceed the capacity of the stored list** (the C01 invariant
"counter = number of stored vaults" implies it, since `len ≤ cap`). -/
theorem sweep_total_if_counter_le_cap (cap counter offset batch : Nat) (h1 : counter ≤ cap) (h2 : counter < 2 ^ 63)
    (hb : batch < 2 ^ 64) (hw : intOfU64 offset + intOfU64 batch < 2 ^ 63) :
    sweepSliceOk cap counter offset batch = true := by
  have hb' : toGoInt batch < 2 ^ 63 := by unfold toGoInt; split <;> omega
  have hc := toGoInt_small counter h2
  have := (sweepBoundsI_bounds (toGoInt counter) (toGoInt offset) (toGoInt batch) (by omega) hb' hw).2.2
  exact (sweepSliceOk_iff cap counter offset batch hb' hw).2 ⟨by omega, by omega⟩

/-- **Borrow sweeps** slice `borrowIDs` by `len(borrowIDs)` itself: always total. -/
theorem borrow_sweep_total (len cap offset batch : Nat) (h1 : len ≤ cap) (h2 : len < 2 ^ 63)
    (hb : batch < 2 ^ 64) (hw : intOfU64 offset + intOfU64 batch < 2 ^ 63) :
    sweepSliceOk cap len offset batch = true :=
  sweep_total_if_counter_le_cap cap len offset batch h1 h2 hb hw

/-- **D41 witness**: five stored vaults, counter 5, offset 1 and a batch size of `2⁶³ − 1` (accepted by the parameter
validation, which only demands `> 0`): `offset + batch` wraps to `−2⁶³`, the helper returns `(1, −2⁶³)` and
`totalVaults[1:−2⁶³]` panics in the unwrapped prelude of the sweep. -/
theorem slice_wrap_counterexample : sliceStartEnd 5 1 (2 ^ 63 - 1) = (1, -(2 ^ 63)) ∧ sweepSliceOk 5 5 1 (2 ^ 63 - 1) = false := by
  decide

example : sweepSliceOk 4 3 0 200 = true := by decide

/-- **D3 witness**: one stored vault (capacity 1), counter 2, offset 0, default batch 200 ⇒ `totalVaults[0:2]` panics. -/
theorem d3_counterexample : sweepSliceOk 1 2 0 200 = false := by decide

/-- in general: a counter above the capacity panics in the block in which the sweep reaches the end of the list
(with the default batch size 200 and fewer than 200 vaults: in every block) -/
theorem d3_panics_when_counter_exceeds_cap (cap counter batch : Nat) (h1 : cap < counter) (h2 : counter < 2 ^ 63)
    (h3 : counter ≤ batch) (h4 : batch < 2 ^ 63) : sweepSliceOk cap counter 0 batch = false := by
  refine Bool.eq_false_iff.2 fun h => ?_
  have hbt := toGoInt_small batch h4
  have := ((sweepSliceOk_iff cap counter 0 batch (by omega) (by rw [hbt]; show (0 : Int) + batch < _; omega)).1 h).2
  -- the range of the first block is the whole counter
  rw [toGoInt_small counter h2, hbt, show toGoInt 0 = 0 from rfl,
    sweepBoundsI_end _ _ _ (Int.natCast_nonneg _) (Int.le_refl 0) (by omega) (by omega)] at this
  omega

/-- a counter that was decremented below zero (`uint64` wrap ⇒ `int(...) = -1`) panics for every list -/
theorem d3_underflow_counterexample (cap offset batch : Nat) : sweepSliceOk cap (2 ^ 64 - 1) offset batch = false :=
  sweepSliceOk_neg cap _ offset batch (by decide)

/-! ## Table obligations over the regenerated `Gen/Hooks.lean`

The lists are the *review*: one line of justification per entry (or per group where the justification is the
same). `unwrapped_calls_reviewed` is the obligation; a source edit that moves a call out of a wrapper, adds an
unwrapped call, or drops a wrapper changes the table and the theorem stops compiling. -/

open Comdex.Gen.Hooks

/-- allowed anywhere: no store access, no arithmetic that can panic -/
def pureHelpers : List String := [
  "telemetry.ModuleMeasureSince",            -- metrics side channel, deferred, no state
  "ctx.BlockTime", "ctx.BlockHeight",        -- header fields
  "ctx.Logger", "ctx.Logger().Error",        -- logging
  "ctx.EventManager", "ctx.EventManager().EmitEvent", "ctx.EventManager().EmitEvents",  -- events are not state
  "sdk.NewEvent", "sdk.NewAttribute", "fmt.Sprintf", "fmt.Errorf", "strconv.FormatUint",  -- pure constructors
  "len", "int", "uint64", "int64", "append", -- builtins; Go integer conversions wrap, they do not panic (`intOfU64`)
  "sdk.ZeroDec", "sdk.ZeroInt",              -- constants
  "types.NewLiquidationOffsetHolder",        -- struct literal
  "types.GetSliceStartEndForLiquidations",   -- comparisons and one addition of ints: total; result bounds: `slice_in_bounds`
  "bandoraclemoduletypes.OracleRequestID",   -- type conversion
  "bits.Add64",                              -- total
  "host.ChannelCapabilityPath", "clienttypes.NewHeight", "packet.NewOracleRequestPacketData", "packetData.GetBytes",
  "ctx.BlockTime().UnixNano"                 -- ibc packet construction: pure
]

/-- store getters / setters of keepers `(blocker, enclosing function, callee)`: a KV read or write followed by
`MustUnmarshal`/`MustMarshal` of the type the same keeper stored, or a prefix iteration of such records; the
`(value, found)` / `error` result is handled by the caller. Total given the store holds what the setters wrote. -/
def storeAccess : List (String × String × String) := [
  ("liquidity.BeginBlocker", "BeginBlocker", "assetKeeper.GetApps"),
  ("liquidity.EndBlocker", "EndBlocker", "assetKeeper.GetApps"),
  ("auction.BeginBlocker", "BeginBlocker", "assetKeeper.GetApps"),
  ("auction.BeginBlocker", "BeginBlocker", "collectorKeeper.GetAllAuctionMappingForApp"),
  ("auction.BeginBlocker", "BeginBlocker", "esmKeeper.GetESMStatus"),
  ("auction.BeginBlocker", "BeginBlocker", "esmKeeper.GetKillSwitchData"),
  ("auction.BeginBlocker", "RestartDutchAuctions", "k.GetAuctionParams"),
  ("auction.BeginBlocker", "RestartDutchAuctions", "k.GetDutchAuctions"),
  ("auction.BeginBlocker", "RestartDutchLendAuctions", "k.GetDutchLendAuctions"),
  ("auction.BeginBlocker", "RestartDutchLendAuctions", "k.lend.GetAddAuctionParamsData"),
  ("liquidation.BeginBlocker", "LiquidateVaults", "k.GetAppIdsForLiquidation"),
  ("liquidation.BeginBlocker", "LiquidateVaults", "k.GetParams"),               -- params subspace, set at genesis
  ("liquidation.BeginBlocker", "LiquidateVaults", "k.esm.GetESMStatus"),
  ("liquidation.BeginBlocker", "LiquidateVaults", "k.esm.GetKillSwitchData"),
  ("liquidation.BeginBlocker", "LiquidateVaults", "k.GetLiquidationOffsetHolder"),
  ("liquidation.BeginBlocker", "LiquidateVaults", "k.vault.GetVaults"),
  ("liquidation.BeginBlocker", "LiquidateVaults", "k.vault.GetLengthOfVault"),
  ("liquidation.BeginBlocker", "LiquidateVaults", "k.SetLiquidationOffsetHolder"), -- the sweep's own cursor: written once per app after the units
  ("liquidation.BeginBlocker", "LiquidateBorrows", "k.lend.GetBorrows"),
  ("liquidation.BeginBlocker", "LiquidateBorrows", "k.GetParams"),
  ("liquidation.BeginBlocker", "LiquidateBorrows", "k.GetLiquidationOffsetHolder"),
  ("liquidation.BeginBlocker", "LiquidateBorrows", "k.SetLiquidationOffsetHolder"),
  ("liquidationsV2.BeginBlocker", "LiquidateVaults", "k.GetParams"),
  ("liquidationsV2.BeginBlocker", "LiquidateVaults", "k.GetLiquidationOffsetHolder"),
  ("liquidationsV2.BeginBlocker", "LiquidateVaults", "k.vault.GetVaults"),
  ("liquidationsV2.BeginBlocker", "LiquidateVaults", "k.vault.GetLengthOfVault"),
  ("liquidationsV2.BeginBlocker", "LiquidateVaults", "k.SetLiquidationOffsetHolder"),
  ("liquidationsV2.BeginBlocker", "LiquidateBorrows", "k.lend.GetBorrows"),
  ("liquidationsV2.BeginBlocker", "LiquidateBorrows", "k.GetParams"),
  ("liquidationsV2.BeginBlocker", "LiquidateBorrows", "k.GetLiquidationOffsetHolder"),
  ("liquidationsV2.BeginBlocker", "LiquidateBorrows", "k.SetLiquidationOffsetHolder"),
  ("liquidationsV2.BeginBlocker", "LiquidateForSurplusAndDebt", "k.collector.GetAllAuctionMappingForApp"),
  ("liquidationsV2.BeginBlocker", "LiquidateForSurplusAndDebt", "k.esm.GetKillSwitchData"),
  ("liquidationsV2.BeginBlocker", "CheckStatsForSurplusAndDebt", "k.collector.GetCollectorLookupTable"),
  ("liquidationsV2.BeginBlocker", "CheckStatsForSurplusAndDebt", "k.collector.GetAuctionMappingForApp"),
  ("liquidationsV2.BeginBlocker", "CheckStatsForSurplusAndDebt", "k.collector.GetNetFeeCollectedData"),
  ("liquidationsV2.BeginBlocker", "CheckStatsForSurplusAndDebt", "k.collector.GetAmountFromCollector"), -- read + comparison, returns an error
  ("liquidationsV2.BeginBlocker", "CheckStatsForSurplusAndDebt", "k.collector.SetAuctionMappingForApp"),
  ("market.BeginBlocker", "BeginBlocker", "bandKeeper.GetOracleValidationResult"),
  ("market.BeginBlocker", "BeginBlocker", "bandKeeper.GetLastBlockHeight"),
  ("market.BeginBlocker", "BeginBlocker", "bandKeeper.GetDiscardData"),
  ("market.BeginBlocker", "BeginBlocker", "bandKeeper.SetDiscardData"),
  ("market.BeginBlocker", "BeginBlocker", "bandKeeper.GetLastFetchPriceID"),
  ("market.BeginBlocker", "BeginBlocker", "bandKeeper.GetFetchPriceResult"),
  ("market.BeginBlocker", "BeginBlocker", "bandKeeper.GetFetchPriceMsg"),
  ("market.BeginBlocker", "BeginBlocker", "assetKeeper.GetAssets"),
  ("market.BeginBlocker", "BeginBlocker", "k.GetAllTwa"),
  ("market.BeginBlocker", "BeginBlocker", "k.GetTwa"),
  ("market.BeginBlocker", "BeginBlocker", "k.SetTwa"),                           -- the oracle hook is one unwrapped pass by design; C17 covers its arithmetic
  ("market.BeginBlocker", "UpdatePriceList", "k.GetTwa"),
  ("market.BeginBlocker", "UpdatePriceList", "k.SetTwa"),
  ("bandoracle.BeginBlocker", "BeginBlocker", "k.GetLastBlockHeight"),
  ("bandoracle.BeginBlocker", "BeginBlocker", "k.GetCheckFlag"),
  ("bandoracle.BeginBlocker", "BeginBlocker", "k.GetFetchPriceMsg"),
  ("bandoracle.BeginBlocker", "BeginBlocker", "k.GetLastFetchPriceID"),
  ("bandoracle.BeginBlocker", "BeginBlocker", "k.GetTempFetchPriceID"),
  ("bandoracle.BeginBlocker", "BeginBlocker", "k.GetDiscardData"),
  ("bandoracle.BeginBlocker", "BeginBlocker", "k.SetTempFetchPriceID"),
  ("bandoracle.BeginBlocker", "BeginBlocker", "k.SetCheckFlag"),
  ("bandoracle.BeginBlocker", "BeginBlocker", "k.SetOracleValidationResult"),
  ("bandoracle.BeginBlocker", "BeginBlocker", "k.SetDiscardData"),
  ("bandoracle.BeginBlocker", "OraclePriceValidationByRequestID", "k.GetLastFetchPriceID"),
  ("bandoracle.BeginBlocker", "FetchPrice", "k.assetKeeper.GetAssets"),
  ("bandoracle.BeginBlocker", "FetchPrice", "k.scopedKeeper.GetCapability")      -- capability lookup, `(cap, ok)`
]

/-- calls whose body the extractor has expanded: the call adds nothing beyond the entries of the body, which are
in the table themselves (same blocker, deeper `fn`) -/
def expanded : List (String × String × String) := [
  ("liquidation.BeginBlocker", "BeginBlocker", "k.LiquidateVaults"),
  ("liquidation.BeginBlocker", "BeginBlocker", "k.LiquidateBorrows"),
  ("liquidationsV2.BeginBlocker", "BeginBlocker", "k.Liquidate"),
  ("liquidationsV2.BeginBlocker", "Liquidate", "k.LiquidateVaults"),
  ("liquidationsV2.BeginBlocker", "Liquidate", "k.LiquidateBorrows"),
  ("liquidationsV2.BeginBlocker", "Liquidate", "k.LiquidateForSurplusAndDebt"),
  ("liquidationsV2.BeginBlocker", "LiquidateForSurplusAndDebt", "k.CheckStatsForSurplusAndDebt"),
  ("auction.BeginBlocker", "BeginBlocker", "k.RestartDutch"),
  ("auction.BeginBlocker", "BeginBlocker", "k.RestartLendDutch"),
  ("auction.BeginBlocker", "RestartDutch", "k.RestartDutchAuctions"),
  ("auction.BeginBlocker", "RestartLendDutch", "k.RestartDutchLendAuctions"),
  ("market.BeginBlocker", "BeginBlocker", "k.UpdatePriceList"),
  ("market.BeginBlocker", "UpdatePriceList", "k.CalculateTwa"),
  ("bandoracle.BeginBlocker", "BeginBlocker", "k.FetchPrice"),
  ("bandoracle.BeginBlocker", "BeginBlocker", "k.OraclePriceValidationByRequestID")
]

/-- operators that can panic in Go, with the reason they cannot here -/
def opsTotal : List (String × String × String) := [
  ("liquidation.BeginBlocker", "LiquidateVaults", "index appIds[i]"),            -- `for i := range appIds`
  ("liquidation.BeginBlocker", "LiquidateBorrows", "slice borrowIDs[start:end]"),   -- `borrow_sweep_total`: sliced by its own length
  ("liquidationsV2.BeginBlocker", "LiquidateBorrows", "slice borrowIDs[start:end]"),-- `borrow_sweep_total`
  ("liquidationsV2.BeginBlocker", "LiquidateBorrows", "index newBorrowIDs[l]"),  -- `for l := range newBorrowIDs`
  ("market.BeginBlocker", "BeginBlocker", "div ctx.BlockHeight()%types.Int64Twenty"),     -- constant divisor 20
  ("bandoracle.BeginBlocker", "BeginBlocker", "div ctx.BlockHeight()%types.Int64Twenty"), -- constant divisor 20
  ("market.BeginBlocker", "BeginBlocker", "slice twa.PriceValue[:0]"),           -- `s[:0]` is legal for every slice, nil included
  ("market.BeginBlocker", "UpdatePriceList", "slice twa.PriceValue[:0]"),
  ("market.BeginBlocker", "BeginBlocker", "index data.Rates[index]"),            -- guarded by `length > index`, index starts at -1 and is incremented first
  ("market.BeginBlocker", "UpdatePriceList", "index twa.PriceValue[twa.CurrentIndex]"),   -- property C17: `C17.no_panic` (ring index < window)
  ("market.BeginBlocker", "CalculateTwa", "index twa.PriceValue[i]"),            -- C17.no_panic
  ("market.BeginBlocker", "CalculateTwa", "bits.Div64")                          -- C17.mean_fits_word (hi < divisor, divisor ≥ 1)
]

/-- **D3**: total only under `counter ≤ cap(list)` — `sweep_total_if_counter_le_cap`; violated on chain:
`d3_counterexample` -/
def conditionalD3 : List (String × String × String) := [
  ("liquidation.BeginBlocker", "LiquidateVaults", "slice totalVaults[start:end]"),
  ("liquidationsV2.BeginBlocker", "LiquidateVaults", "slice totalVaults[start:end]")
]

/-- **D-C15-1** (fixed in the repository by `6f0df35`): the calls of the surplus / debt kick-off of the second generation when
it runs outside every wrapper. No panic is reachable (256-bit `sdk.Int` arithmetic on governance-set thresholds; `DebtTokenAmount` / `SurplusTokenAmount` return empty
coins only for a collector asset that does not exist, which `WasmSetCollectorLookupTable` refuses), but the step is NOT
all-or-nothing and a failing entry stops the loop: `surplusKickRaw`, `kickoff_leaks_counterexample`, `kickoff_repeats`;
witness replayed first in the harness run (`kick.*`), monitors `kickoff_atomic`, `kickoff_remaining`. With the repair
(`kickoff_wrapped_is_atomic`) these entries are not in the unwrapped part of the table. -/
def kickoffDC151 : List (String × String × String) := [
  ("liquidationsV2.BeginBlocker", "CheckStatsForSurplusAndDebt", "collector.DebtThreshold.Sub"),
  ("liquidationsV2.BeginBlocker", "CheckStatsForSurplusAndDebt", "collector.SurplusThreshold.Add"),
  ("liquidationsV2.BeginBlocker", "CheckStatsForSurplusAndDebt", "netFeeCollectedData.NetFeesCollected.LTE"),
  ("liquidationsV2.BeginBlocker", "CheckStatsForSurplusAndDebt", "netFeeCollectedData.NetFeesCollected.GTE"),
  ("liquidationsV2.BeginBlocker", "CheckStatsForSurplusAndDebt", "k.DebtTokenAmount"),
  ("liquidationsV2.BeginBlocker", "CheckStatsForSurplusAndDebt", "k.SurplusTokenAmount"),
  ("liquidationsV2.BeginBlocker", "CheckStatsForSurplusAndDebt", "k.CreateLockedVault")
]

/-- read, judged panic-free, exercised by the feed histories over a real IBC channel — NOT proved (the IBC keeper is outside
the model): `obi.MustEncode` of the fixed struct type `FetchPriceCallData` (a panic would be a static type error of the
encoder, independent of state), `SendPacket` (returns an error, which `FetchPrice` turns into `nil, nil` before any write of
its own, `x/bandoracle/keeper/oracle.go:102-112`). -/
def reviewedUnproved : List (String × String × String) := [
  ("bandoracle.BeginBlocker", "FetchPrice", "obi.MustEncode"),
  ("bandoracle.BeginBlocker", "FetchPrice", "k.channelKeeper.SendPacket")
]

def key (e : Entry) : String × String × String := (e.blocker, e.inFn, e.callee)

def reviewed (e : Entry) : Bool :=
  pureHelpers.contains e.callee || storeAccess.contains (key e) || expanded.contains (key e) || opsTotal.contains (key e) ||
  conditionalD3.contains (key e) || kickoffDC151.contains (key e) || reviewedUnproved.contains (key e)

theorem unwrapped_calls_reviewed : ∀ e ∈ unwrapped, reviewed e = true := by decide +kernel

/-- the obligation ranges over exactly the unwrapped part of the table, and that part is the complement of the
wrapped part -/
theorem unwrapped_is_the_unwrapped_part :
    (unwrapped.all fun e => !e.wrapped) = true ∧ (wrappedEntries.all fun e => e.wrapped) = true := by
  constructor <;> decide +kernel

/-- has the blocker a unit in function `fn`, inside a loop (`loop`) or not, at nesting depth `nest`? -/
def hasUnit (b fn : String) (loop : Bool) (nest : Nat) : Bool :=
  units.any fun u => u.blocker == b && u.inFn == fn && u.loop == loop && u.nest == nest

/-- a per-item unit: a wrapper call in function `fn` whose innermost enclosing loop statement is `over` (the ITEM loop —
the wrapper is inside it), at nesting depth `nest`, the closure itself containing exactly the loops `inner` (loops over
the parts of ONE item; a loop over the items inside the closure would be one wrapper for all items) -/
def perItemUnit (b fn over : String) (nest : Nat) (inner : List String) : Bool :=
  units.any fun u => u.blocker == b && u.inFn == fn && u.loop && u.loopOver == over && u.nest == nest && u.innerLoops == inner

/-- a hook that is one unit as a whole: a wrapper call at the top of the blocker, in no loop -/
def wholeHookUnit (b : String) (inner : List String) : Bool :=
  units.any fun u => u.blocker == b && u.inFn == "BeginBlocker" && !u.loop && u.loopOver == "" && u.nest == 1 && u.innerLoops == inner

theorem units_of_work_wrapped :
    perItemUnit "liquidation.BeginBlocker" "LiquidateVaults" "range newVaults" 1 [] = true ∧       -- one vault liquidation (gen 1)
    perItemUnit "liquidation.BeginBlocker" "LiquidateBorrows" "range newBorrowIDs" 1 ["range pool.AssetData"] = true ∧ -- one borrow liquidation (gen 1)
    perItemUnit "liquidationsV2.BeginBlocker" "LiquidateVaults" "range newVaults" 1 [] = true ∧    -- one vault liquidation (gen 2)
    perItemUnit "liquidationsV2.BeginBlocker" "LiquidateBorrows" "range newBorrowIDs" 1 [] = true ∧ -- one borrow liquidation (gen 2; finding D6)
    perItemUnit "auction.BeginBlocker" "BeginBlocker" "range auctionMapData" 1 [] = true ∧         -- surplus / debt activator per collector mapping
    perItemUnit "auction.BeginBlocker" "RestartDutchAuctions" "range dutchAuctions" 1 [] = true ∧  -- one auction update (gen 1, vault auctions)
    perItemUnit "auction.BeginBlocker" "RestartDutchLendAuctions" "range dutchAuctions" 1 [] = true ∧ -- one auction update (gen 1, lend auctions)
    perItemUnit "auctionsV2.BeginBlocker" "AuctionIterator" "range auctions" 2 [] = true ∧         -- one auction update (gen 2), nested in the pass
    perItemUnit "auctionsV2.BeginBlocker" "LimitOrderBid" "range auctions" 2 ["range biddingData"] = true ∧ -- one auction's limit-bid fill (its bids: inner loop)
    perItemUnit "liquidity.BeginBlocker" "BeginBlocker" "range allApps" 1 [] = true ∧              -- one app's request clean-up
    perItemUnit "liquidity.EndBlocker" "EndBlocker" "range allApps" 1 [] = true ∧                  -- one app's batch execution
    wholeHookUnit "rewards.BeginBlocker" [] = true ∧                                               -- the incentive hook as a whole
    wholeHookUnit "esm.BeginBlocker" ["range apps"] = true ∧                                       -- the emergency-shutdown hook as a whole (all apps)
    wholeHookUnit "lend.BeginBlocker" [] = true := by decide +kernel

/-- **All wrapper sites with their loops**: for each of the 17 `ApplyFuncIfNoError` calls reached from a blocker — function,
nesting depth, the innermost loop statement enclosing the call (`""` = none: a whole-hook unit or a pass) and the loops
written inside its closure. A wrapper moved out of (or into) a loop, or a loop over items moved into a closure, changes
this list. -/
def wrapperSites (repairedKickoff : Bool) : List (String × String × Nat × String × List String) :=
      [("liquidity.BeginBlocker", "BeginBlocker", 1, "range allApps", []),
       ("liquidity.EndBlocker", "EndBlocker", 1, "range allApps", []),
       ("liquidation.BeginBlocker", "LiquidateVaults", 1, "range newVaults", []),
       ("liquidation.BeginBlocker", "LiquidateBorrows", 1, "range newBorrowIDs", ["range pool.AssetData"]),
       ("liquidationsV2.BeginBlocker", "LiquidateVaults", 1, "range newVaults", []),
       ("liquidationsV2.BeginBlocker", "LiquidateBorrows", 1, "range newBorrowIDs", [])] ++
      -- the repair of D-C15-1 (notes/C15.md): one more site, the surplus / debt kick-off per auction-mapping entry
      (if repairedKickoff then [("liquidationsV2.BeginBlocker", "LiquidateForSurplusAndDebt", 1, "range auctionMapData", [])] else []) ++
      [("auction.BeginBlocker", "BeginBlocker", 1, "range auctionMapData", []),
       ("auction.BeginBlocker", "BeginBlocker", 1, "range auctionMapData", []),
       ("auction.BeginBlocker", "RestartDutchAuctions", 1, "range dutchAuctions", []),
       ("auction.BeginBlocker", "RestartDutchLendAuctions", 1, "range dutchAuctions", []),
       ("auctionsV2.BeginBlocker", "BeginBlocker", 1, "", []),
       ("auctionsV2.BeginBlocker", "AuctionIterator", 2, "range auctions", []),
       ("auctionsV2.BeginBlocker", "BeginBlocker", 1, "", []),
       ("auctionsV2.BeginBlocker", "LimitOrderBid", 2, "range auctions", ["range biddingData"]),
       ("rewards.BeginBlocker", "BeginBlocker", 1, "", []),
       ("lend.BeginBlocker", "BeginBlocker", 1, "", []),
       ("esm.BeginBlocker", "BeginBlocker", 1, "", ["range apps"])]

def siteList : List (String × String × Nat × String × List String) :=
  units.map fun u => (u.blocker, u.inFn, u.nest, u.loopOver, u.innerLoops)

/-- the file is to compile on the tree without and with the kick-off site (D-C15-1): the proof tries the one list, then the other -/
theorem wrapper_sites_and_their_loops : (siteList == wrapperSites false || siteList == wrapperSites true) = true := by
  first
    | rw [show siteList = wrapperSites false from rfl, beq_self_eq_true, Bool.true_or]
    | rw [show siteList = wrapperSites true from rfl, beq_self_eq_true, Bool.or_true]

/-! ### Error propagation inside the wrapped units (`errorSites`)

`ApplyFuncIfNoError` rolls back only if the closure *returns* the error (or panics). The extractor lists, for every
closure and two levels into the module's own keeper functions it calls, every call that produces an error and what
happens to it. Anything but `returned` (and `never-fails`: the callee's return statements all return a nil error) must
be on this reviewed list `(blocker, enclosing function, callee, disposition)`. -/

def swallowReviewed : List (String × String × String × String) := [
  -- liquidity clean-up every 150 blocks: a void helper; the params lookup is its first statement (nothing written yet);
  -- a market order that cannot be placed is skipped, the accumulated fees stay where they are for the next round
  ("liquidity.BeginBlocker", "ConvertAccumulatedSwapFeesWithSwapDistrToken", "k.GetGenericParams", "swallowed:return-nil"),
  ("liquidity.BeginBlocker", "ConvertAccumulatedSwapFeesWithSwapDistrToken", "k.MarketOrder", "swallowed:logged"),
  -- values only: an inactive price makes the value zero / the following guarded call fail; no write depends on the error
  ("liquidation.BeginBlocker", "UpdateLockedBorrows", "k.market.CalcAssetPrice", "blank"),
  ("auctionsV2.BeginBlocker", "CloseEnglishAuction", "k.GetUserBid", "blank"),           -- ids come from the auction's own bid list
  ("auctionsV2.BeginBlocker", "PlaceDutchAuctionBid", "k.vault.GetAmountOfOtherToken", "blank"),
  -- the incentive hook is ONE unit that by design logs a failing sub-step and goes on; it never reports failure itself.
  -- Its sub-steps are loops over independent records (gauges, external-reward records, users): the fallible operation of
  -- an iteration (kill-switch / ESM test, bank send) comes before that iteration's writes, a failed payout is skipped.
  -- Exercised: `hooks.sub.single` lines (which sub-steps return an error, and after which writes).
  ("rewards.BeginBlocker", "TriggerAndUpdateEpochInfos", "k.InitateGaugesForDuration", "swallowed:logged"),
  ("rewards.BeginBlocker", "InitateGaugesForDuration", "k.BeginRewardDistributions", "swallowed:continue"),
  ("rewards.BeginBlocker", "InitateGaugesForDuration", "k.liquidityKeeper.TransferFundsForSwapFeeDistribution", "swallowed:continue"),
  ("rewards.BeginBlocker", "BeginBlocker", "k.DistributeExtRewardLocker", "swallowed:logged"),
  ("rewards.BeginBlocker", "DistributeExtRewardLocker", "k.bank.SendCoinsFromModuleToAccount", "swallowed:continue"),
  ("rewards.BeginBlocker", "BeginBlocker", "k.DistributeExtRewardVault", "swallowed:logged"),
  ("rewards.BeginBlocker", "DistributeExtRewardVault", "k.bank.SendCoinsFromModuleToAccount", "swallowed:continue"),
  ("rewards.BeginBlocker", "BeginBlocker", "k.DistributeExtRewardLend", "swallowed:logged"),
  ("rewards.BeginBlocker", "DistributeExtRewardLend", "k.bank.SendCoinsFromModuleToAccount", "swallowed:continue"),
  ("rewards.BeginBlocker", "BeginBlocker", "k.DistributeExtRewardStableVault", "swallowed:logged"),
  ("rewards.BeginBlocker", "DistributeExtRewardStableVault", "k.liquidityKeeper.GetAmountFarmedForAssetID", "swallowed:logged"),
  ("rewards.BeginBlocker", "DistributeExtRewardStableVault", "k.bank.SendCoinsFromModuleToAccount", "swallowed:continue"),
  -- the emergency-shutdown hook is ONE unit over all apps; a stage that fails for one app (`continue`) must not block the
  -- other apps. Each stage is a resumable loop: per position the lookups (snapshot price, pair, asset) and the bank
  -- operation precede the writes, the stage's completion flag is set only after the loop.
  ("esm.BeginBlocker", "BeginBlocker", "k.SetUpCollateralRedemptionForVault", "swallowed:continue"),
  ("esm.BeginBlocker", "BeginBlocker", "k.SetUpCollateralRedemptionForStableVault", "swallowed:continue"),
  ("esm.BeginBlocker", "BeginBlocker", "k.SetUpDebtRedemptionForCollector", "swallowed:continue"),
  ("esm.BeginBlocker", "BeginBlocker", "k.SetUpShareCalculation", "swallowed:continue")
]

def errOk (s : ErrSite) : Bool :=
  s.disp == "returned" || s.disp == "never-fails" || swallowReviewed.contains (s.blocker, s.inFn, s.callee, s.disp)

/-- **Wrapped units propagate their errors**: inside every `ApplyFuncIfNoError` closure (and two levels into the own
keeper functions it calls) every error a call produces reaches the closure's return — so that the wrapper rolls the
unit back — except at the reviewed sites above. A closure that logs the error of its step and returns nil fails here. -/
theorem wrapped_units_propagate_errors : ∀ s ∈ errorSites, errOk s = true := by decide +kernel

/-- every closure works on the cache context it is handed, never on a context variable of the enclosing function -/
theorem units_use_their_cache_context : ∀ u ∈ units, u.liveCtx = false := by decide +kernel

/-- the closures that can never return a non-nil error are exactly the reviewed four: the liquidity clean-up (its body
has no fallible call), the two second-generation auction passes (their items are units of their own) and the incentive
hook (see `swallowReviewed`); every per-item closure has a failing return path -/
theorem per_item_units_can_report_failure :
    (units.filter fun u => !u.returnsNonNil).map (fun u => (u.blocker, u.inFn, u.nest)) =
      [("liquidity.BeginBlocker", "BeginBlocker", 1), ("auctionsV2.BeginBlocker", "BeginBlocker", 1),
       ("auctionsV2.BeginBlocker", "BeginBlocker", 1), ("rewards.BeginBlocker", "BeginBlocker", 1)] := rfl

/-! ### Where the bounds of the unwrapped slice expressions come from (`sliceFacts`)

`sweep_total_if_counter_le_cap` speaks about ONE reading of the store: the counter and the list as they are at the
same moment. In a sweep that loops over apps the units of an earlier iteration delete vaults and lower the counter, so
both must be read again in every iteration. The extractor traces the bound variables of every unwrapped
`list[start:end]` back to the calls they derive from and says, for the list and for each source, whether it is read in
the same innermost loop iteration as the slice expression. -/

/-- sources that may be read once before the loop: nothing a liquidation unit does changes them -/
def loopInvariantSources : List String := [
  "k.GetParams",                 -- module params (batch size): changed by governance only
  "k.GetAppIdsForLiquidation"    -- the whitelist the loop ranges over: changed by governance only
]

def sliceFactOk (f : SliceFact) : Bool :=
  f.listSameLoop && f.sources.all fun s => s.sameLoop || loopInvariantSources.contains s.callee

/-- does the fact have a length source (the stored counter, or `len` of the list itself) read with the list? -/
def hasFreshLength (f : SliceFact) : Bool :=
  f.sources.any fun s => s.sameLoop &&
    ((f.listSrc == "k.vault.GetVaults" && s.callee == "k.vault.GetLengthOfVault") ||
     (f.expr == "borrowIDs[start:end]" && s.callee == "len(borrowIDs)"))

/-- **The sweeps slice a list by a length read in the same iteration**: for every unwrapped `list[start:end]` the
list and everything its bounds derive from (counter, offset holder) are read in the same loop iteration as the slice
expression, except the reviewed loop-invariant sources. Hoisting the counter read out of the per-app loop of the
first-generation vault sweep (while the list is re-read per app) fails here. -/
theorem sweep_bounds_read_with_list : ∀ f ∈ sliceFacts, sliceFactOk f = true ∧ hasFreshLength f = true := by decide +kernel

theorem d3_only_in_the_vault_sweeps :
    (unwrapped.filter fun e => conditionalD3.contains (key e)).length ≤ 2 := by decide +kernel

/-- **Pins**: exactly the twelve Begin/EndBlockers of the ten modules the extractor covers (`asset.BeginBlocker`, the thirteenth
hook of the C12 inventory, is an empty closure, `x/asset/abci.go`), seventeen or eighteen wrapper sites (D-C15-1), lower bounds on
the entry counts (a repair of D3 or D-C15-1 removes some) and spot entries: an extractor that returns little fails here. -/
theorem table_pins :
    blockers.length = 12 ∧ (units.length = 17 ∨ units.length = 18) ∧ unwrapped.length ≥ 150 ∧ wrappedEntries.length ≥ 150 ∧
    entries.length ≥ 380 ∧ errorSites.length ≥ 120 ∧
    (sliceFacts.map fun f => (f.blocker, f.inFn, f.expr, f.listSrc)) =
      [("liquidation.BeginBlocker", "LiquidateVaults", "totalVaults[start:end]", "k.vault.GetVaults"),
       ("liquidation.BeginBlocker", "LiquidateBorrows", "borrowIDs[start:end]", "k.lend.GetBorrows"),
       ("liquidationsV2.BeginBlocker", "LiquidateVaults", "totalVaults[start:end]", "k.vault.GetVaults"),
       ("liquidationsV2.BeginBlocker", "LiquidateBorrows", "borrowIDs[start:end]", "k.lend.GetBorrows")] ∧
    (errorSites.any fun s => s.blocker == "liquidationsV2.BeginBlocker" && s.inFn == "LiquidateVaults" &&
        s.callee == "k.LiquidateIndividualVault" && s.disp == "returned") = true ∧
    (errorSites.any fun s => s.blocker == "liquidation.BeginBlocker" && s.callee == "k.CreateLockedVault" && s.disp == "returned") = true ∧
    (blockers.map (·.name)) = ["liquidity.BeginBlocker", "liquidity.EndBlocker", "liquidation.BeginBlocker",
      "liquidationsV2.BeginBlocker", "auction.BeginBlocker", "auctionsV2.BeginBlocker", "rewards.BeginBlocker",
      "rewards.EndBlocker", "lend.BeginBlocker", "esm.BeginBlocker", "market.BeginBlocker", "bandoracle.BeginBlocker"] ∧
    (blockers.any fun b => b.name == "auctionsV2.BeginBlocker" && b.top == ["unit", "unit"]) = true ∧
    (blockers.any fun b => b.name == "rewards.EndBlocker" && b.top == []) = true ∧
    (unwrapped.any fun e => key e == ("liquidation.BeginBlocker", "LiquidateVaults", "k.vault.GetLengthOfVault")) = true ∧
    (wrappedEntries.any fun e => e.blocker == "liquidation.BeginBlocker" && e.callee == "k.CreateLockedVault") = true ∧
    (wrappedEntries.any fun e => e.blocker == "liquidity.EndBlocker" && e.callee == "k.ExecuteRequests") = true ∧
    (wrappedEntries.any fun e => e.blocker == "auction.BeginBlocker" && e.callee == "k.vault.CreateNewVault") = true := by decide +kernel

end Comdex.C15
