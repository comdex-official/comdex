import Comdex.Gen.Pure
import Comdex.Lemmas.PureDutch
/-!
# C10 — the Dutch price functions of the model ARE the arithmetic of the current Go source (both generations)

Regenerated on every run by `extract/pure` (Go → Lean, notes/PURE.md):

| Go function                                                              | translation (`Gen.Pure.…`)   | model (`DutchPrice.…`) | theorem |
|--------------------------------------------------------------------------|------------------------------|------------------------|---------|
| x/auction/keeper/math.go `getOutflowTokenInitialPrice`                   | `auctionInitialPrice`        | `startPrice`           | `pure_auctionInitialPrice_eq_model` |
| x/auction/keeper/math.go `getOutflowTokenEndPrice` (+ `Multiply`)        | `auctionEndPrice`            | `endPrice`             | `pure_auctionEndPrice_eq_model` |
| x/auction/keeper/math.go `getPriceFromLinearDecreaseFunction`            | `auctionLinearPrice`         | `linear`               | `pure_auctionLinearPrice_eq_model` |
| x/auctionsV2/keeper/maths.go `GetCollalteralTokenInitialPrice`           | `auctionsV2InitialPrice`     | `startPrice`           | `pure_auctionsV2InitialPrice_eq_model` |
| x/auctionsV2/keeper/maths.go `GetCollateralTokenEndPrice` (+ `Multiply`) | `auctionsV2EndPrice`         | `endPrice`             | `pure_auctionsV2EndPrice_eq_model` |
| x/auctionsV2/keeper/maths.go `GetPriceFromLinearDecreaseFunction`        | `auctionsV2LinearPrice`      | `linear`               | `pure_auctionsV2LinearPrice_eq_model` |

The model has ONE failure value (`Except Unit`: the step panics and `ApplyFuncIfNoError` writes nothing), so the
theorems compare through `PureDutch.forget` (drop the panic class): for ALL arguments the translation returns the
model's price, and panics exactly when the model fails (`Int64()` out of range, `Quo` by zero, 315-bit overflow, and
the 256-bit overflow of `tau.Sub(dur)`, which implies the `Int64()` failure the model tests).

Trusted: the translator's reading of Go and `Base/GoSem.lean`; kernel-checked: the equality with the model.
-/
set_option exponentiation.threshold 512 -- `Dec.fits`, `Dec.fitsInt` compare with `2 ^ 315`, `2 ^ 256`
namespace Comdex.C10
open Comdex.GoSem Comdex.DutchPrice Comdex.PureDutch

local macro "linear_tac" tau:ident dur:ident : tactic => `(tactic| (
  unfold linear
  simp only [forget_bind, forget_decMul, forget_decQuo, forget_intInt64, forget_intSub, bind_pure]
  have hd : ∀ i, decNew i = Dec.ofInt i := fun _ => rfl
  simp only [hd]
  by_cases hA : DutchPrice.fitsI64 ($tau - $dur) = true
  · by_cases hB : DutchPrice.fitsI64 $tau = true
    · have hz : Dec.ofInt $tau = 0 ↔ $tau = 0 := decNew_eq_zero $tau
      simp only [fitsInt_of_fitsI64 hA, hA, hB, if_true, pure_bind, Bool.not_true, Bool.or_self, Bool.false_eq_true,
        if_false, hz]
      by_cases ht : $tau = 0
      · simp only [ht, if_true, bind_error_unit]
      · simp only [ht, if_false]
    · simp only [fitsInt_of_fitsI64 hA, hA, hB, if_true, pure_bind, if_false, error_bind_unit, bind_error_unit,
        Bool.not_true, Bool.false_or, Bool.not_eq_true', Bool.false_eq_true, Bool.not_false]
  · have hA' : DutchPrice.fitsI64 ($tau - $dur) = false := Bool.not_eq_true _ |>.mp hA
    simp only [hA', Bool.not_false, Bool.true_or, if_true]
    by_cases hI : Dec.fitsInt ($tau - $dur) = true
    · simp only [hI, if_true, pure_bind, hA', Bool.false_eq_true, if_false, error_bind_unit]
    · simp only [hI, Bool.false_eq_true, if_false, error_bind_unit]))


theorem pure_auctionInitialPrice_eq_model (twa : Int) (premium : Dec) :
    forget (Gen.Pure.auctionInitialPrice twa premium) = startPrice twa premium := by
  unfold Gen.Pure.auctionInitialPrice startPrice
  simp only [forget_bind, forget_decMul, forget_intInt64, bind_pure]
  split <;> rfl

theorem pure_auctionEndPrice_eq_model (top cusp : Dec) :
    forget (Gen.Pure.auctionEndPrice top cusp) = endPrice top cusp := by
  unfold Gen.Pure.auctionEndPrice Gen.Pure.auctionMultiply
  simp only [bind_pure]
  exact forget_chkDec _

/-- `getPriceFromLinearDecreaseFunction(top, tau, dur)` = `linear`.  The code checks in another order than the model
(`tau.Sub(dur)` against 256 bits, its `Int64()`, the product, `tau.Int64()`, the divisor); with one failure value the order does
not show, and the 256-bit check is implied by the `Int64()` check that follows it. -/
theorem pure_auctionLinearPrice_eq_model (top : Dec) (tau dur : Int) :
    forget (Gen.Pure.auctionLinearPrice top tau dur) = linear top tau dur := by
  unfold Gen.Pure.auctionLinearPrice
  linear_tac tau dur

/-! ## generation 2 (x/auctionsV2): the translations are the same terms -/

theorem pure_auctionsV2InitialPrice_eq_model (twa : Int) (premium : Dec) :
    forget (Gen.Pure.auctionsV2InitialPrice twa premium) = startPrice twa premium :=
  pure_auctionInitialPrice_eq_model twa premium

theorem pure_auctionsV2EndPrice_eq_model (top cusp : Dec) :
    forget (Gen.Pure.auctionsV2EndPrice top cusp) = endPrice top cusp :=
  pure_auctionEndPrice_eq_model top cusp

theorem pure_auctionsV2LinearPrice_eq_model (top : Dec) (tau dur : Int) :
    forget (Gen.Pure.auctionsV2LinearPrice top tau dur) = linear top tau dur :=
  pure_auctionLinearPrice_eq_model top tau dur

/-! ## non-vacuity: concrete runs of the translations (1.2 × 2_000_000; cusp 0.6; 3600 s window, 900 s elapsed) -/
example : Gen.Pure.auctionInitialPrice 2000000 1200000000000000000 = .ok 2400000000000000000000000 := by rfl
example : Gen.Pure.auctionsV2EndPrice 2400000000000000000000000 600000000000000000 = .ok 1440000000000000000000000 := by rfl
example : Gen.Pure.auctionLinearPrice 2400000000000000000000000 9000 900 = .ok 2160000000000000000000000 := by rfl
example : Gen.Pure.auctionsV2LinearPrice 2400000000000000000000000 0 0 = .error .panic := by rfl        -- Quo by zero
example : Gen.Pure.auctionsV2InitialPrice 9223372036854775808 1 = .error .overflow := by rfl             -- Int64() out of bound
example : linear 2400000000000000000000000 9000 900 = .ok 2160000000000000000000000 := by rfl

end Comdex.C10
