import Comdex.Gen.Pure
import Comdex.Lemmas.GoSem
import Comdex.Model.Gauge
/-!
# C19 — the epoch split of the model IS the arithmetic of the current Go source

`Gen.Pure.splitTotalAmountPerEpoch` is regenerated on every run by `extract/pure` from
`x/rewards/keeper/utils.go: SplitTotalAmountPerEpoch` (uint64 arithmetic with wrap-around, `%` and `/` that panic on a
zero divisor, two counting loops with `append`).  `Gauge.split` is the hand-written model the C19 theorems
(`split_sums_to_total`, `split_lengths`, `split_each_within_one`, …) are about.

Go function → theorem
* `SplitTotalAmountPerEpoch` → `pure_splitTotalAmountPerEpoch_eq_model`: for all `uint64` arguments (naturals below 2^64)
  the translation returns exactly the model's list, and panics exactly when the model reports the division by zero.

Trusted: the translator's reading of Go and `Base/GoSem.lean`; kernel-checked: the equality with the model.
-/
namespace Comdex.C19
open Comdex.GoSem

/-- outcome of `Gauge.split` in the `GoSem` monad: its only failure is the division-by-zero run-time panic -/
def splitOutcome (r : Except String (List Nat)) : M (List Nat) :=
  match r with
  | .ok l => .ok l
  | .error _ => .error .panic

theorem pure_splitTotalAmountPerEpoch_eq_model (total epochs : Nat)
    (h1 : total < 18446744073709551616) (h2 : epochs < 18446744073709551616) :
    Gen.Pure.splitTotalAmountPerEpoch total epochs = splitOutcome (Gauge.split total epochs) := by
  unfold Gen.Pure.splitTotalAmountPerEpoch Gauge.split
  by_cases hlt : total < epochs
  · simp only [hlt, if_true]; rfl
  · by_cases h0 : epochs = 0
    · subst h0; simp only [hlt, if_false]; rfl
    · simp only [hlt, h0, if_false, u64Mod_pos h0, u64Div_pos h0, pure_bind, rangeU64, Nat.sub_zero]
      by_cases hm : total % epochs = 0
      · simp only [hm, if_true, forIn_append_map, List.nil_append, splitOutcome]
        rw [pure_bind, ← List.range_eq_range']
        show Except.ok _ = Except.ok _
        congr 1
        apply List.map_congr_left
        intro i _
        simp only [Gauge.splitAt, hm, if_true]
      · have hlt' : total % epochs < epochs := Nat.mod_lt _ (by omega)
        have hpp : total / epochs + 1 < 18446744073709551616 := by
          have hmul : epochs * (total / epochs) ≤ total := Nat.mul_div_le total epochs
          have h2e : 2 ≤ epochs := by
            rcases Nat.lt_or_ge epochs 2 with h | h
            · have : epochs = 1 := by omega
              rw [this, Nat.mod_one] at hm; exact absurd rfl hm
            · exact h
          have : 2 * (total / epochs) ≤ epochs * (total / epochs) := Nat.mul_le_mul_right _ h2e
          omega
        simp only [hm, if_false, u64Sub_of_le (Nat.le_of_lt hlt') h2, u64Add_of_fits hpp]
        -- the loop body as elaborated: a change of the translator's layout shows here first
        have hb : (fun (i_1 : Nat) (__s : List Nat) =>
              (if i_1 ≥ epochs - total % epochs then (pure (ForInStep.yield (__s ++ [total / epochs + 1])) : M _)
               else pure (ForInStep.yield (__s ++ [total / epochs]))))
            = fun i s => pure (ForInStep.yield (s ++ [Gauge.splitAt total epochs i])) := by
          funext i s
          simp only [Gauge.splitAt, hm, if_false]
          split <;> rfl
        rw [hb, forIn_append_map, pure_bind, ← List.range_eq_range']
        rfl

example : Gen.Pure.splitTotalAmountPerEpoch 150 11 = .ok [13, 13, 13, 13, 14, 14, 14, 14, 14, 14, 14] := by rfl
example : Gen.Pure.splitTotalAmountPerEpoch 150 10 = .ok [15, 15, 15, 15, 15, 15, 15, 15, 15, 15] := by rfl
example : Gen.Pure.splitTotalAmountPerEpoch 5 0 = .error .panic := by rfl
example : Gen.Pure.splitTotalAmountPerEpoch 5 6 = .ok [] := by rfl

end Comdex.C19
