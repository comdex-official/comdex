import Comdex.Lemmas.Effects
import Comdex.Gen.Effects_auctionsV2
import Comdex.Gen.Effects_auction
/-!
# C11 — the EFFECT SKELETON of the English-auction and limit-bid entry points, pinned

GOLDEN SKELETON (the weaker tie).  The regenerated table (extract/effects, from the Go source on every run) lists for each
entry point the ordered bank calls; the models of C11 (`Model/English.lean`, `LimitBid.lean`) keep their bank calls inside
the step functions, not as data — so the regenerated skeleton is compared,
item by item, with the reviewed literals `exp_…` in this file: bank op, ABSTRACT party and denomination texts (argument lists
of calls nested deeper than one level elided, `…`), "only if its own amount is positive", the signature of the path
conditions (polarity + 32-bit hash of the whole normalised condition text, legend below), loop / cache-closure flags.  Amount
expressions are not compared (the C11 correspondence runs do that).  A transfer that moved under another guard, lost or gained
a guard, changed party or denomination, disappeared or appeared makes `c11_pins` fail on the next run, whatever states the
generated population reaches.

Entry points: x/auctionsV2 `PlaceEnglishAuctionBid`, `CloseEnglishAuction`, `DepositLimitAuctionBid`, `CancelLimitAuctionBid`,
`WithdrawLimitAuctionBid`, `LimitOrderBid` (the begin-block matching of limit bids, inside `ApplyFuncIfNoError`); x/auction
`PlaceSurplusAuctionBid`, `closeSurplusAuction`, `PlaceDebtAuctionBid`, `closeDebtAuction`.

| clause | theorem |
|---|---|
| bank skeleton of every entry point = reviewed literal | `c11_pins` |
| number of bank calls per entry point, no bank op the projection does not know, no opaque call | `c11_table` |

## legend of the condition hashes (hash, kind, normalised text; long texts head…hash…tail)

`1303515621 | if | true`: `if inc` of lend's `UpdateReserveBalances(…, inc bool)` (funds.go:18) inlined with `true`; items under `false` are dead.
`2986367180 | if | !true`: `if !isAutoBid` of `PlaceDutchAuctionBid` (bid.go:72, 257) inlined into `LimitOrderBid` with `true`; items under it are dead.

| h | kind | text |
|---|---|---|
| 1331667078 | if | `auctionData.ActiveBiddingId != 0` |
| 2526960822 | if | `liquidationsV2.GetLockedVault(englishAuction.AppId, englishAuction.LockedVaultId).InitiatorType == "surplus"` |
| 49776675 | if | `liquidationsV2.GetLockedVault(englishAuction.AppId, englishAuction.LockedVaultId).InitiatorType == "debt"` |
| 3491829210 | pos | `englishAuction.CollateralToken.Amount.GT(0)` |
| 1272498807 | exit | `addr(bidder)#2 != nil` |
| 137154069 | pos | `amount.Amount.GT(0)` |
| 3747870161 | pos | `auctionsV2.GetUserLimitBidData(DebtTokenId, CollateralTokenId, PremiumDiscount, bidder).DebtToken.Amount.GT(0)` |
| 1601799020 | if | `amount.Amount.Equal(auctionsV2.GetUserLimitBidData(DebtTokenId, CollateralTokenId, PremiumDiscount, bidder).DebtToken.Amount)` |
| 504748195 | loop | `range auctionsV2.GetAuctions()` |
| 2669696102 | if | `each(auctionsV2.GetAuctions()).CollateralTokenOraclePrice.GT(each(auctionsV2.GetAuctions()).CollateralTokenAuctionPrice)` |
| 3178329836 | exit | `!auctionsV2.GetUserLimitBidDataByPremium(each(auctionsV2.GetAuctions()).DebtAssetId, each(auctio…bd7176ec…ePrice).Mul(sdk.NewDecFromInt(100)).TruncateInt())#2` |
| 3773838022 | loop | `range auctionsV2.GetUserLimitBidDataByPremium(each(auctionsV2.GetAuctions()).DebtAssetId, each(a…e0f032c6…2.GetAuctions()).CollateralTokenOraclePrice.Sub(eac…` |
| 3522916581 | if | `each(auctionsV2.GetUserLimitBidDataByPremium(each(auctionsV2.GetAuctions()).DebtAssetId, each(au…d1fb70e5…GTE(each(auctionsV2.GetAuctions()).DebtToken.Amount)` |
| 1068748814 | if | `ite(each(auctionsV2.GetUserLimitBidDataByPremium(each(auctionsV2.GetAuctions()).DebtAssetId, eac…3fb3d00e…ch(auctionsV2.GetAuctions()).CollateralToken.Amount)` |
| 2680706012 | if | `!vault.GetAmountOfOtherToken(each(auctionsV2.GetAuctions()).DebtAssetId, ite(liquidationsV2.GetL…9fc853dc…ch(auctionsV2.GetAuctions()).CollateralToken.Amount)` |
| 2010560415 | if | `liquidationsV2.GetAppReserveFunds(each(auctionsV2.GetAuctions()).AppId, each(auctionsV2.GetAucti…77d6b79f…tAuctions()).DebtAssetId).Twa))))#2)).Amount).GTE(0)` |
| 3796276551 | pos | `each(auctionsV2.GetAuctions()).DebtToken.Sub(coin(each(auctionsV2.GetAuctions()).DebtToken.Denom…e2469547…GetAuctions()).DebtAssetId).Twa))))#2)).Amount.GT(0)` |
| 2986367180 | if | `!true` |
| 1734121591 | if | `ite(!vault.GetAmountOfOtherToken(each(auctionsV2.GetAuctions()).DebtAssetId, ite(liquidationsV2.…675c9877…FromInt(int64(1000000)), sdk.NewDecFromInt(int64(ma…` |
| 382305784 | if | `ite(!vault.GetAmountOfOtherToken(each(auctionsV2.GetAuctions()).DebtAssetId, ite(liquidationsV2.…16c985f8…s()).DebtToken.Amount, each(auctionsV2.GetAuctions(…` |
| 2109617512 | if | `liquidationsV2.GetLockedVault(each(auctionsV2.GetAuctions()).AppId, each(auctionsV2.GetAuctions()).LockedVaultId).InitiatorType == "vault"` |
| 2595289691 | pos | `liquidationsV2.GetLockedVault(each(auctionsV2.GetAuctions()).AppId, each(auctionsV2.GetAuctions(…9ab0fa5b…ns()).LockedVaultId).FeeToBeCollected)).Amount.GT(0)` |
| 1780875758 | if | `each(auctionsV2.GetAuctions()).CollateralToken.Amount.Sub(ite(!vault.GetAmountOfOtherToken(each(…6a2601ee…uctions()).DebtAssetId).Twa))), each(auctionsV2.Get…` |
| 928406181 | if | `liquidationsV2.GetLockedVault(each(auctionsV2.GetAuctions()).AppId, each(auctionsV2.GetAuctions()).LockedVaultId).InitiatorType == "external"` |
| 874050314 | pos | `(liquidationsV2.GetLiquidationWhiteListing(each(auctionsV2.GetAuctions()).AppId).KeeeperIncentiv…3418f30a…ckedVaultId).FeeToBeCollected))).TruncateInt().GT(0)` |
| 564566190 | if | `liquidationsV2.GetLockedVault(each(auctionsV2.GetAuctions()).AppId, each(auctionsV2.GetAuctions()).LockedVaultId).IsInternalKeeper` |
| 2260549848 | pos | `ite(liquidationsV2.GetLockedVault(each(auctionsV2.GetAuctions()).AppId, each(auctionsV2.GetAucti…86bd40d8…ns()).LockedVaultId).FeeToBeCollected)).Amount.GT(0)` |
| 2968871195 | if | `liquidationsV2.GetLockedVault(each(auctionsV2.GetAuctions()).AppId, each(auctionsV2.GetAuctions()).LockedVaultId).InitiatorType == "lend"` |
| 1303515621 | if | `true` |
| 1437770738 | pos | `ite(!lend.GetBorrowInterestTracker(liquidationsV2.GetLockedVault(each(auctionsV2.GetAuctions()).…55b2a3f2…nalVaultId)).ReservePoolInterest.TruncateInt().GT(0)` |
| 2054179933 | pos | `(lend.GetBorrow(liquidationsV2.GetLockedVault(each(auctionsV2.GetAuctions()).AppId, each(auction…7a704c5d…lVaultId)).ReservePoolInterest)).TruncateInt().GT(0)` |
| 3727828721 | pos | `lend.GetBorrow(liquidationsV2.GetLockedVault(each(auctionsV2.GetAuctions()).AppId, each(auctions…de3226f1…Id).OriginalVaultId).BridgedAssetAmount.Amount.GT(0)` |
| 923730538 | pos | `each(auctionsV2.GetAuctions()).DebtToken.Amount.GT(0)` |
| 1336084875 | if | `vault.GetAmountOfOtherToken(each(auctionsV2.GetAuctions()).DebtAssetId, ite(liquidationsV2.GetLo…4fa3098b…tionsV2.GetAuctions()).CollateralTokenAuctionPrice)…` |
| 705882714 | if | `auction.GetSurplusAuction(appID, auctionMappingID, auctionID).AuctionStatus != auction/types.AuctionStartNoBids` |
| 333731544 | if | `statusEsm && surplusAuction.Bidder != nil` |
| 2250465699 | if | `!statusEsm && surplusAuction.Bidder != nil` |
| 2810226491 | if | `auction.GetDebtAuction(appID, auctionMappingID, auctionID).AuctionStatus != auction/types.AuctionStartNoBids` |
| 703494170 | if | `statusEsm && debtAuction.BiddingIds != nil` |
| 4111194398 | if | `(debtAuction.AuctionStatus != auction/types.AuctionStartNoBids) && !statusEsm` |
| 3920289901 | pos | `debtAuction.CurrentBidAmount.Amount.GT(0)` |
-/
namespace Comdex.C11
open Comdex.Effects Comdex.Gen.Effects

def exp_auctionsV2_PlaceEnglishAuctionBid : List APin := [
  ⟨"SendCoinsFromAccountToModule", "addr(bidder)", "\"auctionsV2\"", "ite(liquidationsV2.GetLockedVault(…).InitiatorType == \"debt\", auctionData.DebtToken, bid).Denom", false, [], false, false⟩,
  ⟨"SendCoinsFromModuleToAccount", "\"auctionsV2\"", "addr(auctionsV2.GetUserBid(…).BidderAddress)", "auctionData.DebtToken.Denom", false, [(true, 1331667078)], false, false⟩]

def exp_auctionsV2_CloseEnglishAuction : List APin := [
  ⟨"SendCoinsFromModuleToModule", "\"collectorV1\"", "\"auctionsV2\"", "englishAuction.CollateralToken.Denom", false, [(true, 2526960822)], false, false⟩,
  ⟨"SendCoinsFromModuleToAccount", "\"auctionsV2\"", "addr(auctionsV2.GetUserBid(…).BidderAddress)", "englishAuction.CollateralToken.Denom", false, [(true, 2526960822)], false, false⟩,
  ⟨"SendCoinsFromModuleToModule", "\"auctionsV2\"", "\"tokenmint\"", "englishAuction.DebtToken.Denom", false, [(true, 2526960822)], false, false⟩,
  ⟨"BurnCoins", "\"tokenmint\"", "", "asset.GetAsset(englishAuction.DebtAssetId).Denom", false, [(true, 2526960822)], false, false⟩,
  ⟨"MintCoins", "", "\"tokenmint\"", "asset.GetAsset(englishAuction.DebtAssetId).Denom", true, [(false, 2526960822), (true, 49776675), (true, 3491829210)], false, false⟩,
  ⟨"SendCoinsFromModuleToAccount", "\"tokenmint\"", "addr(auctionsV2.GetUserBid(…).BidderAddress)", "asset.GetAsset(englishAuction.DebtAssetId).Denom", true, [(false, 2526960822), (true, 49776675), (true, 3491829210)], false, false⟩,
  ⟨"SendCoinsFromModuleToModule", "\"auctionsV2\"", "\"collectorV1\"", "englishAuction.DebtToken.Denom", false, [(false, 2526960822), (true, 49776675)], false, false⟩,
  ⟨"SendCoinsFromModuleToAccount", "\"auctionsV2\"", "addr(auctionsV2.GetUserBid(…).BidderAddress)", "englishAuction.CollateralToken.Denom", false, [(false, 2526960822), (false, 49776675)], false, false⟩,
  ⟨"SendCoinsFromModuleToAccount", "\"auctionsV2\"", "addr(liquidationsV2.GetLockedVault(…).ExternalKeeperAddress)", "englishAuction.DebtToken.Denom", false, [(false, 2526960822), (false, 49776675)], false, false⟩]

def exp_auctionsV2_DepositLimitAuctionBid : List APin := [
  ⟨"SendCoinsFromAccountToModule", "addr(bidder)", "\"auctionsV2\"", "amount.Denom", true, [(false, 1272498807), (true, 137154069)], false, false⟩]

def exp_auctionsV2_CancelLimitAuctionBid : List APin := [
  ⟨"SendCoinsFromModuleToAccount", "\"auctionsV2\"", "addr(bidder)", "auctionsV2.GetUserLimitBidData(DebtTokenId, CollateralTokenId, PremiumDiscount, bidder).DebtToken.Denom", true, [(true, 3747870161)], false, false⟩]

def exp_auctionsV2_WithdrawLimitAuctionBid : List APin := [
  ⟨"SendCoinsFromModuleToAccount", "\"auctionsV2\"", "addr(bidder)", "auctionsV2.GetUserLimitBidData(DebtTokenId, CollateralTokenId, PremiumDiscount, bidder).DebtToken.Denom", true, [(true, 1601799020), (true, 3747870161)], false, false⟩,
  ⟨"SendCoinsFromModuleToAccount", "\"auctionsV2\"", "addr(bidder)", "amount.Denom", false, [(false, 1601799020), (true, 3747870161)], false, false⟩]

def exp_auctionsV2_LimitOrderBid : List APin := [
  ⟨"SendCoinsFromModuleToModule", "\"liquidationsV2\"", "\"auctionsV2\"", "each(auctionsV2.GetAuctions(…)).DebtToken.Sub(coin(…)).Denom", true, [(true, 504748195), (true, 2669696102), (false, 3178329836), (true, 3773838022), (true, 3522916581), (true, 1068748814), (true, 2680706012), (true, 2010560415), (true, 3796276551)], true, true⟩,
  ⟨"SendCoinsFromAccountToModule", "addr(addr(…", "\"auctionsV2\"", "each(auctionsV2.GetAuctions(…)).DebtToken.Denom", false, [(true, 504748195), (true, 2669696102), (false, 3178329836), (true, 3773838022), (true, 3522916581), (true, 1068748814), (true, 2986367180), (true, 1734121591)], true, true⟩,
  ⟨"SendCoinsFromModuleToAccount", "\"auctionsV2\"", "addr(addr(…", "each(auctionsV2.GetAuctions(…)).CollateralToken.Denom", false, [(true, 504748195), (true, 2669696102), (false, 3178329836), (true, 3773838022), (true, 3522916581), (true, 1068748814), (true, 382305784)], true, true⟩,
  ⟨"BurnCoins", "\"auctionsV2\"", "", "liquidationsV2.GetLockedVault(each(…).AppId, each(…).LockedVaultId).TargetDebt.Sub(coin(…)).Denom", true, [(true, 504748195), (true, 2669696102), (false, 3178329836), (true, 3773838022), (true, 3522916581), (true, 1068748814), (true, 2109617512), (true, 2595289691)], true, true⟩,
  ⟨"SendCoinsFromModuleToAccount", "\"auctionsV2\"", "addr(liquidationsV2.GetLockedVault(…).Owner)", "each(auctionsV2.GetAuctions(…)).CollateralToken.Denom", false, [(true, 504748195), (true, 2669696102), (false, 3178329836), (true, 3773838022), (true, 3522916581), (true, 1068748814), (true, 1780875758)], true, true⟩,
  ⟨"SendCoinsFromModuleToAccount", "\"auctionsV2\"", "addr(liquidationsV2.GetLockedVault(…).InternalKeeperAddress)", "each(auctionsV2.GetAuctions(…)).DebtToken.Denom", true, [(true, 504748195), (true, 2669696102), (false, 3178329836), (true, 3773838022), (true, 3522916581), (true, 1068748814), (true, 928406181), (true, 874050314)], true, true⟩,
  ⟨"SendCoinsFromModuleToAccount", "\"auctionsV2\"", "addr(liquidationsV2.GetLockedVault(…).ExternalKeeperAddress)", "liquidationsV2.GetLockedVault(each(…).AppId, each(…).LockedVaultId).TargetDebt.Sub(coin(…)).Denom", false, [(true, 504748195), (true, 2669696102), (false, 3178329836), (true, 3773838022), (true, 3522916581), (true, 1068748814), (true, 928406181)], true, true⟩,
  ⟨"SendCoinsFromModuleToAccount", "\"auctionsV2\"", "addr(liquidationsV2.GetLockedVault(…).InternalKeeperAddress)", "each(auctionsV2.GetAuctions(…)).DebtToken.Denom", true, [(true, 504748195), (true, 2669696102), (false, 3178329836), (true, 3773838022), (true, 3522916581), (true, 1068748814), (false, 928406181), (true, 2109617512), (true, 564566190), (true, 874050314)], true, true⟩,
  ⟨"SendCoinsFromModuleToModule", "\"auctionsV2\"", "\"collectorV1\"", "ite(liquidationsV2.GetLockedVault(…).IsInternalKeeper, ite(…), coin(…)).Denom", true, [(true, 504748195), (true, 2669696102), (false, 3178329836), (true, 3773838022), (true, 3522916581), (true, 1068748814), (false, 928406181), (true, 2109617512), (true, 2260549848)], true, true⟩,
  ⟨"SendCoinsFromModuleToModule", "\"auctionsV2\"", "lend.GetPool(lend.GetLendPair(…).AssetOutPoolID).ModuleName", "liquidationsV2.GetLockedVault(each(…).AppId, each(…).LockedVaultId).TargetDebt.Denom", false, [(true, 504748195), (true, 2669696102), (false, 3178329836), (true, 3773838022), (true, 3522916581), (true, 1068748814), (false, 928406181), (false, 2109617512), (true, 2968871195)], true, true⟩,
  ⟨"SendCoinsFromModuleToModule", "lend.GetPool(lend.GetLendPair(…).AssetOutPoolID).ModuleName", "\"lendV2\"", "lend.GetBorrow(liquidationsV2.GetLockedVault(…).OriginalVaultId).AmountOut.Denom", false, [(true, 504748195), (true, 2669696102), (false, 3178329836), (true, 3773838022), (true, 3522916581), (true, 1068748814), (false, 928406181), (false, 2109617512), (true, 2968871195), (true, 1303515621)], true, true⟩,
  ⟨"SendCoinsFromModuleToModule", "\"lendV2\"", "lend.GetPool(lend.GetLendPair(…).AssetOutPoolID).ModuleName", "lend.GetBorrow(liquidationsV2.GetLockedVault(…).OriginalVaultId).AmountOut.Denom", false, [(true, 504748195), (true, 2669696102), (false, 3178329836), (true, 3773838022), (true, 3522916581), (true, 1068748814), (false, 928406181), (false, 2109617512), (true, 2968871195), (false, 1303515621)], true, true⟩,
  ⟨"SendCoinsFromModuleToModule", "lend.GetPool(lend.GetLendPair(…).AssetOutPoolID).ModuleName", "\"lendV2\"", "each(auctionsV2.GetAuctions(…)).DebtToken.Denom", true, [(true, 504748195), (true, 2669696102), (false, 3178329836), (true, 3773838022), (true, 3522916581), (true, 1068748814), (false, 928406181), (false, 2109617512), (true, 2968871195), (true, 1437770738), (true, 1303515621)], true, true⟩,
  ⟨"SendCoinsFromModuleToModule", "\"lendV2\"", "lend.GetPool(lend.GetLendPair(…).AssetOutPoolID).ModuleName", "each(auctionsV2.GetAuctions(…)).DebtToken.Denom", true, [(true, 504748195), (true, 2669696102), (false, 3178329836), (true, 3773838022), (true, 3522916581), (true, 1068748814), (false, 928406181), (false, 2109617512), (true, 2968871195), (true, 1437770738), (false, 1303515621)], true, true⟩,
  ⟨"MintCoins", "", "lend.GetPool(lend.GetLendPair(…).AssetOutPoolID).ModuleName", "asset.GetAsset(lend.GetAssetRatesParams(…).CAssetID).Denom", true, [(true, 504748195), (true, 2669696102), (false, 3178329836), (true, 3773838022), (true, 3522916581), (true, 1068748814), (false, 928406181), (false, 2109617512), (true, 2968871195), (true, 2054179933)], true, true⟩,
  ⟨"SendCoinsFromModuleToModule", "lend.GetPool(lend.GetLendPair(…).AssetOutPoolID).ModuleName", "lend.GetPool(lend.GetLend(…).PoolID).ModuleName", "lend.GetBorrow(liquidationsV2.GetLockedVault(…).OriginalVaultId).BridgedAssetAmount.Denom", true, [(true, 504748195), (true, 2669696102), (false, 3178329836), (true, 3773838022), (true, 3522916581), (true, 1068748814), (false, 928406181), (false, 2109617512), (true, 2968871195), (true, 3727828721)], true, true⟩,
  ⟨"SendCoinsFromAccountToModule", "addr(addr(…", "\"auctionsV2\"", "each(auctionsV2.GetAuctions(…)).DebtToken.Denom", true, [(true, 504748195), (true, 2669696102), (false, 3178329836), (true, 3773838022), (true, 3522916581), (false, 1068748814), (true, 2986367180), (true, 923730538)], true, true⟩,
  ⟨"SendCoinsFromModuleToAccount", "\"auctionsV2\"", "addr(addr(…", "each(auctionsV2.GetAuctions(…)).CollateralToken.Denom", false, [(true, 504748195), (true, 2669696102), (false, 3178329836), (true, 3773838022), (true, 3522916581), (false, 1068748814), (true, 1336084875)], true, true⟩,
  ⟨"SendCoinsFromModuleToModule", "\"liquidationsV2\"", "\"auctionsV2\"", "each(auctionsV2.GetAuctions(…)).DebtToken.Sub(coin(…)).Denom", true, [(true, 504748195), (true, 2669696102), (false, 3178329836), (true, 3773838022), (false, 3522916581), (true, 1068748814), (true, 2680706012), (true, 2010560415), (true, 3796276551)], true, true⟩,
  ⟨"SendCoinsFromAccountToModule", "addr(addr(…", "\"auctionsV2\"", "each(auctionsV2.GetAuctions(…)).DebtToken.Denom", false, [(true, 504748195), (true, 2669696102), (false, 3178329836), (true, 3773838022), (false, 3522916581), (true, 1068748814), (true, 2986367180), (true, 1734121591)], true, true⟩,
  ⟨"SendCoinsFromModuleToAccount", "\"auctionsV2\"", "addr(addr(…", "each(auctionsV2.GetAuctions(…)).CollateralToken.Denom", false, [(true, 504748195), (true, 2669696102), (false, 3178329836), (true, 3773838022), (false, 3522916581), (true, 1068748814), (true, 382305784)], true, true⟩,
  ⟨"BurnCoins", "\"auctionsV2\"", "", "liquidationsV2.GetLockedVault(each(…).AppId, each(…).LockedVaultId).TargetDebt.Sub(coin(…)).Denom", true, [(true, 504748195), (true, 2669696102), (false, 3178329836), (true, 3773838022), (false, 3522916581), (true, 1068748814), (true, 2109617512), (true, 2595289691)], true, true⟩,
  ⟨"SendCoinsFromModuleToAccount", "\"auctionsV2\"", "addr(liquidationsV2.GetLockedVault(…).Owner)", "each(auctionsV2.GetAuctions(…)).CollateralToken.Denom", false, [(true, 504748195), (true, 2669696102), (false, 3178329836), (true, 3773838022), (false, 3522916581), (true, 1068748814), (true, 1780875758)], true, true⟩,
  ⟨"SendCoinsFromModuleToAccount", "\"auctionsV2\"", "addr(liquidationsV2.GetLockedVault(…).InternalKeeperAddress)", "each(auctionsV2.GetAuctions(…)).DebtToken.Denom", true, [(true, 504748195), (true, 2669696102), (false, 3178329836), (true, 3773838022), (false, 3522916581), (true, 1068748814), (true, 928406181), (true, 874050314)], true, true⟩,
  ⟨"SendCoinsFromModuleToAccount", "\"auctionsV2\"", "addr(liquidationsV2.GetLockedVault(…).ExternalKeeperAddress)", "liquidationsV2.GetLockedVault(each(…).AppId, each(…).LockedVaultId).TargetDebt.Sub(coin(…)).Denom", false, [(true, 504748195), (true, 2669696102), (false, 3178329836), (true, 3773838022), (false, 3522916581), (true, 1068748814), (true, 928406181)], true, true⟩,
  ⟨"SendCoinsFromModuleToAccount", "\"auctionsV2\"", "addr(liquidationsV2.GetLockedVault(…).InternalKeeperAddress)", "each(auctionsV2.GetAuctions(…)).DebtToken.Denom", true, [(true, 504748195), (true, 2669696102), (false, 3178329836), (true, 3773838022), (false, 3522916581), (true, 1068748814), (false, 928406181), (true, 2109617512), (true, 564566190), (true, 874050314)], true, true⟩,
  ⟨"SendCoinsFromModuleToModule", "\"auctionsV2\"", "\"collectorV1\"", "ite(liquidationsV2.GetLockedVault(…).IsInternalKeeper, ite(…), coin(…)).Denom", true, [(true, 504748195), (true, 2669696102), (false, 3178329836), (true, 3773838022), (false, 3522916581), (true, 1068748814), (false, 928406181), (true, 2109617512), (true, 2260549848)], true, true⟩,
  ⟨"SendCoinsFromModuleToModule", "\"auctionsV2\"", "lend.GetPool(lend.GetLendPair(…).AssetOutPoolID).ModuleName", "liquidationsV2.GetLockedVault(each(…).AppId, each(…).LockedVaultId).TargetDebt.Denom", false, [(true, 504748195), (true, 2669696102), (false, 3178329836), (true, 3773838022), (false, 3522916581), (true, 1068748814), (false, 928406181), (false, 2109617512), (true, 2968871195)], true, true⟩,
  ⟨"SendCoinsFromModuleToModule", "lend.GetPool(lend.GetLendPair(…).AssetOutPoolID).ModuleName", "\"lendV2\"", "lend.GetBorrow(liquidationsV2.GetLockedVault(…).OriginalVaultId).AmountOut.Denom", false, [(true, 504748195), (true, 2669696102), (false, 3178329836), (true, 3773838022), (false, 3522916581), (true, 1068748814), (false, 928406181), (false, 2109617512), (true, 2968871195), (true, 1303515621)], true, true⟩,
  ⟨"SendCoinsFromModuleToModule", "\"lendV2\"", "lend.GetPool(lend.GetLendPair(…).AssetOutPoolID).ModuleName", "lend.GetBorrow(liquidationsV2.GetLockedVault(…).OriginalVaultId).AmountOut.Denom", false, [(true, 504748195), (true, 2669696102), (false, 3178329836), (true, 3773838022), (false, 3522916581), (true, 1068748814), (false, 928406181), (false, 2109617512), (true, 2968871195), (false, 1303515621)], true, true⟩,
  ⟨"SendCoinsFromModuleToModule", "lend.GetPool(lend.GetLendPair(…).AssetOutPoolID).ModuleName", "\"lendV2\"", "each(auctionsV2.GetAuctions(…)).DebtToken.Denom", true, [(true, 504748195), (true, 2669696102), (false, 3178329836), (true, 3773838022), (false, 3522916581), (true, 1068748814), (false, 928406181), (false, 2109617512), (true, 2968871195), (true, 1437770738), (true, 1303515621)], true, true⟩,
  ⟨"SendCoinsFromModuleToModule", "\"lendV2\"", "lend.GetPool(lend.GetLendPair(…).AssetOutPoolID).ModuleName", "each(auctionsV2.GetAuctions(…)).DebtToken.Denom", true, [(true, 504748195), (true, 2669696102), (false, 3178329836), (true, 3773838022), (false, 3522916581), (true, 1068748814), (false, 928406181), (false, 2109617512), (true, 2968871195), (true, 1437770738), (false, 1303515621)], true, true⟩,
  ⟨"MintCoins", "", "lend.GetPool(lend.GetLendPair(…).AssetOutPoolID).ModuleName", "asset.GetAsset(lend.GetAssetRatesParams(…).CAssetID).Denom", true, [(true, 504748195), (true, 2669696102), (false, 3178329836), (true, 3773838022), (false, 3522916581), (true, 1068748814), (false, 928406181), (false, 2109617512), (true, 2968871195), (true, 2054179933)], true, true⟩,
  ⟨"SendCoinsFromModuleToModule", "lend.GetPool(lend.GetLendPair(…).AssetOutPoolID).ModuleName", "lend.GetPool(lend.GetLend(…).PoolID).ModuleName", "lend.GetBorrow(liquidationsV2.GetLockedVault(…).OriginalVaultId).BridgedAssetAmount.Denom", true, [(true, 504748195), (true, 2669696102), (false, 3178329836), (true, 3773838022), (false, 3522916581), (true, 1068748814), (false, 928406181), (false, 2109617512), (true, 2968871195), (true, 3727828721)], true, true⟩,
  ⟨"SendCoinsFromAccountToModule", "addr(addr(…", "\"auctionsV2\"", "each(auctionsV2.GetAuctions(…)).DebtToken.Denom", true, [(true, 504748195), (true, 2669696102), (false, 3178329836), (true, 3773838022), (false, 3522916581), (false, 1068748814), (true, 2986367180), (true, 923730538)], true, true⟩,
  ⟨"SendCoinsFromModuleToAccount", "\"auctionsV2\"", "addr(addr(…", "each(auctionsV2.GetAuctions(…)).CollateralToken.Denom", false, [(true, 504748195), (true, 2669696102), (false, 3178329836), (true, 3773838022), (false, 3522916581), (false, 1068748814), (true, 1336084875)], true, true⟩]

def exp_auction_PlaceSurplusAuctionBid : List APin := [
  ⟨"SendCoinsFromAccountToModule", "bidder", "\"auctionV1\"", "bid.Denom", false, [], false, false⟩,
  ⟨"SendCoinsFromModuleToAccount", "\"auctionV1\"", "auction.GetSurplusAuction(appID, auctionMappingID, auctionID).Bidder", "auction.GetSurplusAuction(appID, auctionMappingID, auctionID).Bid.Denom", false, [(true, 705882714)], false, false⟩]

def exp_auction_closeSurplusAuction : List APin := [
  ⟨"SendCoinsFromModuleToAccount", "\"auctionV1\"", "surplusAuction.Bidder", "surplusAuction.Bid.Denom", false, [(true, 333731544)], false, false⟩,
  ⟨"SendCoinsFromModuleToModule", "\"auctionV1\"", "\"collectorV1\"", "surplusAuction.SellToken.Denom", false, [(true, 333731544)], false, false⟩,
  ⟨"SendCoinsFromModuleToAccount", "\"auctionV1\"", "surplusAuction.Bidder", "surplusAuction.SellToken.Denom", false, [(false, 333731544), (true, 2250465699)], false, false⟩,
  ⟨"SendCoinsFromModuleToModule", "\"auctionV1\"", "\"tokenmint\"", "surplusAuction.Bid.Denom", false, [(false, 333731544), (true, 2250465699)], false, false⟩,
  ⟨"BurnCoins", "\"tokenmint\"", "", "asset.GetAsset(surplusAuction.AssetInId).Denom", false, [(false, 333731544), (true, 2250465699)], false, false⟩,
  ⟨"SendCoinsFromModuleToModule", "\"auctionV1\"", "\"collectorV1\"", "surplusAuction.SellToken.Denom", false, [(false, 333731544), (false, 2250465699)], false, false⟩]

def exp_auction_PlaceDebtAuctionBid : List APin := [
  ⟨"SendCoinsFromAccountToModule", "bidder", "\"auctionV1\"", "expectedUserToken.Denom", false, [], false, false⟩,
  ⟨"SendCoinsFromModuleToAccount", "\"auctionV1\"", "auction.GetDebtAuction(appID, auctionMappingID, auctionID).Bidder", "auction.GetDebtAuction(appID, auctionMappingID, auctionID).ExpectedUserToken.Denom", false, [(true, 2810226491)], false, false⟩]

def exp_auction_closeDebtAuction : List APin := [
  ⟨"SendCoinsFromModuleToAccount", "\"auctionV1\"", "addr(auction.GetDebtUserBidding(…).Bidder)", "debtAuction.ExpectedUserToken.Denom", false, [(true, 703494170)], false, false⟩,
  ⟨"MintCoins", "", "\"tokenmint\"", "asset.GetAsset(debtAuction.AssetOutId).Denom", true, [(false, 703494170), (true, 4111194398), (true, 3920289901)], false, false⟩,
  ⟨"SendCoinsFromModuleToAccount", "\"tokenmint\"", "addr(debtAuction.Bidder.String(…))", "asset.GetAsset(debtAuction.AssetOutId).Denom", true, [(false, 703494170), (true, 4111194398), (true, 3920289901)], false, false⟩,
  ⟨"SendCoinsFromModuleToModule", "\"auctionV1\"", "\"collectorV1\"", "debtAuction.ExpectedUserToken.Denom", false, [(false, 703494170), (true, 4111194398)], false, false⟩]

def pinPairs : List (String × List APin × List APin) := [
  ("auctionsV2_PlaceEnglishAuctionBid", apins h_auctionsV2_PlaceEnglishAuctionBid, exp_auctionsV2_PlaceEnglishAuctionBid),
  ("auctionsV2_CloseEnglishAuction", apins h_auctionsV2_CloseEnglishAuction, exp_auctionsV2_CloseEnglishAuction),
  ("auctionsV2_DepositLimitAuctionBid", apins h_auctionsV2_DepositLimitAuctionBid, exp_auctionsV2_DepositLimitAuctionBid),
  ("auctionsV2_CancelLimitAuctionBid", apins h_auctionsV2_CancelLimitAuctionBid, exp_auctionsV2_CancelLimitAuctionBid),
  ("auctionsV2_WithdrawLimitAuctionBid", apins h_auctionsV2_WithdrawLimitAuctionBid, exp_auctionsV2_WithdrawLimitAuctionBid),
  ("auctionsV2_LimitOrderBid", apins h_auctionsV2_LimitOrderBid, exp_auctionsV2_LimitOrderBid),
  ("auction_PlaceSurplusAuctionBid", apins h_auction_PlaceSurplusAuctionBid, exp_auction_PlaceSurplusAuctionBid),
  ("auction_closeSurplusAuction", apins h_auction_closeSurplusAuction, exp_auction_closeSurplusAuction),
  ("auction_PlaceDebtAuctionBid", apins h_auction_PlaceDebtAuctionBid, exp_auction_PlaceDebtAuctionBid),
  ("auction_closeDebtAuction", apins h_auction_closeDebtAuction, exp_auction_closeDebtAuction)]

/-- **Golden skeleton**: the entry points whose regenerated bank skeleton differs from the reviewed literal — none -/
theorem c11_pins : (pinPairs.filter fun p => p.2.1 != p.2.2).map (·.1) = [] :=
  filter_bne_eq_nil _ (by rfl)

def pinned : List Handler := [h_auctionsV2_PlaceEnglishAuctionBid, h_auctionsV2_CloseEnglishAuction, h_auctionsV2_DepositLimitAuctionBid, h_auctionsV2_CancelLimitAuctionBid, h_auctionsV2_WithdrawLimitAuctionBid, h_auctionsV2_LimitOrderBid, h_auction_PlaceSurplusAuctionBid, h_auction_closeSurplusAuction, h_auction_PlaceDebtAuctionBid, h_auction_closeDebtAuction]

theorem c11_table :
    pinned.map (fun h => (h.module ++ "_" ++ h.name, (bankItems h).length)) = [("auctionsV2_PlaceEnglishAuctionBid", 2), ("auctionsV2_CloseEnglishAuction", 9), ("auctionsV2_DepositLimitAuctionBid", 1), ("auctionsV2_CancelLimitAuctionBid", 1), ("auctionsV2_WithdrawLimitAuctionBid", 2), ("auctionsV2_LimitOrderBid", 36), ("auction_PlaceSurplusAuctionBid", 2), ("auction_closeSurplusAuction", 6), ("auction_PlaceDebtAuctionBid", 2), ("auction_closeDebtAuction", 4)] ∧
    (∀ h ∈ pinned, unknownBankOps h = [] ∧ opaqueCalls h = []) := by
  decide +kernel

example : pinPairs.length = 10 ∧ (pinPairs.map (·.2.2.length)).sum = 65 := by decide

end Comdex.C11
