import Comdex.Lemmas.Genesis
/-!
# C20 — Genesis export and re-import preserves every live position and counter

Property clause → theorem
* "every open position, custody record, parameter, price and id counter … answers the same queries as before"
    → `C20.roundtrip_id` (for every store all of whose prefixes are carried / rebuilt and whose recomputed counters satisfy
      the recomputation rule, `init (export s)` answers every look-up like `s`), instantiated for the regenerated table of
      every DeFi module by `C20.tables_wf` / `C20.roundtrip_modules` (`C20.table_size`, `C20.table_prefix_counts`, `C20.table_spot_*`);
    → which stores and counters ARE carried is a fact about the Go source, regenerated on every run into
      `Comdex.Gen.Genesis` and discharged over the whole table by kernel evaluation:
      `C20.store_coverage_full`   every prefix some keeper function writes is read by ExportGenesis or rebuilt by InitGenesis
      `C20.import_faithful_full`  every prefix ExportGenesis reads is decoded and written back from the same genesis field
      `C20.derived_sourced_full`  every index store InitGenesis rebuilds is rebuilt from records ExportGenesis reads
      `C20.import_total_full`     no InitGenesis loop can silently stop the import
      `C20.import_accepts_full`   no InitGenesis setter can refuse a record
      `C20.validate_keys_match_store_keys`  every duplicate check of a GenesisState.Validate keys the records exactly like the store
                                  (pinned: `validate_keys_pinned`, 6 checks, all in x/liquidity) — no exception
      `C20.export_helpers_copy_ids_faithfully`  every id field of a record an export / import helper constructs field by field is fed
                                  from the same-named id of the same object (`PoolId` from `pool.Id`, never `.PairId` / `.AppId`);
                                  `C20.export_helpers_copy_fields_by_name` the same for every selected field; pinned by `copies_pinned`
                                  (68 copies: lend migration 26, liquidity 22, collector 17, auction 3; 19 of them id fields) — no exception
      `C20.counters_exact_full`   every id counter / length key is restored from a stored genesis value, or recomputed from a prefix
                                  no keeper function deletes from (`C20.benign_counters`)
      `C20.fields_used_full`      every genesis field ExportGenesis fills is looked at by InitGenesis
      `C20.migrate_fresh_id`      registered store migrations (x/lend 2→3, x/rewards 2→3 decode-and-rewrite live records): a loop that
                                  decodes every record into a fresh struct and re-encodes it keeps every well-formed record;
                                  `C20.migrate_shared_counterexample` the loop AS WRITTEN in x/lend (one struct declared before the loop, the
                                  generated Unmarshal does not reset it) does not — finding M1, replayed by TestC20Migrations
                                  (`migration_keeps:*`, `migration_continuation:*`); `C20.migrate_shared_id_partial` what it does keep
      These are FALSE of the unchanged tree; each is stated at full strength over the table minus the explicit lists
      `knownGaps` (reproduced on the real code by the harness, see notes/C20.md), `suspectedGaps` (visible in the source,
      the writing transition could not be driven in the harness), `historyAllowList` (`C20.readers_offset_holder`); any NEW gap breaks the proof, and
      `C20.knownGaps_are_gaps` / `suspectedGaps_are_gaps` / `allowList_are_gaps` keep the lists from rotting. The obligations
      that range over gap lists, and the two premises of `tables_wf`, are the clauses of one statement, `C20.prefixes_evaluated`.
* "any subsequent sequence of transactions and blocks produces the same results, balances and newly assigned ids"
    → follows for stores within the hypotheses of `roundtrip_id` because the two stores are observationally equal; outside
      them `C20.counter_counterexample` / `C20.store_counterexample` are concrete witnesses, replayed on the real code by
      `harness/c20_genesis_test.go` (monitors `counter_roundtrip:*`, `store_roundtrip:*`, `continuation_equal:*`).
-/
namespace Comdex.C20
open Comdex.Genesis
open Comdex.Gen.Genesis (Module modules Copy)

theorem contains_false_ne {l : List String} {p : String} (h : l.contains p = false) : ∀ q ∈ l, q ≠ p := by
  intro q hq hqp
  have : l.contains p = true := by rw [List.contains_iff_mem]; exact hqp ▸ hq
  rw [h] at this; exact absurd this (by simp)

/-- **Round trip.** For every table that is well formed, every rebuilding function `idx` for the index stores, and every
store `s` such that (1) every prefix occurring in `s` is carried, recomputed or rebuilt, (2) every recomputed counter
holds the value its rule yields (and a counter InitGenesis does not write is zero), (3) the index stores of `s` are what
`idx` rebuilds from the carried records: the re-imported store answers every look-up like `s`. -/
theorem roundtrip_id (t : Table) (idx : Store → Store) (s : Store)
    (hwf : t.wf = true)
    (hcov : ∀ e ∈ s, t.covered e.pfx = true)
    (hcnt : ∀ c ∈ t.counters, counterOk t s c = true)
    (hidxp : ∀ e ∈ idx («export» t s), t.derived.contains e.pfx = true)
    (hidx : ∀ p, t.derived.contains p = true → ∀ k, get s p k = get (idx («export» t s)) p k) :
    Equiv (roundTrip t idx s) s := by
  intro p k
  simp only [Table.wf, Bool.and_eq_true, List.all_eq_true, decide_eq_true_eq, Bool.not_eq_true'] at hwf
  obtain ⟨⟨hc, hd⟩, hnd⟩ := hwf
  -- an index entry never has a prefix outside `derived`
  have hidx_none : t.derived.contains p = false → get (idx («export» t s)) p k = none := fun hdp =>
    get_none_of_pfx _ _ _ fun e he hep => absurd (hep ▸ hidxp e he) (by simp only [hdp]; decide)
  rw [roundTrip, get_init, get_counterEntries _ _ _ _ hnd, get_export]
  cases hf : t.counters.find? (fun c => c.pfx == p) with
  | some c =>
    -- a recomputed counter: neither carried nor rebuilt
    have hcm := List.mem_of_find?_eq_some hf
    have hcq : c.pfx = p := by simpa using List.find?_some hf
    obtain ⟨hr, hdv⟩ := hcq ▸ hc c hcm
    have hok := hcnt c hcm
    simp only [counterOk, Bool.and_eq_true, List.all_eq_true, Bool.or_eq_true, bne_iff_ne, ne_eq, beq_iff_eq, hcq] at hok
    simp only [hidx_none hdv, hr, Bool.false_eq_true, if_false, Option.none_or, Option.or_none]
    by_cases hk : k = ""
    · subst hk
      exact hok.2.symm
    · cases hgs : get s p k with
      | none => simp only [hk, if_false]
      | some v =>
        obtain ⟨e, he, hep, hek⟩ := get_some_pfx s p k v hgs
        exact absurd ((hok.1 e he).resolve_left (by simp [hep])) (hek ▸ hk)
  | none =>
    simp only [ite_self, Option.or_none]
    by_cases hr : t.restored.contains p = true
    · -- a carried prefix is not rebuilt
      rw [hidx_none (Bool.eq_false_iff.mpr fun h => by rw [hd p (List.contains_iff_mem.mp h)] at hr; cases hr)]
      simp only [hr, if_true, Option.or_none]
    · simp only [hr, Bool.false_eq_true, if_false, Option.none_or]
      by_cases hdp : t.derived.contains p = true
      · -- a rebuilt index store
        rw [hidx p hdp k]
      · -- a prefix that is not carried at all: `s` has no such entry
        have hcp : (t.counters.map (·.pfx)).contains p = false := Bool.eq_false_iff.mpr fun h => by
          obtain ⟨c, hc', hcq⟩ := List.mem_map.mp (List.contains_iff_mem.mp h)
          exact List.find?_eq_none.mp hf c hc' (by simp [hcq])
        have hs : get s p k = none := get_none_of_pfx s p k fun e he hep =>
          absurd (hep ▸ hcov e he) (by simp only [Table.covered, hr, hdp, hcp]; decide)
        rw [hidx_none (by simpa using hdp), hs]

/-! ## the table is the one expected (an extractor that silently returns nothing fails here) -/

theorem table_size : modules.length = 15 ∧ (modules.map (·.name)) =
    ["vault", "locker", "lend", "collector", "liquidation", "liquidationsV2", "auction", "auctionsV2", "rewards",
     "liquidity", "market", "asset", "esm", "tokenmint", "bandoracle"] := by decide +kernel

theorem table_prefix_counts : (modules.map fun m => m.defined.length) = [8, 6, 24, 6, 6, 8, 13, 14, 18, 18, 1, 13, 8, 1, 9] := by decide +kernel

theorem table_spot_vault : ∃ m ∈ modules, m.name = "vault" ∧ m.store = "vaultV1" ∧ ("VaultKeyPrefix", [16]) ∈ m.defined ∧
    "VaultKeyPrefix" ∈ m.exported ∧ "VaultKeyPrefix" ∈ m.initWritten ∧ "VaultKeyPrefix" ∈ m.deleted ∧
    ("Vaults", ["VaultKeyPrefix"], ["VaultKeyPrefix"]) ∈ m.flows := by decide +kernel

theorem table_spot_liquidity : ∃ m ∈ modules, m.name = "liquidity" ∧ restoredOf m =
    ["LastPairIDKey", "LastPoolIDKey", "PairKeyPrefix", "PoolKeyPrefix", "DepositRequestKeyPrefix", "WithdrawRequestKeyPrefix",
     "OrderKeyPrefix", "MMOrderIndexKeyPrefix", "ActiveFarmerKeyPrefix", "QueuedFarmerKeyPrefix", "GenericParamsKey"] ∧
    derivedOf m = ["PairIndexKeyPrefix", "PairsByDenomsIndexKeyPrefix", "PoolByReserveAddressIndexKeyPrefix",
     "PoolsByPairIndexKeyPrefix", "DepositRequestIndexKeyPrefix", "WithdrawRequestIndexKeyPrefix", "OrderIndexKeyPrefix"] ∧
    computedCounters m = [] := by decide +kernel

theorem table_spot_market : ∃ m ∈ modules, m.name = "market" ∧ m.written = ["TwaKeyPrefix"] ∧ restoredOf m = ["TwaKeyPrefix"] := by decide +kernel

/-! ## gaps of the unchanged tree

`item` of a counter is `<prefix>.<restoration rule>`. `kind`: `store` = written by a keeper, neither exported nor rebuilt; `import` = exported but not decoded / not written back from
the same field; `unsourced` = written by InitGenesis from a genesis field ExportGenesis never fills; `abort` = written in or after an InitGenesis loop that silently returns on a rejected record; `reject` = imported through a
setter that can refuse a record (which is then skipped); `counter` = id
counter not restored from a stored value; `field` = genesis field filled by export, ignored by import. -/

structure Gap where
  id : String
  kind : String
  module : String
  item : String
  deriving DecidableEq, Repr

/-- Reproduced on the real code by `harness/c20_genesis_test.go` (witness and patch per finding id: notes/C20.md). -/
def knownGaps : List Gap := [
  -- (G01 and G03 are repaired in the repository and have no row; of G02, G05 and G07 the rows below are what remains after the
  -- repairs: notes/C20.md, per finding id)
  -- G02: the genesis setter SetCollectorLookupTable refuses a lookup record
  --     whose secondary asset is not a genesis token of the app — the run-time path accepts it — and the record is skipped
  ⟨"G02", "reject", "collector", "AddCollectorLookupKey"⟩,
  -- G04 auctionsV2 bids, limit bids, their indexes, id counter, histories and statistics are not exported
  ⟨"G04", "store", "auctionsV2", "UserBidKeyPrefix"⟩,
  ⟨"G04", "store", "auctionsV2", "UserLimitBidMappingKeyPrefix"⟩,
  ⟨"G04", "store", "auctionsV2", "UserLimitBidMappingKeyForAddressPrefix"⟩,
  ⟨"G04", "store", "auctionsV2", "LimitAuctionBidIDKey"⟩,
  ⟨"G04", "counter", "auctionsV2", "LimitAuctionBidIDKey.notRestored"⟩,
  ⟨"G04", "store", "auctionsV2", "AuctionHistoricalKeyPrefix"⟩,
  ⟨"G04", "store", "auctionsV2", "BidHistoricalKeyPrefix"⟩,
  ⟨"G04", "store", "auctionsV2", "UserBidHistoricalKeyPrefix"⟩,
  ⟨"G04", "store", "auctionsV2", "MarketBidProtocolKeyPrefix"⟩,
  ⟨"G04", "store", "auctionsV2", "ExternalAuctionLimitBidFeeKeyPrefix"⟩,
  -- G05 liquidationsV2: the locked-vault id counter is restored as the maximum LIVE id;
  --     sweep offset and reserve-fund transaction records not exported
  ⟨"G05", "counter", "liquidationsV2", "LockedVaultIDKey.maxId"⟩,
  ⟨"G05", "store", "liquidationsV2", "LiquidationOffsetHolderKeyPrefix"⟩,
  ⟨"G05", "store", "liquidationsV2", "AppReserveFundsTxDataKeyPrefix"⟩,
  -- G06 id counters recomputed from the LIVE records (max / last / count): ids of closed positions are handed out again
  ⟨"G06", "counter", "vault", "VaultIDPrefix.maxId"⟩,
  ⟨"G06", "counter", "lend", "LendCounterIDPrefix.lastId"⟩,
  ⟨"G06", "counter", "lend", "BorrowCounterIDPrefix.lastId"⟩,
  ⟨"G06", "counter", "lend", "PoolIDPrefix.lastId"⟩,   -- a depreciated pool is deleted by the begin blocker
  ⟨"G06", "counter", "liquidation", "LockedVaultIDKey.count"⟩,
  ⟨"G06", "counter", "auction", "AuctionIDKey.lastId"⟩,
  ⟨"G06", "counter", "auction", "LendAuctionIDKey.lastId"⟩,
  -- G07 auction (first generation): bids and histories not exported
  ⟨"G07", "store", "auction", "UserKeyPrefix"⟩,
  ⟨"G07", "store", "auction", "LendUserKeyPrefix"⟩,
  ⟨"G07", "store", "auction", "HistoryAuctionKeyPrefix"⟩,
  ⟨"G07", "store", "auction", "HistoryUserKeyPrefix"⟩,
  ⟨"G07", "store", "auction", "LendHistoryAuctionKeyPrefix"⟩,
  ⟨"G07", "store", "auction", "LendHistoryUserKeyPrefix"⟩,
  -- G08 stable-mint reward records
  ⟨"G08", "store", "vault", "StableVaultRewardsKeyPrefix"⟩,
  -- G09 locker id counter
  ⟨"G09", "store", "locker", "LockerIDPrefix"⟩,
  ⟨"G09", "counter", "locker", "LockerIDPrefix.notRestored"⟩,
  -- G10 lend: funded module balances per asset and pool
  ⟨"G10", "store", "lend", "AssetAndPoolWiseModBalKeyPrefix"⟩,
  -- G11 liquidation (first generation): locked-vault history and its id counter
  ⟨"G11", "store", "liquidation", "LockedVaultDataKeyHistory"⟩,
  ⟨"G11", "store", "liquidation", "LockedVaultKeyHistory"⟩,
  ⟨"G11", "counter", "liquidation", "LockedVaultKeyHistory.notRestored"⟩,
  -- G12 rewards: stable-vault external rewards, epoch records, external-reward id counters
  ⟨"G12", "store", "rewards", "ExternalRewardsStableVaultKeyPrefix"⟩,
  ⟨"G12", "store", "rewards", "EpochForLockerKeyPrefix"⟩,
  ⟨"G12", "store", "rewards", "EpochTimeIDKey"⟩,
  ⟨"G12", "counter", "rewards", "EpochTimeIDKey.notRestored"⟩,
  ⟨"G12", "store", "rewards", "ExtRewardsLockerIDKey"⟩,
  ⟨"G12", "counter", "rewards", "ExtRewardsLockerIDKey.notRestored"⟩,
  ⟨"G12", "store", "rewards", "ExtRewardsVaultIDKey"⟩,
  ⟨"G12", "counter", "rewards", "ExtRewardsVaultIDKey.notRestored"⟩,
  ⟨"G12", "store", "rewards", "ExtRewardsStableVaultIDKey"⟩,
  ⟨"G12", "counter", "rewards", "ExtRewardsStableVaultIDKey.notRestored"⟩,
  -- G13 asset: governance token of an app
  ⟨"G13", "store", "asset", "GenesisForAppPrefix"⟩,
  -- G14 esm: price snapshot and redemption amounts after an emergency shutdown
  ⟨"G14", "store", "esm", "SnapshotKeyPrefix"⟩,
  ⟨"G14", "store", "esm", "AssetToAmountKeyPrefix"⟩,
  -- G15 bandoracle: the oracle feed configuration and cycle state
  ⟨"G15", "store", "bandoracle", "MsgDataKey"⟩,
  ⟨"G15", "store", "bandoracle", "DiscardFlagKey"⟩,
  ⟨"G15", "store", "bandoracle", "LastBlockHeightKey"⟩,
  ⟨"G15", "store", "bandoracle", "LastFetchPriceIDKey"⟩,
  ⟨"G15", "store", "bandoracle", "FetchPriceResultStoreKeyPrefix"⟩,
  ⟨"G15", "store", "bandoracle", "OracleValidationResultKey"⟩,
  ⟨"G15", "store", "bandoracle", "TempFetchPriceIDKey"⟩]

/-- Visible in the source, NOT reproduced: the transition that writes the store (or makes the counter run ahead of the live
records, or makes the setter fail) could not be driven in the harness. Kept apart from `knownGaps` on purpose. -/
def suspectedGaps : List Gap := [
  -- one-off main-net refund (hard-coded `comdex1…` recipients, not decodable under the test bech32 prefix)
  ⟨"S01", "store", "collector", "RefundCounterStatusPrefix"⟩,
  ⟨"S01", "counter", "collector", "RefundCounterStatusPrefix.notRestored"⟩,
  -- recomputed from live records whose deletion (end of a reward period / gauge) was not driven
  ⟨"S02", "counter", "rewards", "ExtRewardsLendIDKey.maxId"⟩,
  ⟨"S02", "counter", "rewards", "GaugeIDKey.maxId"⟩,
  -- setters that can refuse a record, where no refusable record could be produced (a negative fee is never stored, the denoms
  -- mapping is written again by its own loop, a kill switch only exists for an existing app)
  ⟨"S03", "reject", "collector", "NetFeeCollectedDataPrefix"⟩,
  ⟨"S03", "reject", "collector", "CollectorForDenomKeyPrefix"⟩,
  ⟨"S03", "reject", "esm", "KillSwitchDataKey"⟩]

/-- Stores no query and no reachable transition reads.
* liquidation/LiquidationOffsetHolderKeyPrefix — cursor of the first-generation sweeps `LiquidateVaults` / `LiquidateBorrows`,
  its only reader (`readers_offset_holder`); those sweeps are no longer called: `x/liquidation/module.go` BeginBlock is empty
  and no message handler or query calls them. -/
def historyAllowList : List (String × String) := [("liquidation", "LiquidationOffsetHolderKeyPrefix")]

theorem readers_offset_holder : ∃ m ∈ modules, m.name = "liquidation" ∧
    ("LiquidationOffsetHolderKeyPrefix", ["GetLiquidationOffsetHolder"]) ∈ m.readers := by decide +kernel

def listed (kind : String) (g : String × String) : Bool :=
  (knownGaps ++ suspectedGaps).any fun k => k.kind == kind && k.module == g.1 && k.item == g.2

/-- a recomputed counter is exact as long as the records it is recomputed from are never deleted (ids are handed out by
incrementing the counter and keys are big-endian ids): maximum / last id over a prefix no keeper function deletes from -/
def benignCounter (m : Module) (c : Counter) : Bool :=
  match c.rule with
  | .maxId p | .lastId p => !m.deleted.contains p
  | _ => false

def lossyCounters (ms : List Module) : List (String × String) :=
  ms.flatMap fun m => ((computedCounters m).filter fun c => !benignCounter m c).map fun c => (m.name, counterTag m c.pfx)

/-- every duplicate check of a `GenesisState.Validate` uses exactly the components of the key under which InitGenesis stores the
record: no reachable state (records unique under their store keys) can be refused as a duplicate by the module that exported it -/
theorem validate_keys_match_store_keys : validateKeyGaps modules = [] := by decide +kernel

/-- the duplicate checks found (all in x/liquidity/types/genesis.go; the other modules' Validate functions check no uniqueness) -/
theorem validate_keys_pinned : (modules.map fun m => m.validateKeys.length) = [0, 0, 0, 0, 0, 0, 0, 0, 0, 6, 0, 0, 0, 0, 0] ∧
    (∃ m ∈ modules, m.name = "liquidity" ∧
      ("ActiveFarmers", ["AppId"], ["Farmer", "AppId", "PoolId"], ["AppId", "PoolId", "Farmer"]) ∈ m.validateKeys ∧
      ("DepositRequests", ["AppId"], ["PoolId", "Id"], ["AppId", "PoolId", "Id"]) ∈ m.validateKeys ∧
      ("Orders", ["AppId"], ["PairId", "Id"], ["AppId", "PairId", "Id"]) ∈ m.validateKeys) := by decide +kernel

/-- **Export / import helpers copy ids faithfully.** Every id field of a record that a function on the ExportGenesis or InitGenesis
path (or in the file of a registered store migrator) constructs field by field (keyed composite literal or `rec.F = …` of a module record type) is fed from the same-named id, or
from the `Id` of the object the field names (`PoolId` from `pool.Id`, never from `pool.PairId` / `pool.AppId`); an id taken from a
call is taken from a getter of that very id (`LastPairId` from `GetLastPairID`). No exception. -/
theorem export_helpers_copy_ids_faithfully : idCopyGaps modules = [] := by decide +kernel

/-- For fields of ANY kind: a field selected from another record is selected from the field of the same name (or is the
`Id` of the named object) — a record rebuilt on the way through genesis is rebuilt field for field. No exception. -/
theorem export_helpers_copy_fields_by_name : nameCopyGaps modules = [] := by decide +kernel

/-- the field copies found (liquidity: the per-app genesis state and the farmer records rebuilt by
`GetActiveAndQueuedFarmersForGenesis`; collector and auction: the records the genesis setters rebuild; lend: the records the 2→3
migration rebuilds) -/
theorem copies_pinned : (modules.map fun m => m.copies.length) = [0, 0, 26, 17, 0, 0, 3, 0, 0, 22, 0, 0, 0, 0, 0] ∧
    (modules.map fun m => (m.copies.filter copyIdLike).length) = [0, 0, 4, 6, 0, 0, 2, 0, 0, 7, 0, 0, 0, 0, 0] ∧
    (∃ m ∈ modules, m.name = "liquidity" ∧
      (⟨"export", "GetActiveAndQueuedFarmersForGenesis", "QueuedFarmer", "PoolId", ["pool", "id"], "sel", ["pool"], ["pool"], ["id"], "pool.Id"⟩ : Copy) ∈ m.copies ∧
      (⟨"export", "GetActiveAndQueuedFarmersForGenesis", "ActiveFarmer", "PoolId", ["pool", "id"], "sel", ["pool"], ["pool"], ["id"], "pool.Id"⟩ : Copy) ∈ m.copies ∧
      (⟨"export", "ExportGenesis", "AppGenesisState", "LastPairId", ["last", "pair", "id"], "call", [], [], ["get", "last", "pair", "id"], "k.GetLastPairID(…)"⟩ : Copy) ∈ m.copies) := by decide +kernel

/-- the obligation is not vacuous: the seeded change `seeded/s90` (`PoolId: pool.PairId` in the queued-farmer record) is a gap, the
unchanged line is not, and neither is an id taken from a same-named field, a same-named local or its getter -/
example : copyIdOk ⟨"export", "GetActiveAndQueuedFarmersForGenesis", "QueuedFarmer", "PoolId", ["pool", "id"], "sel", ["pool"], ["pool"], ["pair", "id"], "pool.PairId"⟩ = false ∧
    copyIdOk ⟨"export", "GetActiveAndQueuedFarmersForGenesis", "QueuedFarmer", "PoolId", ["pool", "id"], "sel", ["pool"], ["pool"], ["app", "id"], "pool.AppId"⟩ = false ∧
    copyIdOk ⟨"export", "GetActiveAndQueuedFarmersForGenesis", "QueuedFarmer", "PoolId", ["pool", "id"], "sel", ["pair"], ["pair"], ["id"], "pair.Id"⟩ = false ∧
    copyIdOk ⟨"export", "GetActiveAndQueuedFarmersForGenesis", "QueuedFarmer", "PoolId", ["pool", "id"], "sel", ["pool"], ["pool"], ["id"], "pool.Id"⟩ = true ∧
    copyIdOk ⟨"export", "f", "R", "AppId", ["app", "id"], "ident", [], [], ["app", "id"], "appID"⟩ = true ∧
    copyIdOk ⟨"export", "f", "R", "AppId", ["app", "id"], "ident", [], [], ["pool", "id"], "poolID"⟩ = false ∧
    copyIdOk ⟨"export", "f", "R", "LastPairId", ["last", "pair", "id"], "call", [], [], ["get", "last", "pool", "id"], "k.GetLastPoolID(…)"⟩ = false ∧
    (∃ m ∈ modules, (m.copies.filter copyIdLike).length > 0) := by decide +kernel

def isGap (g : Gap) : Bool :=
  let x := (g.module, g.item)
  if g.kind == "store" then (storeGaps modules).contains x
  else if g.kind == "import" then (importGaps modules).contains x
  else if g.kind == "abort" then (fragileGaps modules).contains x
  else if g.kind == "reject" then (rejectGaps modules).contains x
  else if g.kind == "unsourced" then (unsourcedGaps modules).contains x
  else if g.kind == "counter" then (lossyCounters modules).contains x
  else if g.kind == "field" then (fieldGaps modules).contains x
  else false

def gapKinds : List String := ["store", "import", "abort", "reject", "unsourced", "counter", "field"]

/-- the list `isGap` looks a finding of that kind up in -/
def gapsOf (kind : String) : List (String × String) :=
  if kind == "store" then storeGaps modules
  else if kind == "import" then importGaps modules
  else if kind == "abort" then fragileGaps modules
  else if kind == "reject" then rejectGaps modules
  else if kind == "unsourced" then unsourcedGaps modules
  else if kind == "counter" then lossyCounters modules
  else if kind == "field" then fieldGaps modules
  else []

theorem isGap_eq (g : Gap) : isGap g = (gapsOf g.kind).contains (g.module, g.item) := by
  simp only [isGap, gapsOf, apply_ite (List.contains · (g.module, g.item)), List.contains_nil]

/-- **The gaps the regenerated table shows are exactly the listed findings**, kind by kind, and the two facts about the extracted
modules that `tableOf_wf` asks for; the statements below are its clauses. (One evaluation for all of them: what the kernel pays
for is walking the byte list of each prefix literal, quadratic in its length, and inside one declaration the walks of one
literal are shared.) -/
theorem prefixes_evaluated :
    (∀ k ∈ gapKinds, ∀ x ∈ gapsOf k, listed k x = true ∨ k = "store" ∧ x ∈ historyAllowList) ∧
    (∀ g ∈ knownGaps ++ suspectedGaps, (g.module, g.item) ∈ gapsOf g.kind) ∧
    (∀ x ∈ historyAllowList, x ∈ storeGaps modules) ∧
    ∀ m ∈ modules, (∀ f ∈ m.flows, ∀ p ∈ f.2.1, p ∈ m.exported) ∧ (m.counters.map (·.pfx)).Nodup := by decide +kernel

/-- the table extracted for every DeFi module is well formed (carried / recomputed / rebuilt prefixes are disjoint) -/
theorem tables_wf : ∀ m ∈ modules, (tableOf m).wf = true := fun m hm =>
  let ⟨hflows, hnd⟩ := prefixes_evaluated.2.2.2 m hm
  tableOf_wf m hflows hnd

theorem roundtrip_modules (m : Module) (hm : m ∈ modules) (idx : Store → Store) (s : Store)
    (hcov : ∀ e ∈ s, (tableOf m).covered e.pfx = true)
    (hcnt : ∀ c ∈ (tableOf m).counters, counterOk (tableOf m) s c = true)
    (hidxp : ∀ e ∈ idx («export» (tableOf m) s), (tableOf m).derived.contains e.pfx = true)
    (hidx : ∀ p, (tableOf m).derived.contains p = true → ∀ k, get s p k = get (idx («export» (tableOf m) s)) p k) :
    Equiv (roundTrip (tableOf m) idx s) s :=
  roundtrip_id _ idx s (tables_wf m hm) hcov hcnt hidxp hidx

theorem store_coverage_full : ∀ g ∈ storeGaps modules, listed "store" g = true ∨ g ∈ historyAllowList := fun g hg =>
  (prefixes_evaluated.1 "store" (by decide) g hg).imp_right (·.2)

theorem listed_of_gap (k : String) (hk : k ∈ gapKinds) (hs : k ≠ "store") {g : String × String} (hg : g ∈ gapsOf k) :
    listed k g = true :=
  (prefixes_evaluated.1 k hk g hg).resolve_right fun h => hs h.1

theorem import_faithful_full : ∀ g ∈ importGaps modules, listed "import" g = true := fun _ =>
  listed_of_gap "import" (by decide) (by decide)

theorem derived_sourced_full : ∀ g ∈ unsourcedGaps modules, listed "unsourced" g = true := fun _ =>
  listed_of_gap "unsourced" (by decide) (by decide)

theorem import_total_full : ∀ g ∈ fragileGaps modules, listed "abort" g = true := fun _ =>
  listed_of_gap "abort" (by decide) (by decide)

theorem import_accepts_full : ∀ g ∈ rejectGaps modules, listed "reject" g = true := fun _ =>
  listed_of_gap "reject" (by decide) (by decide)

theorem counters_exact_full : ∀ g ∈ lossyCounters modules, listed "counter" g = true := fun _ =>
  listed_of_gap "counter" (by decide) (by decide)

theorem fields_used_full : ∀ g ∈ fieldGaps modules, listed "field" g = true := fun _ =>
  listed_of_gap "field" (by decide) (by decide)

/-- every listed finding really is a gap of the regenerated table (a repaired finding must be removed from the list) -/
theorem knownGaps_are_gaps : ∀ g ∈ knownGaps, isGap g = true := fun g hg =>
  (isGap_eq g).trans (List.contains_iff_mem.mpr (prefixes_evaluated.2.1 g (List.mem_append_left _ hg)))

theorem suspectedGaps_are_gaps : ∀ g ∈ suspectedGaps, isGap g = true := fun g hg =>
  (isGap_eq g).trans (List.contains_iff_mem.mpr (prefixes_evaluated.2.1 g (List.mem_append_right _ hg)))

theorem allowList_are_gaps : ∀ g ∈ historyAllowList, g ∈ storeGaps modules := prefixes_evaluated.2.2.1

/-- counters accepted as exact although recomputed, with the fact that justifies it -/
theorem benign_counters : (modules.flatMap fun m => ((computedCounters m).filter (benignCounter m)).map fun c => (m.name, counterTag m c.pfx)) =
    [("vault", "StableVaultIDPrefix.maxId"), ("lend", "LendPairIDKey.lastId"), ("asset", "AppIDKey.maxId"), ("asset", "AssetIDKey.maxId"),
     ("asset", "PairIDKey.maxId"), ("asset", "PairsVaultIDKey.maxId")] := by decide +kernel

def vaultTable : Table := { restored := ["VaultKeyPrefix"], counters := [⟨"VaultIDPrefix", .maxId "VaultKeyPrefix"⟩], derived := [] }

/-- vaults 1–3 are live, vault 4 was created and closed: the counter says 4 -/
def vaultStore : Store :=
  [⟨"VaultKeyPrefix", "01", 1, .raw "a"⟩, ⟨"VaultKeyPrefix", "02", 2, .raw "b"⟩, ⟨"VaultKeyPrefix", "03", 3, .raw "c"⟩,
   ⟨"VaultIDPrefix", "", 0, .num 4⟩]

/-- the full statement without hypothesis (2) is false: the re-imported counter is 3, the next vault gets the id of the
closed vault 4 (replayed on the real code: `counter_roundtrip:vault.VaultIDPrefix`, `continuation_equal:new_vault_id`) -/
theorem counter_counterexample :
    get (roundTrip vaultTable (fun _ => []) vaultStore) "VaultIDPrefix" "" = some (.num 3) ∧
    get vaultStore "VaultIDPrefix" "" = some (.num 4) ∧
    (∀ e ∈ vaultStore, vaultTable.covered e.pfx = true) ∧
    counterOk vaultTable vaultStore ⟨"VaultIDPrefix", .maxId "VaultKeyPrefix"⟩ = false := by decide +kernel

/-- the full statement without hypothesis (1) is false too: an entry of a prefix that is not carried is gone (`store_roundtrip:*`) -/
theorem store_counterexample :
    get (roundTrip vaultTable (fun _ => []) (⟨"StableVaultRewardsKeyPrefix", "00", 0, .raw "r"⟩ :: vaultStore)) "StableVaultRewardsKeyPrefix" "00" = none ∧
    vaultTable.covered "StableVaultRewardsKeyPrefix" = false := by decide +kernel

/-- the hypotheses of `roundtrip_id` are satisfiable on a non-trivial store (counter = maximum live id) -/
example : Equiv (roundTrip vaultTable (fun _ => [])
    [⟨"VaultKeyPrefix", "01", 1, .raw "a"⟩, ⟨"VaultKeyPrefix", "03", 3, .raw "c"⟩, ⟨"VaultIDPrefix", "", 0, .num 3⟩])
    [⟨"VaultKeyPrefix", "01", 1, .raw "a"⟩, ⟨"VaultKeyPrefix", "03", 3, .raw "c"⟩, ⟨"VaultIDPrefix", "", 0, .num 3⟩] :=
  roundtrip_id _ _ _ (by decide) (by decide) (by decide) (by intro e he; simp at he) (by intro p hp; simp [vaultTable] at hp)

/-- **A migration loop with a destination variable per record keeps every record.** For every list of well-formed wire records
(`n` fields, a present field never carries the default value): decoding each into a fresh struct and re-encoding it is the
identity — a store in the current format is a fixed point. -/
theorem migrate_fresh_id (n : Nat) (ws : List Wire) (h : ∀ w ∈ ws, Wire.canonical n w) : migrateFresh n ws = ws := by
  unfold migrateFresh
  induction ws with
  | nil => rfl
  | cons w ws ih =>
    have hw := h w List.mem_cons_self
    rw [List.map_cons, encode_decodeInto_fresh hw, ih (fun v hv => h v (List.mem_cons_of_mem _ hv))]

example : migrateFresh 3 [[some 15, some 1, none], [some 16, none, some 3]] = [[some 15, some 1, none], [some 16, none, some 3]] :=
  migrate_fresh_id 3 _ (by
    intro w hw
    simp only [List.mem_cons, List.mem_nil_iff, or_false] at hw
    rcases hw with rfl | rfl <;> exact ⟨rfl, by decide⟩)

/-- The loop as written (`x/lend/keeper/migrate.go:160,205`: ONE variable declared before the loop, `Unmarshal` does not reset it)
is NOT the identity: a field omitted on the wire (default value) inherits the value of the previous record. Witness = lend pairs
(id, inter-pool flag): pair 14 is an inter-pool pair, pair 15 is not — after the migration pair 15 is. Replayed on the real code:
`migration_keeps:lend.LendPairKeyPrefix`, `migration_keeps:lend.AssetRatesParamsKeyPrefix` (first case of TestC20Migrations). -/
theorem migrate_shared_counterexample :
    migrateShared [0, 0] [[some 14, some 1], [some 15, none]] = [[some 14, some 1], [some 15, some 1]] ∧
    migrateFresh 2 [[some 14, some 1], [some 15, none]] = [[some 14, some 1], [some 15, none]] ∧
    Wire.canonical 2 [some 14, some 1] ∧ Wire.canonical 2 [some 15, none] := by
  refine ⟨rfl, rfl, ⟨rfl, by decide⟩, ⟨rfl, by decide⟩⟩

/-- The strongest true statement about the loop as written: it keeps the records as long as every field of every record is
present on the wire (no field has its default value) -/
theorem migrate_shared_id_partial (n : Nat) (ws : List Wire) (acc : List Nat) (hacc : acc.length = n)
    (h : ∀ w ∈ ws, Wire.canonical n w ∧ ∀ x ∈ w, x ≠ none) : migrateShared acc ws = ws := by
  induction ws generalizing acc with
  | nil => rfl
  | cons w ws ih =>
    obtain ⟨⟨hlen, hcan⟩, hfull⟩ := h w List.mem_cons_self
    have hd : decodeInto acc w = decodeInto (List.replicate n 0) w := by
      rw [decodeInto_full w acc (by rw [hacc, hlen]) hfull, decodeInto_full w _ (by simp [hlen]) hfull]
    have hlen' : (decodeInto acc w).length = n := by
      rw [decodeInto_full w acc (by rw [hacc, hlen]) hfull]; simp [hlen]
    unfold migrateShared
    rw [ih (decodeInto acc w) hlen' (fun v hv => h v (List.mem_cons_of_mem _ hv)), hd, encode_decodeInto_fresh ⟨hlen, hcan⟩]

example : migrateShared [0, 0] [[some 14, some 1], [some 15, some 2]] = [[some 14, some 1], [some 15, some 2]] :=
  migrate_shared_id_partial 2 _ _ rfl (by
    intro w hw
    simp only [List.mem_cons, List.mem_nil_iff, or_false] at hw
    rcases hw with rfl | rfl <;> exact ⟨⟨rfl, by decide⟩, by decide⟩)

end Comdex.C20
