import Comdex.Props.C01
import Comdex.Lemmas.VaultSupply
/-!
# C02 — No unbacked stablecoin: minted supply is covered by recorded vault principal

Property clause → theorem (quantified over every history of vault / stable-mint messages that `UsersOk` and `EsmRegular` admit, every admissible fee
configuration — zero and non-zero draw-down, stability and closing fees — and every pair of asset decimal scales):

* "circulating supply … never exceeds the principal recorded on open vaults, stable-mint vaults, vaults awaiting
   auction …, and in histories without liquidations it is exactly equal"                → `C02.supply_le_principal`
   (inequality, auction settlements included) and `C02.supply_eq_principal` (equality for
   histories without second-generation auction settlement). Emergency redemption (x/esm): `esmVault_registers_principal`,
   `esmBurn_burns_registered`.
* "every successful mint delivers to the user exactly the recorded new principal less the configured draw-down fee
   (which goes to the fee collector)", for EVERY minting message → `C02.mint_delivers_create`, `mint_delivers_draw`,
   `mint_delivers_depositAndDraw`, `mint_delivers_stable` (create), `mint_delivers_stableDeposit`
* "every repayment or close burns exactly the principal it retires, and interest and closing fees are paid out of
   existing supply, never minted"                                                       → `C02.supply_moves_with_principal`
* cross-decimal conversion of the stable-mint path is total and non-negative            → `Vault.otherToken_nonneg`

Per message (every one of the 22 modelled step kinds; `supplyDelta` is read off the message and the pre-state):
* exact supply effect of every accepted step                                            → `C02.supply_moves_exactly`
* "every repayment or close burns exactly the principal it retires"
      → `C02.burn_exact_repay`, `C02.burn_exact_close`, `C02.burn_exact_stableWithdraw`
* "interest and closing fees are paid out of existing supply, never minted"
      → `C02.interest_not_minted` (deposit, withdraw, interest booking, donation, seizure, redemption of a vault: Δsupply = 0),
        `C02.burn_exact_repay` (interest-only repayment: Δsupply = 0), `C02.burn_exact_close` (interest + closing fee move, only the
        principal is burnt)
* only the minting messages mint → `C02.only_mints_mint`; in particular no mint on the liquidation / auction / emergency paths of
  either generation → `C02.liquidation_paths_never_mint`
* the supply clauses with the product configuration changing between messages           → `C02.supply_le_principal_reconfig`
-/
namespace Comdex.C02
open Comdex.Vault Comdex.C01

/-- **Supply = principal** (histories without auction settlement, liquidation seizures included): the supply of every
denom equals the principal recorded on open vaults, stable-mint vaults and vaults awaiting auction, plus whatever was
minted outside the vault module (`extSupply`, zero for an asset that is minted only through vaults). -/
theorem supply_eq_principal (cfg : Nat → Option Product) (hc : CfgOk cfg) (h : History) (hu : UsersOk h) (hne : EsmRegular h) (hn : NoSettle h)
    (d : Nat) :
    let s := runAll cfg State.init h
    s.supply d = principalRecorded cfg s d + s.extSupply d :=
  (inv_always cfg hc h hu hne hn).supply d

/-- **Supply ≤ principal** after every history that `EsmRegular` admits — vault messages, liquidation seizures AND auction settlements (which
burn principal + interest + closing fee of the seized vault): the circulating supply never exceeds the recorded
principal of open, stable-mint and awaiting-auction vaults (plus outside funding). -/
theorem supply_le_principal (cfg : Nat → Option Product) (hc : CfgOk cfg) (h : History) (hu : UsersOk h) (hne : EsmRegular h) (d : Nat) :
    let s := runAll cfg State.init h
    s.supply d ≤ principalRecorded cfg s d + s.extSupply d := by
  obtain ⟨_, h', g, _⟩ := ledger_always cfg hc h hu hne
  exact (ledger_exact h'.toL g).2.2.2.2 d

/-- **Burn exactly what is retired / never mint interest**: across any accepted vault message the supply of a denom
moves by exactly the change of recorded principal (plus outside funding). Interest and closing-fee transfers do not
touch recorded principal, hence do not touch supply. -/
theorem supply_moves_with_principal (cfg : Nat → Option Product) (hc : CfgOk cfg) (s s' : State) (e : Env) (m : Msg)
    (hm : m.userOk) (hns : m.notSettle) (hne : m.esmRegular) (hinv : Inv cfg s) (h : step cfg s e m = some s') (d : Nat) :
    s'.supply d - s.supply d =
      (principalRecorded cfg s' d - principalRecorded cfg s d) + (s'.extSupply d - s.extSupply d) := by
  have h1 := hinv.supply d
  have h2 := (step_inv cfg Gaps.zero hc s s' e m hm hns hne ((invG_zero cfg s).mpr hinv) h).supply d
  simp only [SupplyAt, SupplyAtG, Gaps.zero] at h1 h2
  omega

/-- **Mint delivers (create)**: an accepted `create` credits the user's debt balance with `amtOut − ⌊amtOut·fee⌋`
(less the collateral taken, when collateral and debt are the same denom) and the collector with `⌊amtOut·fee⌋`. -/
theorem mint_delivers_create (s s' : State) (p : Product) (e : Env) (from_ app prod : Nat) (amtIn amtOut : Int)
    (hpo : ProductOk p) (hu : from_ ≠ vm) (huc : from_ ≠ cm)
    (h : create s p e from_ app prod amtIn amtOut = some s') :
    s'.bal from_ p.denomOut = s.bal from_ p.denomOut + (amtOut - feeOf amtOut p.drawDownFee)
        - (if p.denomOut = p.denomIn then amtIn else 0) ∧
    s'.bal cm p.denomOut = s.bal cm p.denomOut + feeOf amtOut p.drawDownFee := by
  obtain ⟨g, s1, hb, rfl⟩ := create_eq_some.mp h
  obtain ⟨hd1, hd2⟩ := mintAndSplit_delivers p from_ amtOut huc hpo g.amtOut_pos
  obtain ⟨hp1, hp2⟩ := dAcct_pays (d0 := p.denomIn) (d := p.denomOut) (x := amtIn) hu huc
  have hi := Int.le_of_lt g.amtIn_pos
  constructor
  · show s1.bal from_ p.denomOut = _
    rw [(runBank_moves hb).bal, netAcct_cons, hd1, dAcct_sendPos hi, hp1]; split <;> omega
  · show s1.bal cm p.denomOut = _
    rw [(runBank_moves hb).bal, netAcct_cons, hd2, dAcct_sendPos hi, hp2, Int.zero_add]

theorem mint_delivers_draw (s s' : State) (p : Product) (e : Env) (from_ app prod vaultId : Nat) (amt : Int)
    (hpo : ProductOk p) (huc : from_ ≠ cm)
    (h : draw s p e from_ app prod vaultId amt = some s') :
    s'.bal from_ p.denomOut = s.bal from_ p.denomOut + (amt - feeOf amt p.drawDownFee) ∧
    s'.bal cm p.denomOut = s.bal cm p.denomOut + feeOf amt p.drawDownFee := by
  obtain ⟨v, -, g, s1, hb, rfl⟩ := draw_eq_some.mp h
  obtain ⟨hd1, hd2⟩ := mintAndSplit_delivers p from_ amt huc hpo g.amt_pos
  exact ⟨((runBank_moves hb).bal _ _).trans (congrArg _ hd1), ((runBank_moves hb).bal _ _).trans (congrArg _ hd2)⟩

/-- **Mint delivers (stable mint create; deposit is identical)**: the user receives the *converted* amount
`otherToken amt` less the fee — not the deposited amount (the two differ when the two assets' decimals differ). -/
theorem mint_delivers_stable (s s' : State) (p : Product) (e : Env) (from_ app prod : Nat) (amt : Int)
    (hpo : ProductOk p) (hu : from_ ≠ vm) (huc : from_ ≠ cm) (hdd : p.denomOut ≠ p.denomIn)
    (h : stableCreate s p e from_ app prod amt = some s') :
    let out := otherToken amt p.decIn p.decOut
    s'.bal from_ p.denomOut = s.bal from_ p.denomOut + (out - feeOf out p.drawDownFee) ∧
    s'.bal cm p.denomOut = s.bal cm p.denomOut + feeOf out p.drawDownFee := by
  obtain ⟨-, -, -, -, -, s1, hb, rfl⟩ := stableCreate_eq_some.mp h
  -- `(… :)`: the lemma speaks of `s1`, the goal of a record update of `s1`
  exact (stableMintOps_delivers hpo hu huc hdd hb :)

/-- **Mint delivers (deposit-and-draw)**: the message mints `AmountOut·amt / AmountIn` (the stored vault's ratio, truncated);
the user receives that less the draw-down fee (less the collateral handed in, when collateral and debt are one denom), the
collector the fee. -/
theorem mint_delivers_depositAndDraw (s s' : State) (p : Product) (e : Env) (from_ app prod vaultId : Nat) (amt : Int)
    (hpo : ProductOk p) (hu : from_ ≠ vm) (huc : from_ ≠ cm)
    (h : depositAndDraw s p e from_ app prod vaultId amt = some s') :
    ∃ v ∈ s.vaults, v.id = vaultId ∧ ∃ out, userToken v amt = some out ∧
      s'.supply p.denomOut = s.supply p.denomOut + out ∧
      s'.bal from_ p.denomOut = s.bal from_ p.denomOut + (out - feeOf out p.drawDownFee)
        - (if p.denomOut = p.denomIn then amt else 0) ∧
      s'.bal cm p.denomOut = s.bal cm p.denomOut + feeOf out p.drawDownFee := by
  have hs := depositAndDraw_supply (d := p.denomOut) h
  obtain ⟨v0, hf, y, hy, s1, hd, h⟩ := depositAndDraw_eq_some.mp h
  obtain ⟨d1, d2⟩ := mint_delivers_draw s1 s' p _ from_ app prod vaultId y hpo huc h
  obtain ⟨w, -, g, s0, hb, rfl⟩ := deposit_eq_some.mp hd
  have hx := Int.le_of_lt g.amt_pos
  obtain ⟨hp1, hp2⟩ := dAcct_pays (d0 := p.denomIn) (d := p.denomOut) (x := amt) hu huc
  refine ⟨v0, (findVault_mem hf).1, (findVault_mem hf).2, y, hy, ?_, ?_, ?_⟩
  · rw [hs]; simp only [supplyDeltaP, hf, hy, Option.getD_some, if_true]
  · rw [d1]; show s0.bal from_ p.denomOut + _ = _
    rw [(runBank_moves hb).bal, netAcct_cons, netAcct_nil, dAcct_sendPos hx, hp1]; split <;> omega
  · rw [d2]; show s0.bal cm p.denomOut + _ = _
    rw [(runBank_moves hb).bal, netAcct_cons, netAcct_nil, dAcct_sendPos hx, hp2]; omega

/-- **Mint delivers (stable-mint deposit)**: as for the stable-mint create — the converted amount less the fee. -/
theorem mint_delivers_stableDeposit (s s' : State) (p : Product) (e : Env) (from_ app prod stableId : Nat) (amt : Int)
    (hpo : ProductOk p) (hu : from_ ≠ vm) (huc : from_ ≠ cm) (hdd : p.denomOut ≠ p.denomIn)
    (h : stableDeposit s p e from_ app prod stableId amt = some s') :
    let out := otherToken amt p.decIn p.decOut
    s'.supply p.denomOut = s.supply p.denomOut + out ∧
    s'.bal from_ p.denomOut = s.bal from_ p.denomOut + (out - feeOf out p.drawDownFee) ∧
    s'.bal cm p.denomOut = s.bal cm p.denomOut + feeOf out p.drawDownFee := by
  have hs := stableDeposit_supply (d := p.denomOut) h
  obtain ⟨-, -, sv, -, -, -, -, -, s1, hb, rfl⟩ := stableDeposit_eq_some.mp h
  exact ⟨hs.trans (by rw [if_pos rfl]), (stableMintOps_delivers hpo hu huc hdd hb :)⟩

/-! ### emergency redemption (x/esm): "debt registered for emergency redemption"

In the supply equation the register is part of `extSupply` (supply not backed by a vault record); the two theorems below
tie it to the explicit register `redeem`: redemption of a vault moves exactly its principal from the vault record to the
register without touching the supply, and a holder's redemption burns exactly what it takes off the register and never
more than is registered. -/

theorem esmVault_registers_principal (s s' : State) (p : Product) (e : Env) (vaultId : Nat)
    (h : esmVault s p e vaultId = some s') :
    ∃ v ∈ s.vaults, v.id = vaultId ∧ e.esm = true ∧ e.pastCoolOff = true ∧
      s'.supply = s.supply ∧
      s'.redeem p.app p.denomOut = s.redeem p.app p.denomOut + v.amountOut ∧
      s'.extSupply p.denomOut = s.extSupply p.denomOut + v.amountOut := by
  obtain ⟨v0, hf, -, h1, h2, s1, hb, rfl⟩ := esmVault_eq_some.mp h
  have eff := runBank_effect _ s s1 hb
  exact ⟨v0, (findVault_mem hf).1, (findVault_mem hf).2, h1, h2, funext fun d => (eff.supply d).trans (Int.add_zero _),
    eff.same.redeem ▸ upd2_self .., eff.same.extSupply ▸ upd1_self ..⟩

theorem esmBurn_burns_registered (s s' : State) (from_ app d : Nat) (x : Int) (h : esmBurn s from_ app d x = some s') :
    0 < x ∧ x ≤ s.redeem app d ∧ s'.supply d = s.supply d - x ∧ s'.redeem app d = s.redeem app d - x ∧
      s'.bal from_ d = s.bal from_ d - x ∧ s'.vaults = s.vaults ∧ s'.stables = s.stables ∧ s'.locked = s.locked := by
  obtain ⟨g, rfl⟩ := esmBurn_eq_some.mp h
  exact ⟨g.amt_pos, g.le_registered, upd1_self .., upd2_self .., upd2_self .., rfl, rfl, rfl⟩

/-! `supply_moves_exactly` gives, for EVERY modelled step (the eleven vault messages incl. `MsgDepositAndDraw` and the stable-mint
deposit, seizures by either liquidation generation, both generations' auction closes, every emergency-shutdown step), the
exact change of the supply of every denom as a quantity read off the message and the pre-state (`supplyDelta`). The clauses
of the property are its instances: -/

theorem supply_moves_exactly (cfg : Nat → Option Product) (hc : CfgOk cfg) (s s' : State) (e : Env) (m : Msg)
    (hwf : Wf cfg s) (h : step cfg s e m = some s') (d : Nat) :
    s'.supply d = s.supply d + supplyDelta cfg s e m d :=
  supply_delta_exact cfg hc s s' e m (fun _ hw => (hwf.vault_nonneg hw).amountOut) h d

/-- the steps that involve no principal at all: collateral deposits and withdrawals, interest booking, unsolicited sends,
seizure hand-overs, emergency redemption of (stable-mint) vaults -/
def _root_.Comdex.Vault.Msg.neutral : Msg → Bool
  | .deposit .. | .withdraw .. | .interestCalc .. | .donate .. | .seize .. | .esmVault .. | .esmStable .. => true
  | _ => false

/-- **Interest and fees are never minted (1)**: a step that retires or creates no principal leaves every supply unchanged —
whatever interest it books on the vault (`iota`), whatever it moves. -/
theorem interest_not_minted (cfg : Nat → Option Product) (hc : CfgOk cfg) (s s' : State) (e : Env) (m : Msg)
    (hwf : Wf cfg s) (hn : m.neutral = true) (h : step cfg s e m = some s') : s'.supply = s.supply := by
  funext d
  rw [supply_moves_exactly cfg hc s s' e m hwf h d]
  have z : supplyDelta cfg s e m d = 0 := by
    cases m with
    | donate => rfl
    | deposit | withdraw | interestCalc | seize | esmVault | esmStable =>
      simp only [supplyDelta, supplyDeltaP]; (repeat' split) <;> rfl
    | _ => exact Bool.noConfusion hn
  omega

/-- **Interest and fees are never minted (2)**: a repayment that does not exceed the interest owed (the interest accrued
inside the message included) is forwarded to the collector in full and burns nothing; a larger one burns exactly the part
beyond the interest — the principal it retires. -/
theorem burn_exact_repay (s s' : State) (p : Product) (e : Env) (from_ app prod vaultId : Nat) (amt : Int)
    (h : repay s p e from_ app prod vaultId amt = some s') :
    ∃ v ∈ s.vaults, ∃ i, v.id = vaultId ∧ e.iota = some i ∧
      s'.supply p.denomOut = s.supply p.denomOut - (if amt ≤ v.interest + i then 0 else amt - (v.interest + i)) ∧
      (∀ d, d ≠ p.denomOut → s'.supply d = s.supply d) := by
  have hs := fun d => repay_supply (d := d) h
  obtain ⟨w, hov, -, -⟩ := repay_eq_some.mp h
  obtain ⟨v0, i, rfl, ho⟩ := ownedVault_eq_some.mp hov
  refine ⟨v0, ho.mem, i, ho.id_eq, ho.iota, ?_, fun d hd => by rw [hs d, if_neg hd, Int.add_zero]⟩
  rw [hs p.denomOut]
  simp only [supplyDeltaP, ho.found, ho.iota, if_true]
  split <;> omega

/-- **Close burns exactly the principal**: interest and closing fee travel user → custody → collector, the recorded principal
is burnt, nothing else. -/
theorem burn_exact_close (s s' : State) (p : Product) (e : Env) (from_ app prod vaultId : Nat)
    (hwf : ∀ w ∈ s.vaults, 0 ≤ w.amountOut) (h : close s p e from_ app prod vaultId = some s') :
    ∃ v ∈ s.vaults, v.id = vaultId ∧ s'.supply p.denomOut = s.supply p.denomOut - v.amountOut ∧
      (∀ d, d ≠ p.denomOut → s'.supply d = s.supply d) ∧ (∀ w ∈ s'.vaults, w.id ≠ vaultId) := by
  have hs := fun d => close_supply (d := d) hwf h
  obtain ⟨-, -, w, hov, s1, hb, rfl⟩ := close_eq_some.mp h
  obtain ⟨v0, i, rfl, ho⟩ := ownedVault_eq_some.mp hov
  refine ⟨v0, ho.mem, ho.id_eq, ?_, fun d hd => by rw [hs d, if_neg hd, Int.add_zero], fun w hw => ?_⟩
  · rw [hs p.denomOut]; simp only [supplyDeltaP, ho.found, if_true]; omega
  · have hw' : w ∈ delBy (·.id) s1.vaults v0.id := hw
    rw [← ho.id_eq]; exact of_decide_eq_true (List.mem_filter.mp hw').2

/-- **Stable-mint withdrawal burns exactly what it takes off the record**: the draw-down fee share goes to the collector
out of the coins handed in, the rest is burnt, and the recorded principal falls by exactly that rest. -/
theorem burn_exact_stableWithdraw (s s' : State) (p : Product) (e : Env) (from_ app prod stableId : Nat) (amt : Int)
    (hp : ProductOk p) (h : stableWithdraw s p e from_ app prod stableId amt = some s') :
    s'.supply p.denomOut = s.supply p.denomOut - (stableWithdrawAmounts p amt).1 ∧
    s'.minted prod = s.minted prod - (stableWithdrawAmounts p amt).1 ∧
    0 < (stableWithdrawAmounts p amt).1 ∧ (stableWithdrawAmounts p amt).1 = amt - (if p.drawDownFee = 0 then 0 else feeOf amt p.drawDownFee) := by
  have hs := stableWithdraw_supply (d := p.denomOut) hp h
  obtain ⟨g, -, sv, -, -, -, s1, hb, rfl⟩ := stableWithdraw_eq_some.mp h
  obtain ⟨h1, h2⟩ := stableWithdrawAmounts_fst hp g.amt_pos
  exact ⟨by rw [hs, if_pos rfl]; omega, (runBank_effect _ s s1 hb).same.minted ▸ upd1_self .., h1, h2⟩

/-- the steps of the liquidation / auction / emergency paths of both generations -/
def _root_.Comdex.Vault.Msg.liquidationPath : Msg → Bool
  | .seize .. | .settle .. | .settle1 .. | .esmVault .. | .esmStable .. | .esmReturn1 .. | .esmReturn2 .. | .esmCollector .. | .esmBurn .. => true
  | _ => false

/-- **Only the minting messages mint**: an accepted message outside `Msg.mints` (create, draw, deposit-and-draw, the two stable-mint
deposits, outside funding) never increases the supply of any denom — repayments, closes, stable-mint withdrawals, collateral
movements, interest booking, seizures, both generations' auction closes and every emergency-shutdown step leave each supply where it
was or burn. Read off the exact supply effect (`supply_moves_exactly`): the `supplyDelta` of such a message is not positive. -/
theorem only_mints_mint (cfg : Nat → Option Product) (hc : CfgOk cfg) (s s' : State) (e : Env) (m : Msg)
    (hwf : Wf cfg s) (hm : m.mints = false) (h : step cfg s e m = some s') (d : Nat) : s'.supply d ≤ s.supply d := by
  rw [supply_moves_exactly cfg hc s s' e m hwf h d]
  suffices hd : supplyDelta cfg s e m d ≤ 0 by omega
  have hlk := fun {l : LockedRec} {v : Nat} (hf : s.locked.find? (·.vaultId = v) = some l) =>
    (hwf.lockedRec (findLocked_mem hf).1).2
  by_cases hn : m.named = true
  · obtain ⟨p, hpr, hp, h⟩ := step_of_named hn h
    rw [supplyDelta_named hn hpr hp]
    suffices hP : supplyDeltaP s p e m ≤ 0 by split <;> omega
    -- what is burnt is non-negative: by the record's well-formedness, or by a guard of the handler
    cases m with
    | repay f a pr' v x => simp only [supplyDeltaP]; split <;> (try split) <;> omega
    | close f a pr' v =>
      simp only [supplyDeltaP]; split
      · next v0 hf => have := (hwf.vault_nonneg (findVault_mem hf).1).amountOut; omega
      · omega
    | stableWithdraw f a pr' v x =>
      obtain ⟨g, -⟩ := stableWithdraw_eq_some.mp h
      have := (stableWithdrawAmounts_fst (hc.ok hp) g.amt_pos).1
      simp only [supplyDeltaP]; omega
    | settle v =>
      simp only [supplyDeltaP]; split
      · next l hf => have := hlk hf; omega
      · omega
    | settle1 v =>
      simp only [supplyDeltaP]; split
      · next l hf => have := hlk hf; omega
      · omega
    | esmReturn1 v o c i =>
      obtain ⟨l, -, g, -⟩ := esmReturn1_eq_some.mp h
      have := g.collected_nonneg
      simp only [supplyDeltaP]; omega
    | esmReturn2 v o c dd f =>
      simp only [supplyDeltaP]; split
      · unfold trigger2Burn; split <;> omega
      · omega
    | create | draw | depositAndDraw | stableCreate | stableDeposit | fund => exact Bool.noConfusion hm
    | donate | esmCollector | esmBurn => exact Bool.noConfusion hn
    | deposit | withdraw | interestCalc | seize | esmVault | esmStable => exact Int.le_refl 0
  · cases m with
    | donate f d0 x => exact Int.le_refl 0
    | esmCollector a d0 x =>
      obtain ⟨hx, -⟩ := esmCollector_eq_some.mp h
      simp only [supplyDelta]; split <;> omega
    | esmBurn f a d0 x =>
      obtain ⟨g, -⟩ := esmBurn_eq_some.mp h
      have := g.amt_pos
      simp only [supplyDelta]; split <;> omega
    | _ => first | exact Bool.noConfusion hm | exact absurd rfl hn

/-- **No mint on the liquidation, auction and emergency paths** of either generation: every such step leaves each supply
where it was or burns. -/
theorem liquidation_paths_never_mint (cfg : Nat → Option Product) (hc : CfgOk cfg) (s s' : State) (e : Env) (m : Msg)
    (hwf : Wf cfg s) (hl : m.liquidationPath = true) (h : step cfg s e m = some s') (d : Nat) : s'.supply d ≤ s.supply d :=
  only_mints_mint cfg hc s s' e m hwf (by cases m <;> first | rfl | exact Bool.noConfusion hl) h d

/-- **Supply under reconfiguration**: with the product parameters changing between messages, the supply of every denom never
exceeds the recorded principal (+ outside funding), and equals it in histories without second-generation settlement. -/
theorem supply_le_principal_reconfig (cfg0 : Nat → Option Product) (hc : CfgOk cfg0) (h : List Ev) (hok : EvOk cfg0 h) (d : Nat) :
    let cfg := (runC (cfg0, State.init) h).1
    let s := (runC (cfg0, State.init) h).2
    s.supply d ≤ principalRecorded cfg s d + s.extSupply d ∧
    (NoSettleC h → s.supply d = principalRecorded cfg s d + s.extSupply d) := by
  obtain ⟨G', h', g, _, e⟩ := invL_always_reconfig h cfg0 hc hok Gaps.zero State.init (invL_init cfg0 hc) goodGaps_zero
  exact ⟨(ledger_exact h' g).2.2.2.2 d, fun hn => by have := h'.supply d; rw [e hn] at this; exact this.trans (Int.add_zero _)⟩

example : (runAll demoCfg State.init demoHistory).supply 3 = 2000000 ∧
    principalRecorded demoCfg (runAll demoCfg State.init demoHistory) 3 = 2000000 := by decide
example : ∃ s', create (runAll demoCfg State.init [(demoEnv, .fund 10 1 5000000)]) demoProduct demoEnv 10 1 1 3000000 2000000 = some s' ∧
    s'.bal 10 3 = 1980000 ∧ s'.bal cm 3 = 20000 := ⟨_, rfl, by decide, by decide⟩

/-! `supplyDelta` on the demo history: a create, a deposit with interest booked, an interest-only and a larger repayment, both
generations' settlements, a deposit-and-draw -/
example : supplyDelta demoCfg (runAll demoCfg State.init [(demoEnv, .fund 10 1 5000000)]) demoEnv (.create 10 1 1 3000000 2000000) 3 = 2000000 := by decide
example : let s := runAll demoCfg State.init (demoHistory.take 3)
    (step demoCfg s { demoEnv with iota := some 5 } (.deposit 10 1 1 1 1000)).isSome ∧
    supplyDelta demoCfg s { demoEnv with iota := some 5 } (.deposit 10 1 1 1 1000) 3 = 0 ∧
    (step demoCfg s { demoEnv with iota := some 700 } (.repay 10 1 1 1 600)).isSome ∧
    supplyDelta demoCfg s { demoEnv with iota := some 700 } (.repay 10 1 1 1 600) 3 = 0 ∧
    (step demoCfg s { demoEnv with iota := some 700 } (.repay 10 1 1 1 1700)).isSome ∧
    supplyDelta demoCfg s { demoEnv with iota := some 700 } (.repay 10 1 1 1 1700) 3 = -1000 := by decide
example : let s := runAll demoCfg State.init demoHistory
    (step demoCfg s demoEnv (.settle 1)).isSome ∧ supplyDelta demoCfg s demoEnv (.settle 1) 3 = -2000005 ∧
    supplyDelta demoCfg s demoEnv (.settle1 1) 3 = -2000000 := by decide
example : let s := runAll demoCfg State.init (demoHistory.take 3)
    (step demoCfg s demoEnv (.depositAndDraw 10 1 1 1 300000)).isSome ∧
    supplyDelta demoCfg s demoEnv (.depositAndDraw 10 1 1 1 300000) 3 = 200000 := by decide

end Comdex.C02
