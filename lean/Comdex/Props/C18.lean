import Comdex.Lemmas.LendRates
import Comdex.Lemmas.Accrual
import Comdex.Lemmas.AccrualErr
import Comdex.Lemmas.VaultAccrual
import Comdex.Lemmas.LockerAccrual
import Comdex.Lemmas.LendAccrual
/-!
# C18 — Interest and savings accrual is non-negative, monotone and zero over zero time

Two families. (a) `x/lend` — pure 18-digit fixed point, `Model/LendRates.lean`: PROVED for all admissible
parameters. (b) `x/rewards` `CalculationOfRewards` (vault stability fee, locker savings) — goes through Go's
`math.Pow` on `float64`; `Model/Accrual.lean` models everything except `math.Pow` exactly (IEEE-754 round to
nearest even of `-`, `*`, decimal→double, double→18 decimals) and the theorems are relative to the explicit
hypotheses `FloatOps` / `PowMonoTime` / `PowMonoRate` about `math.Pow`, which the harness TESTS: PARTIAL.

Property clause → theorem
(a) lending rewards, borrow interest (variable: `indexInterest`, stable: `stableInterest`, reserve share: `indexInterest`)
* never negative                                   → `reward_nonneg`
* zero when no time has elapsed                    → `reward_zero_at_zero_time`
* never decrease in time / principal / rate        → `reward_mono`, `stable_interest_mono`
* two consecutive intervals ≤ combined + rounding  → `two_step_le_one_step_plus_rounding` (≤ 4·10⁻¹⁸ per unit of principal),
                                                     `stable_two_step_le_one_step_plus_rounding` (≤ 10⁻¹⁸)
* borrow rates non-decreasing in utilisation       → `borrow_rate_mono_in_util` (variable and stable), `utilisation_in_unit_interval`
* equal the base rate at zero utilisation          → `rate_at_zero_is_base`
* continuous at the optimal-utilisation kink       → `rate_continuous_at_kink` (branches agree exactly at the kink; explicit bound from below)
* lend rate never exceeds borrow rate              → `lend_rate_le_borrow_rate`
* (no division by zero for admissible parameters)  → `rates_defined`; keeper functions in terms of the above: `accrual_functions`
(b) stability fee on vaults, savings on lockers (`interest`), relative to the hypotheses about `math.Pow`
* never negative                                   → `interest_nonneg`                      (uses `pow ≥ 1`)
* zero when no time has elapsed                    → `interest_zero_at_zero_time`           (uses `pow x 0 = 1`)
* never decrease in principal                      → `interest_mono_partial` (first part, unconditional beyond `pow ≥ 1`)
* never decrease in time / rate                    → `interest_mono_partial` (given `PowMonoTime` / `PowMonoRate`);
     these two hypotheses are FALSE of Go's `math.Pow` in the last bit, and the code's result does decrease:
                                                     `interest_mono_time_counterexample`, `interest_mono_rate_counterexample`
* two consecutive intervals ≤ combined + rounding  → `more_frequent_accrual_not_more` (explicit error term `Accrual.subaddErr`)
* tracker: whole units paid, fraction carried      → `tracker_never_negative`, `whole_units_paid_fraction_carried`
* hypotheses are consistent                        → `hypotheses_consistent` (witness `unitOps`, on which the locker examples run);
                                                     `calcRewards_ok` links `calcRewards` and `interest`
(c) the bookkeeping around (b) for vaults (`Model/VaultAccrual.lean`: which interval is accrued — vault stamp, or the pair's stamp
    when the vault's `BlockHeight` flag is 0 —, tracker, whole units to the vault, stamps written), relative to the same hypotheses
* a calculation books exactly the accrued amount, renews the stamp      → `vault_calc_books_interest`
* after it the flag is consumed, the next interval starts where it ended → `vault_next_interval_starts_here`
* two consecutive calculations book no more than a single one over the combined interval (+ explicit slack), from ANY start
  stamp incl. `BlockHeight = 0`                                           → `accrual_subadditive`
* "triggering interest calculation more often cannot make a position owe more" at the level of `MsgVaultInterestCalc`
                                                                          → `more_frequent_triggering_not_more`
* fee switched off and on again: the span without fee is not accrued     → `fee_toggle_restarts_clock` (idle vault)
  FALSE for a vault deposited into (withdrawn from, drawn, repaid) while the fee is zero: `MsgDeposit` re-stamps the vault with the
  current height and the zero-fee window is charged at the new fee       → `fee_zero_window_touched_counterexample` (reproduced, D46)
(d) the bookkeeping around (b) for LOCKERS (`Model/LockerAccrual.lean`: collector entry rate + stamp, locker balance + stamp with the
    `BlockHeight = 0` flag, tracker, net fees; the five locker messages, the rate update `WasmUpdateCollectorLookupTable` with its
    sweep `LockerIterateRewards`, whitelist on / off), over ALL histories of {create, deposit, withdraw, close, reward-calc, rate
    update, whitelist on, time passing} (whitelist off is excluded by `goodHist`)
* savings are credited only for time at a non-zero rate, at the rate in force, never twice: for every rate value r ≠ 0 the
  seconds credited at r + the seconds still claimable at r ≤ the seconds the rate has been r
                                                                          → `savings_only_for_time_at_positive_rate` (PARTIAL: histories
                                                                            without deposit / withdraw while the rate is zero, whose
                                                                            rate-update sweeps reach the locker), `savings_time_budget_from_any_state`
  the restriction is necessary — the code credits a zero-rate window to a locker touched in it
                                                                          → `zero_rate_window_touched_counterexample` (reproduced, D45)
  with the three-line repair of D45 the statement holds for ALL histories → `savings_only_for_time_at_positive_rate_repaired`
* what a reward-calc / deposit / withdraw books: `interest` over [clock, now] at the rate in force
                                                                          → `locker_calc_books_interest`, `locker_move_books_interest`
* a rate change settles [clock, now] at the OLD rate and restarts the clock (r→0: flag; 0→r: collector stamp; r→r′: stamp)
                                                                          → `rate_change_restarts_clock`
* zero when no time has elapsed at a non-zero rate / a zero-rate window earns nothing (idle locker, any triggers in the window,
  switch-on and accrual in one block)                                     → `zero_rate_window_earns_nothing`
* more frequent triggering cannot earn more, also across a rate change   → `locker_more_frequent_triggering_not_more`,
                                                                            `accrual_subadditive_across_rate_change`
(e) the clocks of the x/lend positions (`Model/LendAccrual.lean`: own `LastInteractionTime` and index copy, stored by every handler after
    `IterateBorrow` / `IterateLends`; no rate stamp — the open interval is accrued at the rate of the moment of the interaction)
* every interaction restarts the clock: a second accrual in the same block charges nothing whatever the rates have become
                                                                          → `lend_interaction_restarts_clock`, `lend_reward_interaction_restarts_clock`
* two interactions (stored index + clock in between) ≤ one + 4·10⁻¹⁸ per unit of principal, interest and reserve share
                                                                          → `borrow_two_interactions_not_more`
* one accrual function for the message route and the liquidation route; it IS the single accrual of the position's kind
                                                                          → `borrow_charge_is_single_accrual`
* `ReBalanceStableRates`: new stable rate = pool's current one or the old one (only within 20 points and below 90 % utilisation)
                                                                          → `stable_rebalance_spec`
Helper: `booked_two_le_one` (the two-interval law on what is booked; parts c and d instantiate it).
-/
namespace Comdex.C18
open Comdex.LendRates

/-- **No division by zero** for admissible parameters: every rate function returns a value. -/
theorem rates_defined (p : Params) (h : admissible p = true) (st : Bool) (u : Dec) :
    (∃ r, borrowRate p st u = some r) ∧ ∃ l, lendRate p u = some l := by
  refine ⟨⟨_, borrowRate_eq p h st u⟩, ?_⟩
  unfold lendRate; rw [borrowRate_eq p h false u]; exact ⟨_, rfl⟩

/-- utilisation lies in `[0, 1]` -/
theorem utilisation_in_unit_interval (bal bor : Int) (hb : 0 ≤ bal) (hr : 0 ≤ bor) (u : Dec)
    (h : utilisation bal bor = some u) : 0 ≤ u ∧ u ≤ Dec.one := by
  have b0 : 0 ≤ Dec.ofInt bal := Dec.ofInt_nonneg hb
  have r0 : 0 ≤ Dec.ofInt bor := Dec.ofInt_nonneg hr
  unfold utilisation at h
  split at h
  · cases h
  · split at h <;> cases h
    · exact ⟨le_refl _, by decide⟩
    · rename_i hne
      have pos : 0 < Dec.ofInt bal + Dec.ofInt bor := lt_of_le_of_ne (Int.add_nonneg b0 r0) (Ne.symm hne)
      exact ⟨Dec.quo_nonneg _ _ r0 pos, Dec.quo_le_one _ _ (Int.le_add_of_nonneg_left b0) pos⟩

/-- **Borrow rates (variable and stable) are non-decreasing in utilisation.** -/
theorem borrow_rate_mono_in_util (p : Params) (h : admissible p = true) (st : Bool) (u1 u2 r1 r2 : Dec)
    (hu : 0 ≤ u1) (h12 : u1 ≤ u2) (e1 : borrowRate p st u1 = some r1) (e2 : borrowRate p st u2 = some r2) :
    r1 ≤ r2 := by
  rw [borrowRate_eq p h st] at e1 e2
  cases e1; cases e2
  exact kinkedVal_mono (admissible_kink p h st) _ _ h12

/-- **At zero utilisation the rate is the base rate.** -/
theorem rate_at_zero_is_base (p : Params) (h : admissible p = true) (st : Bool) :
    borrowRate p st 0 = some (p.baseOf st) := by
  rw [borrowRate_eq p h st, kinkedVal_zero (admissible_kink p h st)]

/-- **Continuity at the optimal-utilisation kink.** (i) at the kink the rate is `base + slope1`;
(ii) the below-kink formula evaluated at the kink gives exactly the same value, i.e. the two branches agree;
(iii) approaching from below, the rate never exceeds the kink value and falls short of it by at most
`slope1·(uOpt−u)/uOpt + slope1·10⁻¹⁸ + 10⁻¹⁸` (all raw: `(gap−1)·uOpt·10¹⁸ ≤ slope1·(uOpt−u)·10¹⁸ + slope1·uOpt`).
Above the kink the added term is `0` at `u = uOpt` by (i). -/
theorem rate_continuous_at_kink (p : Params) (h : admissible p = true) (st : Bool) :
    borrowRate p st p.uOpt = some (p.baseOf st + p.slope1Of st) ∧
    belowKink (p.baseOf st) (p.slope1Of st) p.uOpt p.uOpt = p.baseOf st + p.slope1Of st ∧
    ∀ u r, 0 ≤ u → u < p.uOpt → borrowRate p st u = some r →
      0 ≤ p.baseOf st + p.slope1Of st - r ∧
      (p.baseOf st + p.slope1Of st - r - 1) * p.uOpt * Dec.P
        ≤ p.slope1Of st * (p.uOpt - u) * Dec.P + p.slope1Of st * p.uOpt := by
  have k := admissible_kink p h st
  refine ⟨?_, below_at_kink k, ?_⟩
  · rw [borrowRate_eq p h st, kinkedVal_at_kink]
  · intro u r hu hlt er
    rw [borrowRate_eq p h st] at er
    cases er
    have := kink_gap k u hlt
    rwa [kinkedVal_at_kink] at this

/-- **The lend rate never exceeds the (variable) borrow rate**, and is not negative. -/
theorem lend_rate_le_borrow_rate (p : Params) (h : admissible p = true) (u b l : Dec)
    (hu : 0 ≤ u) (hu1 : u ≤ Dec.one) (eb : borrowRate p false u = some b) (el : lendRate p u = some l) :
    0 ≤ l ∧ l ≤ b := by
  obtain ⟨rf0, rf1⟩ := admissible_reserve p h
  unfold lendRate at el
  rw [eb] at el
  rw [borrowRate_eq p h false] at eb
  cases eb; cases el
  have b0 := kinkedVal_nonneg (admissible_kink p h false) u hu
  have m0 := Dec.mul_nonneg _ _ b0 hu
  exact ⟨Dec.mul_nonneg _ _ m0 (Int.sub_nonneg_of_le rf1),
    le_trans (Dec.mul_le_left _ _ m0 (Int.sub_le_self _ rf0)) (Dec.mul_le_left _ _ b0 hu1)⟩

/-! ## accrual (lend rewards, variable borrow interest, reserve share: `indexInterest`; stable borrow: `stableInterest`) -/

/-- what the three exported keeper functions return, in terms of `indexInterest` / `stableInterest` -/
theorem accrual_functions (n : Int) (r rr gi rgi : Dec) (now prev : Int)
    (ht : 0 ≤ elapsed now prev) (hg : gi ≠ 0) (hrg : rgi ≠ 0) :
    lendReward n r gi now prev = .ok [indexInterest n r gi (elapsed now prev), indexNext r gi (elapsed now prev)] ∧
    borrowInterest n r rr gi rgi now prev =
      .ok [indexInterest n r gi (elapsed now prev), indexNext r gi (elapsed now prev),
           indexInterest n rr rgi (elapsed now prev), indexNext rr rgi (elapsed now prev)] ∧
    stableBorrowInterest n r now prev = .ok [stableInterest n r (elapsed now prev)] :=
  ⟨Lend.lendReward_ok n r gi now prev ht hg, Lend.borrowInterest_ok n r rr gi rgi now prev ht hg hrg,
    Lend.stableBorrowInterest_ok n r now prev ht⟩

/-- **Never negative.** -/
theorem reward_nonneg (n : Int) (r gi : Dec) (s : Int) (hn : 0 ≤ n) (hr : 0 ≤ r) (hg : 0 < gi) (hs : 0 ≤ s) :
    0 ≤ indexInterest n r gi s ∧ 0 ≤ stableInterest n r s := by
  rw [indexInterest_eq, stableInterest_eq]
  exact ⟨Int.mul_nonneg hn (Int.sub_nonneg_of_le (one_le_factor2 r gi s hr hg hs)),
    Dec.chopRound_nonneg _ (Int.mul_nonneg (Int.mul_nonneg hn hr) (years_nonneg s hs))⟩

/-- **Zero when no time has elapsed.** -/
theorem reward_zero_at_zero_time (n : Int) (r gi : Dec) (hg : 0 < gi) :
    indexInterest n r gi 0 = 0 ∧ stableInterest n r 0 = 0 :=
  ⟨indexInterest_zero n r gi hg, stableInterest_zero n r⟩

/-- **Never decreases when the elapsed time, the principal or the rate increases** (index-based accrual). -/
theorem reward_mono (n n' : Int) (r r' gi : Dec) (s s' : Int)
    (hn : 0 ≤ n) (hnn : n ≤ n') (hr : 0 ≤ r) (hrr : r ≤ r') (hg : 0 < gi) (hs : 0 ≤ s) (hss : s ≤ s') :
    indexInterest n r gi s ≤ indexInterest n' r' gi s' := by
  rw [indexInterest_eq, indexInterest_eq]
  have f : factor2 r gi s ≤ factor2 r' gi s' :=
    factor2_mono r r' gi s s' hg (le_trans (eff_mono_time r s s' hr hs hss) (eff_mono_rate r r' s' hrr (le_trans hs hss)))
  exact Int.mul_le_mul hnn (Int.sub_le_sub_right f _) (Int.sub_nonneg_of_le (one_le_factor2 r gi s hr hg hs))
    (le_trans hn hnn)

/-- the same for the stable-rate accrual -/
theorem stable_interest_mono (n n' : Int) (r r' : Dec) (s s' : Int)
    (hn : 0 ≤ n) (hnn : n ≤ n') (hr : 0 ≤ r) (hrr : r ≤ r') (hs : 0 ≤ s) (hss : s ≤ s') :
    stableInterest n r s ≤ stableInterest n' r' s' := by
  rw [stableInterest_eq, stableInterest_eq]
  have nr0 : 0 ≤ n * r := Int.mul_nonneg hn hr
  have nr : n * r ≤ n' * r' := Int.mul_le_mul hnn hrr hr (le_trans hn hnn)
  exact Dec.chopRound_mono _ _ (Int.mul_le_mul nr (years_mono s s' hs hss) (years_nonneg s hs) (le_trans nr0 nr))

/-- **Two consecutive intervals never yield more than the combined interval, beyond rounding in the last
stored decimal place.** Index-based accrual with any indices `≥ 1` (in the real flow the second interval
starts from the index the first produced): the excess is at most `4·10⁻¹⁸` per unit of principal. -/
theorem two_step_le_one_step_plus_rounding (n : Int) (r g1 g2 g12 : Dec) (s t : Int)
    (hn : 0 ≤ n) (hr : 0 ≤ r) (h1 : Dec.one ≤ g1) (h2 : Dec.one ≤ g2) (h12 : Dec.one ≤ g12)
    (hs : 0 ≤ s) (ht : 0 ≤ t) :
    indexInterest n r g1 s + indexInterest n r g2 t ≤ indexInterest n r g12 (s + t) + 4 * n := by
  rw [indexInterest_eq, indexInterest_eq, indexInterest_eq]
  -- each `factor2` is `1 + eff` up to one unit; the effective rates of the two intervals exceed the combined one by at most one
  have u1 := (factor2_bounds r g1 s hr h1 hs).2
  have u2 := (factor2_bounds r g2 t hr h2 ht).2
  have l12 := (factor2_bounds r g12 (s + t) hr h12 (Int.add_nonneg hs ht)).1
  have e := eff_two_step r s t hr hs ht
  have := Int.mul_le_mul_of_nonneg_left (show (factor2 r g1 s - Dec.one) + (factor2 r g2 t - Dec.one)
      ≤ (factor2 r g12 (s + t) - Dec.one) + 4 by linarith) hn
  linarith

/-- the same for the stable-rate accrual: at most one unit of the last stored decimal place -/
theorem stable_two_step_le_one_step_plus_rounding (n : Int) (r : Dec) (s t : Int)
    (hn : 0 ≤ n) (hr : 0 ≤ r) (hs : 0 ≤ s) (ht : 0 ≤ t) :
    stableInterest n r s + stableInterest n r t ≤ stableInterest n r (s + t) + 1 := by
  rw [stableInterest_eq, stableInterest_eq, stableInterest_eq]
  exact Dec.chopRound_two_step (n * r) _ _ _ (Int.mul_nonneg hn hr) (years_superadd s t hs ht)

/-! # part b: x/rewards `CalculationOfRewards` (vault stability fee, locker savings) — floating point

Everything except `math.Pow` is modelled exactly (`Model/Accrual.lean`); `math.Pow` is the field `pow` of
`FloatOps`, whose other fields are the hypotheses the theorems use. PARTIAL: the hypotheses are tested against the
real `math.Pow` by the harness, not proved. -/
section floating
open Comdex.Accrual

/-- on the success path `calcRewards` returns `interest` -/
theorem calcRewards_ok (ops : FloatOps) (n : Int) (lsr : Dec) (s : Int) (d : Dec)
    (h : calcRewards n lsr s (some (ops.pow (xF lsr) (yF s))) = .ok d) : d = interest ops n lsr s :=
  (calcRewards_eq_ok n lsr s _ d h).1

/-- a power function satisfying `FloatOps` (the constant 1.0), to show that the hypotheses of the theorems of parts b, c, d are satisfiable -/
def unitOps : FloatOps :=
  { pow := fun _ _ => (U : Int), E := 1, E_pos := by decide,
    pow_ge_one := fun _ _ _ _ => le_refl _, pow_zero := fun _ _ => rfl,
    pow_submult := fun _ _ _ _ _ _ => by
      have h : (0 : Int) ≤ (U : Int) * (U : Int) := Int.mul_nonneg (Int.natCast_nonneg _) (Int.natCast_nonneg _)
      show (U : Int) * (U : Int) * ((1 : Nat) : Int) ≤ (U : Int) * (U : Int) * (((1 : Nat) : Int) + 1)
      exact Int.mul_le_mul_of_nonneg_left (by omega) h }

/-- the hypotheses are consistent: a (trivial) power function satisfying all of them -/
theorem hypotheses_consistent : ∃ ops : FloatOps, PowMonoTime ops ∧ PowMonoRate ops :=
  ⟨unitOps, fun _ _ _ _ _ _ => le_refl _, fun _ _ _ _ _ _ => le_refl _⟩

/-- **Never negative.** -/
theorem interest_nonneg (ops : FloatOps) (n : Int) (lsr : Dec) (s : Int)
    (hn : 0 ≤ n) (hl : 0 ≤ lsr) (hs : 0 ≤ s) : 0 ≤ interest ops n lsr s :=
  interestOfPow_nonneg _ _ (ops.pow_ge_one lsr s hl hs) (aF_nonneg n hn)

/-- **Zero when no time has elapsed.** -/
theorem interest_zero_at_zero_time (ops : FloatOps) (n : Int) (lsr : Dec) (hl : 0 ≤ lsr) :
    interest ops n lsr 0 = 0 := by
  unfold interest; rw [ops.pow_zero lsr hl]; exact interestOfPow_one _

/-- **Never decreases when the principal increases** (needs nothing of the power function beyond `≥ 1`), and,
given that the power function is monotone on the reachable grid, when **the elapsed time or the rate increases**. -/
theorem interest_mono_partial (ops : FloatOps) (n n' : Int) (lsr lsr' : Dec) (s s' : Int)
    (hn : 0 ≤ n) (hnn : n ≤ n') (hl : 0 ≤ lsr) (hs : 0 ≤ s) :
    interest ops n lsr s ≤ interest ops n' lsr s ∧
    (PowMonoTime ops → s ≤ s' → interest ops n lsr s ≤ interest ops n' lsr s') ∧
    (PowMonoRate ops → lsr ≤ lsr' → interest ops n lsr s ≤ interest ops n' lsr' s) := by
  have p0 := ops.pow_ge_one lsr s hl hs
  have a0 := aF_nonneg n hn
  have a1 := aF_mono n n' hn hnn
  exact ⟨interestOfPow_mono _ _ _ _ p0 (le_refl _) a0 a1,
         fun hm hss => interestOfPow_mono _ _ _ _ p0 (hm lsr s s' hl hs hss) a0 a1,
         fun hm hll => interestOfPow_mono _ _ _ _ p0 (hm lsr lsr' s hl hll hs) a0 a1⟩

/-- **Counterexample (time).** Go's `math.Pow` is NOT monotone on the reachable grid: for the rate
`0.000000006824643518` it returns `0x3ff000001c654844` at 489142800 s (15.5 years) and `0x3ff000001c654843` one
second later (reproduced on every run by the harness, corpus case 1). Everything after the power function
being strictly monotone there, one more second of elapsed time yields LESS interest on a principal of 10¹⁸
(105781979620.18… vs 105781979398.14…). -/
theorem interest_mono_time_counterexample (ops : FloatOps)
    (h1 : some (ops.pow (xF 6824643518) (yF 489142800)) = ofBits 4607182419276417092)
    (h2 : some (ops.pow (xF 6824643518) (yF 489142801)) = ofBits 4607182419276417091) :
    interest ops 1000000000000000000 6824643518 489142801 < interest ops 1000000000000000000 6824643518 489142800 ∧
    ¬ PowMonoTime ops := by
  have e1 : ofBits 4607182419276417092 = some (2 ^ 1074 + 476399684 * 2 ^ 1022) := by decide +kernel
  have e2 : ofBits 4607182419276417091 = some (2 ^ 1074 + 476399683 * 2 ^ 1022) := by decide +kernel
  rw [e1] at h1; rw [e2] at h2
  injection h1 with h1; injection h2 with h2
  have lt : interest ops 1000000000000000000 6824643518 489142801 < interest ops 1000000000000000000 6824643518 489142800 := by
    unfold interest; rw [h1, h2]; decide +kernel
  exact ⟨lt, fun hm => absurd ((interest_mono_partial ops _ _ _ 0 _ _ (by decide) (le_refl _) (by decide) (by decide)).2.1 hm
    (by decide)) (not_le.mpr lt)⟩

/-- **Counterexample (rate).** At half a year and one second `math.Pow` returns `0x3ffede12f2fd1069` for the
base `1 + 2.721879042385945` and `0x3ffede12f2fd1068` for the base `1 + 2.7218790423859454` (corpus case 2):
a higher rate yields less interest. -/
theorem interest_mono_rate_counterexample (ops : FloatOps)
    (h1 : some (ops.pow (xF 2721879042385945000) (yF 15778801)) = ofBits 4611367241441415273)
    (h2 : some (ops.pow (xF 2721879042385945400) (yF 15778801)) = ofBits 4611367241441415272) :
    interest ops 1000000000000000000 2721879042385945400 15778801
      < interest ops 1000000000000000000 2721879042385945000 15778801 ∧
    ¬ PowMonoRate ops := by
  have e1 : ofBits 4611367241441415273 = some ((2 ^ 52 + 4184822641397865) * 2 ^ 1022) := by decide +kernel
  have e2 : ofBits 4611367241441415272 = some ((2 ^ 52 + 4184822641397864) * 2 ^ 1022) := by decide +kernel
  rw [e1] at h1; rw [e2] at h2
  injection h1 with h1; injection h2 with h2
  have lt : interest ops 1000000000000000000 2721879042385945400 15778801
      < interest ops 1000000000000000000 2721879042385945000 15778801 := by
    unfold interest; rw [h1, h2]; decide +kernel
  exact ⟨lt, fun hm => absurd ((interest_mono_partial ops _ _ _ _ _ 0 (by decide) (le_refl _) (by decide) (by decide)).2.2 hm
    (by decide)) (not_le.mpr lt)⟩

/-- **The tracker is never negative** and stays below one whole unit; what is paid is never negative. -/
theorem tracker_never_negative (tr x : Dec) (ht : 0 ≤ tr) (hx : 0 ≤ x) :
    0 ≤ (trackerStep tr x).1 ∧ 0 ≤ (trackerStep tr x).2 ∧ (trackerStep tr x).2 < Dec.one :=
  let ⟨a, b, c, _⟩ := trackerStep_spec tr x (Int.add_nonneg ht hx); ⟨a, b, c⟩

/-- **Whole units are paid, the fraction is carried**, over any sequence of accruals: what has been paid out in
whole units plus what the tracker still holds is exactly what was accrued, and the tracker holds less than one
unit — so the total paid is `⌊tracker₀ + Σ accrued⌋` whatever the number of steps. -/
theorem whole_units_paid_fraction_carried (tr : Dec) (xs : List Dec) (ht : 0 ≤ tr) (hx : ∀ x ∈ xs, 0 ≤ x) :
    0 ≤ (trackerRun tr xs).1 ∧ 0 ≤ (trackerRun tr xs).2 ∧
    (xs ≠ [] → (trackerRun tr xs).2 < Dec.one) ∧
    (trackerRun tr xs).1 * Dec.P + (trackerRun tr xs).2 = tr + xs.sum := by
  induction xs generalizing tr with
  | nil => simp [trackerRun, ht]
  | cons x xs ih =>
    have hx0 : 0 ≤ x := hx x (by simp)
    obtain ⟨a, b, c, d⟩ := trackerStep_spec tr x (Int.add_nonneg ht hx0)
    obtain ⟨a', b', c', d'⟩ := ih (trackerStep tr x).2 b (fun y hy => hx y (by simp [hy]))
    simp only [trackerRun, List.sum_cons]
    refine ⟨Int.add_nonneg a a', b', fun _ => ?_, ?_⟩
    · cases xs with
      | nil => simpa [trackerRun] using c
      | cons y ys => exact c' (by simp)
    · have : ((trackerStep tr x).1 + (trackerRun (trackerStep tr x).2 xs).1) * Dec.P
          = (trackerStep tr x).1 * Dec.P + (trackerRun (trackerStep tr x).2 xs).1 * Dec.P := by ring
      rw [this]; linarith

/-- **Two consecutive intervals on the same principal never yield more than one accrual over the combined
interval, beyond an explicit error term**: `subaddErr E a c = 10¹⁸·a·(c·(1/E)·(1+2⁻⁵³)² + (c−1)·2⁻⁵¹) + 2` raw
units, `a` the principal and `c` the power value of the combined interval as real numbers, `1/E` the tested
slack of quasi-multiplicativity of `math.Pow`. Derived from `(A−1)+(B−1) ≤ AB−1`, lifted through the three
roundings of each accrual (relative error `2⁻⁵³` each, half an ulp of the 18-digit format). -/
theorem more_frequent_accrual_not_more (ops : FloatOps) (n : Int) (lsr : Dec) (s t : Int)
    (hn : 0 ≤ n) (hn63 : n ≤ 2 ^ 63) (hl : 0 ≤ lsr) (hs : 0 ≤ s) (ht : 0 ≤ t) :
    ((interest ops n lsr s + interest ops n lsr t : Int) : ℚ) ≤
      ((interest ops n lsr (s + t) : Int) : ℚ) + subaddErr ops.E (aF n) (ops.pow (xF lsr) (yF (s + t))) :=
  interestOfPow_subadd _ _ _ _ _ ops.E_pos (ops.pow_ge_one lsr s hl hs) (ops.pow_ge_one lsr t hl ht)
    (ops.pow_ge_one lsr (s + t) hl (Int.add_nonneg hs ht)) (ops.pow_submult lsr s t hl hs ht) (aF_nonneg n hn)
    (by rw [← aF_pow63]; exact aF_mono n _ hn hn63)

/-- `more_frequent_accrual_not_more` at the level of what is booked; the vault and locker sub-additivity theorems are instances -/
theorem booked_two_le_one (ops : FloatOps) (n n2 : Int) (lsr : Dec) (t0 t1 t2 b : Int)
    (hn : 0 ≤ n) (hn63 : n ≤ 2 ^ 63) (hl : 0 ≤ lsr) (h01 : t0 ≤ t1) (h12 : t1 ≤ t2) :
    ((b + interest ops n lsr (t1 - t0) + interest ops n2 lsr (t2 - t1) : Int) : ℚ) ≤
      ((b + interest ops n lsr (t2 - t0) : Int) : ℚ) + subaddErr ops.E (aF n) (ops.pow (xF lsr) (yF (t2 - t0)))
      + ((interest ops n2 lsr (t2 - t1) - interest ops n lsr (t2 - t1) : Int) : ℚ) := by
  have key := more_frequent_accrual_not_more ops n lsr (t1 - t0) (t2 - t1) hn hn63 hl (Int.sub_nonneg_of_le h01)
    (Int.sub_nonneg_of_le h12)
  rw [show (t1 - t0) + (t2 - t1) = t2 - t0 by ring] at key
  push_cast at key ⊢
  linarith

end floating

section vault
open Comdex.Accrual Comdex.VaultAccrual

/-- **One calculation** (`CalculateVaultInterest` with a running fee): the accrued interval is non-negative, what the
position owes (whole units on the vault + tracker fraction) grows by exactly `interest` over that interval, the vault is
stamped with the current height and time, nothing else changes, and the tracker stays in `[0, 1)`. -/
theorem vault_calc_books_interest (ops : FloatOps) (s : St) (ctx : Ctx) (debt bh bt : Int) (s' : St)
    (ha : Active s) (hf : 0 ≤ s.pair.fee) (hd : 0 ≤ debt) (htr : 0 ≤ s.tracker.getD 0)
    (h : calcWith ops s ctx debt bh bt = .ok s') :
    0 ≤ ctx.now - since s.pair.bt bh bt ∧
    booked s' = booked s + interest ops debt s.pair.fee (ctx.now - since s.pair.bt bh bt) ∧
    s'.vault.bh = ctx.height ∧ s'.vault.bt = ctx.now ∧ s'.pair = s.pair ∧ s'.appWl = s.appWl ∧
    s'.vault.amountOut = s.vault.amountOut ∧ s.vault.ia ≤ s'.vault.ia ∧
    0 ≤ s'.tracker.getD 0 ∧ s'.tracker.getD 0 < Dec.one := by
  have b := calcWith_books ops s ctx debt bh bt s' ha hf hd htr h
  exact ⟨b.span, b.booked, b.bh, b.bt, b.pair, b.appWl, b.amountOut, b.ia, b.tr0, b.tr1⟩

/-- **The `BlockHeight = 0` flag is consumed by every calculation** (chain heights are non-zero): whatever the start stamp,
the next calculation accrues from the time of this one — in particular never again from the pair's `BlockTime`. -/
theorem vault_next_interval_starts_here (ops : FloatOps) (s : St) (ctx : Ctx) (debt bh bt : Int) (s' : St)
    (ha : Active s) (hf : 0 ≤ s.pair.fee) (hd : 0 ≤ debt) (htr : 0 ≤ s.tracker.getD 0) (hh : ctx.height ≠ 0)
    (h : calcWith ops s ctx debt bh bt = .ok s') :
    since s'.pair.bt s'.vault.bh s'.vault.bt = ctx.now ∧ Active s' :=
  (calcWith_books ops s ctx debt bh bt s' ha hf hd htr h).next ops ha hh

/-- **Sub-additivity at the level of the records.** From any state (any stamp, incl. `BlockHeight = 0`, any tracker in
`[0,1)`), two consecutive calculations at `t₁ ≤ t₂` leave the position owing (vault interest + tracker fraction) at most what a
single calculation at `t₂` leaves, plus the float slack `subaddErr` of `more_frequent_accrual_not_more`, plus the interest over
`[t₁,t₂]` on the increase `n₂ − n` of the debt the caller hands in (zero when the same debt is passed). -/
theorem accrual_subadditive (ops : FloatOps) (s s1 s2 s' : St) (c1 c2 : Ctx) (n n2 : Int)
    (ha : Active s) (hf : 0 ≤ s.pair.fee) (hn : 0 ≤ n) (hn63 : n ≤ 2 ^ 63) (hn2 : 0 ≤ n2)
    (htr : 0 ≤ s.tracker.getD 0) (hh : c1.height ≠ 0) (h12 : c1.now ≤ c2.now)
    (e1 : calcWith ops s c1 n s.vault.bh s.vault.bt = .ok s1)
    (e2 : calcWith ops s1 c2 n2 s1.vault.bh s1.vault.bt = .ok s2)
    (e' : calcWith ops s c2 n s.vault.bh s.vault.bt = .ok s') :
    ((booked s2 : Int) : ℚ) ≤ ((booked s' : Int) : ℚ)
      + subaddErr ops.E (aF n) (ops.pow (xF s.pair.fee) (yF (c2.now - since s.pair.bt s.vault.bh s.vault.bt)))
      + ((interest ops n2 s.pair.fee (c2.now - c1.now) - interest ops n s.pair.fee (c2.now - c1.now) : Int) : ℚ) := by
  have b1 := calcWith_books ops s c1 n _ _ s1 ha hf hn htr e1
  obtain ⟨hs1, ha1⟩ := b1.next ops ha hh
  have b2 := calcWith_books ops s1 c2 n2 _ _ s2 ha1 (by rw [b1.pair]; exact hf) hn2 b1.tr0 e2
  have b' := calcWith_books ops s c2 n _ _ s' ha hf hn htr e'
  rw [b2.booked, hs1, b1.pair, b1.booked, b'.booked]
  exact booked_two_le_one ops n n2 _ _ _ _ _ hn hn63 hf (Int.le_of_sub_nonneg b1.span) h12

/-- **Triggering `MsgVaultInterestCalc` more often cannot make a position owe more** (beyond the float slack): two
messages at `t₁ ≤ t₂` against one at `t₂`. The debt a message hands in is principal + whole units already booked, so the second
message legitimately accrues on the whole units the first one booked; when the first one stayed below one unit — the case in
which a stale `BlockHeight = 0` flag would make the pair's interval count twice — the bound is the float slack alone. -/
theorem more_frequent_triggering_not_more (ops : FloatOps) (s s1 s2 s' : St) (c1 c2 : Ctx)
    (ha : Active s) (hf : 0 ≤ s.pair.fee) (hn : 0 ≤ s.vault.amountOut + s.vault.ia) (hn63 : s.vault.amountOut + s.vault.ia ≤ 2 ^ 63)
    (htr : 0 ≤ s.tracker.getD 0) (hh : c1.height ≠ 0) (h12 : c1.now ≤ c2.now)
    (e1 : msgCalcWith ops s c1 = .ok s1) (e2 : msgCalcWith ops s1 c2 = .ok s2) (e' : msgCalcWith ops s c2 = .ok s') :
    ((booked s2 : Int) : ℚ) ≤ ((booked s' : Int) : ℚ)
      + subaddErr ops.E (aF (s.vault.amountOut + s.vault.ia))
          (ops.pow (xF s.pair.fee) (yF (c2.now - since s.pair.bt s.vault.bh s.vault.bt)))
      + ((interest ops (s.vault.amountOut + s1.vault.ia) s.pair.fee (c2.now - c1.now)
          - interest ops (s.vault.amountOut + s.vault.ia) s.pair.fee (c2.now - c1.now) : Int) : ℚ) ∧
    (s1.vault.ia = s.vault.ia →
      ((booked s2 : Int) : ℚ) ≤ ((booked s' : Int) : ℚ)
        + subaddErr ops.E (aF (s.vault.amountOut + s.vault.ia))
            (ops.pow (xF s.pair.fee) (yF (c2.now - since s.pair.bt s.vault.bh s.vault.bt)))) := by
  have b1 := calcWith_books ops s c1 _ _ _ s1 ha hf hn htr e1
  have c7 := b1.amountOut
  have hn2 : 0 ≤ s1.vault.amountOut + s1.vault.ia := by have := b1.ia; rw [c7]; omega
  have main := accrual_subadditive ops s s1 s2 s' c1 c2 _ _ ha hf hn hn63 hn2 htr hh h12 e1 e2 e'
  rw [c7] at main
  refine ⟨main, fun h => ?_⟩
  rw [h] at main
  simpa using main

/-- **Fee switched off and on again** (`WasmUpdatePairsVault`): the sweep books the interest up to the switch-off and flags
the vault with `BlockHeight = 0`; after the fee is switched on again the vault's next interval starts at that moment. -/
theorem fee_toggle_restarts_clock (s sa sb : St) (ca cb : Ctx) (f : Dec) (pw pw' : Option Int) (x : Dec)
    (hwl : s.appWl = true) (hst : s.pair.stable = false) (hf : f ≠ 0)
    (hx : calcRewards s.vault.amountOut s.pair.fee (ca.now - since s.pair.bt s.vault.bh s.vault.bt) pw = .ok x)
    (ua : updateFee s ca 0 pw = some sa) (ub : updateFee sa cb f pw' = some sb) :
    sa.vault.bh = 0 ∧ sa.pair.fee = 0 ∧ sb.pair.fee = f ∧ sb.vault.bh = 0 ∧ sb.pair.bt = cb.now ∧
    since sb.pair.bt sb.vault.bh sb.vault.bt = cb.now := by
  unfold updateFee at ua
  simp only [hwl, hst, Bool.not_false, Bool.and_self, if_true, iter, hx, Option.map_some] at ua
  cases ua
  unfold updateFee at ub
  simp only [Bool.not_false, Bool.and_self, if_true, hf, if_false] at ub
  cases ub
  simp [since, book]

/-- **Counterexample — a vault deposited into while the fee is zero is charged the zero-fee window** (reproduced on the unchanged
tree: first `va` sequence of every harness run, values of `math.Pow` as the real run obtained them; defect D46). Debt 1 000 000 at
fee 0; after one day the owner deposits 5 units of collateral — `MsgDeposit` re-stamps the vault with the current height
(x/vault/keeper/msg_server.go:300-301), the flag `BlockHeight = 0` set by `MsgCreate` is lost; after a year the fee is set to 10 %
and `MsgVaultInterestCalc` is delivered in the same block: 99 641 units of interest are booked for 364 days at the new fee, with ZERO
seconds at a non-zero fee. The idle vault (same history without the deposit) owes nothing: `fee_toggle_restarts_clock`. -/
theorem fee_zero_window_touched_counterexample :
    let s0 : VaultAccrual.St := ⟨true, ⟨0, false, 0, 1700000000⟩, ⟨1000000, 0, 0, 1700000000⟩, none⟩
    let on : Pair := ⟨100000000000000000, false, 102, 1731536000⟩
    -- the deposit loses the flag
    msgDeposit s0 ⟨1700086400, 101⟩ (ofBits 4607182418800017408)
      = .ok ⟨true, ⟨0, false, 0, 1700000000⟩, ⟨1000000, 0, 101, 1700086400⟩, none⟩ ∧
    updateFee ⟨true, ⟨0, false, 0, 1700000000⟩, ⟨1000000, 0, 101, 1700086400⟩, none⟩ ⟨1731536000, 102⟩ 100000000000000000
        (ofBits 4607182418800017408)
      = some ⟨true, on, ⟨1000000, 0, 101, 1700086400⟩, none⟩ ∧
    -- interest calculation in the block of the switch-on: 364 days are booked
    msgCalc ⟨true, on, ⟨1000000, 0, 101, 1700086400⟩, none⟩ ⟨1731536000, 103⟩ (ofBits 4607631163137216092)
      = .ok ⟨true, on, ⟨1000000, 99641, 103, 1731536000⟩, some 259065626814845018⟩ ∧
    -- the idle vault: nothing
    msgCalc ⟨true, on, ⟨1000000, 0, 0, 1700000000⟩, none⟩ ⟨1731536000, 103⟩ (ofBits 4607182418800017408)
      = .ok ⟨true, on, ⟨1000000, 0, 103, 1731536000⟩, some 0⟩ := by
  decide +kernel

end vault

section locker
open Comdex.Accrual Comdex.LockerAccrual

/-- **Savings are credited only for time at a non-zero rate, at the rate in force, and never twice** — time-budget form, from
ANY state satisfying the invariant: along every history of create / deposit / withdraw / close / reward-calc / rate update /
whitelist-on calls at non-decreasing block times (rejected calls skipped, any values of `math.Pow`), for every rate value
`r ≠ 0`: (seconds for which the locker has been credited savings at rate `r`) + (seconds it could still claim at rate `r` now)
≤ (seconds for which the saving rate HAS BEEN `r`). Side conditions of the history (`goodHist`): the clock does not run backwards,
heights are non-zero, rates are not negative, the whitelist is not switched off, the sweep of a rate update reaches the locker
(calculation succeeds, net fees can pay), and no deposit / withdraw happens while the rate is zero (see the counterexample). -/
theorem savings_time_budget_from_any_state (r : Dec) (hr : r ≠ 0) (s : St) (g : Ghost) (h : Hist)
    (hi : Inv r s g) (hg : goodHist s g.last h = true) :
    (grun r s g h).2.acc + pending r (grun r s g h).1 (grun r s g h).2.last ≤ (grun r s g h).2.pos ∧
    Inv r (grun r s g h).1 (grun r s g h).2 :=
  ⟨(inv_run r hr h s g hi hg).budget, inv_run r hr h s g hi hg⟩

/-- the same from the natural start: a whitelisted collector entry without a locker, at time `t0` (the locker is created inside
the history; budgets start at zero). PARTIAL only because of the `goodHist` restriction "no deposit / withdraw at rate zero". -/
theorem savings_only_for_time_at_positive_rate (r : Dec) (hr : r ≠ 0) (s : St) (t0 : Int) (h : Hist)
    (hw : s.wl = true) (h0 : 0 ≤ s.coll.lsr) (hnl : s.locker = none) (hg : goodHist s t0 h = true) :
    (grun r s ⟨t0, 0, 0⟩ h).2.acc + pending r (grun r s ⟨t0, 0, 0⟩ h).1 (grun r s ⟨t0, 0, 0⟩ h).2.last
      ≤ (grun r s ⟨t0, 0, 0⟩ h).2.pos :=
  (savings_time_budget_from_any_state r hr s ⟨t0, 0, 0⟩ h ((Fresh.none hw h0 hnl).inv hr (le_refl _)) hg).1

/-- **One reward-calc message at a running rate** books exactly `interest` over `[clock, now]` at the rate in force, where
`clock` is the locker's own stamp or — flag `BlockHeight = 0` — the collector entry's; whole units move from the net fees into the
balance; the locker is stamped `(height, now)`; the collector entry is not touched; the tracker stays in `[0, 1)`. -/
theorem locker_calc_books_interest (ops : FloatOps) (s : St) (ctx : Ctx) (l : Locker) (s1 : St) (hv : Live s l)
    (hne : s.coll.lsr ≠ 0) (h : stepWith ops s ctx .rewardCalc = .ok s1) :
    0 ≤ ctx.now - clock s l ∧
    booked s1 = booked s + interest ops l.net s.coll.lsr (ctx.now - clock s l) ∧ s1.coll = s.coll ∧ s1.wl = s.wl ∧
    0 ≤ s1.tracker.getD 0 ∧ s1.tracker.getD 0 < Dec.one ∧
    ∃ l1, s1.locker = some l1 ∧ l1.bh = ctx.height ∧ l1.bt = ctx.now ∧ l.ret ≤ l1.ret ∧ l1.net - l.net = l1.ret - l.ret ∧
      s1.fees = s.fees - (l1.ret - l.ret) := by
  obtain ⟨l1, b, hbh, hc⟩ := calc_books ops s ctx l s1 hv hne h
  exact ⟨b.span, b.booked, hc, b.wl, b.tr0, b.tr1, l1, b.lk, hbh, b.bt, b.ret, b.net, b.fees⟩

/-- **Deposit (`d > 0`) / withdraw (`d < 0`) at a running rate**: the accrual on the balance BEFORE the movement comes first. -/
theorem locker_move_books_interest (ops : FloatOps) (s : St) (ctx : Ctx) (l : Locker) (s' : St) (op : Op) (d : Int) (hv : Live s l)
    (hne : s.coll.lsr ≠ 0) (hop : (op = .deposit d) ∨ (op = .withdraw (-d))) (h : stepWith ops s ctx op = .ok s') :
    0 ≤ ctx.now - clock s l ∧
    booked s' = booked s + interest ops l.net s.coll.lsr (ctx.now - clock s l) ∧ s'.coll = s.coll ∧
    ∃ l', s'.locker = some l' ∧ l'.bh = ctx.height ∧ l'.bt = ctx.now ∧ l.ret ≤ l'.ret ∧ l'.net = l.net + (l'.ret - l.ret) + d := by
  obtain ⟨s1, l1, b, -, hc, e⟩ := msg_books ops s ctx l op s' hv hne (by rcases hop with e | e <;> rw [e] <;> rfl) h
  -- both are `restamp … d`
  have e : s' = restamp s1 ctx d := by rcases hop with k | k <;> rw [e, k] <;> simp [Op.after]
  obtain ⟨_, c2, k2⟩ := restamp_some s1 ctx d l1 b.lk
  subst e
  refine ⟨b.span, by rw [booked_restamp]; exact b.booked, by rw [c2]; exact hc, _, k2, rfl, rfl, b.ret, ?_⟩
  show l1.net + d = l.net + (l1.ret - l.ret) + d
  have := b.net
  omega

/-- **A rate change restarts the clock.** (i) running rate → any rate `nr ≥ 0` (`r → 0`, `r → r′`, also `r → r`): the sweep settles
`[clock, now]` at the OLD rate, the collector entry gets the new rate and `BlockTime = now`, and the locker's next interval starts
now — it is stamped `(height, now)`, or flagged `BlockHeight = 0` when the new rate is zero. (ii) `0 → r`: nothing is booked, the
collector entry is stamped `now`, and a locker carrying the flag has its clock moved to `now`. -/
theorem rate_change_restarts_clock (ops : FloatOps) (s : St) (ctx : Ctx) (nr : Dec) (l : Locker) (hv : Live s l) (hnr : 0 ≤ nr)
    (hh : ctx.height ≠ 0) :
    (s.coll.lsr ≠ 0 → sweepFine s ctx (powOf ops s ctx) = true →
      ∃ s1, stepWith ops s ctx (.lsrUpdate nr) = .ok s1 ∧ 0 ≤ ctx.now - clock s l ∧
        booked s1 = booked s + interest ops l.net s.coll.lsr (ctx.now - clock s l) ∧
        s1.coll.lsr = nr ∧ s1.coll.bt = ctx.now ∧ s1.wl = true ∧ 0 ≤ s1.tracker.getD 0 ∧ s1.tracker.getD 0 < Dec.one ∧
        ∃ l1, s1.locker = some l1 ∧ (nr ≠ 0 → clock s1 l1 = ctx.now) ∧ (nr = 0 → l1.bh = 0) ∧ l.ret ≤ l1.ret ∧
          l1.net - l.net = l1.ret - l.ret ∧ s1.fees = s.fees - (l1.ret - l.ret)) ∧
    (s.coll.lsr = 0 → nr ≠ 0 →
      stepWith ops s ctx (.lsrUpdate nr) = .ok { s with coll := ⟨nr, ctx.height, ctx.now⟩ } ∧
      (l.bh = 0 → clock { s with coll := ⟨nr, ctx.height, ctx.now⟩ } l = ctx.now)) :=
  ⟨fun hne hf =>
    let ⟨s1, l1, e, b, hbh, hc⟩ := lsr_running_books ops s ctx nr l hv hne hnr hf
    ⟨s1, e, b.span, b.booked, by rw [hc], by rw [hc], b.wl.trans hv.wl, b.tr0, b.tr1, l1, b.lk,
      fun hn => by unfold clock; rw [hc, hbh, b.bt, if_neg hn]; exact since_stamped _ _ _ hh,
      fun hn => by rw [hbh, if_pos hn], b.ret, b.net, b.fees⟩,
   fun hz hn => ⟨(lsr_switch_on s ctx nr _ hv.wl hz hn).1, fun hb => (lsr_switch_on s ctx nr (powOf ops s ctx) hv.wl hz hn).2 l hv.lk hb⟩⟩

/-- **A zero-rate window earns nothing; zero when no time has elapsed at a non-zero rate.** The rate is switched off at `ca`, any
number of reward-calc messages arrive during the window (at any times), the rate is switched on again (any `nr > 0`) at `cb`, the
locker accrues at `cc`: it ends with what it had at the switch-off plus `interest` over `[cb, cc]` at the NEW rate — nothing for
`[ca, cb]`, however long — and with exactly what it had when the accrual is in the block of the switch-on. (Seeded change s94 —
the `0 → r` branch no longer stamps the collector entry — breaks exactly `clock s3 l1 = cb.now`.) -/
theorem zero_rate_window_earns_nothing (ops : FloatOps) (s0 : St) (l0 : Locker) (ca cb cc : Ctx) (nr : Dec) (w : List (Ctx × Op))
    (hv : Live s0 l0) (hne : s0.coll.lsr ≠ 0) (hfa : sweepFine s0 ca (powOf ops s0 ca) = true) (hha : ca.height ≠ 0)
    (hw : ∀ p ∈ w, p.2 = Op.rewardCalc) (hnr : 0 < nr) :
    ∃ s1 l1 s3, stepWith ops s0 ca (.lsrUpdate 0) = .ok s1 ∧ s1.locker = some l1 ∧ s1.coll.lsr = 0 ∧
      runWith ops s1 w = s1 ∧
      stepWith ops s1 cb (.lsrUpdate nr) = .ok s3 ∧ s3.locker = some l1 ∧ clock s3 l1 = cb.now ∧ booked s3 = booked s1 ∧
      ∀ s4, stepWith ops s3 cc .rewardCalc = .ok s4 →
        booked s4 = booked s1 + interest ops l1.net nr (cc.now - cb.now) ∧ (cc.now = cb.now → booked s4 = booked s1) := by
  obtain ⟨s1, l1, e1, b1, bh1, c1⟩ := lsr_running_books ops s0 ca 0 l0 hv hne (le_refl _) hfa
  have r1 : s1.coll.lsr = 0 := by rw [c1]
  have w1 : s1.wl = true := b1.wl.trans hv.wl
  have hn1 : 0 ≤ l1.net := by have := hv.net; have := b1.ret; have := b1.net; omega
  have hnr0 : nr ≠ 0 := ne_of_gt hnr
  obtain ⟨e3, c3⟩ := lsr_switch_on s1 cb nr (powOf ops s1 cb) w1 r1 hnr0
  have hc3 := c3 l1 b1.lk (by rw [bh1]; rfl)
  refine ⟨s1, l1, _, e1, b1.lk, r1, runWith_calcs_at_zero ops w s1 r1 hw, e3, b1.lk, hc3, rfl, ?_⟩
  intro s4 e4
  have hv3 : Live { s1 with coll := ⟨nr, cb.height, cb.now⟩ } l1 := ⟨w1, le_of_lt hnr, b1.lk, hn1, b1.tr0⟩
  obtain ⟨_, b4, _⟩ := calc_books ops _ cc l1 s4 hv3 hnr0 e4
  have b4 := b4.booked
  rw [hc3] at b4
  refine ⟨b4, fun h => ?_⟩
  rw [b4, h, Int.sub_self]
  show booked s1 + interest ops l1.net nr 0 = booked s1
  rw [interest_zero_at_zero_time ops l1.net nr (le_of_lt hnr), Int.add_zero]

/-- **Triggering the reward calculation more often cannot earn more** (beyond the float slack): two messages at `c1`, `c2`
against one at `c2`; the second legitimately accrues on the whole units the first one moved into the balance. -/
theorem locker_more_frequent_triggering_not_more (ops : FloatOps) (s s1 s2 s' : St) (l l1 : Locker) (c1 c2 : Ctx)
    (hv : Live s l) (hne : s.coll.lsr ≠ 0) (hn63 : l.net ≤ 2 ^ 63) (hh : c1.height ≠ 0) (h12 : c1.now ≤ c2.now)
    (e1 : stepWith ops s c1 .rewardCalc = .ok s1) (k1 : s1.locker = some l1)
    (e2 : stepWith ops s1 c2 .rewardCalc = .ok s2) (e' : stepWith ops s c2 .rewardCalc = .ok s') :
    ((booked s2 : Int) : ℚ) ≤ ((booked s' : Int) : ℚ)
      + subaddErr ops.E (aF l.net) (ops.pow (xF s.coll.lsr) (yF (c2.now - clock s l)))
      + ((interest ops l1.net s.coll.lsr (c2.now - c1.now) - interest ops l.net s.coll.lsr (c2.now - c1.now) : Int) : ℚ) := by
  obtain ⟨l1', b1, bh1, cc1⟩ := calc_books ops s c1 l s1 hv hne e1
  cases k1.symm.trans b1.lk
  obtain ⟨hv1, hclk⟩ := after_calc ops s s1 l l1 c1 hv hh b1 bh1 cc1
  obtain ⟨_, b2, _⟩ := calc_books ops s1 c2 l1 s2 hv1 (by rw [cc1]; exact hne) e2
  obtain ⟨_, b', _⟩ := calc_books ops s c2 l s' hv hne e'
  rw [b2.booked, b'.booked, b1.booked, cc1, hclk]
  exact booked_two_le_one ops l.net l1.net _ _ _ _ _ hv.net hn63 hv.rate (Int.le_of_sub_nonneg b1.span) h12

/-- **Sub-additivity across a rate change**: a reward-calc at `c1` followed by the rate update at `c2` books at most what the
rate update alone books at `c2` (both settle at the OLD rate), plus the float slack and the interest on the whole units the
message moved into the balance; after either path the collector entry carries the new rate and `BlockTime = c2`, so the new rate
applies from `c2` on in both. -/
theorem accrual_subadditive_across_rate_change (ops : FloatOps) (s s1 : St) (l l1 : Locker) (c1 c2 : Ctx) (nr : Dec)
    (hv : Live s l) (hne : s.coll.lsr ≠ 0) (hn63 : l.net ≤ 2 ^ 63) (hh : c1.height ≠ 0) (hh2 : c2.height ≠ 0) (h12 : c1.now ≤ c2.now)
    (hnr : 0 ≤ nr) (e1 : stepWith ops s c1 .rewardCalc = .ok s1) (k1 : s1.locker = some l1)
    (f2 : sweepFine s1 c2 (powOf ops s1 c2) = true) (f' : sweepFine s c2 (powOf ops s c2) = true) :
    ∃ s2 s', stepWith ops s1 c2 (.lsrUpdate nr) = .ok s2 ∧ stepWith ops s c2 (.lsrUpdate nr) = .ok s' ∧
      s2.coll = s'.coll ∧ s2.coll.lsr = nr ∧ s2.coll.bt = c2.now ∧
      ((booked s2 : Int) : ℚ) ≤ ((booked s' : Int) : ℚ)
        + subaddErr ops.E (aF l.net) (ops.pow (xF s.coll.lsr) (yF (c2.now - clock s l)))
        + ((interest ops l1.net s.coll.lsr (c2.now - c1.now) - interest ops l.net s.coll.lsr (c2.now - c1.now) : Int) : ℚ) := by
  obtain ⟨l1', b1, bh1, cc1⟩ := calc_books ops s c1 l s1 hv hne e1
  cases k1.symm.trans b1.lk
  obtain ⟨hv1, hclk⟩ := after_calc ops s s1 l l1 c1 hv hh b1 bh1 cc1
  obtain ⟨s2, _, e2, b2, _, a2⟩ := lsr_running_books ops s1 c2 nr l1 hv1 (by rw [cc1]; exact hne) hnr f2
  obtain ⟨s', _, e', b', _, a'⟩ := lsr_running_books ops s c2 nr l hv hne hnr f'
  refine ⟨s2, s', e2, e', by rw [a2, a'], by rw [a2], by rw [a2], ?_⟩
  rw [b2.booked, b'.booked, b1.booked, cc1, hclk]
  exact booked_two_le_one ops l.net l1.net _ _ _ _ _ hv.net hn63 hv.rate (Int.le_of_sub_nonneg b1.span) h12

/-- **With the repair of D45** (deposit / withdraw write `BlockHeight = 0` while the rate is zero, as create does — the three-line
patch in notes/C18.md, `LockerAccrual.stepFix`) **the time budget holds at full strength**: for EVERY history (no restriction on
deposits and withdrawals), every rate value `r ≠ 0`: seconds credited at `r` + seconds still claimable at `r` ≤ seconds the rate has
been `r`. On the history of the counterexample the repaired model credits nothing for the window (example below). -/
theorem savings_only_for_time_at_positive_rate_repaired (r : Dec) (hr : r ≠ 0) (s : St) (t0 : Int) (h : Hist)
    (hw : s.wl = true) (h0 : 0 ≤ s.coll.lsr) (hnl : s.locker = none) (hg : goodHistFix s t0 h = true) :
    (grunFix r s ⟨t0, 0, 0⟩ h).2.acc + pending r (grunFix r s ⟨t0, 0, 0⟩ h).1 (grunFix r s ⟨t0, 0, 0⟩ h).2.last
      ≤ (grunFix r s ⟨t0, 0, 0⟩ h).2.pos :=
  (inv_runFix r hr h s ⟨t0, 0, 0⟩ ((Fresh.none hw h0 hnl).inv hr (le_refl _)) hg).budget

/-- **Counterexample — the restriction "no deposit / withdraw while the rate is zero" is necessary; the code credits a zero-rate
window** (reproduced on the unchanged tree: first `la` sequence of every harness run; values of `math.Pow` as the real run obtained
them). Locker of 1 000 000 at 10 %; after one day the rate is set to 0 (260 settled, locker flagged `BlockHeight = 0`); a day later
the owner deposits 1 — the deposit re-stamps the locker with the current height (x/locker/keeper/msg_server.go:191-192), the flag is
lost; 364 days later the rate is set back to 10 % and `MsgLockerRewardCalc` is sent in the same block: `ReturnsAccumulated` jumps
from 260 to 99 928 — the whole rest of the window at the new rate, with ZERO seconds at a non-zero rate since the deposit. In the
time-budget reading: credited at 10 % for 31 536 000 s while the rate has been 10 % for 86 400 s. The idle locker (same history
without the deposit) stays at 260. -/
theorem zero_rate_window_touched_counterexample :
    let s0 : St := ⟨true, ⟨100000000000000000, 100, 1700000000⟩, 2 ^ 200, none, none⟩
    let pre : Hist := [(⟨1700000000, 101⟩, .create 1000000, none),
                       (⟨1700086400, 102⟩, .lsrUpdate 0, ofBits 4607183594145394561)]
    let post : Hist := [(⟨1731622400, 104⟩, .lsrUpdate 100000000000000000, ofBits 4607182418800017408)]
    let touched : Hist := pre ++ [(⟨1700172800, 103⟩, .deposit 1, ofBits 4607182418800017408)] ++ post
    let idle : Hist := pre ++ post
    -- after the switch-off: 260 whole units settled, flag set
    run s0 pre = ⟨true, ⟨0, 0, 1700086400⟩, 2 ^ 200 - 260, some ⟨1000260, 260, 0, 1700086400⟩, some 979099920399789880⟩ ∧
    -- touched locker, reward-calc in the block of the switch-on (the power value is the one for 364 days at 10 %)
    run s0 (touched ++ [(⟨1731622400, 105⟩, .rewardCalc, ofBits 4607631163137216092)])
      = ⟨true, ⟨100000000000000000, 104, 1731622400⟩, 2 ^ 200 - 99928, some ⟨1099929, 99928, 105, 1731622400⟩,
         some 244534163344837907⟩ ∧
    -- idle locker, the same call (the power value is 1.0: zero seconds)
    run s0 (idle ++ [(⟨1731622400, 105⟩, .rewardCalc, ofBits 4607182418800017408)])
      = ⟨true, ⟨100000000000000000, 104, 1731622400⟩, 2 ^ 200 - 260, some ⟨1000260, 260, 105, 1731622400⟩,
         some 979099920399789880⟩ ∧
    -- the time budget at r = 10 %: violated by the touched history, kept by the idle one
    (grun 100000000000000000 s0 ⟨1700000000, 0, 0⟩
        (touched ++ [(⟨1731622400, 105⟩, .rewardCalc, ofBits 4607631163137216092)])).2 = ⟨1731622400, 86400, 31536000⟩ ∧
    (grun 100000000000000000 s0 ⟨1700000000, 0, 0⟩
        (idle ++ [(⟨1731622400, 105⟩, .rewardCalc, ofBits 4607182418800017408)])).2 = ⟨1731622400, 86400, 86400⟩ ∧
    goodHist s0 1700000000 (idle ++ [(⟨1731622400, 105⟩, .rewardCalc, ofBits 4607182418800017408)]) = true ∧
    goodHist s0 1700000000 touched = false := by
  decide +kernel

end locker

/-! # part e: the time stamps of the x/lend positions (state level)

A lend / borrow position carries its own clock (`LastInteractionTime`) and its own copy of the index (`GlobalIndex`,
`ReserveGlobalIndex`); every handler stores `(index returned, now)` after `IterateLends` / `IterateBorrow` (`AccB.after`,
`AccL.after` of `Model/LendAccrual.lean`, the accrual model of C08). There is NO rate stamp: the rate applied to the open interval
`[LastInteractionTime, now]` is the rate computed at `now` (utilisation and parameters of that moment, `StableBorrowRate` after
`ReBalanceStableRates`) — a rate change is never "settled at the old rate"; what holds is stated here. -/
section lendState
open Comdex.Lend

/-- **Every interaction restarts the position's clock, whatever happens to the rates afterwards**: after a handler stored the
result of `IterateBorrow` at `now`, another accrual in the same block — at ANY borrow rate `apr'` and reserve rate `rr'` (the rate
may have been changed in between by governance, by a utilisation move or by `ReBalanceStableRates`) — charges nothing and leaves
the indices: the span already accrued never counts again (no double accrual), and zero time yields zero whatever the rate. -/
theorem lend_interaction_restarts_clock (a : AccB) (r : BorrowAccrual) (now n : Int) (stable : Bool) (apr' rr' : Dec)
    (hgi : 0 < r.gi) (hrgi : 0 < r.rgi) (hn : 0 ≤ n) (hsr : 0 ≤ a.stableRate) :
    accrueBorrow (a.after r now) n stable apr' (some rr') now = { ext := .val 0 0, gi := r.gi, rgi := r.rgi } :=
  accrueBorrow_zero_elapsed (a.after r now) n stable apr' rr' now hgi hrgi hn hsr (elapsed_self now)

/-- **Two interactions never charge more than one** (variable-rate borrow, same rates): interest and reserve share of an accrual
at `t1` followed — from the stored index and clock — by one at `t2` exceed those of the single accrual at `t2` by at most
`4·10⁻¹⁸` per unit of principal each. -/
theorem borrow_two_interactions_not_more (a : AccB) (n : Int) (apr rr : Dec) (t1 t2 : Int)
    (hl : a.last ≠ 0) (h1 : a.last ≤ t1) (h10 : t1 ≠ 0) (h12 : t1 ≤ t2)
    (hgi : Dec.one ≤ a.gi) (hrgi : Dec.one ≤ a.rgi) (hn : 0 ≤ n) (hapr : 0 ≤ apr) (hrr : 0 ≤ rr) :
    ∃ dI1 dR1 dI2 dR2 dI dR g1 rg1 g2 rg2 g rg,
      accrueBorrow a n false apr (some rr) t1 = { ext := .val dI1 dR1, gi := g1, rgi := rg1 } ∧
      accrueBorrow (a.after { ext := .val dI1 dR1, gi := g1, rgi := rg1 } t1) n false apr (some rr) t2
        = { ext := .val dI2 dR2, gi := g2, rgi := rg2 } ∧
      accrueBorrow a n false apr (some rr) t2 = { ext := .val dI dR, gi := g, rgi := rg } ∧
      dI1 + dI2 ≤ dI + 4 * n ∧ dR1 + dR2 ≤ dR + 4 * n := by
  have pgi : 0 < a.gi := lt_of_lt_of_le Dec.P_pos hgi
  have prgi : 0 < a.rgi := lt_of_lt_of_le Dec.P_pos hrgi
  have s1 : 0 ≤ t1 - a.last := Int.sub_nonneg_of_le h1
  have s2 : 0 ≤ t2 - t1 := Int.sub_nonneg_of_le h12
  have g1ge : Dec.one ≤ indexNext apr a.gi (t1 - a.last) := le_trans hgi (indexNext_ge apr a.gi _ hapr pgi s1)
  have rg1ge : Dec.one ≤ indexNext rr a.rgi (t1 - a.last) := le_trans hrgi (indexNext_ge rr a.rgi _ hrr prgi s1)
  exact ⟨_, _, _, _, _, _, _, _, _, _, _, _,
    accrueBorrow_span a n apr rr t1 _ (if_neg hl) s1 pgi prgi,
    accrueBorrow_span (a.after _ t1) n apr rr t2 _ (if_neg h10) s2 (lt_of_lt_of_le Dec.P_pos g1ge) (lt_of_lt_of_le Dec.P_pos rg1ge),
    accrueBorrow_span a n apr rr t2 ((t1 - a.last) + (t2 - t1)) (by rw [elapsed, if_neg hl]; omega) (Int.add_nonneg s1 s2) pgi prgi,
    two_step_le_one_step_plus_rounding n apr a.gi _ a.gi _ _ hn hapr hgi g1ge hgi s1 s2,
    two_step_le_one_step_plus_rounding n rr a.rgi _ a.rgi _ _ hn hrr hrgi rg1ge hrgi s1 s2⟩

/-- **`ReBalanceStableRates`** (the only code that changes the rate OF A POSITION; called by the liquidation modules right after the
interest up to now has been charged at the old stable rate): the result is the pool's current stable rate or the old rate; it is the
old rate only when the two are less than 20 points apart and utilisation is below 90 %; and re-balancing twice is re-balancing once. -/
theorem stable_rebalance_spec (s st u : Dec) :
    (rebalance s st u = st ∨ (rebalance s st u = s ∧ s < st + perc1 ∧ st < s + perc1 ∧ u < perc2)) ∧
    rebalance (rebalance s st u) st u = rebalance s st u := by
  have hp : ¬ st + perc1 ≤ st := not_le.mpr (Int.lt_add_of_pos_right st (by decide))
  unfold rebalance
  by_cases h1 : st + perc1 ≤ s
  · rw [if_pos h1, if_neg hp]
    exact ⟨Or.inl rfl, ite_self _⟩
  · rw [if_neg h1]
    by_cases h2 : s + perc1 ≤ st ∨ perc2 ≤ u
    · rw [if_pos h2, if_neg hp]
      exact ⟨Or.inl rfl, ite_self _⟩
    · rw [if_neg h2, if_neg h1, if_neg h2]
      exact ⟨Or.inr ⟨rfl, not_le.mp h1, not_le.mp fun h => h2 (Or.inl h), not_le.mp fun h => h2 (Or.inr h)⟩, rfl⟩

/-- **One accrual function for both routes, and it is the single accrual**: what a borrow position is charged by one accrual —
through a message (`IterateBorrow`) or through `CalculateBorrowInterestForLiquidation` (`LendRates.borrowCharge` is the model of
both; the harness accrues every position through both routes from the same state, monitor `accrual_route_independent`) — is
exactly the single-accrual formula of its kind over the elapsed time: `stableInterest` at the locked rate for a stable-rate borrow
(the variable-rate interest is NOT added on top: seeded change s113), `indexInterest` at the current rate otherwise; hence never more
than the single accrual (monitor `liq_route_single_accrual`). -/
theorem borrow_charge_is_single_accrual (stable : Bool) (n : Int) (apr rr sr gi rgi : Dec) (now prev : Int) (d : Int)
    (h : borrowCharge stable n apr rr sr gi rgi now prev = .ok [d]) :
    0 ≤ elapsed now prev ∧
    d = (if stable then stableInterest n sr (elapsed now prev) else indexInterest n apr gi (elapsed now prev)) ∧
    d ≤ (if stable then stableInterest n sr (elapsed now prev) else indexInterest n apr gi (elapsed now prev)) := by
  unfold borrowCharge borrowInterest at h
  simp only [] at h
  by_cases hs : elapsed now prev < 0
  · simp [hs] at h
  · by_cases hg : (gi = 0 || rgi = 0) = true
    · simp [hs, hg] at h
    · simp only [hs, hg, if_false] at h
      cases stable with
      | false =>
        simp only [Bool.false_eq_true, if_false] at h
        injection h with h; injection h with h
        exact ⟨not_lt.mp hs, by simp [h], by simp [h]⟩
      | true =>
        unfold stableBorrowInterest at h
        simp only [hs, if_true, if_false] at h
        injection h with h; injection h with h
        exact ⟨not_lt.mp hs, by simp [h], by simp [h]⟩

example : borrowCharge true 1000000000 50000000000000000 10000000000000000 90000000000000000 1000000000000000000
    1000000000000000000 (1700000000 + 86400) 1700000000 = .ok [246406570841889090000000] := by decide
example : borrowCharge false 1000000000 50000000000000000 10000000000000000 90000000000000000 1000000000000000000
    1000000000000000000 (1700000000 + 15778800) 1700000000 = .ok [25000000000000000000000000] := by decide

/-- the same for a lend position (`IterateLends`): after the handler stored `(index, now)`, a second reward calculation in the
same block accrues nothing into the tracker whatever the lend rate has become. -/
theorem lend_reward_interaction_restarts_clock (a : AccL) (r : LendAccrual) (now n : Int) (apr' : Dec)
    (hgi : 0 < r.gi) (hn : 0 ≤ n) (hapr : 0 ≤ apr') :
    lendReward n apr' (a.after r now).gi now (a.after r now).last = .ok [0, r.gi] := by
  show lendReward n apr' r.gi now now = _
  rw [lendReward_ok _ _ _ _ _ (le_of_eq (elapsed_self now).symm) (ne_of_gt hgi), elapsed_self, indexInterest_zero _ _ _ hgi,
    indexNext_zero]

end lendState

/-! ## non-vacuity: the hypotheses of the theorems are satisfiable on ordinary values -/
section examples
open Comdex.Accrual

/-- the parameters of the repository's own lend tests: uOpt 0.8, base 0.002, slope1 0.1, slope2 3.0, reserve factor 0.1 -/
example : admissible ⟨800000000000000000, 2000000000000000, 100000000000000000, 3000000000000000000,
    2000000000000000, 100000000000000000, 3000000000000000000, 100000000000000000⟩ = true := by decide
example : borrowRate ⟨800000000000000000, 2000000000000000, 100000000000000000, 3000000000000000000,
    2000000000000000, 100000000000000000, 3000000000000000000, 100000000000000000⟩ false 400000000000000000
    = some 52000000000000000 := by decide
example : borrowRate ⟨800000000000000000, 2000000000000000, 100000000000000000, 3000000000000000000,
    2000000000000000, 100000000000000000, 3000000000000000000, 100000000000000000⟩ false 900000000000000000
    = some 1602000000000000000 := by decide
example : lendRate ⟨800000000000000000, 2000000000000000, 100000000000000000, 3000000000000000000,
    2000000000000000, 100000000000000000, 3000000000000000000, 100000000000000000⟩ 400000000000000000
    = some 18720000000000000 := by decide
example : utilisation 600 400 = some 400000000000000000 := by decide
/-- 5 % on 10⁹ over one year from index 1.0: interest 5·10⁷, new index 1.05 -/
example : lendReward 1000000000 50000000000000000 1000000000000000000 1900000000 (1900000000 - 31557600)
    = .ok [50000000000000000000000000, 1050000000000000000] := by decide
/-- two half years against one year on the same principal (index moved on by the first accrual) -/
example : indexInterest 1000000000 50000000000000000 1000000000000000000 15778800
        + indexInterest 1000000000 50000000000000000 1025000000000000000 15778800
        ≤ indexInterest 1000000000 50000000000000000 1000000000000000000 31557600 + 4 * 1000000000 := by decide
example : stableInterest 1000000000 90000000000000000 86400 = 246406570841889090000000 := by decide
/-- tracker: 0.7 carried + 0.6 accrued ⇒ 1 paid, 0.3 carried -/
example : trackerStep 700000000000000000 600000000000000000 = (1, 300000000000000000) := by decide
example : trackerRun 0 [700000000000000000, 600000000000000000, 2900000000000000000] = (4, 200000000000000000) := by decide
/-- post-pow pipeline on the value `math.Pow(1.1, 1.0) = 1.1`: 10 % of 10⁹ (with the float error in the 9th decimal) -/
example : (ofBits 4607632778762754458).map (fun p => calcRewards 1000000000 100000000000000000 31557600 (some p))
    = some (.ok 100000000000000089406967163) := by decide +kernel
example : xF 100000000000000000 = 4953959590107546 * 2 ^ 1022 := by decide +kernel
example : yF 15778800 = 2 ^ 1073 := by decide +kernel

/-- a vault opened while the fee was zero (`BlockHeight = 0`), fee 1 % now running since the pair's stamp: the first
`MsgVaultInterestCalc` accrues from the PAIR's time (12331972 s), books 1644691 whole units, carries 0.877…, stamps the vault;
the second one, 9 s later, accrues those 9 s only (values of `math.Pow` as observed on the real run) -/
example : VaultAccrual.msgCalc
      ⟨true, ⟨10000000000000000, false, 5, 1859790144⟩, ⟨422156853, 0, 0, 1862824643⟩, none⟩ ⟨1872122116, 101⟩
      (ofBits 4607199964491087685)
    = .ok ⟨true, ⟨10000000000000000, false, 5, 1859790144⟩, ⟨422156853, 1644691, 101, 1872122116⟩, some 877342361258342862⟩ := by
  decide +kernel
example : VaultAccrual.msgCalc
      ⟨true, ⟨10000000000000000, false, 5, 1859790144⟩, ⟨422156853, 1644691, 101, 1872122116⟩, some 877342361258342862⟩
      ⟨1872122125, 102⟩ (ofBits 4607182418812797555)
    = .ok ⟨true, ⟨10000000000000000, false, 5, 1859790144⟩, ⟨422156853, 1644693, 102, 1872122125⟩, some 79990571421140188⟩ := by
  decide +kernel
/-- the single calculation over the combined interval from the same start state: it books slightly MORE (…620259… vs …571421…) -/
example : VaultAccrual.msgCalc
      ⟨true, ⟨10000000000000000, false, 5, 1859790144⟩, ⟨422156853, 0, 0, 1862824643⟩, none⟩ ⟨1872122125, 102⟩
      (ofBits 4607199964503917623)
    = .ok ⟨true, ⟨10000000000000000, false, 5, 1859790144⟩, ⟨422156853, 1644693, 102, 1872122125⟩, some 79990620259195566⟩ := by
  decide +kernel

end examples

section lockerExamples
open Comdex.Accrual Comdex.LockerAccrual

/-- a live locker at a running rate: hypotheses of `locker_calc_books_interest`, `rate_change_restarts_clock`,
`zero_rate_window_earns_nothing`, `locker_more_frequent_triggering_not_more`, `accrual_subadditive_across_rate_change` -/
example : Live ⟨true, ⟨100000000000000000, 100, 1700000000⟩, 1000, some ⟨1000260, 260, 101, 1700000000⟩, some 5⟩
    ⟨1000260, 260, 101, 1700000000⟩ := ⟨rfl, by decide, rfl, by decide, by decide⟩
example : stepWith unitOps ⟨true, ⟨100000000000000000, 100, 1700000000⟩, 1000, some ⟨1000260, 260, 101, 1700000000⟩, some 5⟩
    ⟨1700086400, 102⟩ .rewardCalc
    = .ok ⟨true, ⟨100000000000000000, 100, 1700000000⟩, 1000, some ⟨1000260, 260, 102, 1700086400⟩, some 5⟩ := by decide +kernel
example : sweepFine ⟨true, ⟨100000000000000000, 100, 1700000000⟩, 1000, some ⟨1000260, 260, 101, 1700000000⟩, some 5⟩
    ⟨1700086400, 102⟩ (powOf unitOps ⟨true, ⟨100000000000000000, 100, 1700000000⟩, 1000, some ⟨1000260, 260, 101, 1700000000⟩, some 5⟩
      ⟨1700086400, 102⟩) = true := by decide +kernel
/-- the invariant of `savings_time_budget_from_any_state` on a state in the middle of a life: rate running since 1 700 000 000, the
locker last settled 100 s later, 50 000 s credited so far out of 86 400 s at this rate -/
example : Inv 100000000000000000 ⟨true, ⟨100000000000000000, 100, 1700000000⟩, 1000, some ⟨1000260, 260, 101, 1700050000⟩, some 5⟩
    ⟨1700086400, 86400, 50000⟩ := by
  refine ⟨rfl, by decide, by decide, ?_⟩
  intro l hl; injection hl with hl; subst hl; exact ⟨fun _ => by decide, fun h => absurd h (by decide)⟩
/-- a history with every kind of call that satisfies `goodHist` (values of `math.Pow`: 1.0 throughout — the side conditions do not
depend on them beyond "the calculation succeeds") -/
example : goodHist ⟨true, ⟨0, 0, 1700000000⟩, 1000, none, none⟩ 1700000000
    [(⟨1700000010, 101⟩, .create 250000000, none), (⟨1700000020, 102⟩, .rewardCalc, none),
     (⟨1703456010, 103⟩, .lsrUpdate 50000000000000000, none), (⟨1703456010, 104⟩, .rewardCalc, some (U : Int)),
     (⟨1704060810, 105⟩, .deposit 7, some (U : Int)), (⟨1704060811, 106⟩, .withdraw 3, some (U : Int)),
     (⟨1704320010, 107⟩, .lsrUpdate 80000000000000000, some (U : Int)), (⟨1704320010, 108⟩, .wlOn, none),
     (⟨1704924810, 109⟩, .lsrUpdate 0, some (U : Int)), (⟨1705924810, 110⟩, .lsrUpdate 0, some (U : Int)),
     (⟨1706924810, 111⟩, .close, none), (⟨1706924810, 112⟩, .create 5, none)] = true := by decide +kernel

/-- the touched history of the counterexample under the REPAIRED step: admissible for the full-strength theorem, the deposit
keeps the flag, and the reward-calc in the block of the switch-on (power value 1.0: zero seconds) credits nothing -/
example :
    let s0 : St := ⟨true, ⟨100000000000000000, 100, 1700000000⟩, 2 ^ 200, none, none⟩
    let h : Hist := [(⟨1700000000, 101⟩, .create 1000000, none),
                     (⟨1700086400, 102⟩, .lsrUpdate 0, ofBits 4607183594145394561),
                     (⟨1700172800, 103⟩, .deposit 1, ofBits 4607182418800017408),
                     (⟨1731622400, 104⟩, .lsrUpdate 100000000000000000, ofBits 4607182418800017408),
                     (⟨1731622400, 105⟩, .rewardCalc, ofBits 4607182418800017408)]
    goodHistFix s0 1700000000 h = true ∧
    grunFix 100000000000000000 s0 ⟨1700000000, 0, 0⟩ h
      = (⟨true, ⟨100000000000000000, 104, 1731622400⟩, 2 ^ 200 - 260, some ⟨1000261, 260, 105, 1731622400⟩,
          some 979099920399789880⟩, ⟨1731622400, 86400, 86400⟩) := by
  decide +kernel

end lockerExamples
/-! non-vacuity for part e (lend positions): 5 % variable borrow of 10⁹ from index 1.0, half a year and another half year -/
section lendExamples
open Comdex.Lend
example : accrueBorrow ⟨1, 1000000000000000000, 1000000000000000000, 1700000000, 0⟩ 1000000000 false 50000000000000000
    (some 10000000000000000) (1700000000 + 15778800)
    = { ext := .val 25000000000000000000000000 5000000000000000000000000, gi := 1025000000000000000, rgi := 1005000000000000000 } := by
  decide
/-- hypotheses of `borrow_two_interactions_not_more` -/
example : (1700000000 : Int) ≠ 0 ∧ (1700000000 : Int) ≤ 1715778800 ∧ (1715778800 : Int) ≤ 1731557600 ∧
    Dec.one ≤ (1000000000000000000 : Dec) := by decide
/-- the second accrual of the same block charges nothing, also at a rate that has meanwhile jumped to 300 % -/
example : accrueBorrow (AccB.after ⟨1, 1000000000000000000, 1000000000000000000, 1700000000, 0⟩
      { ext := .val 25000000000000000000000000 5000000000000000000000000, gi := 1025000000000000000, rgi := 1005000000000000000 }
      1715778800) 1000000000 false 3000000000000000000 (some 10000000000000000) 1715778800
    = { ext := .val 0 0, gi := 1025000000000000000, rgi := 1005000000000000000 } := by decide
example : rebalance 300000000000000000 100000000000000000 500000000000000000 = 100000000000000000 ∧
    rebalance 299999999999999999 100000000000000000 500000000000000000 = 299999999999999999 ∧
    rebalance 299999999999999999 100000000000000000 900000000000000000 = 100000000000000000 := by decide
end lendExamples

end Comdex.C18
