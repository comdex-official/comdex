import Comdex.Lemmas.Effects
import Comdex.Gen.Effects_lend
/-!
# C08 — the EFFECT SKELETON of the fourteen x/lend messages, pinned (golden skeleton)

`Gen/Effects_lend.lean` is regenerated from x/lend/keeper (msg_server.go and everything it calls: keeper.go, iter.go, funds.go …)
on every run by extract/effects: per message the ordered bank calls with normalised party / denomination texts and path
conditions.  `Model/Lend.lean` has its bank calls INSIDE monadic `do` blocks, not as data, so this tie is the WEAKER one: the regenerated skeleton is compared with a reviewed literal in this file
(`exp_<Msg>`), item by item: kind, party ROLES, denomination ROLE, "only if its own amount is positive", the signature of the
path conditions (polarity + 32-bit hash of the whole normalised condition text, legend below), loop and cache flags.
Amount expressions are not compared (the C08 correspondence runs do that).  What this adds: a transfer that moved under
another guard, lost / gained a guard, changed party or denomination, disappeared or appeared makes `lend_pins` fail on the
next run, whatever states the generated population reaches.

## reviewed role table (exact match on the ABSTRACT texts: argument lists of calls nested deeper than one level elided)

The `…` in the texts below is the extractor's elision glyph and part of the matched text, not an abbreviation of this table.

| text | role |
|---|---|
| `addr(msg.Lender)`, `addr(msg.Borrower)` | `signer` |
| `addr(lend.GetLend(…).Owner)` | `lendOwner` (owner of the lend position the interest is paid to) |
| `lend.GetPool(lend.GetLendPair(…).AssetOutPoolID).ModuleName` | `outPool` (the pool the borrowed asset comes from) |
| `lend.GetPool(lend.GetLend(…).PoolID).ModuleName`, `lend.GetPool(msg.PoolId).ModuleName` | `pool` (the pool of the lend position / of the message) |
| `"lendV2"` (`types.ModuleName` of x/lend) | `reserve` |
| `"auctionV1"`, `"cmdx"` | `auction`, `cmdx` (`FundReserveAccounts` only) |
| `asset.GetAsset(lend.GetAssetRatesParams(…).CAssetID).Denom` | `cAsset` |
| `asset.GetAsset(lend.GetLendPair(…).AssetOut).Denom` | `assetOut` |
| `asset.GetAsset(lend.GetLend(…).AssetID).Denom`, `asset.GetAsset(acc(…)).Denom` | `asset` |
| `msg.Amount.Denom`, `msg.AmountIn.Denom`, `msg.AmountOut.Denom` | `msgCoin` (the coin named in the message) |
| `lend.GetLend(msg.LendId).AmountIn.Denom`, `lend.GetBorrow(msg.BorrowId).AmountIn.Denom`, `lend.GetBorrow(msg.BorrowId).BridgedAssetAmount.Denom`, `lend.GetLend(lend.GetBorrow(…).LendingID).AmountIn.Denom` | `posCoin` (a coin stored in the position) |
| `each(auction.GetDutchLendAuctions(…)).InflowTokenTargetAmount.Denom`, `each(auction.GetDutchLendAuctions(…)).OutflowTokenCurrentAmount.Denom` | `auctionCoin` (`FundReserveAccounts` only) |

## clause → theorem

| clause | theorem |
|---|---|
| bank skeleton of each of the fourteen messages = reviewed literal (golden) | `lend_rpins`, `lend_pins` |
| every bank call classified; the only opaque items are the depth-limited `GetAverageBorrowRate` / `GetSavingRate` reads of Borrow / BorrowAlternate; table shape | `lend_table` |

## legend of the condition hashes (hash, kind, normalised text; long texts head…hash…tail)

`1303515621 | if | true` is `if inc` of `UpdateReserveBalances(…, inc bool)` (x/lend/keeper/funds.go:18) inlined with the constant
`true`; the items under its `false` polarity (the `else` branch) are dead at these call sites.

| h | kind | text |
|---|---|---|
| 869575135 | if | `lend.HasLendForAddressByAsset(msg.Lender, msg.AssetId, msg.PoolId)` |
| 996767492 | if | `ite(ite(!lend.GetLendRewardTracker(lend.GetLend(lend.GetLendIDForAssetIDPoolID(msg.Lender, msg.A…3b697704…nd(lend.GetLendIDForAssetIDPoolID(msg.Lender, msg.A…` |
| 546317467 | if | `msg.Amount.Amount.Equal(lend.GetLend(msg.LendId).AvailableToBorrow) && lend.GetLend(msg.LendId).AvailableToBorrow.GTE(lend.GetLend(msg.LendId).AmountIn.Amount)` |
| 4074955334 | pos | `ite(ite(!lend.GetLendRewardTracker(lend.GetLend(msg.LendId).ID)#2, LendRewardsTracker{LendingId:…f2e2e246…, lend.GetLend(msg.LendId))).TruncateInt(), 0).GT(0)` |
| 3397667833 | if | `ite(ite(!lend.GetLendRewardTracker(lend.GetLend(msg.LendId).ID)#2, LendRewardsTracker{LendingId:…ca844bf9…tLend(msg.LendId).AssetID).TotalInterestAccumulated)` |
| 1510044218 | if | `msg.Amount.Amount.LT(lend.GetLend(msg.LendId).AmountIn.Amount)` |
| 65846717 | if | `lend.HasBorrowForAddressByPair(msg.Borrower, msg.PairId)` |
| 2039287544 | if | `!lend.GetLendPair(lend.GetBorrow(lend.GetBorrowIDForAddressByPair(msg.Borrower, msg.PairId)).PairID).IsInterPool` |
| 2951588834 | if | `lend.GetBorrow(lend.GetBorrowIDForAddressByPair(msg.Borrower, msg.PairId)).BridgedAssetAmount.De…afedabe2…e), asset.GetAsset(acc(new(uint64))).Denom).Amount))` |
| 2940275843 | if | `market.CalcAssetPrice(lend.GetLendPair(lend.GetBorrow(lend.GetBorrowIDForAddressByPair(msg.Borro…af410c83…e), asset.GetAsset(acc(new(uint64))).Denom).Amount))` |
| 245005271 | if | `!lend.GetLendPair(msg.PairId).IsInterPool` |
| 571477843 | if | `market.CalcAssetPrice(lend.GetLend(msg.LendId).AssetID, sdk.NewDec(msg.AmountIn.Amount.Int64()).…22100f53…e), asset.GetAsset(acc(new(uint64))).Denom).Amount))` |
| 3819222389 | if | `msg.Amount.Amount.Equal(lend.GetBorrow(msg.BorrowId).AmountOut.Amount.Add(lend.GetBorrow(msg.BorrowId).InterestAccumulated.TruncateInt()))` |
| 1035222583 | pos | `lend.GetBorrowInterestTracker(msg.BorrowId).ReservePoolInterest.TruncateInt().GT(0)` |
| 1303515621 | if | `true` |
| 1108715873 | pos | `(lend.GetBorrow(msg.BorrowId).InterestAccumulated.Sub(lend.GetBorrowInterestTracker(msg.BorrowId).ReservePoolInterest)).TruncateInt().GT(0)` |
| 2707716491 | if | `lend.GetLendPair(lend.GetBorrow(msg.BorrowId).PairID).IsInterPool` |
| 1048479006 | if | `msg.Amount.Amount.LTE(lend.GetBorrowInterestTracker(msg.BorrowId).ReservePoolInterest.TruncateInt())` |
| 3499363615 | if | `msg.Amount.Amount.GT(lend.GetBorrowInterestTracker(msg.BorrowId).ReservePoolInterest.TruncateInt…d0940d1f…row(msg.BorrowId).InterestAccumulated.TruncateInt())` |
| 923073885 | pos | `msg.Amount.Amount.Sub(lend.GetBorrowInterestTracker(msg.BorrowId).ReservePoolInterest.TruncateInt()).GT(0)` |
| 3378415376 | pos | `lend.GetBorrow(msg.BorrowId).InterestAccumulated.Sub(lend.GetBorrowInterestTracker(msg.BorrowId).ReservePoolInterest).TruncateInt().GT(0)` |
| 3563383436 | if | `!lend.GetLendPair(lend.GetBorrow(msg.BorrowId).PairID).IsInterPool` |
| 834123723 | if | `lend.GetBorrow(msg.BorrowId).BridgedAssetAmount.Denom == asset.GetAsset(acc(new(uint64))).Denom …31b7b7cb…e), asset.GetAsset(acc(new(uint64))).Denom).Amount))` |
| 2625736130 | if | `market.CalcAssetPrice(lend.GetLendPair(lend.GetBorrow(msg.BorrowId).PairID).AssetIn, (sdk.NewDec…9c818dc2…e), asset.GetAsset(acc(new(uint64))).Denom).Amount))` |
| 454575357 | if | `lend.HasBorrowForAddressByPair(msg.Lender, msg.PairId)` |
| 3841182008 | if | `!lend.GetLendPair(lend.GetBorrow(lend.GetBorrowIDForAddressByPair(msg.Lender, msg.PairId)).PairID).IsInterPool` |
| 592850414 | if | `lend.GetBorrow(lend.GetBorrowIDForAddressByPair(msg.Lender, msg.PairId)).BridgedAssetAmount.Deno…23562dee…e), asset.GetAsset(acc(new(uint64))).Denom).Amount))` |
| 4007953295 | if | `market.CalcAssetPrice(lend.GetLendPair(lend.GetBorrow(lend.GetBorrowIDForAddressByPair(msg.Lende…eee4838f…e), asset.GetAsset(acc(new(uint64))).Denom).Amount))` |
| 1826140649 | if | `market.CalcAssetPrice(lend.GetLend(lend.GetLendIDForAssetIDPoolID(msg.Lender, msg.AssetId, msg.P…6cd8b1e9…e), asset.GetAsset(acc(new(uint64))).Denom).Amount))` |
| 3309566615 | if | `market.CalcAssetPrice(lend.GetLend(lend.GetUserLendIDCounter() + 1).AssetID, sdk.NewDec(msg.Amou…c543fa97…e), asset.GetAsset(acc(new(uint64))).Denom).Amount))` |
| 3070912315 | loop | `range acc(new([]uint64))` |
| 397767742 | pos | `ite(ite(!lend.GetLendRewardTracker(lend.GetLend(each(acc(new([]uint64)))).ID)#2, LendRewardsTrac…17b5743e…(each(acc(new([]uint64)))))).TruncateInt(), 0).GT(0)` |
| 2909833665 | if | `ite(ite(!lend.GetLendRewardTracker(lend.GetLend(each(acc(new([]uint64)))).ID)#2, LendRewardsTrac…ad7089c1…(new([]uint64)))).AssetID).TotalInterestAccumulated)` |
| 3671374226 | loop | `range auction.GetDutchLendAuctions(3)` |
| 2661081923 | continue | `bank.SendCoinsFromModuleToModule("lendV2", "cmdx", coins(each(auction.GetDutchLendAuctions(3)).InflowTokenTargetAmount)) != nil` |
| 3330531126 | if | `lend.GetBorrow(msg.BorrowId).AmountIn.Amount.Equal(lend.GetLend(lend.GetBorrow(msg.BorrowId).Len…c683df36….GetBorrow(msg.BorrowId).LendingID).AmountIn.Amount)` |
| 680418592 | pos | `ite(ite(!lend.GetLendRewardTracker(lend.GetLend(lend.GetBorrow(msg.BorrowId).LendingID).ID)#2, L…288e5d20…w(msg.BorrowId).LendingID))).TruncateInt(), 0).GT(0)` |
| 1435774798 | if | `ite(ite(!lend.GetLendRewardTracker(lend.GetLend(lend.GetBorrow(msg.BorrowId).LendingID).ID)#2, L…55942f4e….BorrowId).LendingID).AssetID).TotalInterestAccumul…` |
| 2135521789 | if | `lend.GetBorrow(msg.BorrowId).AmountIn.Amount.LT(lend.GetLend(lend.GetBorrow(msg.BorrowId).LendingID).AmountIn.Amount)` |
-/
namespace Comdex.C08
open Comdex.Effects Comdex.Gen.Effects

inductive LRole where
  | signer | lendOwner | pool | outPool | reserve | auction | cmdx
  deriving DecidableEq, Repr

inductive LDen where
  | asset | cAsset | msgCoin | posCoin | assetOut | auctionCoin
  deriving DecidableEq, Repr

abbrev LPin := RPin LRole LDen

def lendRoles : Roles LRole LDen where
  abstract := true
  acct := fun t =>
    if t == "\"lendV2\"" then some .reserve
    else if t == "\"auctionV1\"" then some .auction
    else if t == "\"cmdx\"" then some .cmdx
    else if t == "addr(msg.Lender)" || t == "addr(msg.Borrower)" then some .signer
    else if t == "addr(lend.GetLend(…).Owner)" then some .lendOwner
    else if t == "lend.GetPool(lend.GetLendPair(…).AssetOutPoolID).ModuleName" then some .outPool
    else if t == "lend.GetPool(lend.GetLend(…).PoolID).ModuleName" || t == "lend.GetPool(msg.PoolId).ModuleName" then some .pool
    else none
  denom := fun t =>
    if t == "asset.GetAsset(lend.GetAssetRatesParams(…).CAssetID).Denom" then some .cAsset
    else if t == "asset.GetAsset(lend.GetLendPair(…).AssetOut).Denom" then some .assetOut
    else if t == "asset.GetAsset(lend.GetLend(…).AssetID).Denom" || t == "asset.GetAsset(acc(…)).Denom" then some .asset
    else if t == "msg.Amount.Denom" || t == "msg.AmountIn.Denom" || t == "msg.AmountOut.Denom" then some .msgCoin
    else if t == "lend.GetLend(msg.LendId).AmountIn.Denom" || t == "lend.GetBorrow(msg.BorrowId).AmountIn.Denom"
        || t == "lend.GetBorrow(msg.BorrowId).BridgedAssetAmount.Denom"
        || t == "lend.GetLend(lend.GetBorrow(…).LendingID).AmountIn.Denom" then some .posCoin
    else if t == "each(auction.GetDutchLendAuctions(…)).InflowTokenTargetAmount.Denom"
        || t == "each(auction.GetDutchLendAuctions(…)).OutflowTokenCurrentAmount.Denom" then some .auctionCoin
    else none

def exp_Lend : List LPin := [
  ⟨.send, some .reserve, some .pool, .asset, false, [(true, 869575135), (true, 996767492), (true, 996767492)], false, false⟩,
  ⟨.mint, none, some .pool, .cAsset, false, [(true, 869575135), (true, 996767492), (true, 996767492)], false, false⟩,
  ⟨.send, some .pool, some .lendOwner, .cAsset, false, [(true, 869575135), (true, 996767492), (true, 996767492)], false, false⟩,
  ⟨.send, some .pool, some .lendOwner, .cAsset, false, [(true, 869575135), (true, 996767492), (false, 996767492)], false, false⟩,
  ⟨.send, some .signer, some .pool, .msgCoin, false, [(true, 869575135)], false, false⟩,
  ⟨.mint, none, some .pool, .cAsset, false, [(true, 869575135)], false, false⟩,
  ⟨.send, some .pool, some .signer, .cAsset, false, [(true, 869575135)], false, false⟩,
  ⟨.send, some .signer, some .pool, .msgCoin, false, [(false, 869575135)], false, false⟩,
  ⟨.mint, none, some .pool, .cAsset, false, [(false, 869575135)], false, false⟩,
  ⟨.send, some .pool, some .signer, .cAsset, false, [(false, 869575135)], false, false⟩]

def exp_Withdraw : List LPin := [
  ⟨.send, some .reserve, some .pool, .asset, true, [(true, 546317467), (true, 4074955334), (true, 3397667833)], false, false⟩,
  ⟨.mint, none, some .pool, .cAsset, true, [(true, 546317467), (true, 4074955334), (true, 3397667833)], false, false⟩,
  ⟨.send, some .pool, some .lendOwner, .cAsset, true, [(true, 546317467), (true, 4074955334), (true, 3397667833)], false, false⟩,
  ⟨.send, some .pool, some .lendOwner, .cAsset, true, [(true, 546317467), (true, 4074955334), (false, 3397667833)], false, false⟩,
  ⟨.send, some .signer, some .pool, .cAsset, false, [(true, 546317467)], false, false⟩,
  ⟨.burn, some .pool, none, .cAsset, false, [(true, 546317467)], false, false⟩,
  ⟨.send, some .pool, some .signer, .posCoin, false, [(true, 546317467)], false, false⟩,
  ⟨.send, some .reserve, some .pool, .asset, true, [(false, 546317467), (true, 4074955334), (true, 3397667833)], false, false⟩,
  ⟨.mint, none, some .pool, .cAsset, true, [(false, 546317467), (true, 4074955334), (true, 3397667833)], false, false⟩,
  ⟨.send, some .pool, some .lendOwner, .cAsset, true, [(false, 546317467), (true, 4074955334), (true, 3397667833)], false, false⟩,
  ⟨.send, some .pool, some .lendOwner, .cAsset, true, [(false, 546317467), (true, 4074955334), (false, 3397667833)], false, false⟩,
  ⟨.send, some .signer, some .pool, .cAsset, false, [(false, 546317467), (true, 1510044218)], false, false⟩,
  ⟨.burn, some .pool, none, .cAsset, false, [(false, 546317467), (true, 1510044218)], false, false⟩,
  ⟨.send, some .pool, some .signer, .msgCoin, false, [(false, 546317467), (true, 1510044218)], false, false⟩,
  ⟨.send, some .signer, some .pool, .cAsset, false, [(false, 546317467), (false, 1510044218)], false, false⟩,
  ⟨.burn, some .pool, none, .cAsset, false, [(false, 546317467), (false, 1510044218)], false, false⟩,
  ⟨.send, some .pool, some .signer, .msgCoin, false, [(false, 546317467), (false, 1510044218)], false, false⟩]

def exp_Deposit : List LPin := [
  ⟨.send, some .reserve, some .pool, .asset, true, [(true, 4074955334), (true, 3397667833)], false, false⟩,
  ⟨.mint, none, some .pool, .cAsset, true, [(true, 4074955334), (true, 3397667833)], false, false⟩,
  ⟨.send, some .pool, some .lendOwner, .cAsset, true, [(true, 4074955334), (true, 3397667833)], false, false⟩,
  ⟨.send, some .pool, some .lendOwner, .cAsset, true, [(true, 4074955334), (false, 3397667833)], false, false⟩,
  ⟨.send, some .signer, some .pool, .msgCoin, false, [], false, false⟩,
  ⟨.mint, none, some .pool, .cAsset, false, [], false, false⟩,
  ⟨.send, some .pool, some .signer, .cAsset, false, [], false, false⟩]

def exp_CloseLend : List LPin := [
  ⟨.send, some .reserve, some .pool, .asset, true, [(true, 4074955334), (true, 3397667833)], false, false⟩,
  ⟨.mint, none, some .pool, .cAsset, true, [(true, 4074955334), (true, 3397667833)], false, false⟩,
  ⟨.send, some .pool, some .lendOwner, .cAsset, true, [(true, 4074955334), (true, 3397667833)], false, false⟩,
  ⟨.send, some .pool, some .lendOwner, .cAsset, true, [(true, 4074955334), (false, 3397667833)], false, false⟩,
  ⟨.send, some .signer, some .pool, .cAsset, false, [], false, false⟩,
  ⟨.burn, some .pool, none, .cAsset, false, [], false, false⟩,
  ⟨.send, some .pool, some .signer, .posCoin, false, [], false, false⟩]

def exp_Borrow : List LPin := [
  ⟨.send, some .signer, some .pool, .msgCoin, false, [(true, 65846717), (true, 2039287544)], false, false⟩,
  ⟨.send, some .signer, some .pool, .msgCoin, false, [(true, 65846717), (false, 2039287544), (true, 2951588834)], false, false⟩,
  ⟨.send, some .pool, some .outPool, .asset, false, [(true, 65846717), (false, 2039287544), (true, 2951588834)], false, false⟩,
  ⟨.send, some .signer, some .pool, .msgCoin, false, [(true, 65846717), (false, 2039287544), (false, 2951588834), (true, 2940275843)], false, false⟩,
  ⟨.send, some .pool, some .outPool, .asset, false, [(true, 65846717), (false, 2039287544), (false, 2951588834), (true, 2940275843)], false, false⟩,
  ⟨.send, some .outPool, some .signer, .msgCoin, false, [(true, 65846717)], false, false⟩,
  ⟨.send, some .signer, some .pool, .msgCoin, false, [(false, 65846717), (true, 245005271)], false, false⟩,
  ⟨.send, some .outPool, some .signer, .msgCoin, false, [(false, 65846717), (true, 245005271)], false, false⟩,
  ⟨.send, some .signer, some .pool, .msgCoin, false, [(false, 65846717), (false, 245005271), (true, 571477843)], false, false⟩,
  ⟨.send, some .pool, some .outPool, .asset, false, [(false, 65846717), (false, 245005271), (true, 571477843)], false, false⟩,
  ⟨.send, some .outPool, some .signer, .msgCoin, false, [(false, 65846717), (false, 245005271), (true, 571477843)], false, false⟩,
  ⟨.send, some .signer, some .pool, .msgCoin, false, [(false, 65846717), (false, 245005271), (false, 571477843), (true, 571477843)], false, false⟩,
  ⟨.send, some .pool, some .outPool, .asset, false, [(false, 65846717), (false, 245005271), (false, 571477843), (true, 571477843)], false, false⟩,
  ⟨.send, some .outPool, some .signer, .msgCoin, false, [(false, 65846717), (false, 245005271), (false, 571477843), (true, 571477843)], false, false⟩]

def exp_Repay : List LPin := [
  ⟨.send, some .signer, some .outPool, .assetOut, false, [(true, 3819222389)], false, false⟩,
  ⟨.send, some .pool, some .lendOwner, .posCoin, false, [(true, 3819222389)], false, false⟩,
  ⟨.send, some .outPool, some .reserve, .assetOut, true, [(true, 3819222389), (true, 1035222583), (true, 1303515621)], false, false⟩,
  ⟨.send, some .reserve, some .outPool, .assetOut, true, [(true, 3819222389), (true, 1035222583), (false, 1303515621)], false, false⟩,
  ⟨.mint, none, some .outPool, .cAsset, true, [(true, 3819222389), (true, 1108715873)], false, false⟩,
  ⟨.send, some .outPool, some .pool, .posCoin, false, [(true, 3819222389), (true, 2707716491)], false, false⟩,
  ⟨.send, some .signer, some .outPool, .msgCoin, false, [(false, 3819222389), (true, 1048479006)], false, false⟩,
  ⟨.send, some .outPool, some .reserve, .msgCoin, false, [(false, 3819222389), (true, 1048479006), (true, 1303515621)], false, false⟩,
  ⟨.send, some .reserve, some .outPool, .msgCoin, false, [(false, 3819222389), (true, 1048479006), (false, 1303515621)], false, false⟩,
  ⟨.send, some .signer, some .outPool, .msgCoin, false, [(false, 3819222389), (false, 1048479006), (true, 3499363615)], false, false⟩,
  ⟨.send, some .outPool, some .reserve, .msgCoin, false, [(false, 3819222389), (false, 1048479006), (true, 3499363615), (true, 1303515621)], false, false⟩,
  ⟨.send, some .reserve, some .outPool, .msgCoin, false, [(false, 3819222389), (false, 1048479006), (true, 3499363615), (false, 1303515621)], false, false⟩,
  ⟨.mint, none, some .outPool, .cAsset, true, [(false, 3819222389), (false, 1048479006), (true, 3499363615), (true, 923073885)], false, false⟩,
  ⟨.send, some .signer, some .outPool, .msgCoin, false, [(false, 3819222389), (false, 1048479006), (false, 3499363615)], false, false⟩,
  ⟨.send, some .outPool, some .reserve, .msgCoin, false, [(false, 3819222389), (false, 1048479006), (false, 3499363615), (true, 1303515621)], false, false⟩,
  ⟨.send, some .reserve, some .outPool, .msgCoin, false, [(false, 3819222389), (false, 1048479006), (false, 3499363615), (false, 1303515621)], false, false⟩,
  ⟨.mint, none, some .outPool, .cAsset, true, [(false, 3819222389), (false, 1048479006), (false, 3499363615), (true, 3378415376)], false, false⟩]

def exp_DepositBorrow : List LPin := [
  ⟨.send, some .signer, some .pool, .msgCoin, false, [(true, 3563383436)], false, false⟩,
  ⟨.send, some .signer, some .pool, .msgCoin, false, [(false, 3563383436), (true, 834123723)], false, false⟩,
  ⟨.send, some .pool, some .outPool, .asset, false, [(false, 3563383436), (true, 834123723)], false, false⟩,
  ⟨.send, some .signer, some .pool, .msgCoin, false, [(false, 3563383436), (false, 834123723), (true, 2625736130)], false, false⟩,
  ⟨.send, some .pool, some .outPool, .asset, false, [(false, 3563383436), (false, 834123723), (true, 2625736130)], false, false⟩]

def exp_Draw : List LPin := [
  ⟨.send, some .outPool, some .signer, .msgCoin, false, [], false, false⟩]

def exp_CloseBorrow : List LPin := [
  ⟨.send, some .signer, some .outPool, .assetOut, false, [], false, false⟩,
  ⟨.send, some .pool, some .lendOwner, .posCoin, false, [], false, false⟩,
  ⟨.send, some .outPool, some .reserve, .assetOut, true, [(true, 1035222583), (true, 1303515621)], false, false⟩,
  ⟨.send, some .reserve, some .outPool, .assetOut, true, [(true, 1035222583), (false, 1303515621)], false, false⟩,
  ⟨.mint, none, some .outPool, .cAsset, true, [(true, 1108715873)], false, false⟩,
  ⟨.send, some .outPool, some .pool, .posCoin, false, [(true, 2707716491)], false, false⟩]

def exp_BorrowAlternate : List LPin := [
  ⟨.send, some .reserve, some .pool, .asset, false, [(true, 869575135), (true, 996767492), (true, 996767492)], false, false⟩,
  ⟨.mint, none, some .pool, .cAsset, false, [(true, 869575135), (true, 996767492), (true, 996767492)], false, false⟩,
  ⟨.send, some .pool, some .lendOwner, .cAsset, false, [(true, 869575135), (true, 996767492), (true, 996767492)], false, false⟩,
  ⟨.send, some .pool, some .lendOwner, .cAsset, false, [(true, 869575135), (true, 996767492), (false, 996767492)], false, false⟩,
  ⟨.send, some .signer, some .pool, .msgCoin, false, [(true, 869575135)], false, false⟩,
  ⟨.mint, none, some .pool, .cAsset, false, [(true, 869575135)], false, false⟩,
  ⟨.send, some .pool, some .signer, .cAsset, false, [(true, 869575135)], false, false⟩,
  ⟨.send, some .signer, some .pool, .cAsset, false, [(true, 869575135), (true, 454575357), (true, 3841182008)], false, false⟩,
  ⟨.send, some .signer, some .pool, .cAsset, false, [(true, 869575135), (true, 454575357), (false, 3841182008), (true, 592850414)], false, false⟩,
  ⟨.send, some .pool, some .outPool, .asset, false, [(true, 869575135), (true, 454575357), (false, 3841182008), (true, 592850414)], false, false⟩,
  ⟨.send, some .signer, some .pool, .cAsset, false, [(true, 869575135), (true, 454575357), (false, 3841182008), (false, 592850414), (true, 4007953295)], false, false⟩,
  ⟨.send, some .pool, some .outPool, .asset, false, [(true, 869575135), (true, 454575357), (false, 3841182008), (false, 592850414), (true, 4007953295)], false, false⟩,
  ⟨.send, some .outPool, some .signer, .msgCoin, false, [(true, 869575135), (true, 454575357)], false, false⟩,
  ⟨.send, some .signer, some .pool, .cAsset, false, [(true, 869575135), (false, 454575357), (true, 245005271)], false, false⟩,
  ⟨.send, some .outPool, some .signer, .msgCoin, false, [(true, 869575135), (false, 454575357), (true, 245005271)], false, false⟩,
  ⟨.send, some .signer, some .pool, .cAsset, false, [(true, 869575135), (false, 454575357), (false, 245005271), (true, 1826140649)], false, false⟩,
  ⟨.send, some .pool, some .outPool, .asset, false, [(true, 869575135), (false, 454575357), (false, 245005271), (true, 1826140649)], false, false⟩,
  ⟨.send, some .outPool, some .signer, .msgCoin, false, [(true, 869575135), (false, 454575357), (false, 245005271), (true, 1826140649)], false, false⟩,
  ⟨.send, some .signer, some .pool, .cAsset, false, [(true, 869575135), (false, 454575357), (false, 245005271), (false, 1826140649), (true, 1826140649)], false, false⟩,
  ⟨.send, some .pool, some .outPool, .asset, false, [(true, 869575135), (false, 454575357), (false, 245005271), (false, 1826140649), (true, 1826140649)], false, false⟩,
  ⟨.send, some .outPool, some .signer, .msgCoin, false, [(true, 869575135), (false, 454575357), (false, 245005271), (false, 1826140649), (true, 1826140649)], false, false⟩,
  ⟨.send, some .signer, some .pool, .msgCoin, false, [(false, 869575135)], false, false⟩,
  ⟨.mint, none, some .pool, .cAsset, false, [(false, 869575135)], false, false⟩,
  ⟨.send, some .pool, some .signer, .cAsset, false, [(false, 869575135)], false, false⟩,
  ⟨.send, some .signer, some .pool, .cAsset, false, [(false, 869575135), (true, 454575357), (true, 3841182008)], false, false⟩,
  ⟨.send, some .signer, some .pool, .cAsset, false, [(false, 869575135), (true, 454575357), (false, 3841182008), (true, 592850414)], false, false⟩,
  ⟨.send, some .pool, some .outPool, .asset, false, [(false, 869575135), (true, 454575357), (false, 3841182008), (true, 592850414)], false, false⟩,
  ⟨.send, some .signer, some .pool, .cAsset, false, [(false, 869575135), (true, 454575357), (false, 3841182008), (false, 592850414), (true, 4007953295)], false, false⟩,
  ⟨.send, some .pool, some .outPool, .asset, false, [(false, 869575135), (true, 454575357), (false, 3841182008), (false, 592850414), (true, 4007953295)], false, false⟩,
  ⟨.send, some .outPool, some .signer, .msgCoin, false, [(false, 869575135), (true, 454575357)], false, false⟩,
  ⟨.send, some .signer, some .pool, .cAsset, false, [(false, 869575135), (false, 454575357), (true, 245005271)], false, false⟩,
  ⟨.send, some .outPool, some .signer, .msgCoin, false, [(false, 869575135), (false, 454575357), (true, 245005271)], false, false⟩,
  ⟨.send, some .signer, some .pool, .cAsset, false, [(false, 869575135), (false, 454575357), (false, 245005271), (true, 3309566615)], false, false⟩,
  ⟨.send, some .pool, some .outPool, .asset, false, [(false, 869575135), (false, 454575357), (false, 245005271), (true, 3309566615)], false, false⟩,
  ⟨.send, some .outPool, some .signer, .msgCoin, false, [(false, 869575135), (false, 454575357), (false, 245005271), (true, 3309566615)], false, false⟩,
  ⟨.send, some .signer, some .pool, .cAsset, false, [(false, 869575135), (false, 454575357), (false, 245005271), (false, 3309566615), (true, 3309566615)], false, false⟩,
  ⟨.send, some .pool, some .outPool, .asset, false, [(false, 869575135), (false, 454575357), (false, 245005271), (false, 3309566615), (true, 3309566615)], false, false⟩,
  ⟨.send, some .outPool, some .signer, .msgCoin, false, [(false, 869575135), (false, 454575357), (false, 245005271), (false, 3309566615), (true, 3309566615)], false, false⟩]

def exp_FundModuleAccounts : List LPin := [
  ⟨.send, some .signer, some .pool, .msgCoin, false, [], false, false⟩,
  ⟨.mint, none, some .pool, .cAsset, false, [], false, false⟩]

def exp_CalculateInterestAndRewards : List LPin := [
  ⟨.send, some .reserve, some .pool, .asset, true, [(true, 3070912315), (true, 397767742), (true, 2909833665)], true, false⟩,
  ⟨.mint, none, some .pool, .cAsset, true, [(true, 3070912315), (true, 397767742), (true, 2909833665)], true, false⟩,
  ⟨.send, some .pool, some .lendOwner, .cAsset, true, [(true, 3070912315), (true, 397767742), (true, 2909833665)], true, false⟩,
  ⟨.send, some .pool, some .lendOwner, .cAsset, true, [(true, 3070912315), (true, 397767742), (false, 2909833665)], true, false⟩]

def exp_FundReserveAccounts : List LPin := [
  ⟨.send, some .signer, some .reserve, .msgCoin, false, [], false, false⟩,
  ⟨.send, some .reserve, some .cmdx, .auctionCoin, false, [(true, 3671374226)], true, false⟩,
  ⟨.send, some .auction, some .reserve, .auctionCoin, false, [(true, 3671374226), (false, 2661081923)], true, false⟩]

def exp_RepayWithdraw : List LPin := [
  ⟨.send, some .signer, some .outPool, .assetOut, false, [], false, false⟩,
  ⟨.send, some .pool, some .lendOwner, .posCoin, false, [], false, false⟩,
  ⟨.send, some .outPool, some .reserve, .assetOut, true, [(true, 1035222583), (true, 1303515621)], false, false⟩,
  ⟨.send, some .reserve, some .outPool, .assetOut, true, [(true, 1035222583), (false, 1303515621)], false, false⟩,
  ⟨.mint, none, some .outPool, .cAsset, true, [(true, 1108715873)], false, false⟩,
  ⟨.send, some .outPool, some .pool, .posCoin, false, [(true, 2707716491)], false, false⟩,
  ⟨.send, some .reserve, some .pool, .asset, true, [(true, 3330531126), (true, 680418592), (true, 1435774798)], false, false⟩,
  ⟨.mint, none, some .pool, .cAsset, true, [(true, 3330531126), (true, 680418592), (true, 1435774798)], false, false⟩,
  ⟨.send, some .pool, some .lendOwner, .cAsset, true, [(true, 3330531126), (true, 680418592), (true, 1435774798)], false, false⟩,
  ⟨.send, some .pool, some .lendOwner, .cAsset, true, [(true, 3330531126), (true, 680418592), (false, 1435774798)], false, false⟩,
  ⟨.send, some .signer, some .pool, .cAsset, false, [(true, 3330531126)], false, false⟩,
  ⟨.burn, some .pool, none, .cAsset, false, [(true, 3330531126)], false, false⟩,
  ⟨.send, some .pool, some .signer, .posCoin, false, [(true, 3330531126)], false, false⟩,
  ⟨.send, some .reserve, some .pool, .asset, true, [(false, 3330531126), (true, 680418592), (true, 1435774798)], false, false⟩,
  ⟨.mint, none, some .pool, .cAsset, true, [(false, 3330531126), (true, 680418592), (true, 1435774798)], false, false⟩,
  ⟨.send, some .pool, some .lendOwner, .cAsset, true, [(false, 3330531126), (true, 680418592), (true, 1435774798)], false, false⟩,
  ⟨.send, some .pool, some .lendOwner, .cAsset, true, [(false, 3330531126), (true, 680418592), (false, 1435774798)], false, false⟩,
  ⟨.send, some .signer, some .pool, .cAsset, false, [(false, 3330531126), (true, 2135521789)], false, false⟩,
  ⟨.burn, some .pool, none, .cAsset, false, [(false, 3330531126), (true, 2135521789)], false, false⟩,
  ⟨.send, some .pool, some .signer, .posCoin, false, [(false, 3330531126), (true, 2135521789)], false, false⟩,
  ⟨.send, some .signer, some .pool, .cAsset, false, [(false, 3330531126), (false, 2135521789)], false, false⟩,
  ⟨.burn, some .pool, none, .cAsset, false, [(false, 3330531126), (false, 2135521789)], false, false⟩,
  ⟨.send, some .pool, some .signer, .posCoin, false, [(false, 3330531126), (false, 2135521789)], false, false⟩]

def lendPairs : List (String × Option (List LPin) × List LPin) := [
  ("Lend", rpins lendRoles h_lend_Lend, exp_Lend),
  ("Withdraw", rpins lendRoles h_lend_Withdraw, exp_Withdraw),
  ("Deposit", rpins lendRoles h_lend_Deposit, exp_Deposit),
  ("CloseLend", rpins lendRoles h_lend_CloseLend, exp_CloseLend),
  ("Borrow", rpins lendRoles h_lend_Borrow, exp_Borrow),
  ("Repay", rpins lendRoles h_lend_Repay, exp_Repay),
  ("DepositBorrow", rpins lendRoles h_lend_DepositBorrow, exp_DepositBorrow),
  ("Draw", rpins lendRoles h_lend_Draw, exp_Draw),
  ("CloseBorrow", rpins lendRoles h_lend_CloseBorrow, exp_CloseBorrow),
  ("BorrowAlternate", rpins lendRoles h_lend_BorrowAlternate, exp_BorrowAlternate),
  ("FundModuleAccounts", rpins lendRoles h_lend_FundModuleAccounts, exp_FundModuleAccounts),
  ("CalculateInterestAndRewards", rpins lendRoles h_lend_CalculateInterestAndRewards, exp_CalculateInterestAndRewards),
  ("FundReserveAccounts", rpins lendRoles h_lend_FundReserveAccounts, exp_FundReserveAccounts),
  ("RepayWithdraw", rpins lendRoles h_lend_RepayWithdraw, exp_RepayWithdraw)]

/-- all fourteen in one statement so that the table is reduced once -/
theorem lend_rpins : handlers_lend.map (rpins lendRoles) = lendPairs.map (some ·.2.2) := by decide +kernel

/-- **Golden skeleton of the fourteen lend messages**: the names of the messages whose regenerated skeleton differs from the
reviewed literal — none -/
theorem lend_pins : (lendPairs.filter fun p => p.2.1 != some p.2.2).map (·.1) = [] :=
  filter_bne_eq_nil _ (.trans (by simp only [lendPairs, handlers_lend, List.map]) lend_rpins)

/-- shape of the table; every bank call has a kind, parties and a denomination the role table knows (the projection of
`lend_rpins` succeeded on every message); the opaque items -/
theorem lend_table :
    handlers_lend.map (fun h => (h.name, (bankItems h).length)) =
      [("Lend", 10), ("Withdraw", 17), ("Deposit", 7), ("CloseLend", 7), ("Borrow", 14), ("Repay", 17), ("DepositBorrow", 5),
       ("Draw", 1), ("CloseBorrow", 6), ("BorrowAlternate", 38), ("FundModuleAccounts", 2), ("CalculateInterestAndRewards", 4),
       ("FundReserveAccounts", 3), ("RepayWithdraw", 23)] ∧
    (∀ h ∈ handlers_lend, allBankClassified lendRoles h = true ∧ unknownBankOps h = []) ∧
    (handlers_lend.filter fun h => opaqueCalls h != []).map (·.name) = ["Borrow", "BorrowAlternate"] := by
  refine ⟨by decide +kernel, fun h hh => ?_, by decide +kernel⟩
  have hm := List.mem_map_of_mem (f := rpins lendRoles) hh
  rw [lend_rpins] at hm
  obtain ⟨p, -, hp⟩ := List.mem_map.1 hm
  exact classified_of_rpins hp.symm

example : exp_Draw = [⟨.send, some .outPool, some .signer, .msgCoin, false, [], false, false⟩] := rfl
example : exp_Lend.length = 10 ∧ exp_BorrowAlternate.length = 38 := by decide
example : lendRoles.acct "addr(msg.Lender)" = some .signer ∧ lendRoles.acct "somebody" = none := by decide +kernel

end Comdex.C08
