import Comdex.Lemmas.Pool
import Comdex.Lemmas.PoolKeeper
/-!
# C06 — Pool shares are fair: deposits and withdrawals cannot extract value from a pool

Model: `Comdex/Model/Pool.lean` (`deposit`, `withdraw`, `createRangedPool`, `newRangedPool`, `deriveTranslation`, `setBalances`,
`rangedPrice` over `Comdex.Dec`, with the `SafeMath` overflow arm).  All theorems quantify over ALL integers satisfying
the stated (decidable) domain predicates — there is NO upper bound on reserves, supplies or amounts: inside
the module bounds (≤ 10^40) and far beyond them the laws hold, because the overflow arm returns zeros.

Property clause → theorem
* "a deposit never takes more of either coin than was offered"           → `deposit_takes_at_most_offered`
* "mints shares at a rate no better than the pool's reserves per share"  → `deposit_rate_not_better`
     (bound: `pc/ps ≤ a/r + (10^18+2)/(2·10^36)`, the half-ulp of `mintProportion`; it is tight:
      `deposit_dust_goes_to_depositor` shows the depositor really can win that dust)
* "a withdrawal never returns more than the pro-rata part reduced by the fee" → `withdraw_at_most_prorata` (exact)
* "reserves per outstanding share never decrease (up to relative error < 10^-17)"
     → `reserves_per_share_nondecreasing` (= `…_deposit` with the bound, `…_withdraw` exact)
* "redeeming the last outstanding shares returns the entire remaining reserves" → `last_share_gets_all`
* overflow (`SafeMath`) → `deposit_overflow_returns_zeros`, `withdraw_overflow_returns_zeros`,
     `deposit_overflow_reachable_within_bounds` (so "no overflow within 10^40" is FALSE for Deposit),
     `deposit_no_overflow_of_small_mint`, `withdraw_no_overflow_within_bounds`;
     neither function panics on its domain: `deposit_total`, `withdraw_total`
* "a ranged pool's price always stays within its configured price range" → FALSE of the code:
     `ranged_price_in_range_counterexample` (one ulp below min, everyday prices, on-tick triple),
     `ranged_price_above_max_counterexample`, `ranged_price_far_below_min_counterexample` (85 % below min);
     what IS proved: `ranged_price_between_curve_endpoints_partial` (the price lies between the prices of the
     two single-asset end points of the pool's own translated curve) and `create_ok_implies_admissible`.
     MISSING for the full clause: that those end points coincide with `minPrice`/`maxPrice` — they do so only
     up to the error of `approxSqrt`/`Quo`/`Mul` rounding, which is unbounded relative to 10^-18 at prices
     near 10^20 (see notes/C06.md).
     Under swaps (`RangedPool.SetBalances`): with the translation kept (`derive = false`)
     `ranged_price_within_endpoints_fixed_translation` (every reserve pair of the box [0,X]×[0,Y] prices between the
     two ends of the pool's own curve) and `ranged_price_monotone_fixed_translation`; with `derive = true`
     `rederive_is_fresh_pool` (= `NewRangedPool` on the new reserves, history forgotten),
     `rederive_same_iff_translation_fixpoint` (end points unchanged iff the translation is a fixed point of
     `DeriveTranslation`) and `rederive_moves_endpoint_counterexample` (it is not: the D15 mechanism).

The KEEPER level (`Model/PoolKeeper.lean`: `Keeper.ExecuteDepositRequest` / `ExecuteWithdrawRequest` / `Finish…Request`,
the end-block batch `ExecuteRequests`, `MsgDepositAndFarm`, `MsgUnfarmAndWithdraw`; basic and ranged pools) — every
clause lifted to every execution of a request on the pool's bank balances, bank supply and the app's WithdrawFeeRate:
* tie keeper → arithmetic                         → `keeper_deposit_moves_amm_result`, `keeper_withdraw_moves_amm_result`
* "never takes more than offered" (+ refund exact, failed request refunded in full) → `keeper_deposit_takes_at_most_offered`
* "rate no better than reserves per share"        → `keeper_deposit_rate_not_better`
* "at most pro rata reduced by the fee"           → `keeper_withdraw_at_most_prorata_minus_fee`
* "last shares return the entire reserves" (+ burns the supply, disables the pool) → `keeper_last_share_gets_all`
* "reserves per share never decrease" over ANY history of executed requests (failed / aborted ones and donations
  included), `(1−10^-17)^k` for `k` deposits   → `keeper_reserves_per_share_nondecreasing` (step: `keeper_step`);
  per pool of a whole batch                      → `keeper_batch_reserves_per_share` (on `PoolKeeper.execRequests_project`)
* no request gets stuck once the pool object can be built → `keeper_exec_total`; always on a basic pool → `keeper_exec_total_basic`
* in-transaction paths execute exactly their own request → `keeper_deposit_and_farm`, `keeper_unfarm_and_withdraw`
-/
namespace Comdex.C06
open Comdex.Pool

/-- `amm.Deposit` never panics on a pool that is not depleted (so the request either executes or fails cleanly). -/
theorem deposit_total {rx ry ps x y : Int} (h : DepositDom rx ry ps x y) :
    ∃ r, deposit rx ry ps x y = some r := by
  obtain ⟨hrx, hry, hr, hps, _, _⟩ := h
  rcases deposit_cases (x := x) (y := y) (show rx ≠ 0 ∨ ry ≠ 0 by omega) (Int.ne_of_gt hps) with e | e <;> exact ⟨_, e⟩

/-- the overflow arm: any `Dec`/`Int` overflow inside makes `Deposit` return zeros -/
theorem deposit_overflow_returns_zeros {rx ry ps x y : Int}
    (h : depositCore rx ry ps x y = .error .overflow) : deposit rx ry ps x y = some (0, 0, 0) := by
  unfold deposit; rw [h]

theorem deposit_laws {rx ry ps x y ax ay pc : Int} (h : DepositDom rx ry ps x y)
    (hd : deposit rx ry ps x y = some (ax, ay, pc)) :
    TakesAtMostOffered x ax ∧ TakesAtMostOffered y ay ∧ 0 ≤ pc ∧
    RateNotBetter rx ps ax pc ∧ RateNotBetter ry ps ay pc := by
  obtain ⟨hrx, hry, hr, hps, hx, hy⟩ := h
  rcases deposit_cases (x := x) (y := y) (show rx ≠ 0 ∨ ry ≠ 0 by omega) (Int.ne_of_gt hps) with e | e <;>
    rw [e] at hd <;> cases hd
  · exact depositVals_laws ⟨hrx, hry, hr, hps, hx, hy⟩
  · exact ⟨⟨Int.le_refl 0, hx⟩, ⟨Int.le_refl 0, hy⟩, Int.le_refl 0, rateNotBetter_zero hrx (Int.le_of_lt hps),
      rateNotBetter_zero hry (Int.le_of_lt hps)⟩

/-- **A deposit never takes more of either coin than was offered** (and never a negative amount). -/
theorem deposit_takes_at_most_offered {rx ry ps x y ax ay pc : Int} (h : DepositDom rx ry ps x y)
    (hd : deposit rx ry ps x y = some (ax, ay, pc)) :
    (0 ≤ ax ∧ ax ≤ x) ∧ (0 ≤ ay ∧ ay ≤ y) ∧ 0 ≤ pc :=
  let ⟨a, b, c, _, _⟩ := deposit_laws h hd; ⟨a, b, c⟩

/-- **Shares are minted at a rate no better than reserves per share**, up to the half-ulp of `mintProportion`:
`pc·r ≤ a·ps + r·ps·(10^18+2)/(2·10^36)` for both coins (denominators cleared). -/
theorem deposit_rate_not_better {rx ry ps x y ax ay pc : Int} (h : DepositDom rx ry ps x y)
    (hd : deposit rx ry ps x y = some (ax, ay, pc)) :
    2 * Dec.PP * (pc * rx) ≤ 2 * Dec.PP * (ax * ps) + rx * ps * (Dec.P + 2) ∧
    2 * Dec.PP * (pc * ry) ≤ 2 * Dec.PP * (ay * ps) + ry * ps * (Dec.P + 2) :=
  let ⟨_, _, _, a, b⟩ := deposit_laws h hd; ⟨a, b⟩

/-- **Reserves per share after a deposit** are at least `(1 - 10^-17)` × reserves per share before:
`(10^17 - 1)·r/ps ≤ 10^17·(r + a)/(ps + pc)` for both coins. -/
theorem reserves_per_share_nondecreasing_deposit {rx ry ps x y ax ay pc : Int} (h : DepositDom rx ry ps x y)
    (hd : deposit rx ry ps x y = some (ax, ay, pc)) :
    (100000000000000000 - 1) * (rx * (ps + pc)) ≤ 100000000000000000 * ((rx + ax) * ps) ∧
    (100000000000000000 - 1) * (ry * (ps + pc)) ≤ 100000000000000000 * ((ry + ay) * ps) := by
  obtain ⟨_, _, hpc, a, b⟩ := deposit_laws h hd
  obtain ⟨hrx, hry, _, hps, _, _⟩ := h
  exact ⟨perShare_of_rate hrx (Int.le_of_lt hps) hpc a, perShare_of_rate hry (Int.le_of_lt hps) hpc b⟩

/-- The rounding bound of `deposit_rate_not_better` is not slack: with supply 3 the half-even rounding of
`mintProportion = 1/3` goes DOWN and the depositor gets a third of the pool for `10^18 - 1` instead of `10^18`
coins — the strict law `pc·rx ≤ ax·ps` is false of the code, the law with the stated bound holds. -/
theorem deposit_dust_goes_to_depositor :
    deposit 3000000000000000000 3000000000000000000 3 1000000000000000002 1000000000000000002
      = some (999999999999999999, 999999999999999999, 1) ∧
    ¬ (1 * 3000000000000000000 ≤ 999999999999999999 * (3:Int)) := by
  decide +kernel

/-- Inside the module bounds (all arguments ≤ 10^40) an intermediate of `Deposit` CAN exceed 315 bits
(`ps·ratio` = 10^98): the overflow arm is reachable and returns zeros (the request fails, nothing moves). -/
theorem deposit_overflow_reachable_within_bounds :
    deposit 1 1 (10^40) (10^40) (10^40) = some (0, 0, 0) ∧
    overflows (depositCore 1 1 (10^40) (10^40) (10^40)) = true := by
  decide +kernel

/-- `amm.Withdraw` never panics when there are outstanding shares. -/
theorem withdraw_total {rx ry ps pc : Int} {fee : Dec} (hps : ps ≠ 0) :
    ∃ r, withdraw rx ry ps pc fee = some r := by
  by_cases hne : pc = ps
  · exact ⟨_, by unfold withdraw; rw [if_pos hne]⟩
  · rcases withdraw_cases (rx := rx) (ry := ry) (fee := fee) hps hne with e | e <;> exact ⟨_, e⟩

theorem withdraw_overflow_returns_zeros {rx ry ps pc : Int} {fee : Dec} (hne : pc ≠ ps)
    (h : withdrawCore rx ry ps pc fee = .error .overflow) : withdraw rx ry ps pc fee = some (0, 0) := by
  unfold withdraw; rw [if_neg hne, h]

/-- **Redeeming the last outstanding shares returns the entire remaining reserves** — for all integers,
whatever the fee rate. -/
theorem last_share_gets_all (rx ry ps : Int) (fee : Dec) : withdraw rx ry ps ps fee = some (rx, ry) := by
  unfold withdraw; rw [if_pos rfl]

/-- **A withdrawal (of less than the whole supply) never returns more than the pro-rata part reduced by the
fee**: `x·ps·10^18 ≤ rx·pc·(10^18 − fee)`, same for `y`; exact (truncation only). -/
theorem withdraw_at_most_prorata {rx ry ps pc x y : Int} {fee : Dec} (h : WithdrawDom rx ry ps pc fee)
    (hne : pc ≠ ps) (hw : withdraw rx ry ps pc fee = some (x, y)) :
    (0 ≤ x ∧ x * ps * Dec.P ≤ rx * pc * (Dec.P - fee)) ∧ (0 ≤ y ∧ y * ps * Dec.P ≤ ry * pc * (Dec.P - fee)) := by
  obtain ⟨hrx, hry, hps, hpc, _, hf0, hf1⟩ := h
  rcases withdraw_cases (rx := rx) (ry := ry) (fee := fee) (Int.ne_of_gt hps) hne with e | e <;> rw [e] at hw <;> cases hw
  · exact ⟨outVal_facts hrx hps hpc hf1, outVal_facts hry hps hpc hf1⟩
  · exact ⟨atMostProrata_zero hrx hpc hf1, atMostProrata_zero hry hpc hf1⟩

theorem withdraw_rate {rx ry ps pc x y : Int} {fee : Dec} (h : WithdrawDom rx ry ps pc fee)
    (hw : withdraw rx ry ps pc fee = some (x, y)) : (0 ≤ x ∧ x * ps ≤ rx * pc) ∧ (0 ≤ y ∧ y * ps ≤ ry * pc) := by
  by_cases hne : pc = ps
  · subst hne
    rw [last_share_gets_all] at hw
    cases hw
    exact ⟨⟨h.1, Int.le_refl _⟩, h.2.1, Int.le_refl _⟩
  · obtain ⟨a, b⟩ := withdraw_at_most_prorata h hne hw
    obtain ⟨hrx, hry, _, hpc, _, hf0, _⟩ := h
    exact ⟨⟨a.1, rate_of_prorata hrx hpc hf0 a⟩, b.1, rate_of_prorata hry hpc hf0 b⟩

/-- **Reserves per share never decrease through a withdrawal** (exact): `r/ps ≤ (r − out)/(ps − pc)` in
cross-multiplied form, and no more than the reserve leaves the pool. -/
theorem reserves_per_share_nondecreasing_withdraw {rx ry ps pc x y : Int} {fee : Dec}
    (h : WithdrawDom rx ry ps pc fee) (hw : withdraw rx ry ps pc fee = some (x, y)) :
    rx * (ps - pc) ≤ (rx - x) * ps ∧ ry * (ps - pc) ≤ (ry - y) * ps ∧ x ≤ rx ∧ y ≤ ry := by
  obtain ⟨⟨_, a⟩, _, b⟩ := withdraw_rate h hw
  obtain ⟨hrx, hry, hps, _, hle, _, _⟩ := h
  obtain ⟨k1, k2⟩ := perShare_of_rate_out hrx hps hle a
  obtain ⟨k3, k4⟩ := perShare_of_rate_out hry hps hle b
  exact ⟨k1, k3, k2, k4⟩

/-- **Reserves per outstanding share never decrease through deposits and withdrawals** (deposits: up to a
relative error below 10^-17; withdrawals: exactly). -/
theorem reserves_per_share_nondecreasing :
    (∀ rx ry ps x y ax ay pc : Int, DepositDom rx ry ps x y → deposit rx ry ps x y = some (ax, ay, pc) →
      (100000000000000000 - 1) * (rx * (ps + pc)) ≤ 100000000000000000 * ((rx + ax) * ps) ∧
      (100000000000000000 - 1) * (ry * (ps + pc)) ≤ 100000000000000000 * ((ry + ay) * ps)) ∧
    (∀ (rx ry ps pc x y : Int) (fee : Dec), WithdrawDom rx ry ps pc fee → withdraw rx ry ps pc fee = some (x, y) →
      rx * (ps - pc) ≤ (rx - x) * ps ∧ ry * (ps - pc) ≤ (ry - y) * ps) :=
  ⟨fun _ _ _ _ _ _ _ _ h hd => reserves_per_share_nondecreasing_deposit h hd,
   fun _ _ _ _ _ _ _ h hw => let ⟨a, b, _, _⟩ := reserves_per_share_nondecreasing_withdraw h hw; ⟨a, b⟩⟩

/-- `Deposit` does not reach the overflow arm when the offers are inside the module bounds (≤ 10^40) and the
shares to be minted stay below 10^76 for one of the coins (`ps·x ≤ 10^76·rx`): `ps·ratio`, the only intermediate
that can exceed 315 bits, then stays below 10^94 < 2^315.  No bound on reserves or supply is needed. -/
theorem deposit_no_overflow_of_small_mint {rx ry ps x y : Int} (h : DepositDom rx ry ps x y)
    (bx : x ≤ 10^40) (bY : y ≤ 10^40)
    (hm : (0 < rx ∧ ps * x ≤ 10^76 * rx) ∨ (0 < ry ∧ ps * y ≤ 10^76 * ry)) :
    overflows (depositCore rx ry ps x y) = false ∧ deposit rx ry ps x y = some (depositVals rx ry ps x y) := by
  have hdom := h
  obtain ⟨hrx, hry, hr, hps, hx, hy⟩ := h
  have hP := Dec.P_pos
  obtain ⟨r0, r1, r2⟩ := ratioVal_facts hrx hry hr hx hy
  have key : ∀ r off : Int, 0 < r → r * ratioVal rx ry x y ≤ off * Dec.P → ps * off ≤ 10^76 * r →
      ps * ratioVal rx ry x y < B315 := by
    intro r off hr0 hle hb
    have h1 : (ps * ratioVal rx ry x y) * r ≤ (10^76 * Dec.P) * r := by
      calc (ps * ratioVal rx ry x y) * r = ps * (r * ratioVal rx ry x y) := by ring
        _ ≤ ps * (off * Dec.P) := Int.mul_le_mul_of_nonneg_left hle (Int.le_of_lt hps)
        _ = (ps * off) * Dec.P := by ring
        _ ≤ (10^76 * r) * Dec.P := Int.mul_le_mul_of_nonneg_right hb (Int.le_of_lt hP)
        _ = (10^76 * Dec.P) * r := by ring
    exact Int.lt_of_le_of_lt (Int.le_of_mul_le_mul_right h1 hr0) (by decide)
  have hov : ps * ratioVal rx ry x y < B315 := by
    rcases hm with ⟨a, b⟩ | ⟨a, b⟩
    · exact key rx x a r1 b
    · exact key ry y a r2 b
  have e := depositCore_eq_ok hdom (E40_eq ▸ bx) (E40_eq ▸ bY) hov
  refine ⟨by rw [e]; rfl, ?_⟩
  unfold deposit; rw [e]

/-- `Withdraw` never reaches the overflow arm inside the module bounds (reserves ≤ 10^40; any supply). -/
theorem withdraw_no_overflow_within_bounds {rx ry ps pc : Int} {fee : Dec} (h : WithdrawDom rx ry ps pc fee)
    (bx : rx ≤ 10^40) (bY : ry ≤ 10^40) :
    overflows (withdrawCore rx ry ps pc fee) = false := by
  rw [withdrawCore_eq_ok h (E40_eq ▸ bx) (E40_eq ▸ bY)]; rfl

example : DepositDom 1000000 3000000 2000 500 1600 ∧ deposit 1000000 3000000 2000 500 1600 = some (500, 1500, 1) := by
  decide +kernel
example : DepositDom 0 700 10 5 70 ∧ deposit 0 700 10 5 70 = some (0, 70, 1) := by
  decide +kernel
example : WithdrawDom 1000 2000 10 3 3000000000000000 ∧ (3:Int) ≠ 10 ∧
    withdraw 1000 2000 10 3 3000000000000000 = some (299, 598) := by
  decide +kernel
example : withdraw 1000 2000 10 10 3000000000000000 = some (1000, 2000) := last_share_gets_all _ _ _ _

section Keeper
open Comdex.PoolKeeper

/-- The checked tie of the keeper's deposit path: a successful execution moved EXACTLY what `amm.Deposit` returned
for the pool's own reserves and supply and the request's own coins, and minted a positive amount. -/
theorem keeper_deposit_moves_amm_result {p : KPool} {x y : Int} {o : DepOut}
    (h : execDeposit p x y = some o) (hs : o.status = .succeeded) :
    p.disabled = false ∧ deposit p.rx p.ry p.ps x y = some (o.ax, o.ay, o.mint) ∧ 0 < o.mint ∧
    o.rfx = x - o.ax ∧ o.rfy = y - o.ay ∧ o.disable = false := by
  rcases execDeposit_cases h with ⟨dis, e⟩ | ⟨hd, _, ax, ay, pc, hdp, hpc, _, _, _, _, e⟩
  · rw [e] at hs; cases hs
  · subst e; exact ⟨hd, hdp, hpc, rfl, rfl, rfl⟩

theorem keeper_deposit_laws {p : KPool} {x y : Int} {o : DepOut} (hp : KInv p) (hx : 0 ≤ x) (hy : 0 ≤ y)
    (h : execDeposit p x y = some o) :
    DepConserves x y o ∧ DepFailedClean o ∧ RateNotBetter p.rx p.ps o.ax o.mint ∧ RateNotBetter p.ry p.ps o.ay o.mint := by
  obtain ⟨hrx, hry, hps⟩ := hp
  rcases execDeposit_cases h with ⟨dis, rfl⟩ | ⟨hd, hdep, ax, ay, pc, hdp, hpc, hax, hay, hxa, hya, rfl⟩
  · exact ⟨⟨Int.zero_add x, Int.zero_add y, ⟨Int.le_refl 0, hx⟩, ⟨Int.le_refl 0, hy⟩, Int.le_refl 0⟩, fun _ => ⟨rfl, rfl, rfl⟩,
      rateNotBetter_zero hrx hps, rateNotBetter_zero hry hps⟩
  · obtain ⟨r1, r2⟩ := deposit_rate_not_better (depositDom ⟨hrx, hry, hps⟩ hdep hx hy) hdp
    exact ⟨⟨by show ax + (x - ax) = x; omega, by show ay + (y - ay) = y; omega, ⟨hax, hxa⟩, ⟨hay, hya⟩, Int.le_of_lt hpc⟩,
      nofun, r1, r2⟩

/-- **Keeper level: a deposit never takes more of either coin than was offered** — every coin of the request is
either accepted into the reserve (`0 ≤ accepted ≤ offered`) or refunded (`accepted + refund = offered`), and a failed
request is refunded in full with nothing minted.  For every execution, batch or in-transaction, basic or ranged. -/
theorem keeper_deposit_takes_at_most_offered {p : KPool} {x y : Int} {o : DepOut} (hp : KInv p) (hx : 0 ≤ x)
    (hy : 0 ≤ y) (h : execDeposit p x y = some o) :
    (o.ax + o.rfx = x ∧ o.ay + o.rfy = y) ∧ (0 ≤ o.ax ∧ o.ax ≤ x) ∧ (0 ≤ o.ay ∧ o.ay ≤ y) ∧ 0 ≤ o.mint ∧
    (o.status = .failed → o.ax = 0 ∧ o.ay = 0 ∧ o.mint = 0) :=
  let ⟨⟨a, b, c, d, e⟩, f, _⟩ := keeper_deposit_laws hp hx hy h; ⟨⟨a, b⟩, c, d, e, f⟩

/-- **Keeper level: pool coins are minted at a rate no better than the reserves per share** of the pool's bank
balances and bank supply at the moment of execution (bound of `deposit_rate_not_better`). -/
theorem keeper_deposit_rate_not_better {p : KPool} {x y : Int} {o : DepOut} (hp : KInv p) (hx : 0 ≤ x)
    (hy : 0 ≤ y) (h : execDeposit p x y = some o) :
    2 * Dec.PP * (o.mint * p.rx) ≤ 2 * Dec.PP * (o.ax * p.ps) + p.rx * p.ps * (Dec.P + 2) ∧
    2 * Dec.PP * (o.mint * p.ry) ≤ 2 * Dec.PP * (o.ay * p.ps) + p.ry * p.ps * (Dec.P + 2) :=
  let ⟨_, _, a, b⟩ := keeper_deposit_laws hp hx hy h; ⟨a, b⟩

/-- the checked tie of the withdraw path: a successful execution paid out EXACTLY `amm.Withdraw(reserves, supply,
requested pool coin, the app's WithdrawFeeRate)` and burnt exactly the requested pool coin -/
theorem keeper_withdraw_moves_amm_result {fee : Dec} {p : KPool} {pc : Int} {o : WdrOut}
    (h : execWithdraw fee p pc = some o) (hs : o.status = .succeeded) :
    p.disabled = false ∧ withdraw p.rx p.ry p.ps pc fee = some (o.x, o.y) ∧ o.burn = pc ∧ o.rfpc = 0 ∧
    o.disable = decide (pc = p.ps) := by
  rcases execWithdraw_cases h with ⟨dis, e⟩ | ⟨hd, _, x, y, hw, _, _, _, _, _, e⟩
  · rw [e] at hs; cases hs
  · subst e; exact ⟨hd, hw, rfl, rfl, rfl⟩

/-- **Keeper level: a withdrawal (of less than the whole supply) never pays out more than the pro-rata part of the
reserve balances reduced by the app's withdraw fee**: `x·ps·10^18 ≤ rx·pc·(10^18 − WithdrawFeeRate)`, same for `y`;
the pool coin is either burnt (success) or refunded (failure: nothing is paid). For every execution. -/
theorem keeper_withdraw_at_most_prorata_minus_fee {fee : Dec} {p : KPool} {pc : Int} {o : WdrOut} (hp : KInv p)
    (hpc : 0 ≤ pc) (hle : pc ≤ p.ps) (hf0 : 0 ≤ fee) (hf1 : fee ≤ Dec.one) (hne : pc ≠ p.ps)
    (h : execWithdraw fee p pc = some o) :
    (0 ≤ o.x ∧ o.x * p.ps * Dec.P ≤ p.rx * pc * (Dec.P - fee)) ∧
    (0 ≤ o.y ∧ o.y * p.ps * Dec.P ≤ p.ry * pc * (Dec.P - fee)) ∧
    o.burn + o.rfpc = pc ∧ (o.status = .failed → o.x = 0 ∧ o.y = 0 ∧ o.burn = 0) ∧ (o.status = .succeeded → o.burn = pc) := by
  obtain ⟨hrx, hry, hps⟩ := hp
  rcases execWithdraw_cases h with ⟨dis, rfl⟩ | ⟨hd, hdep, x, y, hw, _, _, _, _, _, rfl⟩
  · exact ⟨atMostProrata_zero hrx hpc hf1, atMostProrata_zero hry hpc hf1, Int.zero_add pc, fun _ => ⟨rfl, rfl, rfl⟩, nofun⟩
  · obtain ⟨a, b⟩ := withdraw_at_most_prorata (withdrawDom ⟨hrx, hry, hps⟩ hdep hpc hle hf0 hf1) hne hw
    exact ⟨a, b, Int.add_zero pc, nofun, fun _ => rfl⟩

/-- **Keeper level: redeeming the last outstanding pool coins pays out the entire reserve balances**, burns the whole
supply and disables the pool (whatever the fee rate). -/
theorem keeper_last_share_gets_all {fee : Dec} {p : KPool} (hp : KInv p) (hd : p.disabled = false)
    (hdep : isDepleted p = some false) :
    execWithdraw fee p p.ps =
      some { status := .succeeded, x := p.rx, y := p.ry, burn := p.ps, rfpc := 0, disable := true } ∧
    ∀ o, execWithdraw fee p p.ps = some o →
      (applyWdr p o).rx = 0 ∧ (applyWdr p o).ry = 0 ∧ (applyWdr p o).ps = 0 ∧ (applyWdr p o).disabled = true := by
  obtain ⟨hrx, hry, _⟩ := hp
  obtain ⟨_, hr, _⟩ := isDepleted_false hdep
  have e : execWithdraw fee p p.ps =
      some { status := .succeeded, x := p.rx, y := p.ry, burn := p.ps, rfpc := 0, disable := true } := by
    unfold execWithdraw
    rw [hd, hdep, last_share_gets_all]
    have h1 : ¬ (p.rx = 0 ∧ p.ry = 0) := by omega
    have h2 : ¬ (p.rx < 0 ∨ p.ry < 0) := by omega
    simp [h1, h2]
  refine ⟨e, fun o ho => ?_⟩
  rw [e] at ho
  have := Option.some.inj ho
  subst this
  simp [applyWdr]

/-- **No execution gets stuck once the pool object can be built**: with non-negative balances, a non-negative offer / a request
of at most the supply and a fee rate in [0,1], `ExecuteDepositRequest` and `ExecuteWithdrawRequest` return normally whenever
`isDepleted p ≠ none` (always for a basic pool, `keeper_exec_total_basic`; for a ranged pool unless `DeriveTranslation` panics). -/
theorem keeper_exec_total {fee : Dec} {p : KPool} {x y pc : Int} (hp : KInv p) (hx : 0 ≤ x) (hy : 0 ≤ y)
    (hpc : 0 ≤ pc) (hle : pc ≤ p.ps) (hf0 : 0 ≤ fee) (hf1 : fee ≤ Dec.one) (hb : isDepleted p ≠ none) :
    (∃ o, execDeposit p x y = some o) ∧ (∃ o, execWithdraw fee p pc = some o) := by
  refine ⟨execDeposit_total hb fun hdep => ?_, execWithdraw_total hb fun hdep => ?_⟩
  · have hdom := depositDom hp hdep hx hy
    obtain ⟨⟨ax, ay, m⟩, hd⟩ := deposit_total hdom
    obtain ⟨⟨a1, a2⟩, ⟨b1, b2⟩, c⟩ := deposit_takes_at_most_offered hdom hd
    exact ⟨ax, ay, m, hd, c, a1, a2, b1, b2⟩
  · have hdom := withdrawDom hp hdep hpc hle hf0 hf1
    obtain ⟨⟨wx, wy⟩, hw⟩ := withdraw_total (rx := p.rx) (ry := p.ry) (pc := pc) (fee := fee) (isDepleted_false hdep).1
    obtain ⟨_, _, c, d⟩ := reserves_per_share_nondecreasing_withdraw hdom hw
    obtain ⟨⟨x0, _⟩, y0, _⟩ := withdraw_rate hdom hw
    exact ⟨wx, wy, hw, x0, c, y0, d⟩

/-- No execution gets stuck on a BASIC pool (its `AMMPool` constructor cannot fail). -/
theorem keeper_exec_total_basic {fee : Dec} {p : KPool} {x y pc : Int} (hb : p.ranged = false) (hp : KInv p)
    (hx : 0 ≤ x) (hy : 0 ≤ y) (hpc : 0 ≤ pc) (hle : pc ≤ p.ps) (hf0 : 0 ≤ fee) (hf1 : fee ≤ Dec.one) :
    (∃ o, execDeposit p x y = some o) ∧ (∃ o, execWithdraw fee p pc = some o) := by
  obtain ⟨b, e⟩ := isDepleted_basic_some hb
  exact keeper_exec_total hp hx hy hpc hle hf0 hf1 (by rw [e]; simp)

/-- the side conditions of one operation on the pool as it is then: offers / donations are non-negative, the pool
coin of a withdraw request (held in escrow) is part of the supply -/
def opOk (p : KPool) : Op → Prop
  | .dep x y => 0 ≤ x ∧ 0 ≤ y
  | .wdr pc => 0 ≤ pc ∧ pc ≤ p.ps
  | .donate dx dy => 0 ≤ dx ∧ 0 ≤ dy

instance (p : KPool) (o : Op) : Decidable (opOk p o) := by
  cases o <;> unfold opOk <;> infer_instance

def opsOk (fee : Dec) (p : KPool) : List Op → Prop
  | [] => True
  | o :: os => opOk p o ∧ opsOk fee (stepOrStay fee p o) os

/-- every case is a move of the pool with its rate law -/
theorem keeper_step {fee : Dec} {p : KPool} {op : Op} (hp : KInv p) (hf0 : 0 ≤ fee) (hf1 : fee ≤ Dec.one)
    (hok : opOk p op) :
    KInv (stepOrStay fee p op) ∧ (p.ps = 0 → (stepOrStay fee p op).ps = 0) ∧
    PerShareGe (depOps [op]) p (stepOrStay fee p op) := by
  rcases stepOrStay_cases fee p op with e | e
  · rw [e]; exact ⟨hp, fun h => h, perShareGe_refl _ hp⟩
  generalize stepOrStay fee p op = q at e ⊢
  have ⟨hrx, hry, hps⟩ := hp
  cases op with
  | dep x y =>
    simp only [stepOp, Option.map_eq_some_iff] at e
    obtain ⟨o, hd, rfl⟩ := e
    obtain ⟨⟨_, _, ⟨a0, _⟩, ⟨b0, _⟩, m0⟩, _, r1, r2⟩ := keeper_deposit_laws hp hok.1 hok.2 hd
    refine ⟨⟨Int.add_nonneg hrx a0, Int.add_nonneg hry b0, Int.add_nonneg hps m0⟩, fun hz => ?_,
      perShareGe_one_of_move hp m0 rfl rfl rfl r1 r2⟩
    rcases execDeposit_cases hd with ⟨dis, rfl⟩ | ⟨_, hdep, _⟩
    · exact (Int.add_zero _).trans hz
    · exact absurd hz (isDepleted_false hdep).1
  | wdr pc =>
    simp only [stepOp, Option.map_eq_some_iff] at e
    obtain ⟨o, hd, rfl⟩ := e
    rcases execWithdraw_cases hd with ⟨dis, rfl⟩ | ⟨_, hdep, x, y, hw, _, _, _, hx1, hy1, rfl⟩
    · exact ⟨⟨Int.sub_nonneg_of_le hrx, Int.sub_nonneg_of_le hry, Int.sub_nonneg_of_le hps⟩,
        fun hz => (Int.sub_zero _).trans hz,
        perShareGe_zero_of_unmove rfl rfl rfl (by show (0:Int) * p.ps ≤ p.rx * 0; omega)
          (by show (0:Int) * p.ps ≤ p.ry * 0; omega)⟩
    · obtain ⟨⟨_, a⟩, _, b⟩ := withdraw_rate (withdrawDom hp hdep hok.1 hok.2 hf0 hf1) hw
      have hpc0 : 0 ≤ pc := hok.1
      have hpcle : pc ≤ p.ps := hok.2
      exact ⟨⟨Int.sub_nonneg_of_le hx1, Int.sub_nonneg_of_le hy1, Int.sub_nonneg_of_le hpcle⟩,
        fun hz => by show p.ps - pc = 0; omega, perShareGe_zero_of_unmove rfl rfl rfl a b⟩
  | donate dx dy =>
    cases e
    obtain ⟨hx, hy⟩ := hok
    exact ⟨⟨Int.add_nonneg hrx hx, Int.add_nonneg hry hy, hps⟩, fun h => h,
      perShareGe_zero_of_move (ds := 0) rfl rfl (Int.add_zero _).symm
        (by rw [Int.mul_zero]; exact Int.mul_nonneg hx hps) (by rw [Int.mul_zero]; exact Int.mul_nonneg hy hps)⟩

/-- **Keeper level: reserves per outstanding share never decrease over ANY sequence of executed deposit and
withdraw requests (and donations to the reserve address)** on a pool — basic or ranged, from the batch or inside a
transaction, including failed and aborted executions: after a history with `k` deposit requests
`(1 − 10^-17)^k · r₀/ps₀ ≤ rₙ/psₙ` for both coins (cross-multiplied), balances and supply stay non-negative. -/
theorem keeper_reserves_per_share_nondecreasing {fee : Dec} (hf0 : 0 ≤ fee) (hf1 : fee ≤ Dec.one) :
    ∀ (ops : List Op) (p : KPool), KInv p → opsOk fee p ops →
      KInv (runOps fee p ops) ∧ (p.ps = 0 → (runOps fee p ops).ps = 0) ∧
      PerShareGe (depOps ops) p (runOps fee p ops) := by
  intro ops
  induction ops with
  | nil => intro p hp _; exact ⟨hp, fun h => h, perShareGe_refl _ hp⟩
  | cons op os ih =>
    intro p hp hok
    obtain ⟨h1, h2⟩ := hok
    obtain ⟨kq, zq, sq⟩ := keeper_step hp hf0 hf1 h1
    obtain ⟨kr, zr, sr⟩ := ih _ kq h2
    refine ⟨kr, fun h => zr (zq h), ?_⟩
    have e : depOps (op :: os) = depOps [op] + depOps os := by
      cases op with
      | dep x y => simp [depOps]; omega
      | wdr pc => simp [depOps]
      | donate dx dy => simp [depOps]
    rw [e]
    exact perShareGe_trans hp.2.2 kq.2.2 kr sq sr zr

/-- the operations pool `id` undergoes in one batch: its deposit requests, then its withdraw requests -/
def batchOps (id : Nat) (deps : List DepReq) (wdrs : List WdrReq) : List Op :=
  ((deps.filter (fun r => r.pool = id)).map (fun r => Op.dep r.x r.y)) ++
  ((wdrs.filter (fun r => r.pool = id)).map (fun r => Op.wdr r.pc))

/-- **The end-block batch, pool by pool**: after `ExecuteRequests` every pool of the app is in the state reached by
executing exactly its own pending deposit requests and then its own pending withdraw requests, in store order, each
on the balances left by the previous one — hence (by `keeper_reserves_per_share_nondecreasing`) its reserves per
share did not decrease, whatever the other pools' requests were. -/
theorem keeper_batch_reserves_per_share {fee : Dec} (hf0 : 0 ≤ fee) (hf1 : fee ≤ Dec.one)
    {pools pools' : List KPool} {deps : List DepReq} {wdrs : List WdrReq} {dos : List DepOut} {wos : List WdrOut}
    {id : Nat} {p : KPool}
    (h : execRequests fee pools deps wdrs = some (pools', dos, wos)) (hf : findPool pools id = some p)
    (hp : KInv p) (hok : opsOk fee p (batchOps id deps wdrs)) :
    ∃ q, findPool pools' id = some q ∧ q = runOps fee p (batchOps id deps wdrs) ∧ KInv q ∧
      PerShareGe (depOps (batchOps id deps wdrs)) p q :=
  let ⟨k, _, s⟩ := keeper_reserves_per_share_nondecreasing hf0 hf1 _ p hp hok
  ⟨_, execRequests_project h hf, rfl, k, s⟩

/-- `MsgDepositAndFarm`: the message succeeds only with a SUCCEEDED execution of its own deposit request on the
pool's current balances; the pool moves by exactly that execution (so every deposit law above applies), all other
pools are untouched; otherwise nothing changes at all. -/
theorem keeper_deposit_and_farm {pools pools' : List KPool} {pool : Nat} {bx bY x y : Int} {o : DepOut}
    (h : depositAndFarm pools pool bx bY x y = some (pools', o)) :
    ∃ p, findPool pools pool = some p ∧ p.disabled = false ∧ execDeposit p x y = some o ∧ o.status = .succeeded ∧
      0 < o.mint ∧ x ≤ bx ∧ y ≤ bY ∧ pools' = setPool pools (applyDep p o) := by
  unfold depositAndFarm at h
  obtain ⟨hok, h⟩ := Option.ite_none_right_eq_some.mp h
  match_ok hp : findPool pools pool with p at h
  match_ok ho : execDeposit p x y with o' at h
  obtain ⟨hs, h⟩ := Option.ite_none_right_eq_some.mp h
  cases h
  unfold msgDepositOk at hok
  rw [hp] at hok
  simp only [Bool.and_eq_true, Bool.not_eq_true', decide_eq_true_eq] at hok
  -- `match_ok` has turned the goal's `findPool pools pool` into `some p` as well: hence the first `rfl`
  exact ⟨p, rfl, hok.1.1.1.1, ho, hs.1, hs.2, hok.1.2, hok.2, rfl⟩

/-- `MsgUnfarmAndWithdraw`: a message that goes through executed its own withdraw request of exactly the unfarmed
amount (`0 < pc ≤ farmed`) on the pool's current balances with the app's fee rate (so every withdraw law above
applies); a failed execution leaves reserves and supply unchanged (on a depleted pool it disables the pool). -/
theorem keeper_unfarm_and_withdraw {fee : Dec} {pools pools' : List KPool} {pool : Nat} {farmed pc : Int} {o : WdrOut}
    (h : unfarmAndWithdraw fee pools pool farmed pc = some (pools', o)) :
    ∃ p, findPool pools pool = some p ∧ p.disabled = false ∧ 0 < pc ∧ pc ≤ farmed ∧ execWithdraw fee p pc = some o ∧
      pools' = setPool pools (applyWdr p o) := by
  unfold unfarmAndWithdraw at h
  match_ok hp : findPool pools pool with p at h
  obtain ⟨hg, h⟩ := Option.ite_none_left_eq_some.mp h
  match_ok ho : execWithdraw fee p pc with o' at h
  cases h
  -- first `rfl`: as in `keeper_deposit_and_farm`
  exact ⟨p, rfl, Bool.eq_false_iff.mpr fun e => hg (.inr (.inr e)), by omega, by omega, ho, rfl⟩

def exPool : KPool := { id := 1, ranged := false, minP := 0, maxP := 0, disabled := false, rx := 1000000, ry := 3000000, ps := 2000 }

example : KInv exPool ∧ execDeposit exPool 500 1600 =
    some { status := .succeeded, ax := 500, ay := 1500, mint := 1, rfx := 0, rfy := 100, disable := false } := by
  decide +kernel
example : execDeposit exPool 0 1600 = some (depFail 0 1600 false) := by
  decide +kernel
/-- fee 10 %: 300 of 2000 pool coins pay 135000 / 405000 (pro rata 150000 / 450000) -/
example : execWithdraw 100000000000000000 exPool 300 =
    some { status := .succeeded, x := 135000, y := 405000, burn := 300, rfpc := 0, disable := false } := by
  decide +kernel
example : isDepleted exPool = some false ∧ execWithdraw 100000000000000000 exPool 2000 =
    some { status := .succeeded, x := 1000000, y := 3000000, burn := 2000, rfpc := 0, disable := true } := by
  decide +kernel
/-- a history: deposit, withdraw with fee, donation, last share; its side conditions hold -/
example : opsOk 100000000000000000 exPool [.dep 500 1600, .wdr 300, .donate 7 0, .wdr 1701] ∧
    runOps 100000000000000000 exPool [.dep 500 1600, .wdr 300, .donate 7 0, .wdr 1701] =
      { exPool with rx := 0, ry := 0, ps := 0, disabled := true } := by
  refine ⟨⟨by decide +kernel, by decide +kernel, by decide +kernel, by decide +kernel, trivial⟩, by decide +kernel⟩
/-- a batch over two pools: pool 2's request does not touch pool 1 -/
example : (execRequests 100000000000000000 [exPool, { exPool with id := 2 }]
      [⟨1, 1, 0, 500, 1600⟩, ⟨2, 1, 1, 1000, 3000⟩] [⟨1, 1, 0, 300⟩]).map (fun r => r.1.map (fun p => (p.id, p.rx, p.ry, p.ps)))
    = some [(1, 865501, 2596501, 1701), (2, 1001000, 3003000, 2002)] := by
  decide +kernel
/-- `MsgDepositAndFarm` goes through with a positive mint, fails on a failed request; `MsgUnfarmAndWithdraw` pays as the batch would -/
example : (depositAndFarm [exPool] 1 1000 2000 500 1600).map (fun r => r.2.mint) = some 1 := by
  decide +kernel
example : depositAndFarm [exPool] 1 1000 2000 0 1600 = none := by
  decide +kernel
example : (unfarmAndWithdraw 100000000000000000 [exPool] 1 400 300).map (fun r => (r.2.x, r.2.y)) = some (135000, 405000) := by
  decide +kernel
/-- a ranged pool at the lower edge of its range (only base coin): a deposit takes only the base coin -/
def exRanged : KPool :=
  { id := 3, ranged := true, minP := 1000000000000000000, maxP := 4000000000000000000, disabled := false,
    rx := 0, ry := 1000000, ps := 1000 }
example : execDeposit exRanged 777 5000 =
    some { status := .succeeded, ax := 0, ay := 5000, mint := 5, rfx := 777, rfy := 0, disable := false } := by
  decide +kernel

end Keeper

/-- An accepted `CreateRangedPool` had an admissible price triple (what "admissible" means in the property),
and the pool remembers exactly that range. -/
theorem create_ok_implies_admissible {x y : Int} {minP maxP initP : Dec} {p : RPool}
    (h : createRangedPool x y minP maxP initP = .ok (some p)) :
    (0 < x ∨ 0 < y) ∧ minPoolPrice ≤ minP ∧ minP < maxP ∧ maxP ≤ maxPoolPrice ∧ minP ≤ initP ∧ initP ≤ maxP ∧
    minGapRatio ≤ Dec.quo (Dec.sub maxP minP) minP ∧ p.minP = minP ∧ p.maxP = maxP := by
  obtain ⟨a, v, m1, m2⟩ := createRangedPool_ok h
  obtain ⟨_, b1, b2, b3, b4, b5, b6⟩ := validate_ok_true v
  exact ⟨a, b1, b3, b2, b4, b5, b6, m1, m2⟩

/-- **The price-range clause is FALSE of the code** — everyday prices, an on-tick admissible triple
(min 3.2, max 3.2032, initial 3.2), a y-only deposit of 65 721 122: the created pool's price is
3.199999999999999999 < 3.2 = minPrice. -/
theorem ranged_price_in_range_counterexample :
    createdReserves 0 65721122 3200000000000000000 3203200000000000000 3200000000000000000 = some (0, 65721122) ∧
    createdPrice 0 65721122 3200000000000000000 3203200000000000000 3200000000000000000 = some 3199999999999999999 ∧
    ¬ PriceInRange 3200000000000000000 3203200000000000000 3199999999999999999 := by
  decide +kernel

/-- The price-range clause fails above the maximum as well: min 0.000089, max 8.9, initial 8.9, x-only pool: price 8.900000000000000001. -/
theorem ranged_price_above_max_counterexample :
    createdReserves 25435609390 11 89000000000000 8900000000000000000 8900000000000000000 = some (25435609390, 0) ∧
    createdPrice 25435609390 11 89000000000000 8900000000000000000 8900000000000000000 = some 8900000000000000001 ∧
    ¬ PriceInRange 89000000000000 8900000000000000000 8900000000000000001 := by
  decide +kernel

/-- The price-range clause fails by more than one ulp: at prices near the upper module bound (min 4.603·10^19, max 10^20, initial
4.7485·10^19, all on ticks; offer 6.6·10^19 / 8.9·10^31) the pool is created with reserves (6.6·10^19, 28) and its
price is 6.83·10^18 — 85 % below minPrice (`1/sqrt(P)` has only 8 significant digits there). -/
theorem ranged_price_far_below_min_counterexample :
    createdReserves 66000000000000000000 89000000000000000000000000000000
        46030000000000000000000000000000000000 100000000000000000000000000000000000000
        47485000000000000000000000000000000000 = some (66000000000000000000, 28) ∧
    createdPrice 66000000000000000000 89000000000000000000000000000000
        46030000000000000000000000000000000000 100000000000000000000000000000000000000
        47485000000000000000000000000000000000 = some 6829975878090043315189425532011435350 ∧
    (6829975878090043315189425532011435350 : Int) * 100 < 15 * 46030000000000000000000000000000000000 := by
  decide +kernel

/-- **What does hold (partial).** For every ranged pool record built by `NewRangedPool` (any reserves, any
range) whose translation is non-negative with `transY > 0`, the price lies between the prices of the two
single-asset end points of the pool's OWN translated curve:
`transX/(ry+transY) ≤ price ≤ (rx+transX)/transY` (in `Dec` arithmetic, with `Quo`'s rounding).
MISSING for the full clause: `transX/(ry_max+transY) = minPrice` and `(rx_max+transX)/transY = maxPrice`; these
hold only approximately (`approxSqrt`, `Quo`, `Mul` roundings), see the counterexamples above. -/
theorem ranged_price_between_curve_endpoints_partial {rx ry ps : Int} {minP maxP : Dec} {p : RPool} {v : Dec}
    (hp : newRangedPool rx ry ps minP maxP = .ok p) (hrx : 0 ≤ rx) (hry : 0 ≤ ry)
    (htx : 0 ≤ p.transX) (hty : 0 < p.transY) (hv : rangedPrice p = .ok v) :
    Dec.quo p.transX p.yComp ≤ v ∧ v ≤ Dec.quo p.xComp p.transY := by
  obtain ⟨tx, ty, _, rfl⟩ := newRangedPool_ok hp
  exact rangedPrice_in_box hv htx hty hrx (Int.le_refl rx) hry (Int.le_refl ry)

/-- non-vacuity of the partial theorem: a real two-sided pool (reserves 10^12 / 10^12, range [1, 4]) -/
example : (match newRangedPool 1000000000000 1000000000000 1000000000000 1000000000000000000 4000000000000000000 with
    | .ok p => decide (0 ≤ p.transX ∧ 0 < p.transY) && (match rangedPrice p with | .ok v => decide (PriceInRange p.minP p.maxP v) | _ => false)
    | _ => false) = true := by
  decide +kernel

/-! ### Ranged pools under swaps: `SetBalances(rx, ry, derive)`

Within one batch `PoolBuyOrders` / `PoolSellOrders` walk a clone of the pool through the ticks with
`SetBalances(rx, ry, derive = false)`: the translation `(transX, transY)` is KEPT, only the reserves move.  With
`derive = true` (the first catch-up order of a batch; and, through `NewRangedPool`, every construction of the pool
object from the bank balances — i.e. every later block) the translation is recomputed from the new reserves. -/

/-- **With the translation kept, a ranged pool's price stays between the prices of the two ends of its own curve
for EVERY reserve pair in the box the swaps can reach**: if the reserves stay within `0 ≤ rx ≤ X`, `0 ≤ ry ≤ Y`
(`X`, `Y` the reserves of the all-quote / all-base end), then
`transX/(Y + transY) ≤ price(rx, ry) ≤ (X + transX)/transY` (in `Dec` arithmetic, `Quo`'s roundings included).
The two bounds are constants of the pool as long as `derive = false`. -/
theorem ranged_price_within_endpoints_fixed_translation {p q : RPool} {rx ry X Y : Int} {v : Dec}
    (htx : 0 ≤ p.transX) (hty : 0 < p.transY) (hrx : 0 ≤ rx) (hX : rx ≤ X) (hry : 0 ≤ ry) (hY : ry ≤ Y)
    (hs : setBalances p rx ry false = .ok q) (hv : rangedPrice q = .ok v) :
    Dec.quo p.transX (Dec.add (toDec Y) p.transY) ≤ v ∧ v ≤ Dec.quo (Dec.add (toDec X) p.transX) p.transY := by
  cases setBalances_fixed_ok hs
  exact rangedPrice_in_box hv htx hty hrx hX hry hY

/-- with the translation kept the price moves WITH the swap: when the pool buys base coin (quote reserve down, base
reserve up) its price does not rise, when it sells it does not fall -/
theorem ranged_price_monotone_fixed_translation {p q q' : RPool} {rx ry rx' ry' : Int} {v v' : Dec}
    (htx : 0 ≤ p.transX) (hty : 0 < p.transY) (hrx' : 0 ≤ rx') (hle : rx' ≤ rx) (hry : 0 ≤ ry) (hge : ry ≤ ry')
    (hs : setBalances p rx ry false = .ok q) (hv : rangedPrice q = .ok v)
    (hs' : setBalances p rx' ry' false = .ok q') (hv' : rangedPrice q' = .ok v') : v' ≤ v := by
  cases setBalances_fixed_ok hs
  cases setBalances_fixed_ok hs'
  have hP := Dec.P_pos
  rw [rangedPrice_ok hv, rangedPrice_ok hv']
  exact quo_shift_mono htx hty (Int.mul_nonneg hrx' (Int.le_of_lt hP)) (Int.mul_le_mul_of_nonneg_right hle (Int.le_of_lt hP))
    (Int.mul_nonneg hry (Int.le_of_lt hP)) (Int.mul_le_mul_of_nonneg_right hge (Int.le_of_lt hP))

/-- **Re-derivation forgets the pool's history**: `SetBalances(rx, ry, derive = true)` yields exactly the pool
`NewRangedPool(rx, ry, ps, minPrice, maxPrice)` builds from the reserves alone — whatever translation the pool had. So
the price the chain sees in the next block is a function of `(rx, ry, minPrice, maxPrice)` only, and the price-range
clause for chain states is the clause for `newRangedPool` on the reachable reserves (where D15's witnesses live). -/
theorem rederive_is_fresh_pool (p : RPool) (rx ry : Int) :
    setBalances p rx ry true = newRangedPool rx ry p.ps p.minP p.maxP :=
  setBalances_derive p rx ry

/-- **Exactly when re-derivation moves the curve (the D15 mechanism)**: at the same reserves, `derive = true` gives
the same pool as `derive = false` — same translation, hence the same two end points — if and only if the kept
translation is a FIXED POINT of `DeriveTranslation` at those reserves.  (`rederive_moves_endpoint_counterexample`: it
is not, even for reserves on the pool's own curve.) -/
theorem rederive_same_iff_translation_fixpoint {p q q' : RPool} {rx ry : Int}
    (hf : setBalances p rx ry false = .ok q) (hd : setBalances p rx ry true = .ok q') :
    q' = q ↔ deriveTranslation rx ry p.minP p.maxP = .ok (p.transX, p.transY) := by
  cases setBalances_fixed_ok hf
  obtain ⟨tx, ty, dt, rfl⟩ := newRangedPool_ok ((setBalances_derive p rx ry).symm.trans hd)
  rw [dt]
  -- two records on curves through the same reserves: equal iff the translations are
  exact ⟨fun e => congrArg (fun r : RPool => (.ok (r.transX, r.transY) : M (Dec × Dec))) e, fun e => by cases e; rfl⟩

def priceOf (q : M RPool) : Option Dec :=
  match q with
  | .ok r => (match rangedPrice r with | .ok v => some v | .error _ => none)
  | .error _ => none

/-- **Re-derivation moves an end point (D15 mechanism, concrete).**  Range [3.2, 3.2032]; the pool built from reserves
(1 000 000, 300 000) has price 3.2016….  Walk it along its OWN curve to the all-base end (0, 612 420) with the
translation kept: price 3.200000000914… — inside the range.  Re-derive the translation at the very same reserves (what
the next block does): price 3.199999999999999999 — below `minPrice`. -/
theorem rederive_moves_endpoint_counterexample :
    ∃ p0, newRangedPool 1000000 300000 1 3200000000000000000 3203200000000000000 = .ok p0 ∧
      priceOf (setBalances p0 0 612420 false) = some 3200000000914497119 ∧
      PriceInRange 3200000000000000000 3203200000000000000 3200000000914497119 ∧
      priceOf (setBalances p0 0 612420 true) = some 3199999999999999999 ∧
      ¬ PriceInRange 3200000000000000000 3203200000000000000 3199999999999999999 := by
  refine ⟨_, rfl, ?_, ?_, ?_, ?_⟩ <;> decide +kernel

/-- non-vacuity of `ranged_price_monotone_fixed_translation`: the pool bought base coin (quote 1 000 000 → 500 000, base
300 000 → 456 000), its price fell from 3.201631… to 3.200816… -/
example : (match newRangedPool 1000000 300000 1 3200000000000000000 3203200000000000000 with
    | .ok p => decide (priceOf (setBalances p 1000000 300000 false) = some 3201631849758840253) &&
        decide (priceOf (setBalances p 500000 456000 false) = some 3200816369783903229)
    | _ => false) = true := by
  decide +kernel

/-- non-vacuity: the fixed-translation theorems apply to that pool (translation positive), and the bounds of
`ranged_price_within_endpoints_fixed_translation` for the box [0, 1960724] × [0, 612420] are its two end-point prices -/
example : (match newRangedPool 1000000 300000 1 3200000000000000000 3203200000000000000 with
    | .ok p => decide (0 ≤ p.transX ∧ 0 < p.transY) &&
        (priceOf (setBalances p 500000 456000 false)).isSome &&
        decide (Dec.quo p.transX (Dec.add (toDec 612420) p.transY) = 3200000000914497119) &&
        decide (Dec.quo (Dec.add (toDec 1960724) p.transX) p.transY = 3203199999388915652)
    | _ => false) = true := by
  decide +kernel

end Comdex.C06
