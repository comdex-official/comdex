import Comdex.Lemmas.TwaSpec
import Comdex.Lemmas.ListSum
/-!
# C17 — Oracle price averaging is exact and activates only on a full window

Property clause → theorem
* "never indexes outside its window or panics for any sample sequence"      → `C17.no_panic`
  (with `C17.latest_price_in_bounds` for the reader `GetLatestPrice`)
* "published time-weighted price equals the integer mean of the most recent N samples"
                                                                              → `C17.refines_spec` + `C17.active_mean`
* "becomes active only after N positive samples have been received"          → `C17.active_only_after_N_positive`
* "a zero sample deactivates the price until fresh data arrives"             → `C17.zero_sample_deactivates`,
                                                                                `C17.positive_sample_reactivates_full_window`
* "consumers asking for the value of an asset with an inactive price get an error" → `C17.inactive_valuation_refused`
* the mean of `N` values below a bound `B` is below `B` (`B = 2⁶⁴`: it fits the `uint64` it is stored in; stated for any list,
  not tied to the stored record)                                              → `C17.mean_fits_word`

The history-level refinement (`run_refines`) and the lemmas on the specification these rest on are in `Lemmas/TwaSpec.lean`.
All statements quantify over every window size `N ≥ 1`, every accepted-height gap `acc`, every
finite op list (`sample rate height` with `height > 0`, `discardAll`, `deactivate`) from the empty store.

* the premise "for a FIXED window size N": on the chain N and the gap are (re)installed by governance; every installation
  deletes every stored window, so every maximal stretch between two installations is such an op list from the empty
  store                                                   → `Props/C17Reconf.lean` (`every_segment_is_a_fresh_run`,
                                                             `no_oob_across_reconfigurations`, `activation_needs_N_fresh_positive`, …)
* how the chain produces the sample sequences of all assets → `Props/C17Feed.lean`, `C17.chain_window_history` (in `Props/C17Reconf.lean`)
* the last clause per real consumer                        → `C17.strict_readers_fail_closed` (there too; finding D35)
-/
namespace Comdex.C17
open Comdex.Twa

/-- **No panic, no out-of-window index**: every op sequence from the empty store runs to completion. -/
theorem no_panic (N : Nat) (hN : N ≥ 1) (acc : Int) (ops : List Op) (hh : HeightsPos ops) :
    ∃ s', run N acc none ops = .ok s' ∧ WfO N s' :=
  let ⟨s', h, w, _⟩ := run_refines N hN acc ops none trivial hh; ⟨s', h, w⟩

/-- **Refinement**: what is stored is, observably, the sliding-window specification. -/
theorem refines_spec (N : Nat) (hN : N ≥ 1) (acc : Int) (ops : List Op) (hh : HeightsPos ops) :
    ∃ s', run N acc none ops = .ok s' ∧ abs s' = specRun N acc Spec.init ops :=
  let ⟨s', h, _, a⟩ := run_refines N hN acc ops none trivial hh; ⟨s', h, a⟩

/-- **Mean**: whenever the stored price is active, the published value is `⌊Σ window / N⌋` over a
window of exactly `N` samples, where `window` is (by `refines_spec`) the last `N` positive samples. -/
theorem active_mean (N : Nat) (hN : N ≥ 1) (acc : Int) (ops : List Op) (hh : HeightsPos ops) :
    ∃ s', run N acc none ops = .ok s' ∧
      ((abs s').active = true → (abs s').window.length = N ∧ (abs s').twa = (abs s').window.sum / N) :=
  let ⟨s', h, w, _⟩ := run_refines N hN acc ops none trivial hh; ⟨s', h, w.abs_active⟩

/-- **Activation needs a full window of positive samples.** -/
theorem active_only_after_N_positive (N : Nat) (hN : N ≥ 1) (acc : Int) (ops : List Op)
    (hh : HeightsPos ops) :
    ∃ s', run N acc none ops = .ok s' ∧ ((abs s').active = true → countPos ops ≥ N) :=
  let ⟨s', h, w, a⟩ := run_refines N hN acc ops none trivial hh; ⟨s', h, active_count N acc ops w a⟩

/-- **A zero sample deactivates**, from any reachable (well-formed) stored state. -/
theorem zero_sample_deactivates (N : Nat) (hN : N ≥ 1) (acc : Int) (s : Option Rec) (hwf : WfO N s)
    (h : Int) (hpos : h > 0) :
    ∃ s', step N acc s (.sample 0 h) = .ok s' ∧ (abs s').active = false := by
  obtain ⟨s', hs, -, ha⟩ := step_refines N hN acc s (.sample 0 h) hwf (fun r h' e => by cases e; exact hpos)
  refine ⟨s', hs, ?_⟩
  -- on the specification a zero sample switches the price off, unless a discard is pending (or nothing is stored)
  rw [ha]
  simp only [Spec.step, Spec.sample, if_true]
  split
  · rfl
  · next hk =>
    cases s with
    | none => rfl
    | some r => exact (show Wf N r from hwf).inactive (by simpa [abs] using hk)

/-- **Reactivation as configured**: a positive sample on a full window republishes the mean at once
(within the accepted gap the window is kept; beyond it the window restarts from this sample). -/
theorem positive_sample_reactivates_full_window (N : Nat) (acc : Int) (s : Spec) (rate : Nat)
    (h : Int) (hr : rate > 0) :
    let s' := s.sample N acc rate h
    (s'.window.length = N → s'.active = true ∧ s'.twa = s'.window.sum / N) ∧
    (s.discarded > 0 → ¬ (h - s.discarded < acc) → s'.window = lastN N [rate]) := by
  have hr0 : ¬ rate = 0 := by omega
  refine ⟨?_, ?_⟩
  · intro hl
    simp only [Spec.sample, hr0, if_false, Spec.push] at hl ⊢
    split
    · exact ⟨rfl, rfl⟩
    · next hw => simp only [hw, if_false] at hl
  · intro hd hg
    simp only [Spec.sample, hr0, if_false, Spec.push, Spec.resume, hd, hg, if_true]
    split <;> simp

/-- **Fail-closed valuation**: a consumer gets a value iff the price is active. -/
theorem inactive_valuation_refused (s : Option Rec) :
    valuation s = none ↔ (abs s).active = false := by
  cases s with
  | none => simp [valuation, abs, Spec.init]
  | some r => by_cases h : r.active <;> simp [valuation, abs, h]

/-- `GetLatestPrice` never indexes outside the window on a reachable record. -/
theorem latest_price_in_bounds (N : Nat) (s : Option Rec) (hwf : WfO N s) :
    ∃ v, latestPrice s = .ok v := by
  cases s with
  | none => exact ⟨none, rfl⟩
  | some r =>
    have hwf : Wf N r := hwf
    by_cases ha : r.active = true
    · have hlen := hwf.active_full ha
      have hi : r.idx < r.values.length := hlen ▸ hwf.idx_lt hlen
      exact ⟨some r.values[r.idx], by simp [latestPrice, ha, List.getElem?_eq_getElem hi]⟩
    · exact ⟨none, by simp [latestPrice, ha]⟩

/-- The published mean fits the machine word the samples came from. -/
theorem mean_fits_word (B N : Nat) (hN : N ≥ 1) (w : List Nat) (hl : w.length = N)
    (hb : ∀ x ∈ w, x < B) : w.sum / N < B := by
  have := ListSum.sum_add_length_le B w hb
  rw [hl] at this
  exact (Nat.div_lt_iff_lt_mul (by omega)).mpr (by omega)

example : run 3 5 none [.sample 10 1, .sample 20 2, .sample 33 3, .sample 40 4] =
    .ok (some { values := [40, 20, 33], idx := 1, twa := 31, active := true, discarded := -1 }) := by
  rfl
example : HeightsPos [.sample 10 1, .sample 0 2, .sample 7 9] := by
  intro op ho r h e; simp at ho; rcases ho with rfl | rfl | rfl <;> cases e <;> decide
example : (specRun 2 5 Spec.init [.sample 10 1, .sample 20 2, .sample 0 3, .sample 8 9]).window = [8] := by
  decide +kernel
example : run 1 5 none [.sample 10 1, .sample 20 2] =
    .ok (some { values := [20], idx := 0, twa := 20, active := true, discarded := -1 }) := by rfl

end Comdex.C17
