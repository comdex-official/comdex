import Comdex.Gen.Pure
import Comdex.Lemmas.PurePool
/-!
# C06 — the pool share arithmetic of the model IS the arithmetic of the current Go source

`Gen.Pure.ammWithdraw`, `Gen.Pure.ammDeposit`, `Gen.Pure.ammInitialPoolCoinSupply` are regenerated on every run by `extract/pure`
(notes/PURE.md) from `amm.Withdraw`, `amm.Deposit`, `amm.InitialPoolCoinSupply` (x/liquidity/amm/pool.go).  `Model/Pool.lean` is
the hand-written model every C06 fairness theorem is about; the theorems hold for ALL arguments.

Go function → theorem
* `amm.Withdraw`               → `pure_ammWithdraw_eq_model`  (`ofOption`: `none` of the model = the call panics)
* `amm.Deposit`                → `pure_ammDeposit_eq_model`
* `amm.InitialPoolCoinSupply`  → `pure_ammInitialPoolCoinSupply_eq_model` (the model's value under the library's
     256-bit check `NewIntFromBigInt`; hypothesis: the two decimal strings are shorter than 2^62 characters, so that
     the Go `int` length arithmetic cannot wrap — true of every string a Go process can hold)

Trusted: the translator's reading of Go and `Base/GoSem.lean`; kernel-checked: the equality with the model.
-/
set_option exponentiation.threshold 512 -- `Dec.fits`, `Dec.fitsInt` compare with `2 ^ 315`, `2 ^ 256`
namespace Comdex.C06
open Comdex.GoSem Comdex.PurePool

/-- `amm.Withdraw` as translated from the current source = `Pool.withdraw`, for all arguments
(including the last-share shortcut, the `SafeMath` overflow arm and the re-thrown division-by-zero panic). -/
theorem pure_ammWithdraw_eq_model (rx ry ps pc : Int) (fee : Dec) :
    Gen.Pure.ammWithdraw rx ry ps pc fee = ofOption (Pool.withdraw rx ry ps pc fee) := by
  rw [withdraw_eq_handle]
  unfold Gen.Pure.ammWithdraw
  by_cases h : pc = ps
  · rw [if_pos h, if_pos h]; rfl
  · simp only [h, if_false, ofOption_handle, Pool.withdrawCore, lift_bind, lift_pure, lift_quoTruncate, lift_sub,
      lift_mulTruncate, lift_truncateInt, Prod.eta, bind_pure]
    rfl

example : Gen.Pure.ammWithdraw 1000 2000 10 5 3000000000000000 = .ok (498, 997) := by rfl
example : Pool.withdraw 1000 2000 10 5 3000000000000000 = some (498, 997) := by rfl
-- zero supply: `QuoTruncate` by zero is not an overflow, `SafeMath` re-throws it
example : Gen.Pure.ammWithdraw 1000 2000 0 5 0 = .error .panic := by rfl

theorem pure_ammDeposit_eq_model (rx ry ps x y : Int) :
    Gen.Pure.ammDeposit rx ry ps x y = ofOption (Pool.deposit rx ry ps x y) := by
  rw [deposit_eq_handle, ofOption_handle]
  unfold Gen.Pure.ammDeposit Pool.depositCore Pool.depositRatio
  -- the model tests the two reserves inside `depositRatio` and binds its result; the code tests them in line
  simp only [lift_bind, lift_pure, lift_ite, lift_quoTruncate, lift_mulTruncate, lift_mul, lift_quo, lift_truncateInt,
    ite_bind, Prod.eta, bind_pure, bind_assoc, pure_bind]
  rfl

example : Gen.Pure.ammDeposit 1000 2000 30 100 100 = .ok (34, 67, 1) := by rfl
-- the overflow arm inside the module bounds (Props/C06 `deposit_overflow_reachable_within_bounds`)
example : Gen.Pure.ammDeposit 1 1 (10 ^ 40) (10 ^ 40) (10 ^ 40) = .ok (0, 0, 0) := by rfl

/-- `amm.InitialPoolCoinSupply` as translated = the model's `10^c` under the 256-bit check of `NewIntFromBigInt`
(which the model of `CreateRangedPool` applies: `Pool.createRangedPool`). -/
theorem pure_ammInitialPoolCoinSupply_eq_model (x y : Int)
    (h : intTextLen x + intTextLen y < 4611686018427387904) :
    Gen.Pure.ammInitialPoolCoinSupply x y = chkInt (Pool.initialPoolCoinSupply x y) := by
  unfold Gen.Pure.ammInitialPoolCoinSupply Pool.initialPoolCoinSupply Pool.digits
  unfold intTextLen at *
  generalize (toString x.natAbs).length + (if x < 0 then 1 else 0) = lx at *
  generalize (toString y.natAbs).length + (if y < 0 then 1 else 0) = ly at *
  -- the `int` arithmetic on the two lengths stays far inside 64 bits
  have hsum : i64Add (i64Add (i64Add (i64Sub (lx : Int) 1) 1) (i64Add (i64Sub (ly : Int) 1) 1)) 1 = ((lx + ly + 1 : Nat) : Int) := by
    unfold i64Sub i64Add wrapI64 two63 two64; omega
  have hdiv : i64Div ((lx + ly + 1 : Nat) : Int) 2 = .ok (((lx + ly + 1) / 2 : Nat) : Int) := by
    unfold i64Div
    rw [if_neg (by decide), Int.tdiv_eq_ediv_of_nonneg (Int.natCast_nonneg _), wrapI64_of_fits (by omega) (by omega)]
    rfl
  simp only [hsum, hdiv, bigNew, bigExp, intNewFromBigInt]
  generalize (lx + ly + 1) / 2 = c
  have hexp : (if (c : Int) ≤ 0 then (1 : Int) else 10 ^ (c : Int).toNat) = 10 ^ c := by
    split
    · have : c = 0 := by omega
      subst this; rfl
    · rw [Int.toNat_natCast]
  change chkInt (if (c : Int) ≤ 0 then (1 : Int) else 10 ^ (c : Int).toNat) = _
  rw [hexp]

example : intTextLen 1000 + intTextLen 50 < 4611686018427387904 := by decide
example : Gen.Pure.ammInitialPoolCoinSupply 1000 50 = .ok 1000 := by rfl
-- both amounts ≥ 10^77 (78 digits each): `10^78` does not fit 256 bits, the real function panics ("… out of bound",
-- reproduced on the real code, notes/PURE.md)
example : chkInt ((10 : Int) ^ 78) = .error .overflow := by rfl

end Comdex.C06
