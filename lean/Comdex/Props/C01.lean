import Comdex.Lemmas.VaultInv
import Comdex.Lemmas.VaultCfg
/-!
# C01 — CDP vault custody and published totals always match the open vaults

Property clause → theorem. The history theorems hold for every finite history that users sign (`UsersOk`) and that has none of the
three shutdown steps `EsmRegular` excludes (D29, D39, the wind-down below): vault messages by any number of users against any number of
products, arbitrary amounts and environment inputs per message (emergency flags, oracle prices, accrued interest: any interleaving
with block boundaries, time gaps and price moves), unsolicited sends to custody, outside funding, seizures, auction closes:

* "collateral held in vault custody for each collateral asset equals the collateral recorded on all open vaults and
   stable-mint vaults of that asset (apart from coins sent to the custody account unsolicited)"     → `C01.custody_eq`
* "the vault count equals the number of open vaults"                                               → `C01.count_eq`
* "for every product the published collateral-locked and tokens-minted totals equal the sums over its open vaults
   plus the vaults currently awaiting auction settlement" → `C01.totals_eq` (`NoSettle`: no second-generation close, D13;
   with it `totals_coll_eq`, `totals_minted_le`)
* a rejected message changes nothing                                                               → `C01.rejected_no_change`

The history clauses (and C02's supply clause, C03's limits) are read off `C01.ledger_always`: after every such history the
invariant holds for offsets that only auction settlements have moved.

* the same clauses when the product configuration CHANGES between messages (`WasmUpdatePairsVault`, asset proposals)
                                                      → `C01.invL_always_reconfig`, `C01.ledger_eq_reconfig`
* D13 (second-generation settlement): `C01.totals_after_settlement`, `C01.totals_eq_settlement_counterexample`
* D29 (emergency redemption of a stable-mint vault): `C01.custody_after_esm_stable`, `C01.esm_stable_counterexample`
* first-generation wind-down that re-creates a vault: `C01.wind_down_return_keeps_ledger`
* D39 (auctionsV2 `TriggerEsm`: second-generation auction that runs out under shutdown): `C01.trigger_esm_effect`,
  `C01.trigger_esm_counterexample`

Scope of the model (Model/Vault.lean): the eleven vault messages, `donate`, `fund`, the seizure hand-over of both liquidation
generations, the vault-side bookkeeping of both generations' auction closes, the emergency-shutdown steps of x/esm and of both
auction generations. See notes/C01.md.
-/
namespace Comdex.C01
open Comdex.Vault

abbrev History := List (Env × Msg)

def runAll (cfg : Nat → Option Product) (s : State) (h : History) : State :=
  h.foldl (fun s em => apply cfg s em.1 em.2) s

def UsersOk (h : History) : Prop := ∀ em ∈ h, em.2.userOk
/-- the history contains no SECOND-generation auction settlement (`settle`, auctionsV2 — finding D13); first-generation
settlements (`settle1`, x/auction `CloseDutchAuction`) are allowed: they keep every equation exact -/
def NoSettle (h : History) : Prop := ∀ em ∈ h, em.2.notSettle

/-- the history contains none of the three emergency-shutdown steps that leave the invariant (`Msg.esmRegular`: `esmStable`, finding
D29; `esmReturn1`, `wind_down_return_keeps_ledger`; `esmReturn2`, finding D39, `trigger_esm_effect`); every other emergency-shutdown
step (`esmVault`, `esmCollector`, `esmBurn`, and the wind-down with the principal recovered = `settle1`) is allowed -/
def EsmRegular (h : History) : Prop := ∀ em ∈ h, em.2.esmRegular

/-- offsets that only auction settlements can produce: custody, count and collateral totals stay exact; the minted
total and the supply can only fall BELOW the recorded principal (`Gaps.afterSettle`) -/
def GoodGaps (G : Gaps) : Prop :=
  (∀ d, G.cus d = 0) ∧ G.cnt = 0 ∧ (∀ k, G.coll k = 0) ∧ (∀ k, G.mint k ≤ 0) ∧ (∀ d, G.sup d ≤ 0)

theorem GoodGaps.cus {G : Gaps} (g : GoodGaps G) : ∀ d, G.cus d = 0 := g.1
theorem GoodGaps.cnt {G : Gaps} (g : GoodGaps G) : G.cnt = 0 := g.2.1
theorem GoodGaps.coll {G : Gaps} (g : GoodGaps G) : ∀ k, G.coll k = 0 := g.2.2.1
theorem GoodGaps.mint {G : Gaps} (g : GoodGaps G) : ∀ k, G.mint k ≤ 0 := g.2.2.2.1
theorem GoodGaps.sup {G : Gaps} (g : GoodGaps G) : ∀ d, G.sup d ≤ 0 := g.2.2.2.2

theorem invG_zero (cfg : Nat → Option Product) (s : State) : InvG cfg Gaps.zero s ↔ Inv cfg s := by
  simp [InvG, Vault.Inv, CustodyAtG, CustodyAt, CountOkG, CountOk, TotalsAtG, TotalsAt, SupplyAtG, SupplyAt, Gaps.zero]

theorem init_inv (cfg : Nat → Option Product) (hc : CfgOk cfg) : Inv cfg State.init := by
  refine ⟨⟨by simp [State.init], by simp [State.init], by simp [State.init], by simp [State.init],
    by simp [State.init]⟩, by simp [CountOk, State.init], ?_, ?_, ?_, ?_, ?_⟩
  · intro d; simp [CustodyAt, collRecorded, State.init, sumBy]
  · intro p; simp [TotalsAt, collOfProduct, mintedOfProduct, State.init, sumBy]
  · intro d; simp [SupplyAt, principalRecorded, State.init, sumBy]
  · simp [State.init]
  · intro k p hp; exact (hc.ok hp).debtCeiling_nonneg

theorem goodGaps_zero : GoodGaps Gaps.zero :=
  ⟨fun _ => rfl, rfl, fun _ => rfl, fun _ => Int.le_refl 0, fun _ => Int.le_refl 0⟩

theorem ledger_exact {cfg : Nat → Option Product} {G : Gaps} {s : State} (h : InvL cfg G s) (g : GoodGaps G) :
    (∀ d, s.bal vm d = collRecorded cfg s d + s.unsolicited d) ∧ s.length = s.vaults.length ∧
    (∀ k, s.coll k = collOfProduct s k) ∧ (∀ k, s.minted k ≤ mintedOfProduct s k) ∧
    ∀ d, s.supply d ≤ principalRecorded cfg s d + s.extSupply d := by
  obtain ⟨-, hcnt, hcus, htot, hsup⟩ := h
  refine ⟨fun d => ?_, ?_, fun k => ?_, fun k => ?_, fun d => ?_⟩
  · have := hcus d; have := g.cus d; unfold CustodyAtG at *; omega
  · have := g.cnt; unfold CountOkG at hcnt; omega
  · have := (htot k).1; have := g.coll k; omega
  · have := (htot k).2; have := g.mint k; omega
  · have := hsup d; have := g.sup d; unfold SupplyAtG at *; omega

/-- one message keeps the invariant for any bounds within the configured limits; only a second-generation settlement moves the offsets -/
theorem apply_invB {lo hi : Nat → Product → Int} (cfg : Nat → Option Product) (hw : Within cfg lo hi) (hc : CfgOk cfg) (G : Gaps)
    (s : State) (e : Env) (m : Msg) (hm : m.userOk) (hne : m.esmRegular) (hinv : InvB cfg lo hi G s) (hg : GoodGaps G) :
    ∃ G', InvB cfg lo hi G' (apply cfg s e m) ∧ GoodGaps G' ∧ (m.notSettle → G' = G) := by
  unfold apply
  cases h : step cfg s e m with
  | none => exact ⟨G, hinv, hg, fun _ => rfl⟩
  | some s' =>
    by_cases hns : m.notSettle
    · exact ⟨G, step_invB hw hc hm hns hne hinv h, hg, fun _ => rfl⟩
    · cases m with
      | settle v =>
        obtain ⟨p, -, hp, h⟩ := step_of_named rfl h
        obtain ⟨l, -, -, hle, hinv'⟩ := settle_invB hinv (fun l _ hl => hl ▸ hp) h
        refine ⟨G.afterSettle p l, hinv', ⟨hg.cus, hg.cnt, hg.coll, fun k => ?_, fun d => ?_⟩, fun hn => absurd hn hns⟩
        · have := hg.mint k; simp only [Gaps.afterSettle]; split <;> omega
        · have := hg.sup d; simp only [Gaps.afterSettle]; split <;> omega
      | _ => exact absurd trivial hns

theorem invB_always {lo hi : Nat → Product → Int} (cfg : Nat → Option Product) (hw : Within cfg lo hi) (hc : CfgOk cfg) (h : History)
    (hu : UsersOk h) (hne : EsmRegular h) (G : Gaps) (s : State) (hinv : InvB cfg lo hi G s) (hg : GoodGaps G) :
    ∃ G', InvB cfg lo hi G' (runAll cfg s h) ∧ GoodGaps G' ∧ (NoSettle h → G' = G) := by
  induction h generalizing s G with
  | nil => exact ⟨G, hinv, hg, fun _ => rfl⟩
  | cons em t ih =>
    obtain ⟨G1, h1, g1, e1⟩ := apply_invB cfg hw hc G s em.1 em.2 (hu em (by simp)) (hne em (by simp)) hinv hg
    obtain ⟨G2, h2, g2, e2⟩ := ih (fun x hx => hu x (by simp [hx])) (fun x hx => hne x (by simp [hx])) G1 _ h1 g1
    exact ⟨G2, h2, g2, fun hn => (e2 fun x hx => hn x (by simp [hx])).trans (e1 (hn em (by simp)))⟩

theorem invG_always (cfg : Nat → Option Product) (hc : CfgOk cfg) (h : History) (hu : UsersOk h) (hne : EsmRegular h)
    (G : Gaps) (s : State)
    (hinv : InvG cfg G s) (hg : GoodGaps G) :
    ∃ G', InvG cfg G' (runAll cfg s h) ∧ GoodGaps G' ∧ (NoSettle h → G' = G) :=
  invB_always cfg (Within.refl cfg) hc h hu hne G s hinv hg

theorem ledger_always (cfg : Nat → Option Product) (hc : CfgOk cfg) (h : History) (hu : UsersOk h) (hne : EsmRegular h) :
    ∃ G, InvG cfg G (runAll cfg State.init h) ∧ GoodGaps G ∧ (NoSettle h → G = Gaps.zero) :=
  invG_always cfg hc h hu hne Gaps.zero State.init ((invG_zero cfg _).mpr (init_inv cfg hc)) goodGaps_zero

theorem inv_always (cfg : Nat → Option Product) (hc : CfgOk cfg) (h : History) (hu : UsersOk h) (hne : EsmRegular h)
    (hn : NoSettle h) :
    Inv cfg (runAll cfg State.init h) := by
  obtain ⟨G, h', -, e⟩ := ledger_always cfg hc h hu hne
  exact (invG_zero cfg _).mp (e hn ▸ h')

/-- **Custody**: after every history that `EsmRegular` admits (including liquidation seizures and auction settlements) the vault-module balance
of every denom = collateral recorded on open + stable-mint vaults of that denom + coins sent there unsolicited. -/
theorem custody_eq (cfg : Nat → Option Product) (hc : CfgOk cfg) (h : History) (hu : UsersOk h) (hne : EsmRegular h) (d : Nat) :
    let s := runAll cfg State.init h
    s.bal vm d = collRecorded cfg s d + s.unsolicited d :=
  let ⟨_, h', g, _⟩ := ledger_always cfg hc h hu hne
  (ledger_exact h'.toL g).1 d

/-- **Count**: after every history `EsmRegular` admits the published vault count equals the number of open vaults. -/
theorem count_eq (cfg : Nat → Option Product) (hc : CfgOk cfg) (h : History) (hu : UsersOk h) (hne : EsmRegular h) :
    let s := runAll cfg State.init h
    s.length = s.vaults.length :=
  let ⟨_, h', g, _⟩ := ledger_always cfg hc h hu hne
  (ledger_exact h'.toL g).2.1

/-- **Totals, collateral**: after every history `EsmRegular` admits the published collateral-locked total of every product equals the sum
over open, stable-mint and awaiting-auction vaults. -/
theorem totals_coll_eq (cfg : Nat → Option Product) (hc : CfgOk cfg) (h : History) (hu : UsersOk h) (hne : EsmRegular h) (prod : Nat) :
    let s := runAll cfg State.init h
    s.coll prod = collOfProduct s prod :=
  let ⟨_, h', g, _⟩ := ledger_always cfg hc h hu hne
  (ledger_exact h'.toL g).2.2.1 prod

/-- **Totals, minted**: after every history `EsmRegular` admits the published tokens-minted total is AT MOST the recorded principal
(open + stable-mint + awaiting auction); it is EQUAL in histories without auction settlement (`totals_eq`). -/
theorem totals_minted_le (cfg : Nat → Option Product) (hc : CfgOk cfg) (h : History) (hu : UsersOk h) (hne : EsmRegular h) (prod : Nat) :
    let s := runAll cfg State.init h
    s.minted prod ≤ mintedOfProduct s prod :=
  let ⟨_, h', g, _⟩ := ledger_always cfg hc h hu hne
  (ledger_exact h'.toL g).2.2.2.1 prod

/-- **Totals** (partial: histories without auction settlement — see `totals_after_settlement`): per product, published
collateral-locked / tokens-minted = sums over open vaults, stable-mint vaults and vaults awaiting auction settlement. -/
theorem totals_eq (cfg : Nat → Option Product) (hc : CfgOk cfg) (h : History) (hu : UsersOk h) (hne : EsmRegular h) (hn : NoSettle h)
    (prod : Nat) :
    let s := runAll cfg State.init h
    s.coll prod = collOfProduct s prod ∧ s.minted prod = mintedOfProduct s prod :=
  (inv_always cfg hc h hu hne hn).totals prod

/-- a rejected message leaves the state untouched (message atomicity is part of the model: `apply`) -/
theorem rejected_no_change (cfg : Nat → Option Product) (s : State) (e : Env) (m : Msg)
    (h : step cfg s e m = none) : apply cfg s e m = s := by
  simp [apply, h]

/-- **Auction settlement (finding D13).** When the auction of a seized vault closes, the code reduces the product's
tokens-minted total by `TargetDebt − penalty` = principal + interest + closing fee instead of the principal that was
added when the vault was opened. From a state satisfying the invariant, `settle` keeps the collateral total exact and
leaves the minted total BELOW the recorded principal by exactly the interest and closing fee of the seized vault
(`Gaps.afterSettle`). Hence the minted-totals clause is an equality only for histories without settlement (`totals_eq`,
partial), an inequality in general (`totals_minted_le`), and the equality is false after a settlement of a vault that
had accrued interest or a closing fee (`totals_eq_settlement_counterexample`). -/
theorem totals_after_settlement (cfg : Nat → Option Product) (s s' : State) (p : Product) (vaultId : Nat)
    (hinv : Inv cfg s) (hpc : ∀ l ∈ s.locked, l.product = p.id → cfg l.product = some p)
    (h : settle s p vaultId = some s') :
    ∃ l ∈ s.locked, l.vaultId = vaultId ∧
      s'.coll l.product = collOfProduct s' l.product ∧
      s'.minted l.product = mintedOfProduct s' l.product - (l.debt - l.amountOut) := by
  obtain ⟨l, hl, hid, _, hinv'⟩ := settle_inv cfg Gaps.zero s s' p vaultId ((invG_zero cfg s).mpr hinv) hpc h
  obtain ⟨h1, h2⟩ := hinv'.totals l.product
  refine ⟨l, hl, hid, h1.trans (Int.add_zero _), ?_⟩
  simp only [Gaps.afterSettle, Gaps.zero, if_true] at h2
  omega

/-- **Emergency redemption of a stable-mint vault (finding D29).** After the cool-off period of an emergency shutdown
`SetUpCollateralRedemptionForStableVault` moves the stable-mint vault's collateral to the esm account and reduces the
product totals, but never deletes (or zeroes) the stable-mint vault record. From a state satisfying the invariant the
step leaves custody BELOW the recorded collateral by exactly that vault's collateral and both published totals below the
sums over the records by its collateral and principal (`Gaps.afterEsmStable`): the custody and totals clauses are false
afterwards (`esm_stable_counterexample`). The emergency-shutdown steps that `Msg.esmRegular` admits keep all equations (`step_inv`). -/
theorem custody_after_esm_stable (cfg : Nat → Option Product) (s s' : State) (p : Product) (e : Env) (stableId : Nat)
    (hinv : Inv cfg s) (hout : ∀ r ∈ s.stables, r.id = stableId → 0 ≤ r.amountOut)
    (h : esmStable s p e stableId = some s') :
    ∃ r ∈ s.stables, r.id = stableId ∧
      s'.bal vm p.denomIn = collRecorded cfg s' p.denomIn + s'.unsolicited p.denomIn - (if r.amountIn > 0 then r.amountIn else 0) ∧
      s'.coll p.id = collOfProduct s' p.id - r.amountIn ∧
      s'.minted p.id = mintedOfProduct s' p.id - r.amountOut := by
  obtain ⟨r, hr, hid, _, hinv'⟩ := esmStable_inv cfg Gaps.zero s s' p e stableId ((invG_zero cfg s).mpr hinv) hout h
  have h1 := hinv'.custody p.denomIn
  obtain ⟨h2, h3⟩ := hinv'.totals p.id
  simp only [CustodyAtG, Gaps.afterEsmStable, Gaps.zero, if_true] at h1 h2 h3
  exact ⟨r, hr, hid, by omega, by omega, by omega⟩

/-- **Wind-down of a first-generation auction that collected less than the principal** (x/auction dutch.go:538-570 under
emergency shutdown): the collected amount is burnt, the unsold collateral returns to vault custody and the owner gets a
vault with it and the principal still owed. From a state satisfying the invariant the step keeps custody, count, both
totals and the supply equation exactly (same offsets); the only premise is that a NEWLY created vault respects the debt
floor (a top-up of the owner's existing vault always does) — the code does not check it. -/
theorem wind_down_return_keeps_ledger (cfg : Nat → Option Product) (s s' : State) (p : Product) (e : Env) (vaultId owner : Nat)
    (cur infl : Int) (hp : cfg p.id = some p) (hinv : Inv cfg s)
    (hfloor : ∀ l ∈ s.locked, l.vaultId = vaultId →
      (s.vaults.find? (fun v => v.owner = owner ∧ v.product = p.id)) = none → p.debtFloor ≤ l.amountOut - infl)
    (h : esmReturn1 s p e vaultId owner cur infl = some s') : Inv cfg s' :=
  (invG_zero cfg s').mp (esmReturn1_inv cfg Gaps.zero s s' p e vaultId owner cur infl hp ((invG_zero cfg s).mpr hinv) hfloor h)

/-! ### Configuration changes in the middle of a history

`Product` is an argument of every handler, so each single-step theorem above already holds for whatever parameters are in
force at that step. The history theorems above fix one configuration `cfg`; the ones below let it CHANGE between any two
messages (`Ev.reconfig`: `WasmUpdatePairsVault` — fees, ceiling, floor, min CR, `IsVaultActive` —, x/asset proposals —
decimals —, new products), the only constraint being what no update path can change: a product keeps its id and its two
assets (`CfgExt`), and the new parameters are admissible (`CfgOk`). Custody, count, collateral totals and
"minted ≤ recorded principal" (equality without second-generation settlement) hold after EVERY such history. The C03 limits
are NOT invariant under reconfiguration (lower the ceiling below what is outstanding, raise the floor above a vault):
what holds is that no accepted message makes an excess worse — `C03.ceiling_excess_never_increases`,
`C03.floor_deficit_never_increases`, from `apply_invL` below. -/

theorem apply_invL {lo hi : Nat → Product → Int} (cfg : Nat → Option Product) (hc : CfgOk cfg) (hw : Within cfg lo hi)
    (G : Gaps) (s : State) (e : Env) (m : Msg) (hm : m.userOk) (hne : m.esmRegular)
    (hinv : InvL cfg G s) (hl : LimB cfg lo hi s) (hg : GoodGaps G) :
    ∃ G', InvL cfg G' (apply cfg s e m) ∧ LimB cfg lo hi (apply cfg s e m) ∧ GoodGaps G' ∧ (m.notSettle → G' = G) :=
  let ⟨G', h, g, e⟩ := apply_invB cfg hw hc G s e m hm hne (hinv.withBounds hl) hg
  ⟨G', h.toL, h.limits, g, e⟩

/-- above the minted total of `s`, and no stricter than the ceiling -/
def slack (s : State) (k : Nat) (p : Product) : Int := if s.minted k ≤ p.debtCeiling then p.debtCeiling else s.minted k

/-- bounds that hold in ANY state satisfying the ledger part: `b` below the principals of product `k` (a premise), `0` below the
others, `slack s` above the minted totals -/
theorem apply_invL_bounds (cfg : Nat → Option Product) (hc : CfgOk cfg) (G : Gaps) (s : State) (e : Env) (m : Msg)
    (hm : m.userOk) (hne : m.esmRegular) (hinv : InvL cfg G s) (hg : GoodGaps G) (k : Nat) (b : Int)
    (hb : ∀ p, cfg k = some p → b ≤ p.debtFloor) (hall : ∀ v ∈ s.vaults, v.product = k → b ≤ v.amountOut) :
    ∃ G', InvL cfg G' (apply cfg s e m) ∧
      LimB cfg (fun k' _ => if k' = k then b else 0) (slack s) (apply cfg s e m) ∧ GoodGaps G' ∧ (m.notSettle → G' = G) := by
  refine apply_invL cfg hc ⟨fun {k' p'} hp' => ?_, fun {k' p'} _ => ?_⟩ G s e m hm hne hinv ⟨fun v hv _ _ => ?_, fun k' p' _ => ?_⟩ hg
  · show (if k' = k then b else 0) ≤ _
    split
    · next hk => exact hb p' (hk ▸ hp')
    · exact (hc.ok hp').debtFloor_nonneg
  · unfold slack; split <;> omega
  · show (if v.product = k then b else 0) ≤ _
    split
    · next hk => exact hall v hv hk
    · exact (hinv.wf.vault_nonneg hv).amountOut
  · unfold slack; split <;> omega

theorem apply_invL_any (cfg : Nat → Option Product) (hc : CfgOk cfg) (G : Gaps) (s : State) (e : Env) (m : Msg)
    (hm : m.userOk) (hne : m.esmRegular) (hinv : InvL cfg G s) (hg : GoodGaps G) :
    ∃ G', InvL cfg G' (apply cfg s e m) ∧ GoodGaps G' ∧ (m.notSettle → G' = G) :=
  let ⟨G', h1, _, h3, h4⟩ := apply_invL_bounds cfg hc G s e m hm hne hinv hg 0 0
    (fun _ hp => (hc.ok hp).debtFloor_nonneg) (fun _ hv _ => (hinv.wf.vault_nonneg hv).amountOut)
  ⟨G', h1, h3, h4⟩

inductive Ev where
  | msg (e : Env) (m : Msg)
  | reconfig (cfg' : Nat → Option Product)

def stepC (cs : (Nat → Option Product) × State) : Ev → (Nat → Option Product) × State
  | .msg e m => (cs.1, apply cs.1 cs.2 e m)
  | .reconfig cfg' => (cfg', cs.2)

def runC (cs : (Nat → Option Product) × State) (h : List Ev) : (Nat → Option Product) × State := h.foldl stepC cs

/-- admissible histories: users sign, the three excluded shutdown steps do not occur, every reconfiguration keeps the products'
identity and installs admissible parameters -/
def EvOk (cfg : Nat → Option Product) : List Ev → Prop
  | [] => True
  | .msg _ m :: t => m.userOk ∧ m.esmRegular ∧ EvOk cfg t
  | .reconfig cfg' :: t => CfgExt cfg cfg' ∧ CfgOk cfg' ∧ EvOk cfg' t

def NoSettleC : List Ev → Prop
  | [] => True
  | .msg _ m :: t => m.notSettle ∧ NoSettleC t
  | .reconfig _ :: t => NoSettleC t

theorem invL_always_reconfig (h : List Ev) (cfg : Nat → Option Product) (hc : CfgOk cfg) (hok : EvOk cfg h)
    (G : Gaps) (s : State) (hinv : InvL cfg G s) (hg : GoodGaps G) :
    ∃ G', InvL (runC (cfg, s) h).1 G' (runC (cfg, s) h).2 ∧ GoodGaps G' ∧ CfgOk (runC (cfg, s) h).1 ∧ (NoSettleC h → G' = G) := by
  induction h generalizing cfg s G with
  | nil => exact ⟨G, hinv, hg, hc, fun _ => rfl⟩
  | cons ev t ih =>
    cases ev with
    | msg e m =>
      obtain ⟨hm, hne, hok'⟩ := hok
      obtain ⟨G1, h1, g1, e1⟩ := apply_invL_any cfg hc G s e m hm hne hinv hg
      obtain ⟨G2, h2, g2, c2, e2⟩ := ih cfg hc hok' G1 _ h1 g1
      exact ⟨G2, h2, g2, c2, fun hn => by rw [e2 hn.2, e1 hn.1]⟩
    | reconfig cfg' =>
      obtain ⟨hx, hc', hok'⟩ := hok
      obtain ⟨G2, h2, g2, c2, e2⟩ := ih cfg' hc' hok' G s (invL_reconfig hx G s hinv) hg
      exact ⟨G2, h2, g2, c2, fun hn => e2 hn⟩

theorem invL_init (cfg : Nat → Option Product) (hc : CfgOk cfg) : InvL cfg Gaps.zero State.init :=
  ((invG_zero cfg _).mpr (init_inv cfg hc)).toL

/-- **Custody, count, totals under reconfiguration**: after every admissible history (`EvOk`) in which the product parameters change between
messages, vault custody of every denom = recorded collateral + unsolicited coins, the vault count = number of open vaults,
the published collateral total = sum over the records, the published minted total ≤ recorded principal (= without
second-generation settlement) — all read with the configuration in force at the END of the history. -/
theorem ledger_eq_reconfig (cfg0 : Nat → Option Product) (hc : CfgOk cfg0) (h : List Ev) (hok : EvOk cfg0 h) :
    let cfg := (runC (cfg0, State.init) h).1
    let s := (runC (cfg0, State.init) h).2
    (∀ d, s.bal vm d = collRecorded cfg s d + s.unsolicited d) ∧ s.length = s.vaults.length ∧
    (∀ k, s.coll k = collOfProduct s k) ∧ (∀ k, s.minted k ≤ mintedOfProduct s k) ∧
    (NoSettleC h → ∀ k, s.minted k = mintedOfProduct s k) := by
  obtain ⟨G', h', g, _, e⟩ := invL_always_reconfig h cfg0 hc hok Gaps.zero State.init (invL_init cfg0 hc) goodGaps_zero
  obtain ⟨h1, h2, h3, h4, -⟩ := ledger_exact h' g
  exact ⟨h1, h2, h3, h4, fun hn k => by have := (h'.totals k).2; rw [e hn] at this; exact this.trans (Int.add_zero _)⟩

/-! ### Non-vacuity: a configuration and history that meet the hypotheses -/
def demoProduct : Product :=
  { id := 1, app := 1, denomIn := 1, denomOut := 3, decIn := 1000000, decOut := 1000000,
    minCr := 1500000000000000000, debtFloor := 1000000, debtCeiling := 1000000000000,
    drawDownFee := 10000000000000000, closingFee := 0, isStable := false, active := true, outOracle := true, outPrice := 1000000 }
def demoCfg : Nat → Option Product := fun pr => if pr = 1 then some demoProduct else none
def demoEnv : Env := { priceIn := some 10000000, priceOut := some 1000000 }
def demoHistory : History :=
  [(demoEnv, .fund 10 1 5000000), (demoEnv, .create 10 1 1 3000000 2000000), (demoEnv, .donate 10 1 7),
   ({ demoEnv with iota := some 5 }, .deposit 10 1 1 1 1000), (demoEnv, .seize 1)]

example : CfgOk demoCfg := by
  intro pr p h
  simp only [demoCfg] at h
  split at h
  · cases h; subst_vars; refine ⟨rfl, ?_⟩; simp [ProductOk, demoProduct, Dec.P]
  · cases h
example : UsersOk demoHistory ∧ NoSettle demoHistory := by
  constructor <;> intro em h <;> simp [demoHistory] at h <;>
    rcases h with rfl | rfl | rfl | rfl | rfl <;> simp [Msg.userOk, Msg.notSettle, vm]
/-- the totals clause fails after a real-shaped history: create, interest accrues, seizure, auction closes. The supply is spelt as
it came about: 2 000 000 minted by the create, 2 000 005 (principal and the 5 of interest) burnt by the settlement. -/
theorem totals_eq_settlement_counterexample :
    let s := runAll demoCfg State.init (demoHistory ++ [(demoEnv, .settle 1)])
    s.vaults = [] ∧ s.locked = [] ∧ mintedOfProduct s 1 = 0 ∧ s.minted 1 = -5 ∧ s.supply 3 = -5 + 2000000 - 2000000 + 0 := by
  decide

/-- the same history settled by the FIRST-generation auction (x/auction `CloseDutchAuction`) keeps the totals exact -/
theorem totals_eq_gen1_settlement_example :
    let s := runAll demoCfg State.init (demoHistory ++ [(demoEnv, .settle1 1)])
    s.vaults = [] ∧ s.locked = [] ∧ mintedOfProduct s 1 = 0 ∧ s.minted 1 = 0 ∧ s.coll 1 = 0 ∧
      NoSettle (demoHistory ++ [(demoEnv, .settle1 1)]) := by
  refine ⟨by decide, by decide, by decide, by decide, by decide, ?_⟩
  intro em h
  simp only [demoHistory, List.cons_append, List.nil_append, List.mem_cons, List.not_mem_nil, or_false] at h
  rcases h with rfl | rfl | rfl | rfl | rfl | rfl <;> simp [Msg.notSettle]

example : (runAll demoCfg State.init demoHistory).locked.length = 1 ∧
    (runAll demoCfg State.init demoHistory).bal vm 1 = 7 ∧
    (runAll demoCfg State.init demoHistory).coll 1 = 3001000 := by decide

/-- a stable-mint product (6 → 6 decimals, no fee) next to the demo product -/
def demoStable : Product :=
  { id := 2, app := 1, denomIn := 4, denomOut := 3, decIn := 1000000, decOut := 1000000,
    minCr := 1000000000000000000, debtFloor := 1000, debtCeiling := 1000000000000,
    drawDownFee := 0, closingFee := 0, isStable := true, active := true, outOracle := true, outPrice := 1000000 }
def demoCfg2 : Nat → Option Product := fun pr => if pr = 1 then some demoProduct else if pr = 2 then some demoStable else none
def esmEnv : Env := { demoEnv with esm := true, pastCoolOff := true }
/-- stable mint of 2 000 000, emergency shutdown, cool-off over, redemption: the stable-mint vault still shows 2 000 000 of
collateral and principal, custody and both published totals are 0 -/
theorem esm_stable_counterexample :
    let s := runAll demoCfg2 State.init [(demoEnv, .fund 10 4 5000000), (demoEnv, .stableCreate 10 1 2 2000000), (esmEnv, .esmStable 1)]
    s.stables.length = 1 ∧ collRecorded demoCfg2 s 4 = 2000000 ∧ s.bal vm 4 = 0 ∧ s.bal em 4 = 2000000 ∧
    s.coll 2 = 0 ∧ collOfProduct s 2 = 2000000 ∧ s.minted 2 = 0 ∧ mintedOfProduct s 2 = 2000000 ∧ s.redeem 1 3 = 2000000 := by
  decide

/-- emergency redemption of an ordinary vault keeps every equation: the demo vault is moved to the redemption pool,
its principal is registered, a holder then burns part of it -/
theorem esm_vault_example :
    let h : History := [(demoEnv, .fund 10 1 5000000), (demoEnv, .create 10 1 1 3000000 2000000), (esmEnv, .esmVault 1),
                        (esmEnv, .esmBurn 10 1 3 500000)]
    let s := runAll demoCfg State.init h
    s.vaults = [] ∧ s.length = 0 ∧ s.bal vm 1 = 0 ∧ s.bal em 1 = 3000000 ∧ s.coll 1 = 0 ∧ s.minted 1 = 0 ∧
    s.redeem 1 3 = 1500000 ∧ s.supply 3 = 1500000 ∧ s.extSupply 3 = 1500000 ∧ EsmRegular h ∧ NoSettle h := by
  refine ⟨by decide, by decide, by decide, by decide, by decide, by decide, by decide, by decide, by decide, ?_, ?_⟩ <;>
  · intro em h
    simp only [List.mem_cons, List.not_mem_nil, or_false] at h
    rcases h with rfl | rfl | rfl | rfl <;> simp [Msg.esmRegular, Msg.notSettle]

/-- the demo vault (3 001 000 collateral, 2 000 000 principal) is seized, 1 200 000 is collected for 1 801 000 of the
collateral, the auction runs out under shutdown: the owner gets vault 2 with 1 200 000 collateral and 800 000 principal -/
theorem wind_down_return_example :
    let s := runAll demoCfg State.init (demoHistory ++ [({ demoEnv with esm := true }, .esmReturn1 1 10 1200000 1200000)])
    s.locked = [] ∧ s.vaults.map (fun v => (v.id, v.owner, v.amountIn, v.amountOut)) = [(2, 10, 1200000, 800000)] ∧ s.length = 1 ∧
    s.coll 1 = 1200000 ∧ s.minted 1 = 800000 ∧ s.bal vm 1 = 1200007 ∧ s.supply 3 = 800000 := by
  decide

/-- **What `TriggerEsm` does to the vault books** (x/auctionsV2/keeper/auctions.go:487-534, modelled as the code is): no
balance of any account the vault ledger speaks about moves — in particular NOTHING reaches vault custody — and the seized
vault stays on the awaiting-settlement list (so the step can run again), while the owner's vault is credited with the
auction's unsold collateral `cur` and remaining target debt `curDebt`, the collateral total falls by the collateral sold and
supply and minted total fall by what was burnt. -/
theorem trigger_esm_effect (s s' : State) (p : Product) (e : Env) (vaultId owner : Nat) (cur curDebt fee : Int)
    (h : esmReturn2 s p e vaultId owner cur curDebt fee = some s') :
    s'.bal = s.bal ∧ s'.locked = s.locked ∧ s'.unsolicited = s.unsolicited ∧
    ∃ l ∈ s.locked, l.vaultId = vaultId ∧ e.esm = true ∧
      s'.supply p.denomOut = s.supply p.denomOut - trigger2Burn l curDebt fee ∧
      s'.minted p.id = s.minted p.id - trigger2Burn l curDebt fee ∧
      s'.coll p.id = s.coll p.id - (l.amountIn - cur) ∧
      (match s.vaults.find? (fun v => v.owner = owner ∧ v.product = p.id) with
       | some w => s'.vaults = setVault s.vaults { w with amountIn := w.amountIn + cur, amountOut := w.amountOut + curDebt } ∧
                   s'.length = s.length
       | none => s'.vaults = s.vaults ++ [{ id := s.nextVault + 1, owner := owner, product := p.id, amountIn := cur,
                                            amountOut := curDebt, interest := 0, closingFee := 0 }] ∧
                 s'.length = s.length + 1) := by
  obtain ⟨l, hf, g, rfl⟩ := esmReturn2_eq_some.mp h
  obtain ⟨hm, hid⟩ := findLocked_mem hf
  have hu := fun (g : Nat → Int) k y => upd1_self g k y
  unfold creditRecord
  cases s.vaults.find? (fun v => v.owner = owner ∧ v.product = p.id) <;>
    exact ⟨rfl, rfl, rfl, l, hm, hid, g.esm, hu .., hu .., hu .., rfl, rfl⟩

/-- **Witness.** The demo vault (3 001 000 collateral, principal 2 000 000, 5 interest) is seized by the second generation,
nobody bids, the app is shut down and the auction runs out: after TWO begin-blocks the owner holds vault 2 with 6 002 000 of
recorded collateral and 4 600 010 of recorded debt, vault custody holds only the 7 coins donated earlier, the seized
collateral is still in auction custody and the seized vault is still awaiting settlement. Custody and both totals clauses
are false; every further block adds the same again. -/
theorem trigger_esm_counterexample :
    let ev : Env × Msg := ({ demoEnv with esm := true }, .esmReturn2 1 10 3001000 2300005 300000)
    let s := runAll demoCfg State.init (demoHistory ++ [ev, ev])
    s.vaults.map (fun v => (v.id, v.owner, v.amountIn, v.amountOut)) = [(2, 10, 6002000, 4600010)] ∧
    s.bal vm 1 = 7 ∧ collRecorded demoCfg s 1 = 6002000 ∧ s.bal am 1 = 3001000 ∧ s.locked.length = 1 ∧
    s.coll 1 = 3001000 ∧ collOfProduct s 1 = 9003000 ∧ s.minted 1 = 2000000 ∧ mintedOfProduct s 1 = 6600010 ∧
    s.supply 3 = 2000000 ∧ s.length = 1 := by
  decide

/-! ### Non-vacuity of the reconfiguration theorems: the demo product with the ceiling LOWERED below what is outstanding and
the floor RAISED above the open vault's principal -/
def demoTight : Product := { demoProduct with debtCeiling := 1500000, debtFloor := 2500000, drawDownFee := 0, minCr := 1200000000000000000 }
def demoCfgTight : Nat → Option Product := fun pr => if pr = 1 then some demoTight else none
def demoEvents : List Ev :=
  [.msg demoEnv (.fund 10 1 5000000), .msg demoEnv (.create 10 1 1 3000000 2000000), .reconfig demoCfgTight,
   .msg demoEnv (.draw 10 1 1 1 1), .msg demoEnv (.repay 10 1 1 1 600000), .msg demoEnv (.deposit 10 1 1 1 1000)]

example : CfgOk demoCfgTight := by
  intro pr p h
  simp only [demoCfgTight] at h
  split at h
  · cases h; subst_vars; refine ⟨rfl, ?_⟩; simp [ProductOk, demoTight, demoProduct, Dec.P]
  · cases h
example : CfgExt demoCfg demoCfgTight := by
  intro k p h
  simp only [demoCfg] at h
  split at h
  · cases h; subst_vars; exact ⟨demoTight, by simp [demoCfgTight], rfl, rfl⟩
  · cases h
/-- after the reconfiguration the outstanding 2 000 000 exceeds the new ceiling 1 500 000 and lies below the new floor
2 500 000: the draw is refused (it would raise the excess), the repayment is refused (it would deepen the deficit), the deposit
is accepted; the ledger equations hold throughout -/
example : let s := (runC (demoCfg, State.init) demoEvents).2
    s.minted 1 = 2000000 ∧ s.vaults.map (fun v => (v.amountIn, v.amountOut)) = [(3001000, 2000000)] ∧ s.bal vm 1 = 3001000 := by
  decide

end Comdex.C01
