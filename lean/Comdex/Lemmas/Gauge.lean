import Comdex.Model.Gauge
import Comdex.Lemmas.ListSum
import Mathlib.Tactic.Linarith
/-! Lemmas for C19 (incentive payouts): `split` (the per-epoch allocations of a deposit), `sumL` tied to `List.sum`, `sendAll`, one gauge
and its invariant `GInv`, the swap-fee gauge, the ledger (`BStep`: what an accepted operation of a block did) and its custody invariant
`LedgerOk`. The epoch clock (`epochStep`) has its lemmas in `Props/C19.lean`. -/
namespace Comdex.Gauge
open Comdex

theorem prefixSum_succ (t n k : Nat) : prefixSum t n (k+1) = prefixSum t n k + splitAt t n k := by
  simp [prefixSum, List.range_succ, List.map_append, List.sum_append]

theorem prefixSum_zero (t n : Nat) : prefixSum t n 0 = 0 := rfl

theorem prefixSum_full (t n : Nat) : prefixSum t n n = ((List.range n).map (splitAt t n)).sum := rfl

theorem prefixSum_formula (t n k : Nat) (hk : k ≤ n) :
    prefixSum t n k = k * (t / n) + (if t % n = 0 then 0 else k - (n - t % n)) := by
  induction k with
  | zero => simp [prefixSum_zero]
  | succ k ih =>
    rw [prefixSum_succ, ih (by omega), Nat.succ_mul]
    unfold splitAt
    split
    · omega
    · split <;> omega

theorem prefixSum_le_total (t n k : Nat) (hk : k ≤ n) : prefixSum t n k ≤ t := by
  rw [prefixSum_formula t n k hk]
  have h1 := Nat.mul_le_mul_right (t / n) hk
  have h2 := Nat.div_add_mod t n
  split <;> omega

theorem prefixSum_total (t n : Nat) (hn : 1 ≤ n) : prefixSum t n n = t := by
  rw [prefixSum_formula t n n (Nat.le_refl _)]
  have h1 := Nat.div_add_mod t n
  have h2 := Nat.mod_lt t (show n > 0 by omega)
  split <;> omega

theorem split_cases (t n : Nat) (l : List Nat) (h : split t n = .ok l) :
    (t < n ∧ l = []) ∨ (1 ≤ n ∧ n ≤ t ∧ l = (List.range n).map (splitAt t n)) := by
  unfold split at h
  split_ifs at h with h1 h2
  · cases h; exact Or.inl ⟨h1, rfl⟩
  · cases h; exact Or.inr ⟨by omega, by omega, rfl⟩

theorem split_ok (t n : Nat) (hn : 1 ≤ n) (ht : n ≤ t) :
    split t n = .ok ((List.range n).map (splitAt t n)) := by
  unfold split
  rw [if_neg (by omega), if_neg (by omega)]

theorem split_get (t n : Nat) (l : List Nat) (h : split t n = .ok l) (i : Nat) (a : Nat)
    (hi : l[i]? = some a) : i < n ∧ a = splitAt t n i := by
  rcases split_cases t n l h with ⟨_, rfl⟩ | ⟨_, _, rfl⟩
  · cases hi
  · rw [List.getElem?_map] at hi
    by_cases hlt : i < n
    · rw [List.getElem?_range hlt] at hi
      cases hi; exact ⟨hlt, rfl⟩
    · rw [List.getElem?_eq_none (by simpa using hlt)] at hi
      cases hi

theorem ite_zero_le (c : Prop) [Decidable c] (v : Int) (h : 0 ≤ v) : (if c then v else 0) ≤ v := by
  split <;> omega

theorem minD_nonneg (a b : Dec) (ha : 0 ≤ a) (hb : 0 ≤ b) : 0 ≤ minD a b := by
  unfold minD; split <;> assumption

theorem sumL_eq (l : List Int) : sumL l = l.sum := by
  induction l with
  | nil => rfl
  | cons x xs ih => rw [sumL, ih, List.sum_cons]

theorem sumL_nonneg (rs : List Int) (h : ∀ x ∈ rs, 0 ≤ x) : 0 ≤ sumL rs := sumL_eq rs ▸ ListSum.sum_nonneg rs h

theorem le_sumL_of_mem (l : List Int) (h : ∀ x ∈ l, 0 ≤ x) (s : Int) (hs : s ∈ l) : s ≤ sumL l :=
  sumL_eq l ▸ ListSum.le_sum_of_mem l h hs

theorem sumL_map_affine_le {α : Type} (l : List α) (f g : α → Int) (a b c : Int)
    (h : ∀ x ∈ l, a * f x ≤ b * g x + c) : a * sumL (l.map f) ≤ b * sumL (l.map g) + l.length * c := by
  rw [sumL_eq, sumL_eq]
  exact ListSum.sum_map_affine_le l f g a b c h

theorem sumL_map_le {α : Type} (l : List α) (f g : α → Int) (h : ∀ x ∈ l, f x ≤ g x) :
    sumL (l.map f) ≤ sumL (l.map g) := by
  have := sumL_map_affine_le l f g 1 1 0 (fun x hx => by have := h x hx; omega)
  omega

theorem sumL_map_nonneg {α : Type} (l : List α) (f : α → Int) (h : ∀ x ∈ l, 0 ≤ f x) : 0 ≤ sumL (l.map f) :=
  sumL_eq _ ▸ ListSum.sum_map_nonneg f l h

theorem sumL_map_filter {α : Type} (q : α → Bool) (f : α → Int) (l : List α) :
    sumL ((l.filter q).map f) = sumL (l.map fun x => if q x then f x else 0) := by
  induction l with
  | nil => rfl
  | cons x xs ih =>
    simp only [List.filter_cons, List.map_cons, sumL, ← ih]
    cases q x <;> simp [sumL]

theorem sumL_map_concat {α : Type} (f : α → Int) (l : List α) (x : α) :
    sumL ((l ++ [x]).map f) = sumL (l.map f) + f x := by
  rw [sumL_eq, sumL_eq, ListSum.sum_map_snoc]

theorem sumL_map_setAt {α : Type} (f : α → Int) (l : List α) (i : Nat) (y x : α) (h : l[i]? = some x) :
    sumL ((setAt l i y).map f) = sumL (l.map f) - f x + f y := by
  induction l generalizing i with
  | nil => cases h
  | cons a as ih =>
    cases i with
    | zero => cases h; simp only [setAt, List.map_cons, sumL]; omega
    | succ i => simp only [setAt, List.map_cons, sumL, ih i h]; omega

theorem mem_setAt {α : Type} (l : List α) (i : Nat) (y x : α) (h : x ∈ setAt l i y) : x ∈ l ∨ x = y := by
  induction l generalizing i with
  | nil => cases h
  | cons a as ih =>
    cases i with
    | zero =>
      rcases List.mem_cons.mp h with rfl | h
      · exact Or.inr rfl
      · exact Or.inl (List.mem_cons_of_mem _ h)
    | succ i =>
      rcases List.mem_cons.mp h with rfl | h
      · exact Or.inl (List.mem_cons_self ..)
      · exact (ih i h).imp_left (List.mem_cons_of_mem _)

theorem all_nonneg_of_not_anyNeg (rs : List Int) (h : anyNeg rs = false) : ∀ x ∈ rs, 0 ≤ x := by
  induction rs with
  | nil => exact nofun
  | cons x xs ih =>
    simp only [anyNeg, Bool.or_eq_false_iff, decide_eq_false_iff_not] at h
    intro y hy
    rcases List.mem_cons.mp hy with rfl | hy
    · omega
    · exact ih h.2 y hy

theorem sumL_nonneg_of_not_anyNeg (rs : List Int) (h : anyNeg rs = false) : 0 ≤ sumL rs :=
  sumL_nonneg rs (all_nonneg_of_not_anyNeg rs h)

theorem posOnly_nonneg (l : List Int) : ∀ x ∈ posOnly l, 0 ≤ x := by
  induction l with
  | nil => exact nofun
  | cons a as ih =>
    unfold posOnly
    split
    · intro x hx
      rcases List.mem_cons.mp hx with rfl | hx
      · omega
      · exact ih x hx
    · exact ih

theorem sendAll_bounds (rs : List Int) (h : ∀ x ∈ rs, 0 ≤ x) (bal : Int) :
    bal - sumL rs ≤ (sendAll bal rs).1 ∧ (sendAll bal rs).1 ≤ bal := by
  induction rs generalizing bal with
  | nil => simp [sendAll, sumL]
  | cons r rs ih =>
    obtain ⟨hr, h'⟩ := List.forall_mem_cons.mp h
    unfold sendAll
    split
    · have := ih h' (bal - r)
      simp only [sumL]
      constructor <;> omega
    · have := ih h' bal
      simp only [sumL]
      constructor <;> omega

theorem sendAll_exact (rs : List Int) (h : ∀ x ∈ rs, 0 ≤ x) (bal : Int) (hb : sumL rs ≤ bal) :
    sendAll bal rs = (bal - sumL rs, rs) := by
  induction rs generalizing bal with
  | nil => simp [sendAll, sumL]
  | cons r rs ih =>
    obtain ⟨hr, h'⟩ := List.forall_mem_cons.mp h
    have hs := sumL_nonneg rs h'
    simp only [sumL] at hb
    unfold sendAll
    rw [if_pos (by omega), ih h' (bal - r) (by omega)]
    simp only [sumL]
    congr 1; omega

/-- what every stored non-swap-fee gauge satisfies.  `distributed` is bounded by the allocations of the epochs triggered so
far, not by the deposit: that bound is kept by `trigger` step by step, and `distributed ≤ deposit` follows from it -/
def GInv (g : Gauge) : Prop :=
  0 ≤ g.distributed ∧ g.triggered ≤ g.total ∧ 0 ≤ g.deposit ∧
  g.distributed ≤ (prefixSum g.deposit.toNat g.total g.triggered : Int)

theorem GInv_le_deposit (g : Gauge) (h : GInv g) : g.distributed ≤ g.deposit := by
  obtain ⟨_, h2, h3, h4⟩ := h
  have := prefixSum_le_total g.deposit.toNat g.total g.triggered h2
  omega

theorem newGauge_inv (d : Int) (n : Nat) (s : Int) (hd : 0 ≤ d) : GInv (newGauge d n s) :=
  ⟨Int.le_refl 0, Nat.zero_le n, hd, Int.le_refl 0⟩

theorem allocation_some (g : Gauge) (a : Int) (h : allocation g = .ok (some a)) :
    g.triggered < g.total ∧ a = (splitAt g.deposit.toNat g.total g.triggered : Int) ∧ 0 ≤ g.deposit := by
  unfold allocation at h
  split at h
  · cases h
  · rename_i hr
    split at h
    · cases h
    · rename_i sp hsp
      split at h
      · cases h
      · rename_i a' ha
        cases h
        obtain ⟨h1, h2⟩ := split_get _ _ sp hsp _ _ ha
        exact ⟨h1, by rw [h2], by omega⟩

theorem trigger_cases (g g' : Gauge) (now : Int) (d : DistData) (sends : List Int)
    (h : trigger g now d = .ok (g', sends)) :
    (sends = [] ∧ (g' = g ∨ g' = { g with active := false })) ∨
    (∃ a, allocation g = .ok (some a) ∧ d = .ok sends ∧ (∀ x ∈ sends, 0 ≤ x) ∧ sumL sends ≤ a ∧
        a ≤ g.deposit - g.distributed ∧
        g' = { g with triggered := g.triggered + 1, distributed := g.distributed + sumL sends }) := by
  unfold trigger at h
  rcases ite_eq_iff.mp h with ⟨_, h⟩ | ⟨_, h⟩
  · cases h; exact Or.inl ⟨rfl, Or.inl rfl⟩
  rcases ite_eq_iff.mp h with ⟨_, h⟩ | ⟨_, h⟩
  · cases h; exact Or.inl ⟨rfl, Or.inr rfl⟩
  cases hal : allocation g with
  | error e => rw [hal] at h; cases h
  | ok oa =>
    rw [hal] at h
    cases oa with
    | none => cases h; exact Or.inl ⟨rfl, Or.inl rfl⟩
    | some alloc =>
      rcases ite_eq_iff.mp h with ⟨_, h⟩ | ⟨h3, h⟩
      · cases h; exact Or.inl ⟨rfl, Or.inl rfl⟩
      cases d with
      | err => cases h; exact Or.inl ⟨rfl, Or.inl rfl⟩
      | ok rs =>
        rcases ite_eq_iff.mp h with ⟨_, h⟩ | ⟨h4, h⟩
        · cases h
        rcases ite_eq_iff.mp h with ⟨_, h⟩ | ⟨h5, h⟩
        · cases h; exact Or.inl ⟨rfl, Or.inl rfl⟩
        cases h
        exact Or.inr ⟨alloc, rfl, rfl, all_nonneg_of_not_anyNeg _ (Bool.not_eq_true _ ▸ h4), by omega, by omega, rfl⟩

theorem trigger_inv (g g' : Gauge) (now : Int) (d : DistData) (sends : List Int)
    (h : trigger g now d = .ok (g', sends)) (hg : GInv g) : GInv g' := by
  rcases trigger_cases g g' now d sends h with ⟨_, rfl | rfl⟩ | ⟨a, ha, _, hnn, hsum, _, rfl⟩
  · exact hg
  · exact hg
  · obtain ⟨i1, i2, i3, i4⟩ := hg
    obtain ⟨a1, a2, _⟩ := allocation_some g a ha
    have hs := sumL_nonneg sends hnn
    refine ⟨by simp only; omega, by simp only; omega, i3, ?_⟩
    simp only
    rw [prefixSum_succ]
    push_cast
    omega

theorem trigger_deposit_total (g g' : Gauge) (now : Int) (d : DistData) (sends : List Int)
    (h : trigger g now d = .ok (g', sends)) : g'.deposit = g.deposit ∧ g'.total = g.total := by
  rcases trigger_cases g g' now d sends h with ⟨_, rfl | rfl⟩ | ⟨a, _, _, _, _, _, rfl⟩ <;> exact ⟨rfl, rfl⟩

theorem runGauge_inv (g : Gauge) (hist : List (Int × DistData)) (hg : GInv g) :
    GInv (runGauge g hist) ∧ (runGauge g hist).deposit = g.deposit ∧ (runGauge g hist).total = g.total := by
  induction hist generalizing g with
  | nil => exact ⟨hg, rfl, rfl⟩
  | cons x xs ih =>
    obtain ⟨now, d⟩ := x
    have hstep : GInv (triggerOrRevert g now d) ∧ (triggerOrRevert g now d).deposit = g.deposit ∧
        (triggerOrRevert g now d).total = g.total := by
      unfold triggerOrRevert
      split
      · rename_i g' s h; exact ⟨trigger_inv g g' now d s h hg, trigger_deposit_total g g' now d s h⟩
      · exact ⟨hg, rfl, rfl⟩
    obtain ⟨i1, i2, i3⟩ := ih (triggerOrRevert g now d) hstep.1
    exact ⟨i1, i2.trans hstep.2.1, i3.trans hstep.2.2⟩

theorem sfDistribute_cases (g : SfGauge) (d : DistData) (r : Option (SfGauge × List Int)) (h : sfDistribute g d = .ok r)
    (hg : 0 ≤ g.deposit) :
    r = none ∨ ∃ g1 sends, r = some (g1, sends) ∧ (∀ x ∈ sends, 0 ≤ x) ∧ sumL sends ≤ g.deposit ∧
      g1.deposit = g.deposit - sumL sends ∧ g1.distributed = g.distributed + sumL sends ∧
      g1.triggered = g.triggered := by
  unfold sfDistribute at h
  rcases ite_eq_iff.mp h with ⟨_, h⟩ | ⟨_, h⟩
  · cases d with
    | err => cases h; exact Or.inl rfl
    | ok rs =>
      rcases ite_eq_iff.mp h with ⟨_, h⟩ | ⟨hn, h⟩
      · cases h
      rcases ite_eq_iff.mp h with ⟨_, h⟩ | ⟨hs, h⟩
      · cases h; exact Or.inl rfl
      cases h
      exact Or.inr ⟨_, rs, rfl, all_nonneg_of_not_anyNeg rs (Bool.not_eq_true _ ▸ hn), by omega, rfl, rfl, rfl⟩
  · cases h
    exact Or.inr ⟨g, [], rfl, nofun, hg, (Int.sub_zero _).symm, (Int.add_zero _).symm, rfl⟩

theorem sfTrigger_cases (g g' : SfGauge) (d : DistData) (x : Xfer) (sends : List Int) (recv : Int)
    (h : sfTrigger g d x = .ok (g', sends, recv)) (hg : 0 ≤ g.deposit) :
    (∀ r ∈ sends, 0 ≤ r) ∧ sumL sends ≤ g.deposit ∧ g'.distributed = g.distributed + sumL sends ∧
    ((g' = g ∧ recv = 0 ∧ sends = []) ∨
     (x = .err ∧ recv = 0 ∧ g'.triggered = g.triggered ∧ g'.deposit = g.deposit - sumL sends) ∨
     (∃ amt : Nat, x = .ok amt ∧ recv = amt ∧ g'.triggered = g.triggered + 1 ∧ g'.deposit = g.deposit - sumL sends + amt) ∨
     (∃ amt : Nat, x = .moved amt ∧ recv = 0 ∧ g'.triggered = g.triggered + 1 ∧ g'.deposit = 0)) := by
  unfold sfTrigger at h
  split at h
  · cases h
  · cases h
    exact ⟨nofun, hg, (Int.add_zero _).symm, Or.inl ⟨rfl, rfl, rfl⟩⟩
  · rename_i g1 s1 hdist
    rcases sfDistribute_cases g d _ hdist hg with hnone | ⟨_, _, heq, hnn, hle, hd1, hd2, hd3⟩
    · cases hnone
    · cases heq
      cases x with
      | err => cases h; exact ⟨hnn, hle, hd2, Or.inr (Or.inl ⟨rfl, rfl, hd3, hd1⟩)⟩
      | ok amt =>
        cases h
        exact ⟨hnn, hle, hd2, Or.inr (Or.inr (Or.inl ⟨amt, rfl, rfl, by simp only; omega, by simp only; omega⟩))⟩
      | moved amt =>
        cases h
        exact ⟨hnn, hle, hd2, Or.inr (Or.inr (Or.inr ⟨amt, rfl, rfl, by simp only; omega, rfl⟩))⟩

theorem sfTrigger_bounds (g g' : SfGauge) (d : DistData) (x : Xfer) (sends : List Int) (recv : Int)
    (h : sfTrigger g d x = .ok (g', sends, recv)) (hg : 0 ≤ g.deposit) :
    0 ≤ recv ∧ 0 ≤ g'.deposit ∧ g'.deposit ≤ g.deposit - sumL sends + recv := by
  obtain ⟨_, hs, _, hc⟩ := sfTrigger_cases g g' d x sends recv h hg
  rcases hc with ⟨rfl, rfl, rfl⟩ | ⟨_, rfl, _, hd⟩ | ⟨amt, _, rfl, _, hd⟩ | ⟨amt, _, rfl, _, hd⟩
  · simp only [sumL]; omega
  · omega
  · omega
  · omega

/-- swap-fee deposits are coins: never negative -/
def SInv (l : Ledger) : Prop := ∀ s ∈ l.sfs, 0 ≤ s.deposit

/-- the sum of the undistributed remainders is a signed one: a programme that over-paid counts negatively -/
def LInv (l : Ledger) : Prop :=
  (∀ g ∈ l.gauges, GInv g) ∧ remGauges l.gauges + remExts l.exts + remSfs l.sfs ≤ l.bal

/-- `LInv` survives a swap-fee trigger only with `SInv` (the gauge pays within a non-negative deposit) -/
def LedgerOk (l : Ledger) : Prop := LInv l ∧ SInv l

theorem remGauges_eq (gs : List Gauge) : remGauges gs = sumL (gs.map gaugeRem) := by
  induction gs with
  | nil => rfl
  | cons g gs ih => simp only [remGauges, List.map_cons, sumL, ih]

theorem remExts_eq (xs : List Ext) : remExts xs = sumL (xs.map (·.avail)) := by
  induction xs with
  | nil => rfl
  | cons x xs ih => simp only [remExts, List.map_cons, sumL, ih]

theorem remSfs_eq (gs : List SfGauge) : remSfs gs = sumL (gs.map (·.deposit)) := by
  induction gs with
  | nil => rfl
  | cons g gs ih => simp only [remSfs, List.map_cons, sumL, ih]

theorem remActiveGauges_eq (gs : List Gauge) :
    remActiveGauges gs = sumL (gs.map fun g => if g.active then gaugeRem g else 0) := by
  induction gs with
  | nil => rfl
  | cons g gs ih => simp only [remActiveGauges, List.map_cons, sumL, ih]

theorem remActiveExts_eq (xs : List Ext) :
    remActiveExts xs = sumL (xs.map fun x => if x.active then x.avail else 0) := by
  induction xs with
  | nil => rfl
  | cons x xs ih => simp only [remActiveExts, List.map_cons, sumL, ih]

/-- what an accepted operation of a block did to the ledger: nothing, or one pot rewritten in place with its sends (and, for a
swap-fee gauge, what it received), or a swap-fee gauge appended with its funds -/
inductive BStep (l : Ledger) : BOp → Ledger → Prop
  | skip (o : BOp) : BStep l o l
  | trigger {i : Nat} {now : Int} {d : DistData} {g g' : Gauge} {sends : List Int} :
      l.gauges[i]? = some g → trigger g now d = .ok (g', sends) →
      BStep l (.trigger i now d) { l with bal := (sendAll l.bal sends).1, gauges := setAt l.gauges i g' }
  | extPay {j : Nat} {x : Ext} (pays : List Int) : l.exts[j]? = some x →
      BStep l (.extPay j pays) { l with bal := (sendAll l.bal (posOnly pays)).1,
                                        exts := setAt l.exts j { x with avail := x.avail - sumL (posOnly pays) } }
  | extDeactivate {j : Nat} {x : Ext} : l.exts[j]? = some x →
      BStep l (.extDeactivate j) { l with exts := setAt l.exts j { x with active := false } }
  | sfTrigger {i : Nat} {d : DistData} {x : Xfer} {g g' : SfGauge} {sends : List Int} {recv : Int} :
      l.sfs[i]? = some g → sfTrigger g d x = .ok (g', sends, recv) →
      BStep l (.sfTrigger i d x) { l with bal := (sendAll l.bal sends).1 + recv, sfs := setAt l.sfs i g' }
  | sfArrive (amt t : Nat) :
      BStep l (.sfArrive amt t) { l with bal := l.bal + amt, sfs := l.sfs ++ [{ deposit := amt, distributed := 0, triggered := t }] }

theorem stepB_cases {l l' : Ledger} {o : BOp} (h : stepB l o = .ok l') : BStep l o l' := by
  cases o with
  | trigger i now d =>
    simp only [stepB] at h
    split at h
    · cases h; exact .skip _
    next g hgi =>
    split at h
    · cases h
    next g' sends ht => cases h; exact .trigger hgi ht
  | extPay j pays =>
    simp only [stepB] at h
    split at h
    · cases h; exact .skip _
    next x hx =>
    split at h
    · cases h; exact .skip _
    · cases h; exact .extPay pays hx
  | extDeactivate j =>
    simp only [stepB] at h
    split at h
    · cases h; exact .skip _
    next x hx => cases h; exact .extDeactivate hx
  | sfTrigger i d x =>
    simp only [stepB] at h
    split at h
    · cases h; exact .skip _
    next g hgi =>
    split at h
    · cases h
    next g' sends recv ht => cases h; exact .sfTrigger hgi ht
  | sfArrive amt t =>
    simp only [stepB] at h
    cases h; exact .sfArrive amt t

theorem stepB_gauges (Q : Gauge → Prop) (hQ : ∀ g g' now d sends, trigger g now d = .ok (g', sends) → Q g → Q g')
    (l l' : Ledger) (o : BOp) (h : stepB l o = .ok l') (hl : ∀ g ∈ l.gauges, Q g) : ∀ g ∈ l'.gauges, Q g := by
  cases stepB_cases h with
  | trigger hgi ht =>
    intro x hx
    rcases mem_setAt _ _ _ _ hx with hx | rfl
    · exact hl x hx
    · exact hQ _ _ _ _ _ ht (hl _ (List.mem_of_getElem? hgi))
  | _ => exact hl

theorem stepB_sinv (l l' : Ledger) (o : BOp) (h : stepB l o = .ok l') (hs : SInv l) : SInv l' := by
  cases stepB_cases h with
  | sfTrigger hgi ht =>
    intro s hsm
    rcases mem_setAt _ _ _ _ hsm with hsm | rfl
    · exact hs s hsm
    · exact (sfTrigger_bounds _ s _ _ _ _ ht (hs _ (List.mem_of_getElem? hgi))).2.1
  | sfArrive amt t =>
    intro s hsm
    rcases List.mem_append.mp hsm with hsm | hsm
    · exact hs s hsm
    · cases List.mem_singleton.mp hsm; exact Int.natCast_nonneg _
  | _ => exact hs

theorem stepB_inv (l l' : Ledger) (o : BOp) (h : stepB l o = .ok l') (hl : LInv l) (hs : SInv l) : LInv l' := by
  refine ⟨stepB_gauges GInv trigger_inv l l' o h hl.1, ?_⟩
  have hb := hl.2
  simp only [remGauges_eq, remExts_eq, remSfs_eq] at hb ⊢
  cases stepB_cases h with
  | skip => exact hb
  | @trigger i now d g g' sends hgi ht =>
    simp only
    rw [sumL_map_setAt _ _ _ _ _ hgi]
    rcases trigger_cases g g' now d sends ht with ⟨rfl, rfl | rfl⟩ | ⟨a, _, _, hnn, _, _, rfl⟩
    · simp only [sendAll, gaugeRem]; omega
    · simp only [sendAll, gaugeRem]; omega
    · have := (sendAll_bounds sends hnn l.bal).1
      simp only [gaugeRem]; omega
  | extPay pays hx =>
    simp only
    rw [sumL_map_setAt _ _ _ _ _ hx]
    have := (sendAll_bounds (posOnly pays) (posOnly_nonneg pays) l.bal).1
    simp only; omega
  | extDeactivate hx =>
    simp only
    rw [sumL_map_setAt _ _ _ _ _ hx]; simp only; omega
  | @sfTrigger i d x g g' sends recv hgi ht =>
    simp only
    rw [sumL_map_setAt _ _ _ _ _ hgi]
    have hg0 := hs g (List.mem_of_getElem? hgi)
    have hnn := (sfTrigger_cases g g' d x sends recv ht hg0).1
    have hd := (sfTrigger_bounds g g' d x sends recv ht hg0).2.2
    have hsb := (sendAll_bounds sends hnn l.bal).1
    omega
  | sfArrive amt t => simp only [sumL_map_concat]; omega

theorem stepB_ok (l l' : Ledger) (o : BOp) (h : stepB l o = .ok l') (hl : LedgerOk l) : LedgerOk l' :=
  ⟨stepB_inv l l' o h hl.1 hl.2, stepB_sinv l l' o h hl.2⟩

theorem block_preserves (I : Ledger → Prop) (hI : ∀ l l' o, stepB l o = .ok l' → I l → I l')
    (l : Ledger) (ops : List BOp) (h : I l) : I (step l (.block ops)) := by
  have hrun : ∀ (os : List BOp) (l l' : Ledger), runB l os = .ok l' → I l → I l' := by
    intro os
    induction os with
    | nil => intro l l' h hl; cases h; exact hl
    | cons o os ih =>
      intro l l' h hl
      simp only [runB] at h
      split at h
      · cases h
      · rename_i l1 h1; exact ih l1 l' h (hI l l1 o h1 hl)
  simp only [step]
  split
  · rename_i l' hr; exact hrun ops l l' hr h
  · exact h

theorem run_preserves (I : Ledger → Prop) (hI : ∀ l o, I l → I (step l o)) (l : Ledger) (ops : List Op) (h : I l) :
    I (run l ops) := by
  induction ops generalizing l with
  | nil => exact h
  | cons o os ih => exact ih (step l o) (hI l o h)

theorem step_sinv (l : Ledger) (o : Op) (hs : SInv l) : SInv (step l o) := by
  cases o with
  | createGauge deposit total start now dur minDur aux funds => simp only [step]; split <;> exact hs
  | createExt amount funds => simp only [step]; split <;> exact hs
  | fund amount => simp only [step]; split <;> exact hs
  | createSf =>
    intro s hsm
    rcases List.mem_append.mp hsm with hsm | hsm
    · exact hs s hsm
    · cases List.mem_singleton.mp hsm; exact Int.le_refl 0
  | block ops => exact block_preserves SInv stepB_sinv l ops hs

theorem step_gauges (Q : Gauge → Prop)
    (hnew : ∀ deposit total start now dur minDur aux, createGuard deposit total start now dur minDur aux = true →
      Q (newGauge deposit total start))
    (hQ : ∀ g g' now d sends, trigger g now d = .ok (g', sends) → Q g → Q g')
    (l : Ledger) (o : Op) (hl : ∀ g ∈ l.gauges, Q g) : ∀ g ∈ (step l o).gauges, Q g := by
  cases o with
  | createGauge deposit total start now dur minDur aux funds =>
    simp only [step]
    split
    · rename_i hc
      intro g hgm
      rcases List.mem_append.mp hgm with hgm | hgm
      · exact hl g hgm
      · cases List.mem_singleton.mp hgm
        exact hnew deposit total start now dur minDur aux (Bool.and_eq_true_iff.mp hc).1
    · exact hl
  | createExt amount funds => simp only [step]; split <;> exact hl
  | fund amount => simp only [step]; split <;> exact hl
  | createSf => exact hl
  | block ops => exact block_preserves (fun l => ∀ g ∈ l.gauges, Q g) (stepB_gauges Q hQ) l ops hl

theorem createGuard_bounds (deposit : Int) (total : Nat) (start now dur minDur : Int) (aux : Bool)
    (h : createGuard deposit total start now dur minDur aux = true) : 1 ≤ total ∧ (total : Int) ≤ deposit := by
  simp only [createGuard, Bool.and_eq_true, decide_eq_true_eq] at h
  omega

theorem createGuard_inv (deposit : Int) (total : Nat) (start now dur minDur : Int) (aux : Bool)
    (h : createGuard deposit total start now dur minDur aux = true) : GInv (newGauge deposit total start) :=
  newGauge_inv deposit total start (by have := createGuard_bounds _ _ _ _ _ _ _ h; omega)

theorem step_ok (l : Ledger) (o : Op) (h : LedgerOk l) : LedgerOk (step l o) := by
  obtain ⟨⟨hg, hb⟩, hs⟩ := h
  cases o
  case block ops => exact block_preserves LedgerOk stepB_ok l ops ⟨⟨hg, hb⟩, hs⟩
  all_goals refine ⟨⟨step_gauges GInv createGuard_inv trigger_inv l _ hg, ?_⟩, step_sinv l _ hs⟩
  case createGauge =>
    simp only [step]
    split
    · simp only [remGauges_eq, sumL_map_concat] at hb ⊢
      simp only [gaugeRem, newGauge]; omega
    · exact hb
  case createExt =>
    simp only [step]
    split
    · simp only [remExts_eq, sumL_map_concat] at hb ⊢; omega
    · exact hb
  case fund =>
    simp only [step]
    split
    · simp only; omega
    · exact hb
  case createSf => simp only [step, remSfs_eq, sumL_map_concat] at hb ⊢; omega

theorem step_inv (l : Ledger) (o : Op) (hl : LInv l) (hs : SInv l) : LInv (step l o) := (step_ok l o ⟨hl, hs⟩).1

theorem run_ok (l : Ledger) (ops : List Op) (h : LedgerOk l) : LedgerOk (run l ops) :=
  run_preserves LedgerOk step_ok l ops h

theorem empty_ok : LedgerOk Ledger.empty := ⟨⟨nofun, Int.le_refl 0⟩, nofun⟩

theorem run_gauges_accepted (ops : List Op) :
    ∀ g ∈ (run Ledger.empty ops).gauges, 1 ≤ g.total ∧ (g.total : Int) ≤ g.deposit :=
  run_preserves (fun l => ∀ g ∈ l.gauges, 1 ≤ g.total ∧ (g.total : Int) ≤ g.deposit)
    (step_gauges _ createGuard_bounds fun g g' now d sends h hq => by
      obtain ⟨h1, h2⟩ := trigger_deposit_total g g' now d sends h
      rw [h1, h2]; exact hq)
    Ledger.empty ops nofun

theorem GInv_rem_nonneg (g : Gauge) (h : GInv g) : 0 ≤ gaugeRem g := by
  have := GInv_le_deposit g h
  unfold gaugeRem; omega

theorem remActiveGauges_le (gs : List Gauge) (h : ∀ g ∈ gs, 0 ≤ gaugeRem g) : remActiveGauges gs ≤ remGauges gs := by
  rw [remActiveGauges_eq, remGauges_eq]
  exact sumL_map_le gs _ _ fun g hg => ite_zero_le _ _ (h g hg)

theorem remActiveExts_le (xs : List Ext) (h : ∀ x ∈ xs, 0 ≤ x.avail) : remActiveExts xs ≤ remExts xs := by
  rw [remActiveExts_eq, remExts_eq]
  exact sumL_map_le xs _ _ fun x hx => ite_zero_le _ _ (h x hx)

theorem gaugeRem_le_remGauges (gs : List Gauge) (h : ∀ g ∈ gs, 0 ≤ gaugeRem g) (g : Gauge) (hg : g ∈ gs) :
    gaugeRem g ≤ remGauges gs := by
  rw [remGauges_eq]
  refine le_sumL_of_mem _ (fun y hy => ?_) _ (List.mem_map_of_mem hg)
  obtain ⟨x, hx, rfl⟩ := List.mem_map.mp hy
  exact h x hx

theorem remExts_nonneg (xs : List Ext) (h : ∀ x ∈ xs, 0 ≤ x.avail) : 0 ≤ remExts xs := by
  rw [remExts_eq]; exact sumL_map_nonneg xs _ h

theorem remSfs_nonneg (gs : List SfGauge) (h : ∀ g ∈ gs, 0 ≤ g.deposit) : 0 ≤ remSfs gs := by
  rw [remSfs_eq]; exact sumL_map_nonneg gs _ h

end Comdex.Gauge
