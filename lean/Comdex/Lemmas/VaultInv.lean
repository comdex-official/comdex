import Comdex.Lemmas.VaultStep
import Comdex.Lemmas.VaultKinds
/-! Every vault message preserves the ledger invariant `InvB` (hence `InvG`), some only up to a stated shift of the offsets `G`: each
handler is one kind of record update (`Lemmas/VaultKinds.lean`) on the state its bank calls leave (`Lemmas/VaultStep.lean`).
`H_invB` concludes `InvB` for any bounds `Within` the configured limits; `settle_inv`, `settle1_inv`, `esmStable_inv`, `esmReturn1_inv`, `step_inv` are the `InvG`
forms the properties name (explicit arguments). -/
namespace Comdex.Vault

variable {cfg : Nat → Option Product} {lo hi : Nat → Product → Int} {G : Gaps} {s s' : State} {p : Product} {e : Env}

theorem Owned.nonneg {f app pr vid : Nat} {v0 : VaultRec} {i : Int} (ho : Owned s p e f app pr vid v0 i) (h : Wf cfg s) :
    ({ v0 with interest := v0.interest + i } : VaultRec).Nonneg :=
  let hv := h.vault_nonneg ho.mem
  ⟨hv.amountIn, hv.amountOut, Int.add_nonneg hv.interest ho.iota_nonneg, hv.closingFee⟩

section handlers
variable {f app pr vid : Nat} {x : Int}

theorem deposit_invB (hp : cfg pr = some p) (hu : f ≠ vm) (hinv : InvB cfg lo hi G s)
    (h : deposit s p e f app pr vid x = some s') : InvB cfg lo hi G s' := by
  obtain ⟨v, hov, g, s1, hb, rfl⟩ := deposit_eq_some.mp h
  obtain ⟨v0, i, rfl, ho⟩ := ownedVault_eq_some.mp hov
  cases ho.product
  exact inv_setVault _ hinv (runBank_effect _ _ _ hb) ho.mem hp rfl rfl rfl (Int.add_zero _).symm
    { ho.nonneg hinv.wf with amountIn := Int.le_of_lt g.coll_pos }
    (fun _ => netVm_in hu (Int.le_of_lt g.amt_pos)) (fun _ => (ite_self 0).symm) (upd1_add _ _ _) (fun _ => ite_add_zero _ _)
    (Or.inl (Int.le_refl 0)) (Or.inl (Int.le_refl 0))

theorem withdraw_invB (hp : cfg pr = some p) (hu : f ≠ vm) (hinv : InvB cfg lo hi G s)
    (h : withdraw s p e f app pr vid x = some s') : InvB cfg lo hi G s' := by
  obtain ⟨v, hov, g, s1, hb, rfl⟩ := withdraw_eq_some.mp h
  obtain ⟨v0, i, rfl, ho⟩ := ownedVault_eq_some.mp hov
  cases ho.product
  exact inv_setVault _ hinv (runBank_effect _ _ _ hb) ho.mem hp rfl rfl (Int.sub_eq_add_neg ..) (Int.add_zero _).symm
    { ho.nonneg hinv.wf with amountIn := Int.le_of_lt g.coll_pos }
    (fun _ => netVm_out hu (Int.le_of_lt g.amt_pos)) (fun _ => (ite_self 0).symm) (upd1_sub _ _ _) (fun _ => ite_add_zero _ _)
    (Or.inl (Int.le_refl 0)) (Or.inl (Int.le_refl 0))

theorem draw_invB (hw : Within cfg lo hi) (hc : CfgOk cfg) (hp : cfg pr = some p) (hu : f ≠ vm) (hinv : InvB cfg lo hi G s)
    (h : draw s p e f app pr vid x = some s') : InvB cfg lo hi G s' := by
  obtain ⟨v, hov, g, s1, hb, rfl⟩ := draw_eq_some.mp h
  obtain ⟨v0, i, rfl, ho⟩ := ownedVault_eq_some.mp hov
  cases ho.product
  have hnn := ho.nonneg hinv.wf
  exact inv_setVault _ hinv (runBank_effect _ _ _ hb) ho.mem hp rfl rfl (Int.add_zero _).symm rfl
    { hnn with amountOut := Int.add_nonneg hnn.amountOut (Int.le_of_lt g.amt_pos) }
    (fun d => (netVm_mintAndSplit p f x hu (hc.ok hp) g.amt_pos d).trans (ite_self 0).symm) (netSup_mintAndSplit p f x)
    (fun _ => ite_add_zero _ _) (upd1_add _ _ _) (Or.inl (Int.le_of_lt g.amt_pos)) (Or.inr (Int.le_trans (Int.le_of_lt g.ceiling) (hw.ceil hp)))

theorem repay_invB (hw : Within cfg lo hi) (hc : CfgOk cfg) (hp : cfg pr = some p) (hu : f ≠ vm) (hinv : InvB cfg lo hi G s)
    (h : repay s p e f app pr vid x = some s') : InvB cfg lo hi G s' := by
  obtain ⟨v, hov, g, h⟩ := repay_eq_some.mp h
  obtain ⟨v0, i, rfl, ho⟩ := ownedVault_eq_some.mp hov
  cases ho.product
  have hnn := ho.nonneg hinv.wf
  split at h
  · next hint =>
    obtain ⟨s1, hb, rfl⟩ := h
    exact inv_setVault _ hinv (runBank_effect _ _ _ hb) ho.mem hp rfl rfl (Int.add_zero _).symm (Int.add_zero _).symm
      { hnn with interest := Int.sub_nonneg_of_le hint }
      (fun _ => (netVm_repayInterestOps hu).trans (ite_self 0).symm) (fun _ => (ite_self 0).symm)
      (fun _ => ite_add_zero _ _) (fun _ => ite_add_zero _ _) (Or.inl (Int.le_refl 0)) (Or.inl (Int.le_refl 0))
  · next hint =>
    obtain ⟨hfl, s1, hb, rfl⟩ := h
    have hint : v0.interest + i < x := Int.not_le.mp hint
    exact inv_setVault _ hinv (runBank_effect _ _ _ hb) ho.mem hp rfl rfl (Int.add_zero _).symm (Int.sub_eq_add_neg ..)
      { hnn with amountOut := Int.le_trans (hc.ok hp).debtFloor_nonneg hfl, interest := Int.le_refl 0 }
      (fun _ => (netVm_repayPrincipalOps (v := { v0 with interest := v0.interest + i }) hu hnn.interest hint).trans
        (ite_self 0).symm)
      (fun _ => netSup_repayPrincipalOps (v := { v0 with interest := v0.interest + i }) hint)
      (fun _ => ite_add_zero _ _) (upd1_sub _ _ _) (Or.inr (Int.le_trans (hw.floor hp) hfl))
      (Or.inl (Int.neg_nonpos_of_nonneg (Int.sub_nonneg_of_le (Int.le_of_lt hint))))

theorem close_invB (hp : cfg pr = some p) (hu : f ≠ vm) (hinv : InvB cfg lo hi G s)
    (h : close s p e f app pr vid = some s') : InvB cfg lo hi G s' := by
  obtain ⟨-, -, v, hov, s1, hb, rfl⟩ := close_eq_some.mp h
  obtain ⟨v0, i, rfl, ho⟩ := ownedVault_eq_some.mp hov
  cases ho.product
  have hnn := ho.nonneg hinv.wf
  exact inv_delVault (v0 := v0) (Δe := fun _ => 0) hinv (runBank_effect _ _ _ hb) ho.mem hp
    (fun _ => netVm_closeOps hu hnn) (fun _ => (Int.sub_zero _).trans (netSup_closeOps hnn.amountOut))
    (fun _ => (Int.add_zero _).symm) (upd1_sub _ _ _) (upd1_sub _ _ _)

theorem depositAndDraw_invB (hw : Within cfg lo hi) (hc : CfgOk cfg) (hp : cfg pr = some p) (hu : f ≠ vm) (hinv : InvB cfg lo hi G s)
    (h : depositAndDraw s p e f app pr vid x = some s') : InvB cfg lo hi G s' := by
  obtain ⟨_, -, y, -, s1, hd, h⟩ := depositAndDraw_eq_some.mp h
  exact draw_invB hw hc hp hu (deposit_invB hp hu hinv hd) h

theorem interestCalc_invB (hinv : InvB cfg lo hi G s) (h : interestCalc s e vid = some s') : InvB cfg lo hi G s' := by
  obtain ⟨v0, hf, i, -, hi, rfl⟩ := interestCalc_eq_some.mp h
  have hm := (findVault_mem hf).1
  have hnn := hinv.wf.vault_nonneg hm
  obtain ⟨p, hp⟩ := Option.isSome_iff_exists.mp (hinv.wf.vault_configured hm)
  exact inv_setVault _ hinv (runBank_effect [] s s rfl) hm hp rfl rfl (Int.add_zero _).symm (Int.add_zero _).symm
    { hnn with interest := Int.add_nonneg hnn.interest hi }
    (fun _ => (ite_self 0).symm) (fun _ => (ite_self 0).symm) (fun _ => ite_add_zero _ _) (fun _ => ite_add_zero _ _)
    (Or.inl (Int.le_refl 0)) (Or.inl (Int.le_refl 0))

theorem create_invB {i o : Int} (hw : Within cfg lo hi) (hc : CfgOk cfg) (hp : cfg pr = some p) (hu : f ≠ vm) (hinv : InvB cfg lo hi G s)
    (h : create s p e f app pr i o = some s') : InvB cfg lo hi G s' := by
  obtain ⟨g, s1, hb, rfl⟩ := create_eq_some.mp h
  have hpo := hc.ok hp
  have hi := Int.le_of_lt g.amtIn_pos
  have ho := Int.le_of_lt g.amtOut_pos
  exact inv_snocVault ⟨s1.nextVault + 1, f, pr, i, o, 0, feeOf o p.closingFee⟩ hinv (runBank_effect _ _ _ hb) hp rfl
    ⟨hi, ho, Int.le_refl 0, feeOf_nonneg _ _ ho hpo.closingFee_nonneg⟩
    (fun _ => netVm_createOps hu hpo hi g.amtOut_pos) (fun _ => netSup_createOps) (upd1_add _ _ _) (upd1_add _ _ _)
    (Int.le_trans (hw.floor hp) g.floor) (Int.le_trans g.ceiling (hw.ceil hp))

theorem seize_invB (hp : cfg p.id = some p) (hinv : InvB cfg lo hi G s) (h : seize s p e vid = some s') : InvB cfg lo hi G s' := by
  obtain ⟨v0, hf, i, -, hprod, hi, s1, hb, rfl⟩ := seize_eq_some.mp h
  have hm := (findVault_mem hf).1
  have hnn := hinv.wf.vault_nonneg hm
  exact inv_seizeVault _ hinv (runBank_effect _ _ _ hb) hm (hprod ▸ hp)
    (by have := hnn.interest; have := hnn.closingFee; omega)
    (fun _ => netVm_out (by decide) hnn.amountIn) (fun _ => rfl)

theorem esmVault_invB (hp : cfg p.id = some p) (hinv : InvB cfg lo hi G s) (h : esmVault s p e vid = some s') : InvB cfg lo hi G s' := by
  obtain ⟨v0, hf, hprod, -, -, s1, hb, rfl⟩ := esmVault_eq_some.mp h
  have hm := (findVault_mem hf).1
  rw [← hprod] at hp ⊢
  exact inv_delVault hinv (runBank_effect _ _ _ hb) hm hp (fun _ => netVm_out (by decide) (hinv.wf.vault_nonneg hm).amountIn)
    (fun _ => by show 0 - _ = _; split <;> omega) (upd1_add _ _ _) (upd1_sub _ _ _) (upd1_sub _ _ _)

theorem stableCreate_invB (hw : Within cfg lo hi) (hc : CfgOk cfg) (hp : cfg pr = some p) (hu : f ≠ vm) (hinv : InvB cfg lo hi G s)
    (h : stableCreate s p e f app pr x = some s') : InvB cfg lo hi G s' := by
  obtain ⟨-, -, -, -, hce, s1, hb, rfl⟩ := stableCreate_eq_some.mp h
  exact inv_snocStable ⟨s1.nextStable + 1, pr, x, otherToken x p.decIn p.decOut⟩ hinv (runBank_effect _ _ _ hb) hp rfl
    (fun _ => netVm_stableMintOps hu (hc.ok hp) (stableMintOps_pos hb)) (fun _ => netSup_stableMintOps) (upd1_add _ _ _)
    (upd1_add _ _ _) (Int.le_trans (Int.le_of_lt hce) (hw.ceil hp))

theorem stableDeposit_invB (hw : Within cfg lo hi) (hc : CfgOk cfg) (hp : cfg pr = some p) (hu : f ≠ vm) (hinv : InvB cfg lo hi G s)
    (h : stableDeposit s p e f app pr vid x = some s') : InvB cfg lo hi G s' := by
  obtain ⟨-, -, sv, hf, rfl, -, -, hce, s1, hb, rfl⟩ := stableDeposit_eq_some.mp h
  exact inv_setStable _ hinv (runBank_effect _ _ _ hb) (findStable_mem hf).1 hp rfl rfl rfl rfl
    (fun _ => netVm_stableMintOps hu (hc.ok hp) (stableMintOps_pos hb)) (fun _ => netSup_stableMintOps) (upd1_add _ _ _)
    (upd1_add _ _ _) (Or.inr (Int.le_trans (Int.le_of_lt hce) (hw.ceil hp)))

theorem stableWithdraw_invB (hc : CfgOk cfg) (hp : cfg pr = some p) (hu : f ≠ vm) (hinv : InvB cfg lo hi G s)
    (h : stableWithdraw s p e f app pr vid x = some s') : InvB cfg lo hi G s' := by
  obtain ⟨g, -, sv, hf, rfl, -, s1, hb, rfl⟩ := stableWithdraw_eq_some.mp h
  have hpo := hc.ok hp
  exact inv_setStable _ hinv (runBank_effect _ _ _ hb) (findStable_mem hf).1 hp rfl rfl (Int.sub_eq_add_neg ..)
    (Int.sub_eq_add_neg ..) (fun _ => netVm_stableWithdrawOps hu hpo g.amt_pos) (fun _ => netSup_stableWithdrawOps hpo g.amt_pos)
    (upd1_sub _ _ _) (upd1_sub _ _ _)
    (Or.inl (Int.neg_nonpos_of_nonneg (Int.le_of_lt (stableWithdrawAmounts_fst hpo g.amt_pos).1)))

theorem donate_invB {d0 : Nat} (hu : f ≠ vm) (hinv : InvB cfg lo hi G s) (h : donate s f d0 x = some s') : InvB cfg lo hi G s' := by
  obtain ⟨-, s1, hb, rfl⟩ := donate_eq_some.mp h
  have eff := runBank_effect _ _ _ hb
  exact inv_noRecords (ds := fun _ => 0) hinv eff.same.vaults eff.same.stables eff.same.locked eff.same.nextVault
    eff.same.nextStable eff.same.length eff.same.coll eff.same.minted
    (fun d => (eff.vmBal d).trans (by rw [netVm_cons, netVm_nil, dVm_send_in hu, Int.add_zero]))
    (fun d => (eff.supply d).trans rfl) (fun d => by simp only [eff.same.unsolicited, upd1_add])
    (fun d => by simp only [eff.same.extSupply, Int.add_zero])

theorem fund_invB {to d0 : Nat} (hinv : InvB cfg lo hi G s) (h : fund s to d0 x = some s') : InvB cfg lo hi G s' := by
  obtain ⟨-, ha, rfl⟩ := fund_eq_some.mp h
  exact inv_noRecords (dv := fun _ => 0) hinv rfl rfl rfl rfl rfl rfl rfl rfl
    (fun d => (upd2_add ..).trans (by simp only [Ne.symm ha, false_and, if_false]))
    (fun _ => upd1_add ..) (fun _ => (Int.add_zero _).symm) (fun _ => upd1_add ..)

theorem esmCollector_invB {d0 : Nat} (hinv : InvB cfg lo hi G s) (h : esmCollector s app d0 x = some s') : InvB cfg lo hi G s' := by
  obtain ⟨-, -, rfl⟩ := esmCollector_eq_some.mp h
  exact inv_burnExt _ cm_ne_vm hinv

theorem esmBurn_invB {d0 : Nat} (hinv : InvB cfg lo hi G s) (h : esmBurn s f app d0 x = some s') : InvB cfg lo hi G s' := by
  obtain ⟨g, rfl⟩ := esmBurn_eq_some.mp h
  exact inv_burnExt _ g.user hinv

/-- the second-generation close is the first-generation one followed by the extra burn of interest and closing fee (finding D13) -/
theorem settle_invB {vaultId : Nat} (hinv : InvB cfg lo hi G s) (hpc : ∀ l ∈ s.locked, l.product = p.id → cfg l.product = some p)
    (h : settle s p vaultId = some s') :
    ∃ l ∈ s.locked, l.vaultId = vaultId ∧ l.amountOut ≤ l.debt ∧ InvB cfg lo hi (G.afterSettle p l) s' := by
  obtain ⟨l, hf, hprod, rfl⟩ := settle_eq_some.mp h
  obtain ⟨hm, hid⟩ := findLocked_mem hf
  have hl := (hinv.wf.lockedRec hm).2.2
  refine ⟨l, hm, hid, hl, ?_⟩
  have := inv_extraBurn (Int.sub_nonneg_of_le hl) l.product p.denomOut (inv_eraseLocked hinv hm (hpc l hm hprod))
  simp only [upd1_sub_sub] at this
  exact this

theorem settle_inv (cfg : Nat → Option Product) (G : Gaps) (s s' : State) (p : Product) (vaultId : Nat)
    (hinv : InvG cfg G s) (hpc : ∀ l ∈ s.locked, l.product = p.id → cfg l.product = some p)
    (h : settle s p vaultId = some s') :
    ∃ l ∈ s.locked, l.vaultId = vaultId ∧ l.amountOut ≤ l.debt ∧ InvG cfg (G.afterSettle p l) s' :=
  settle_invB (lo := cfgFloor) (hi := cfgCeil) hinv hpc h

theorem settle1_invB {vaultId : Nat} (hinv : InvB cfg lo hi G s) (hpc : ∀ l ∈ s.locked, l.product = p.id → cfg l.product = some p)
    (h : settle1 s p vaultId = some s') : InvB cfg lo hi G s' := by
  obtain ⟨l, hf, hprod, rfl⟩ := settle1_eq_some.mp h
  have hm := (findLocked_mem hf).1
  exact inv_eraseLocked hinv hm (hpc l hm hprod)

theorem settle1_inv (cfg : Nat → Option Product) (G : Gaps) (s s' : State) (p : Product) (vaultId : Nat)
    (hinv : InvG cfg G s) (hpc : ∀ l ∈ s.locked, l.product = p.id → cfg l.product = some p)
    (h : settle1 s p vaultId = some s') : InvG cfg G s' :=
  settle1_invB (lo := cfgFloor) (hi := cfgCeil) hinv hpc h

/-- emergency redemption of a stable-mint vault leaves the record behind (finding D29). `Wf` says nothing about the amounts of
stable-mint vaults, hence the premise `hout`. Custody and totals move while no record does, so the offsets change and
`inv_of_deltas` (same `G` on both sides) does not apply: the clauses are checked one by one -/
theorem esmStable_inv (cfg : Nat → Option Product) (G : Gaps) (s s' : State) (p : Product) (e : Env) (stableId : Nat)
    (hinv : InvG cfg G s) (hout : ∀ r ∈ s.stables, r.id = stableId → 0 ≤ r.amountOut)
    (h : esmStable s p e stableId = some s') :
    ∃ r ∈ s.stables, r.id = stableId ∧ r.product = p.id ∧ InvG cfg (G.afterEsmStable p r) s' := by
  obtain ⟨r, hf, hprod, -, -, s1, hb, rfl⟩ := esmStable_eq_some.mp h
  obtain ⟨hm, hid⟩ := findStable_mem hf
  have eff := runBank_effect _ _ _ hb
  have e := eff.same.shape; generalize s1.bal = b at *; generalize s1.supply = u at *; subst e
  obtain ⟨hwf, hcnt, hcus, htot, hsup, hlim⟩ := hinv
  refine ⟨r, hm, hid, hprod, hwf, hcnt, fun d => ?_, fun k => ?_, fun d => ?_, hlim.1, fun k q hq => ?_⟩
  · have h1 : s.bal vm d = collRecorded cfg s d + s.unsolicited d + G.cus d := hcus d
    show b vm d = collRecorded cfg s d + s.unsolicited d +
      (G.cus d - if d = p.denomIn then (if r.amountIn > 0 then r.amountIn else 0) else 0)
    have h2 : b vm d = s.bal vm d + _ := eff.vmBal d
    rw [h2, netVm_out' (by decide), h1, ← ite_del]; exact Int.add_sub_assoc ..
  · obtain ⟨h1, h2⟩ : s.coll k = collOfProduct s k + G.coll k ∧ s.minted k = mintedOfProduct s k + G.mint k := htot k
    show upd1 s.coll p.id (s.coll p.id - r.amountIn) k = collOfProduct s k + (G.coll k - if k = p.id then r.amountIn else 0) ∧
      upd1 s.minted p.id (s.minted p.id - r.amountOut) k = mintedOfProduct s k + (G.mint k - if k = p.id then r.amountOut else 0)
    rw [upd1_sub, upd1_sub, h1, h2]; constructor <;> split <;> omega
  · exact (eff.supply d).trans ((Int.add_zero _).trans (hsup d))
  · have := hlim.2 k q hq
    have := hout r hm hid
    show upd1 s.minted p.id (s.minted p.id - r.amountOut) k ≤ _
    rw [upd1_sub]; split <;> omega

theorem creditVault_invB {owner : Nat} {cin cout : Int} (hp : cfg p.id = some p) (hinv : InvB cfg lo hi G s)
    (hceil : s.minted p.id + cout ≤ hi p.id p)
    (hfloor : (s.vaults.find? (fun v => v.owner = owner ∧ v.product = p.id)) = none → lo p.id p ≤ cout)
    (h : creditVault s p owner cin cout = some s') : InvB cfg lo hi G s' := by
  obtain ⟨hcin, hcout, s1, hb, rfl⟩ := creditVault_eq_some.mp h
  have eff := runBank_effect _ _ _ hb
  -- the bump of the supply counts as part of the bank effect
  let s2 : State := { s1 with supply := upd1 s1.supply p.denomOut (s1.supply p.denomOut + cout) }
  have eff' : BankEffect s s2 (fun d => if d = p.denomIn then cin else 0) (fun d => if d = p.denomOut then cout else 0) :=
    ⟨eff.same.trans (SameRecords.set s1 s1.bal _), fun d => (eff.vmBal d).trans (by rw [netVm_in (by decide) hcin]),
     fun d => (upd1_add ..).trans (by rw [eff.supply d]; exact congrArg (· + _) (Int.add_zero _))⟩
  cases hf : s.vaults.find? (fun v => v.owner = owner ∧ v.product = p.id) with
  | some v0 =>
    rw [creditRecord_some (eff.same.vaults ▸ hf)]
    have hm : v0 ∈ s.vaults := List.mem_of_find?_eq_some hf
    have hpr : v0.product = p.id := (by simpa using List.find?_some hf : _ ∧ _).2
    have hnn := hinv.wf.vault_nonneg hm
    rw [← hpr] at hp hceil ⊢
    exact inv_setVault (s1 := s2) _ hinv eff' hm hp rfl rfl rfl rfl
      { hnn with amountIn := Int.add_nonneg hnn.amountIn hcin, amountOut := Int.add_nonneg hnn.amountOut hcout }
      (fun _ => rfl) (fun _ => rfl) (upd1_add _ _ _) (upd1_add _ _ _) (Or.inl hcout) (Or.inr hceil)
  | none =>
    rw [creditRecord_none (eff.same.vaults ▸ hf)]
    exact inv_snocVault (s1 := s2) ⟨s1.nextVault + 1, owner, p.id, cin, cout, 0, 0⟩ hinv eff' hp rfl
      ⟨hcin, hcout, Int.le_refl 0, Int.le_refl 0⟩ (fun _ => rfl) (fun _ => rfl) (upd1_add _ _ _) (upd1_add _ _ _)
      (hfloor hf) hceil

/-- **Wind-down with less than the principal collected keeps every ledger equation** (same offsets): custody, count, totals
and supply — provided the vault it re-creates respects the debt floor (a top-up of an existing vault always does). -/
theorem esmReturn1_inv (cfg : Nat → Option Product) (G : Gaps) (s s' : State) (p : Product) (e : Env) (vaultId owner : Nat)
    (cur infl : Int) (hp : cfg p.id = some p) (hinv : InvG cfg G s)
    (hfloor : ∀ l ∈ s.locked, l.vaultId = vaultId →
      (s.vaults.find? (fun v => v.owner = owner ∧ v.product = p.id)) = none → p.debtFloor ≤ l.amountOut - infl)
    (h : esmReturn1 s p e vaultId owner cur infl = some s') : InvG cfg G s' := by
  obtain ⟨l, hf, g, s1, h1, h2⟩ := esmReturn1_eq_some.mp h
  obtain ⟨hm, hid⟩ := findLocked_mem hf
  have hinv1 := settle1_inv cfg G s s1 p vaultId hinv (fun x _ hx => hx ▸ hp) h1
  obtain ⟨l', hf', -, rfl⟩ := settle1_eq_some.mp h1
  cases hf.symm.trans hf'
  refine creditVault_invB (lo := cfgFloor) (hi := cfgCeil) hp hinv1 ?_ (hfloor l hm hid) h2
  have := hinv.limits.2 p.id p hp
  have := g.collected_nonneg
  show _ ≤ p.debtCeiling
  simp only [g.product, upd1_sub, if_true]; omega

end handlers

/-- every message but the second-generation auction close (`notSettle`) and the three shutdown steps `esmRegular` excludes -/
theorem step_invB {m : Msg} (hw : Within cfg lo hi) (hc : CfgOk cfg) (hm : m.userOk) (hns : m.notSettle) (hne : m.esmRegular)
    (hinv : InvB cfg lo hi G s) (h : step cfg s e m = some s') : InvB cfg lo hi G s' := by
  by_cases hn : m.named = true
  · obtain ⟨p, hpr, hp, h⟩ := step_of_named hn h
    cases m with
    | create f a pr' i o => cases hpr; exact create_invB hw hc hp hm hinv h
    | deposit f a pr' v x => cases hpr; exact deposit_invB hp hm hinv h
    | withdraw f a pr' v x => cases hpr; exact withdraw_invB hp hm hinv h
    | draw f a pr' v x => cases hpr; exact draw_invB hw hc hp hm hinv h
    | repay f a pr' v x => cases hpr; exact repay_invB hw hc hp hm hinv h
    | close f a pr' v => cases hpr; exact close_invB hp hm hinv h
    | depositAndDraw f a pr' v x => cases hpr; exact depositAndDraw_invB hw hc hp hm hinv h
    | stableCreate f a pr' x => cases hpr; exact stableCreate_invB hw hc hp hm hinv h
    | stableDeposit f a pr' v x => cases hpr; exact stableDeposit_invB hw hc hp hm hinv h
    | stableWithdraw f a pr' v x => cases hpr; exact stableWithdraw_invB hc hp hm hinv h
    | interestCalc a v => exact interestCalc_invB hinv h
    | seize v => exact seize_invB hp hinv h
    | esmVault v => exact esmVault_invB hp hinv h
    | settle1 v => exact settle1_invB hinv (fun l _ hl => hl ▸ hp) h
    | settle v => exact hns.elim
    | esmStable v => exact hne.elim
    | esmReturn1 v o c i => exact hne.elim
    | esmReturn2 v o c d f => exact hne.elim
    | _ => cases hn
  · cases m with
    | donate f d x => exact donate_invB hm hinv h
    | fund t d x => exact fund_invB hinv h
    | esmCollector a d x => exact esmCollector_invB hinv h
    | esmBurn f a d x => exact esmBurn_invB hinv h
    | _ => exact absurd rfl hn

theorem step_inv (cfg : Nat → Option Product) (G : Gaps) (hc : CfgOk cfg) (s s' : State) (e : Env) (m : Msg)
    (hm : m.userOk) (hns : m.notSettle) (hne : m.esmRegular) (hinv : InvG cfg G s) (h : step cfg s e m = some s') : InvG cfg G s' :=
  step_invB (Within.refl cfg) hc hm hns hne hinv h

end Comdex.Vault
