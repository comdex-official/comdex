import Comdex.Model.DutchV1Lend
import Comdex.Lemmas.DutchV1
/-!
The first-generation lend auction model: the plan with its bonus (`PlanOK`), the invariant with the bonus pot (`Inv`), the one bank
formula of an accepted bid (`apply_ok`) and what it moves, account by account (`Moves`).
-/
namespace Comdex.DutchV1Lend
open Comdex.Dec
open Comdex.DutchV2 (Acct Denom Bank send sendPos xfer xfer_zero send_xfer sendPos_of_nonneg)

/-- the bonus on a slice, `⌊slice·LiquidationBonus⌋` -/
theorem bonus_bounds {e : Env} {slice : Int} (hb : (0 : Int) ≤ e.bonus) (hs : 0 ≤ slice) :
    0 ≤ Dec.truncateInt (Dec.mul (Dec.ofInt slice) e.bonus) ∧
    Dec.truncateInt (Dec.mul (Dec.ofInt slice) e.bonus) * P ≤ slice * e.bonus := by
  have hn : 0 ≤ slice * e.bonus := Int.mul_nonneg hs hb
  rw [ofInt_mul]
  exact ⟨truncateInt_nonneg hn, truncateInt_mul_le hn⟩

structure PlanOK (e : Env) (a : Auc) (p : Plan) : Prop where
  in_nonneg : 0 ≤ p.inAmt
  in_le_tab : p.inAmt ≤ e.target - a.inCur
  slice_nonneg : 0 ≤ p.slice
  slice_le : p.slice ≤ a.outCur
  bonus_nonneg : 0 ≤ p.bonusAmt
  bonus_le : p.bonusAmt * P ≤ p.slice * e.bonus

theorem plan_eq (e : Env) (a : Auc) (sl : Int) :
    plan e a sl = DutchV1.planG e.target e.decC e.decD e.decD e.dust a sl fun flag inAmt slice =>
      if !DutchPrice.fitsI64 slice then .error () else
      let b := Dec.truncateInt (Dec.mul (Dec.ofInt slice) e.bonus)
      if slice + b < 0 then .error ()
      else if a.outCur - slice < 0 then .error ()
      else .ok { flag := flag, inAmt := inAmt, slice := slice, bonusAmt := b } := rfl

theorem plan_ok {e : Env} {a : Auc} {slice0 : Int} {p : Plan} (hb : (0 : Int) ≤ e.bonus) (h : plan e a slice0 = .ok p) : PlanOK e a p := by
  rw [plan_eq] at h
  obtain ⟨-, flag, inAmt, slice, hfin, t1, t1', t2, -⟩ := DutchV1.planG_cases h
  obtain ⟨-, hfin⟩ := guard_ok hfin                                 -- `slice.Int64()`
  obtain ⟨-, hfin⟩ := guard_ok hfin                                 -- `NewCoin(slice + bonus)`
  obtain ⟨t3, hfin⟩ := guard_ok hfin                                -- `Coin.Sub`
  cases hfin
  obtain ⟨b1, b2⟩ := bonus_bounds hb t2
  exact ⟨t1, t1', t2, Int.sub_nonneg.mp (Int.not_lt.mp t3), b1, b2⟩

/-- `recv` counts slice and bonus, so `recv - bonusPaid` is the collateral SOLD; the liquidation moved `deposit` into the module for
`coll0` to sell: `deposit - coll0 - bonusPaid` is the unpaid part of that bonus pot, which stays after the close (D32). -/
structure Inv (e : Env) (s : St) : Prop where
  paid_nonneg : 0 ≤ s.paid
  bonus_nonneg : 0 ≤ s.bonusPaid
  sold_nonneg : 0 ≤ s.recv - s.bonusPaid
  bonus_le : s.bonusPaid * P ≤ (s.recv - s.bonusPaid) * e.bonus
  debt_custody : s.bank.get .auction .debt = s.otherD
  open_ : ∀ a, s.auc = some a →
      s.paid = a.inCur ∧ a.inCur ≤ e.target ∧ (s.recv - s.bonusPaid) + a.outCur = e.coll0 ∧ 0 ≤ a.outCur ∧
      s.bank.get .auction .coll = s.otherC + a.outCur + (e.deposit - e.coll0 - s.bonusPaid)
  closed : s.auc = none →
      s.paid ≤ e.target ∧ s.recv - s.bonusPaid ≤ e.coll0 ∧
      s.bank.get .auction .coll = s.otherC + (e.deposit - e.coll0 - s.bonusPaid)

structure Inv.Open (e : Env) (s : St) (a : Auc) : Prop where
  paid : s.paid = a.inCur
  in_le : a.inCur ≤ e.target
  sold : (s.recv - s.bonusPaid) + a.outCur = e.coll0
  out_nonneg : 0 ≤ a.outCur
  custody_coll : s.bank.get .auction .coll = s.otherC + a.outCur + (e.deposit - e.coll0 - s.bonusPaid)

theorem Inv.opened {e : Env} {s : St} {a : Auc} (hi : Inv e s) (ha : s.auc = some a) : Inv.Open e s a :=
  have ⟨h1, h2, h3, h4, h5⟩ := hi.open_ a ha
  ⟨h1, h2, h3, h4, h5⟩

theorem Inv.paid_le {e : Env} {s : St} (hi : Inv e s) : s.paid ≤ e.target := by
  cases h : s.auc with
  | none => exact (hi.closed h).1
  | some a => have o := hi.opened h; have := o.paid; have := o.in_le; omega

theorem Inv.sold_le {e : Env} {s : St} (hi : Inv e s) : s.recv - s.bonusPaid ≤ e.coll0 := by
  cases h : s.auc with
  | none => exact (hi.closed h).2.1
  | some a => have o := hi.opened h; have := o.sold; have := o.out_nonneg; omega

theorem Inv.of_open {e : Env} {s : St} {a : Auc} (ha : s.auc = some a) (h1 : 0 ≤ s.paid) (h2 : 0 ≤ s.bonusPaid)
    (h3 : 0 ≤ s.recv - s.bonusPaid) (h4 : s.bonusPaid * P ≤ (s.recv - s.bonusPaid) * e.bonus)
    (h5 : s.bank.get .auction .debt = s.otherD) (o : Inv.Open e s a) : Inv e s :=
  ⟨h1, h2, h3, h4, h5, fun a' ha' => by
      obtain rfl : a = a' := Option.some.inj (ha.symm.trans ha')
      exact ⟨o.paid, o.in_le, o.sold, o.out_nonneg, o.custody_coll⟩,
    fun hn => by rw [ha] at hn; cases hn⟩

/-- the bonus paid so far is covered by the bonus on what was sold, hence by the pot seized for the whole lot -/
theorem Inv.bonusPaid_le {e : Env} {s : St} (hb : (0 : Int) ≤ e.bonus) (hi : Inv e s) : s.bonusPaid ≤ e.coll0 * e.bonus / P :=
  Int.le_ediv_of_mul_le Dec.P_pos (Int.le_trans hi.bonus_le (Int.mul_le_mul_of_nonneg_right hi.sold_le hb))

/-- the state `StartLendDutchAuction` leaves -/
theorem init_inv {e : Env} {a : Auc} (b : Bank) (hout : a.outCur = e.coll0) (hin : a.inCur = 0)
    (ht : 0 ≤ e.target) (hc : 0 ≤ e.coll0) : Inv e (initSt e a b) := by
  refine Inv.of_open rfl (Int.le_refl 0) (Int.le_refl 0) (Int.le_refl 0) ?_ rfl
    { paid := hin.symm, in_le := hin ▸ ht, sold := ?_, out_nonneg := hout ▸ hc, custody_coll := ?_ }
  · show 0 * P ≤ (0 - 0) * e.bonus; rw [Int.zero_mul, Int.sub_self, Int.zero_mul]
  · show 0 - 0 + a.outCur = e.coll0; rw [hout]; omega
  · show b.get .auction .coll = b.get .auction .coll - e.deposit + a.outCur + (e.deposit - e.coll0 - 0); rw [hout]; omega

/-- one five-transfer formula for all three branches: `rest` (unsold collateral) and `rd` (re-liquidated collateral) are zero unless
the bid closes the auction -/
theorem apply_ok {e : Env} {s s' : St} {a : Auc} {who : Nat} {p : Plan} {redep resBal : Int}
    (hp : PlanOK e a p) (h : apply e s a who p redep resBal = .ok s') :
    ∃ (b : Bank) (rest rd : Int),
      (∀ x d, b.get x d = s.bank.get x d + xfer (.bidder who) .auction .debt p.inAmt x d + xfer .auction .pool .debt p.inAmt x d
          + xfer .auction .owner .coll rest x d + xfer .auction (.bidder who) .coll (p.slice + p.bonusAmt) x d
          + xfer .pool .auction .coll rd x d) ∧
      ∃ s1 : St, s1 = { s with bank := b, paid := s.paid + p.inAmt, recv := s.recv + (p.slice + p.bonusAmt),
                               bonusPaid := s.bonusPaid + p.bonusAmt } ∧
      (((e.target ≤ a.inCur + p.inAmt ∧ rest = a.outCur - p.slice ∨
          a.inCur + p.inAmt < e.target ∧ a.outCur - p.slice = 0 ∧ e.target - (a.inCur + p.inAmt) ≤ resBal ∧ rest = 0) ∧
          0 ≤ redep ∧ rd = redep ∧ s' = { s1 with auc := none, otherC := s.otherC + redep }) ∨
       (a.inCur + p.inAmt < e.target ∧ a.outCur - p.slice ≠ 0 ∧ rest = 0 ∧ rd = 0 ∧
          s' = { s1 with auc := some { a with outCur := a.outCur - p.slice, inCur := a.inCur + p.inAmt } })) := by
  unfold apply at h
  match_ok hb1 : send s.bank (.bidder who) .auction .debt p.inAmt with b1 at h
  match_ok hb2 : send b1 .auction .pool .debt p.inAmt with b2 at h
  obtain ⟨-, d1⟩ := send_xfer hb1
  obtain ⟨-, d2⟩ := send_xfer hb2
  have hsl := hp.slice_le
  by_cases hreach : a.inCur + p.inAmt ≥ e.target
  · rw [if_pos hreach] at h
    match_ok hb3 : sendPos b2 .auction .owner .coll (a.outCur - p.slice) with b3 at h
    match_ok hb4 : send b3 .auction (.bidder who) .coll (p.slice + p.bonusAmt) with b4 at h
    obtain ⟨hrd, h⟩ := guard_ok h
    match_ok hb5 : sendPos b4 .pool .auction .coll redep with b5 at h
    cases h
    have d3 := sendPos_of_nonneg hb3 (by omega)
    obtain ⟨-, d4⟩ := send_xfer hb4
    have d5 := sendPos_of_nonneg hb5 (by omega)
    exact ⟨b5, _, redep, fun x d => by rw [d5, d4, d3, d2, d1], _, rfl,
      Or.inl ⟨Or.inl ⟨hreach, rfl⟩, by omega, rfl, rfl⟩⟩
  · rw [if_neg hreach] at h
    by_cases hzero : a.outCur - p.slice = 0
    · rw [if_pos hzero] at h
      obtain ⟨hres, h⟩ := guard_ok h
      match_ok hb3 : send b2 .auction (.bidder who) .coll (p.slice + p.bonusAmt) with b3 at h
      obtain ⟨hrd, h⟩ := guard_ok h
      match_ok hb4 : sendPos b3 .pool .auction .coll redep with b4 at h
      cases h
      obtain ⟨-, d3⟩ := send_xfer hb3
      have d4 := sendPos_of_nonneg hb4 (by omega)
      exact ⟨b4, 0, redep, fun x d => by rw [d4, d3, d2, d1, xfer_zero, Int.add_zero], _, rfl,
        Or.inl ⟨Or.inr ⟨by omega, hzero, by omega, rfl⟩, by omega, rfl, rfl⟩⟩
    · rw [if_neg hzero] at h
      match_ok hb3 : send b2 .auction (.bidder who) .coll (p.slice + p.bonusAmt) with b3 at h
      cases h
      obtain ⟨-, d3⟩ := send_xfer hb3
      exact ⟨b3, 0, 0, fun x d => by rw [d3, d2, d1, xfer_zero, xfer_zero, Int.add_zero, Int.add_zero], _, rfl,
        Or.inr ⟨by omega, hzero, rfl, rfl, rfl⟩⟩

/-- what an accepted bid moves, account by account; `redep` enters the module only with a bid that closes the auction -/
structure Moves (e : Env) (s s' : St) (a : Auc) (who : Nat) (p : Plan) (redep : Int) : Prop where
  paid : s'.paid = s.paid + p.inAmt
  recv : s'.recv = s.recv + (p.slice + p.bonusAmt)
  otherD : s'.otherD = s.otherD
  bidder_debt : s'.bank.get (.bidder who) .debt = s.bank.get (.bidder who) .debt - p.inAmt
  bidder_coll : s'.bank.get (.bidder who) .coll = s.bank.get (.bidder who) .coll + (p.slice + p.bonusAmt)
  others : ∀ n, n ≠ who → s'.bank.get (.bidder n) .coll = s.bank.get (.bidder n) .coll ∧
                          s'.bank.get (.bidder n) .debt = s.bank.get (.bidder n) .debt
  pool_debt : s'.bank.get .pool .debt = s.bank.get .pool .debt + p.inAmt
  lendres : ∀ d, s'.bank.get .lendres d = s.bank.get .lendres d
  owner_coll : s'.auc = none → s'.bank.get .owner .coll - s.bank.get .owner .coll = e.coll0 - (s'.recv - s'.bonusPaid)
  closed : s'.auc = none → 0 ≤ redep ∧ s'.bank.get .pool .coll = s.bank.get .pool .coll - redep ∧ s'.otherC = s.otherC + redep
  stays_open : ¬ (a.inCur + p.inAmt ≥ e.target ∨ a.outCur - p.slice = 0) → s'.auc ≠ none

theorem apply_moves {e : Env} {s s' : St} {a : Auc} {who : Nat} {p : Plan} {redep resBal : Int}
    (hi : Inv e s) (ha : s.auc = some a) (hp : PlanOK e a p) (h : apply e s a who p redep resBal = .ok s') :
    Moves e s s' a who p redep := by
  have hsold := (hi.opened ha).sold
  obtain ⟨b, rest, rd, hb, s1, rfl, hcase⟩ := apply_ok hp h
  have k3 : b.get .owner .coll = s.bank.get .owner .coll + rest := by simp [hb, xfer]
  have k4 : b.get .pool .coll = s.bank.get .pool .coll - rd := by simp [hb, xfer]; omega
  have m3 : b.get (.bidder who) .debt = s.bank.get (.bidder who) .debt - p.inAmt := by simp [hb, xfer]; omega
  have m4 : b.get (.bidder who) .coll = s.bank.get (.bidder who) .coll + (p.slice + p.bonusAmt) := by simp [hb, xfer]
  have m5 : ∀ n, n ≠ who → b.get (.bidder n) .coll = s.bank.get (.bidder n) .coll ∧
      b.get (.bidder n) .debt = s.bank.get (.bidder n) .debt := fun n hn => by simp [hb, xfer, hn]
  have m6 : b.get .pool .debt = s.bank.get .pool .debt + p.inAmt := by simp [hb, xfer]
  have m7 : ∀ d, b.get .lendres d = s.bank.get .lendres d := fun d => by simp [hb, xfer]
  clear hb hi h hp
  rcases hcase with ⟨hclose, hrd0, rfl, rfl⟩ | ⟨hlt, hnz, -, -, rfl⟩
  · refine ⟨rfl, rfl, rfl, m3, m4, m5, m6, m7, fun _ => ?_, fun _ => ⟨hrd0, k4, rfl⟩, fun hnc => ?_⟩
    · show b.get .owner .coll - s.bank.get .owner .coll = e.coll0 - (s.recv + (p.slice + p.bonusAmt) - (s.bonusPaid + p.bonusAmt))
      clear * - k3 hsold hclose; omega
    · exact absurd (hclose.imp (·.1) (·.2.1)) hnc
  · exact ⟨rfl, rfl, rfl, m3, m4, m5, m6, m7, fun hn => (by cases hn), fun hn => (by cases hn), fun _ hn => (by cases hn)⟩

theorem apply_inv {e : Env} {s s' : St} {a : Auc} {who : Nat} {p : Plan} {redep resBal : Int}
    (hi : Inv e s) (ha : s.auc = some a) (hp : PlanOK e a p) (h : apply e s a who p redep resBal = .ok s') : Inv e s' := by
  have o := hi.opened ha
  have hpaid := o.paid; have hsold := o.sold; have hout := o.out_nonneg; have hcc := o.custody_coll
  obtain ⟨b, rest, rd, hb, s1, rfl, hcase⟩ := apply_ok hp h
  have k1 : b.get .auction .debt = s.bank.get .auction .debt := by simp [hb, xfer]
  have k2 : b.get .auction .coll = s.bank.get .auction .coll - rest - (p.slice + p.bonusAmt) + rd := by simp [hb, xfer]; omega
  have hbl : (s.bonusPaid + p.bonusAmt) * P ≤ (s.recv + (p.slice + p.bonusAmt) - (s.bonusPaid + p.bonusAmt)) * e.bonus := by
    have h1 := hi.bonus_le
    have h2 := hp.bonus_le
    rw [show s.recv + (p.slice + p.bonusAmt) - (s.bonusPaid + p.bonusAmt) = (s.recv - s.bonusPaid) + p.slice by omega,
      Int.add_mul, Int.add_mul]
    omega
  have h1 := hi.paid_nonneg; have h2 := hi.bonus_nonneg; have h3 := hi.sold_nonneg; have h4 := hi.debt_custody
  have h5 := hp.in_nonneg; have h6 := hp.in_le_tab; have h7 := hp.slice_nonneg; have h8 := hp.slice_le; have h9 := hp.bonus_nonneg
  have hsold' : 0 ≤ s.recv + (p.slice + p.bonusAmt) - (s.bonusPaid + p.bonusAmt) := by clear * - h3 h7; omega
  clear hb hi h hp o
  rcases hcase with ⟨hclose, hrd0, rfl, rfl⟩ | ⟨hlt, hnz, rfl, rfl, rfl⟩
  · refine ⟨Int.add_nonneg h1 h5, Int.add_nonneg h2 h9, hsold', hbl, k1.trans h4, fun a' ha' => (by cases ha'),
      fun _ => ⟨?_, ?_, ?_⟩⟩
    · show s.paid + p.inAmt ≤ e.target; clear * - hpaid h6; omega
    · show s.recv + (p.slice + p.bonusAmt) - (s.bonusPaid + p.bonusAmt) ≤ e.coll0; clear * - hsold hout h8; omega
    · show b.get .auction .coll = s.otherC + rd + (e.deposit - e.coll0 - (s.bonusPaid + p.bonusAmt))
      clear * - k2 hcc hclose h8; omega
  · refine Inv.of_open rfl (Int.add_nonneg h1 h5) (Int.add_nonneg h2 h9) hsold' hbl (k1.trans h4)
      ⟨congrArg (· + p.inAmt) hpaid, Int.le_of_lt hlt, ?_, Int.sub_nonneg.mpr h8, ?_⟩
    · show s.recv + (p.slice + p.bonusAmt) - (s.bonusPaid + p.bonusAmt) + (a.outCur - p.slice) = e.coll0
      clear * - hsold; omega
    · show b.get .auction .coll = s.otherC + (a.outCur - p.slice) + (e.deposit - e.coll0 - (s.bonusPaid + p.bonusAmt))
      clear * - k2 hcc; omega

theorem bidE_ok {e : Env} {s s' : St} {who : Nat} {sl redep resBal : Int} (h : bidE e s who sl redep resBal = .ok s') :
    ∃ a p, s.auc = some a ∧ plan e a sl = .ok p ∧ apply e s a who p redep resBal = .ok s' := by
  unfold bidE at h
  match_ok ha : s.auc with a at h
  match_ok hp : plan e a sl with p at h
  exact ⟨a, p, rfl, hp, h⟩

theorem bidE_inv {e : Env} {s s' : St} {who : Nat} {sl redep resBal : Int} (hb : (0 : Int) ≤ e.bonus) (hi : Inv e s)
    (h : bidE e s who sl redep resBal = .ok s') : Inv e s' := by
  obtain ⟨a, p, ha, hp, h⟩ := bidE_ok h
  exact apply_inv hi ha (plan_ok hb hp) h

theorem iterate_eq_v1 (e : Env) (a : Auc) (now twaC : Int) (actC : Bool) (twaD : Int) (actD : Bool) :
    iterate e a now twaC actC twaD actD =
      DutchV1.iterate { oracleDebt := true, T := e.T, buffer := e.buffer, cusp := e.cusp } a now twaC actC twaD actD := rfl

theorem iterate_fields {e : Env} {a a' : Auc} {now twaC twaD : Int} {actC actD : Bool}
    (h : iterate e a now twaC actC twaD actD = .ok a') : a'.outCur = a.outCur ∧ a'.inCur = a.inCur :=
  DutchV1.iterate_fields (iterate_eq_v1 .. ▸ h)

theorem Inv.reprice {e : Env} {s : St} {a a' : Auc} (hi : Inv e s) (ha : s.auc = some a)
    (h1 : a'.outCur = a.outCur) (h2 : a'.inCur = a.inCur) : Inv e { s with auc := some a' } :=
  ⟨hi.paid_nonneg, hi.bonus_nonneg, hi.sold_nonneg, hi.bonus_le, hi.debt_custody,
    fun a'' h'' => by cases h''; rw [h1, h2]; exact hi.open_ a ha, fun hn => by cases hn⟩

theorem step_inv {e : Env} {s : St} (hb : (0 : Int) ≤ e.bonus) (op : Op) (hi : Inv e s) : Inv e (step e s op) := by
  cases op with
  | bid who sl redep resBal =>
    show Inv e (match bidE e s who sl redep resBal with | .ok s' => s' | .error _ => s)
    cases hbid : bidE e s who sl redep resBal with
    | error _ => exact hi
    | ok s' => exact bidE_inv hb hi hbid
  | tick now twaC actC twaD actD =>
    show Inv e (match s.auc with | none => s | some a => _)
    cases ha : s.auc with
    | none => exact hi
    | some a =>
      show Inv e (match iterate e a now twaC actC twaD actD with | .ok a' => { s with auc := some a' } | .error _ => s)
      cases hit : iterate e a now twaC actC twaD actD with
      | error _ => exact hi
      | ok a' => exact hi.reprice ha (iterate_fields hit).1 (iterate_fields hit).2

theorem run_inv {e : Env} (hb : (0 : Int) ≤ e.bonus) (ops : List Op) (s : St) (hi : Inv e s) : Inv e (run e s ops) :=
  foldl_induction (f := step e) (Q := fun _ => True) (fun {_ op} hi _ => step_inv hb op hi) hi fun _ _ => trivial

end Comdex.DutchV1Lend
