import Comdex.Model.Effects
/-! What the effect-skeleton ties (`Props/CxxEffects`) share: the path fact and the reading of a golden tie. -/
namespace Comdex.Effects
open Comdex.Gen.Effects

variable {R D : Type} {r : Roles R D}

/-- A `def` with an instance of its own, not an `abbrev` of the equation: the ties decide twenty and more path facts at once, and
with the `DecidableEq` instance of the equation spelled out per conjunct the instance exceeds the synthesis size bound. A `GoIs` fact
is therefore not an equation for `rw`: use it through `GoIs.eq`. -/
def GoIs (r : Roles R D) (val : Val) (h : Handler) (l : List (Skel R D)) : Prop := goSkel r val h = some l

instance [DecidableEq R] [DecidableEq D] {val : Val} {h : Handler} {l : List (Skel R D)} : Decidable (GoIs r val h l) := by
  unfold GoIs; exact inferInstance

theorem GoIs.eq {val : Val} {h : Handler} {l : List (Skel R D)} (g : GoIs r val h l) : goSkel r val h = some l := g

/-- a golden tie lists the NAMES of the entries that differ, so that a failing run names the offenders -/
theorem filter_bne_eq_nil {α β γ : Type} [BEq β] [LawfulBEq β] {l : List α} {f g : α → β} (k : α → γ)
    (h : l.map f = l.map g) : (l.filter fun a => f a != g a).map k = [] := by
  rw [List.filter_eq_nil_iff.2 fun a ha => by simp [List.map_inj_left.1 h a ha]]; rfl

theorem bkindOf_isSome_of_skelOf {val : Val} {it : Item} (h : (skelOf r val it).isSome) : (bkindOf it.op).isSome := by
  unfold skelOf at h; split at h
  · cases h
  · simp [*]

theorem all_classified_of_rpinsOf : ∀ {its : List Item} {l : List (RPin R D)}, rpinsOf r its = some l →
    (its.all fun it => (skelOf r (fun _ => none) it).isSome) = true
  | [], _, _ => rfl
  | it :: rest, l, h => by
    unfold rpinsOf rpinOf at h
    split at h
    · next a l' ha hl =>
      cases hs : skelOf r (fun _ => none) it with
      | none => simp [hs] at ha
      | some s => simpa [hs] using all_classified_of_rpinsOf hl
    · cases h

/-- the "all classified, no unknown op" clause of a table theorem needs no evaluation of its own beside the pin -/
theorem classified_of_rpins {h : Handler} {l : List (RPin R D)} (e : rpins r h = some l) :
    allBankClassified r h = true ∧ unknownBankOps h = [] := by
  have a := all_classified_of_rpinsOf e
  refine ⟨a, ?_⟩
  rw [unknownBankOps, List.filter_eq_nil_iff.2 fun it hi => ?_]; · rfl
  have := bkindOf_isSome_of_skelOf (List.all_eq_true.1 a it hi)
  simpa [Option.isSome_iff_ne_none] using this

end Comdex.Effects
