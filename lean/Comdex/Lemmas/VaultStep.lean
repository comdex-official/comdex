import Comdex.Model.Vault
import Comdex.Lemmas.KeyedRecs
import Comdex.Lemmas.Attrs
/-! What an accepted message did: `handler … = some s'` as an equivalence with the handler's guards, the run of its bank
calls and the record update that produced `s'`. -/
namespace Comdex.Vault

variable {s s' : State} {p : Product} {e : Env} {f app pr vid : Nat} {x : Int}

attribute [accepted] Option.ite_none_left_eq_some Option.map_eq_some_iff Option.bind_eq_some_iff Option.some.injEq not_or
  Decidable.not_not Int.not_le Int.not_lt Bool.not_eq_true Bool.not_eq_true' Bool.not_eq_false and_assoc
  exists_eq_left' exists_false false_and and_false

theorem findVault_mem {v : VaultRec} (h : findVault s vid = some v) : v ∈ s.vaults ∧ v.id = vid :=
  KeyedRecs.find?_key VaultRec.id h fun _ => decide_eq_true_iff

theorem findStable_mem {v : StableRec} (h : findStable s vid = some v) : v ∈ s.stables ∧ v.id = vid :=
  KeyedRecs.find?_key StableRec.id h fun _ => decide_eq_true_iff

theorem findLocked_mem {l : LockedRec} (h : s.locked.find? (·.vaultId = vid) = some l) : l ∈ s.locked ∧ l.vaultId = vid :=
  KeyedRecs.find?_key LockedRec.vaultId h fun _ => decide_eq_true_iff

structure Owned (s : State) (p : Product) (e : Env) (f app pr vid : Nat) (v0 : VaultRec) (i : Int) : Prop where
  found : findVault s vid = some v0
  iota : e.iota = some i
  iota_nonneg : 0 ≤ i
  owner : v0.owner = f
  product : v0.product = pr
  prod : p.id = pr
  app : p.app = app

theorem Owned.mem {v0 : VaultRec} {i : Int} (h : Owned s p e f app pr vid v0 i) : v0 ∈ s.vaults := (findVault_mem h.found).1
theorem Owned.id_eq {v0 : VaultRec} {i : Int} (h : Owned s p e f app pr vid v0 i) : v0.id = vid := (findVault_mem h.found).2

-- handlers that look a record up are split on the value found first: the model's matchers admit no rewrite rule
theorem ownedVault_eq_some {v : VaultRec} : ownedVault s p e f app pr vid = some v ↔
    ∃ v0 i, { v0 with interest := v0.interest + i } = v ∧ Owned s p e f app pr vid v0 i := by
  refine ⟨fun h => ?_, fun ⟨v0, i, hv, ho⟩ => ?_⟩
  · unfold ownedVault at h
    cases hf : findVault s vid <;> cases hi : e.iota <;> simp only [hf, hi, accepted, reduceCtorEq] at h
    obtain ⟨h1, h2, h3, h4, h5, h6⟩ := h
    exact ⟨_, _, h6, hf, hi, h5, h3, h4, h1, h2⟩
  · unfold ownedVault
    rw [ho.found, ho.iota]
    simp only [accepted]
    exact ⟨ho.prod, ho.app, ho.owner, ho.product, ho.iota_nonneg, hv⟩

structure CreateGuards (s : State) (p : Product) (e : Env) (f app pr : Nat) (i o : Int) : Prop where
  noEsm : e.esm = false
  noBreaker : e.breaker = false
  prod : p.id = pr
  app : p.app = app
  notStable : p.isStable = false
  active : p.active = true
  amtIn_pos : 0 < i
  amtOut_pos : 0 < o
  noVault : (s.vaults.any fun v => decide (v.owner = f ∧ v.product = pr)) = false
  floor : p.debtFloor ≤ o
  ceiling : s.minted pr + o ≤ p.debtCeiling
  ratio : verifyCR p e i o = true
  int64 : o < 2 ^ 63

theorem create_eq_some {i o : Int} : create s p e f app pr i o = some s' ↔
    CreateGuards s p e f app pr i o ∧
    ∃ s1, runBank s (createOps p f i o) = some s1 ∧
      { s1 with vaults := s1.vaults ++ [⟨s1.nextVault + 1, f, pr, i, o, 0, feeOf o p.closingFee⟩],
                nextVault := s1.nextVault + 1, length := s1.length + 1, coll := upd1 s1.coll pr (s1.coll pr + i),
                minted := upd1 s1.minted pr (s1.minted pr + o),
                vaultIds := updL s1.vaultIds pr (s1.vaultIds pr ++ [s1.nextVault + 1]) } = s' := by
  unfold create
  simp only [accepted]
  exact ⟨fun ⟨a, b, c, d, e, f, g, h, i, j, k, l, m, r⟩ => ⟨⟨a, b, c, d, e, f, g, h, i, j, k, l, m⟩, r⟩,
    fun ⟨⟨a, b, c, d, e, f, g, h, i, j, k, l, m⟩, r⟩ => ⟨a, b, c, d, e, f, g, h, i, j, k, l, m, r⟩⟩

structure DepositGuards (p : Product) (e : Env) (x : Int) (v : VaultRec) : Prop where
  noEsm : e.esm = false
  noBreaker : e.breaker = false
  active : p.active = true
  amt_pos : 0 < x
  coll_pos : 0 < v.amountIn + x

theorem deposit_eq_some : deposit s p e f app pr vid x = some s' ↔
    ∃ v, ownedVault s p e f app pr vid = some v ∧ DepositGuards p e x v ∧
      ∃ s1, runBank s (depositOps p f x) = some s1 ∧
        { s1 with vaults := setVault s1.vaults { v with amountIn := v.amountIn + x },
                  coll := upd1 s1.coll pr (s1.coll pr + x) } = s' := by
  unfold deposit
  cases ownedVault s p e f app pr vid <;> simp only [accepted, reduceCtorEq]
  exact ⟨fun ⟨a, b, c, d, e, r⟩ => ⟨⟨a, b, c, d, e⟩, r⟩, fun ⟨⟨a, b, c, d, e⟩, r⟩ => ⟨a, b, c, d, e, r⟩⟩

structure WithdrawGuards (p : Product) (e : Env) (x : Int) (v : VaultRec) : Prop where
  noBreaker : e.breaker = false
  notPastCoolOff : ¬ (e.esm = true ∧ e.pastCoolOff = true)
  active : p.active = true
  amt_pos : 0 < x
  coll_pos : 0 < v.amountIn - x
  ratio : verifyCR p e (v.amountIn - x) (withdrawDebt e v) = true

theorem withdraw_eq_some : withdraw s p e f app pr vid x = some s' ↔
    ∃ v, ownedVault s p e f app pr vid = some v ∧ WithdrawGuards p e x v ∧
      ∃ s1, runBank s (withdrawOps p f x) = some s1 ∧
        { s1 with vaults := setVault s1.vaults { v with amountIn := v.amountIn - x },
                  coll := upd1 s1.coll pr (s1.coll pr - x) } = s' := by
  unfold withdraw
  cases ownedVault s p e f app pr vid <;> simp only [accepted, reduceCtorEq]
  exact ⟨fun ⟨a, b, c, d, e, f, r⟩ => ⟨⟨a, b, c, d, e, f⟩, r⟩, fun ⟨⟨a, b, c, d, e, f⟩, r⟩ => ⟨a, b, c, d, e, f, r⟩⟩

structure DrawGuards (s : State) (p : Product) (e : Env) (pr : Nat) (x : Int) (v : VaultRec) : Prop where
  noEsm : e.esm = false
  noBreaker : e.breaker = false
  active : p.active = true
  amt_pos : 0 < x
  ceiling : s.minted pr + x < p.debtCeiling
  ratio : verifyCR p e v.amountIn (v.amountOut + x + v.interest + v.closingFee) = true

theorem draw_eq_some : draw s p e f app pr vid x = some s' ↔
    ∃ v, ownedVault s p e f app pr vid = some v ∧ DrawGuards s p e pr x v ∧
      ∃ s1, runBank s (drawOps p f x) = some s1 ∧
        { s1 with vaults := setVault s1.vaults { v with amountOut := v.amountOut + x },
                  minted := upd1 s1.minted pr (s1.minted pr + x) } = s' := by
  unfold draw
  cases ownedVault s p e f app pr vid <;> simp only [accepted, reduceCtorEq]
  exact ⟨fun ⟨a, b, c, d, e, f, r⟩ => ⟨⟨a, b, c, d, e, f⟩, r⟩, fun ⟨⟨a, b, c, d, e, f⟩, r⟩ => ⟨a, b, c, d, e, f, r⟩⟩

structure RepayGuards (e : Env) (x : Int) (v : VaultRec) : Prop where
  noEsm : e.esm = false
  noBreaker : e.breaker = false
  amt_pos : 0 < x
  owed : 0 ≤ v.amountOut + v.interest - x

theorem repay_eq_some : repay s p e f app pr vid x = some s' ↔
    ∃ v, ownedVault s p e f app pr vid = some v ∧ RepayGuards e x v ∧
      if x ≤ v.interest then
        ∃ s1, runBank s (repayInterestOps p f x) = some s1 ∧
          { s1 with vaults := setVault s1.vaults { v with interest := v.interest - x } } = s'
      else p.debtFloor ≤ v.amountOut - (x - v.interest) ∧
        ∃ s1, runBank s (repayPrincipalOps p f v x) = some s1 ∧
          { s1 with vaults := setVault s1.vaults { v with amountOut := v.amountOut - (x - v.interest), interest := 0 },
                    minted := upd1 s1.minted pr (s1.minted pr - (x - v.interest)) } = s' := by
  unfold repay
  cases ownedVault s p e f app pr vid with
  | none => simp only [accepted, reduceCtorEq]
  | some v =>
    simp only [accepted]
    split <;> simp only [accepted] <;>
      exact ⟨fun ⟨a, b, c, d, r⟩ => ⟨⟨a, b, c, d⟩, r⟩, fun ⟨⟨a, b, c, d⟩, r⟩ => ⟨a, b, c, d, r⟩⟩

theorem close_eq_some : close s p e f app pr vid = some s' ↔
    e.esm = false ∧ e.breaker = false ∧
    ∃ v, ownedVault s p e f app pr vid = some v ∧
      ∃ s1, runBank s (closeOps p f v) = some s1 ∧
        { s1 with vaults := delVault s1.vaults v.id, length := s1.length - 1,
                  coll := upd1 s1.coll pr (s1.coll pr - v.amountIn),
                  minted := upd1 s1.minted pr (s1.minted pr - v.amountOut),
                  vaultIds := updL s1.vaultIds pr ((s1.vaultIds pr).erase v.id) } = s' := by
  unfold close
  cases ownedVault s p e f app pr vid <;> simp only [accepted, reduceCtorEq]

theorem depositAndDraw_eq_some : depositAndDraw s p e f app pr vid x = some s' ↔
    ∃ v0, findVault s vid = some v0 ∧ ∃ y, userToken v0 x = some y ∧
      ∃ s1, deposit s p e f app pr vid x = some s1 ∧ draw s1 p { e with iota := some 0 } f app pr vid y = some s' := by
  unfold depositAndDraw
  cases findVault s vid with
  | none => simp only [reduceCtorEq, false_and, exists_false]
  | some v0 =>
    simp only [accepted]
    cases userToken v0 x <;> cases deposit s p e f app pr vid x <;> simp only [accepted, reduceCtorEq]

structure StableGuards (p : Product) (e : Env) (app pr : Nat) (x : Int) : Prop where
  noEsm : e.esm = false
  noBreaker : e.breaker = false
  prod : p.id = pr
  app : p.app = app
  stable : p.isStable = true
  amt_pos : 0 < x

theorem stableCreate_eq_some : stableCreate s p e f app pr x = some s' ↔
    StableGuards p e app pr x ∧ p.active = true ∧ p.debtFloor ≤ otherToken x p.decIn p.decOut ∧ (s.vaultIds pr).length = 0 ∧
    s.minted pr + otherToken x p.decIn p.decOut < p.debtCeiling ∧
    ∃ s1, runBank s (stableMintOps p f x (otherToken x p.decIn p.decOut)) = some s1 ∧
      { s1 with stables := s1.stables ++ [⟨s1.nextStable + 1, pr, x, otherToken x p.decIn p.decOut⟩],
                nextStable := s1.nextStable + 1, coll := upd1 s1.coll pr (s1.coll pr + x),
                minted := upd1 s1.minted pr (s1.minted pr + otherToken x p.decIn p.decOut),
                vaultIds := updL s1.vaultIds pr (s1.vaultIds pr ++ [s1.nextStable + 1]) } = s' := by
  unfold stableCreate
  simp only [accepted, Nat.not_le, Nat.lt_one_iff]
  exact ⟨fun ⟨a, b, c, d, e, f, g, r⟩ => ⟨⟨a, b, c, d, e, g⟩, f, r⟩, fun ⟨⟨a, b, c, d, e, g⟩, f, r⟩ => ⟨a, b, c, d, e, f, g, r⟩⟩

theorem stableDeposit_eq_some : stableDeposit s p e f app pr vid x = some s' ↔
    StableGuards p e app pr x ∧ p.active = true ∧
    ∃ sv, findStable s vid = some sv ∧ sv.product = pr ∧ 0 < sv.amountIn + x ∧
      p.debtFloor ≤ otherToken x p.decIn p.decOut ∧ s.minted pr + otherToken x p.decIn p.decOut < p.debtCeiling ∧
      ∃ s1, runBank s (stableMintOps p f x (otherToken x p.decIn p.decOut)) = some s1 ∧
        { s1 with stables := setStable s1.stables { sv with amountIn := sv.amountIn + x,
                                                            amountOut := sv.amountOut + otherToken x p.decIn p.decOut },
                  coll := upd1 s1.coll pr (s1.coll pr + x),
                  minted := upd1 s1.minted pr (s1.minted pr + otherToken x p.decIn p.decOut) } = s' := by
  unfold stableDeposit
  cases findStable s vid <;> simp only [accepted, reduceCtorEq]
  exact ⟨fun ⟨a, b, c, d, e, f, g, r⟩ => ⟨⟨a, b, c, d, e, g⟩, f, r⟩, fun ⟨⟨a, b, c, d, e, g⟩, f, r⟩ => ⟨a, b, c, d, e, f, g, r⟩⟩

theorem stableWithdraw_eq_some : stableWithdraw s p e f app pr vid x = some s' ↔
    StableGuards p e app pr x ∧ p.debtFloor ≤ x ∧
    ∃ sv, findStable s vid = some sv ∧ sv.product = pr ∧ 0 ≤ sv.amountIn - otherToken x p.decOut p.decIn ∧
      ∃ s1, runBank s (stableWithdrawOps p f x) = some s1 ∧
        { s1 with stables := setStable s1.stables { sv with amountIn := sv.amountIn - (stableWithdrawAmounts p x).2,
                                                            amountOut := sv.amountOut - (stableWithdrawAmounts p x).1 },
                  coll := upd1 s1.coll pr (s1.coll pr - (stableWithdrawAmounts p x).2),
                  minted := upd1 s1.minted pr (s1.minted pr - (stableWithdrawAmounts p x).1) } = s' := by
  unfold stableWithdraw
  cases findStable s vid <;> simp only [accepted, reduceCtorEq]
  exact ⟨fun ⟨a, b, c, d, e, f, r⟩ => ⟨⟨a, b, c, d, e, f⟩, r⟩, fun ⟨⟨a, b, c, d, e, f⟩, r⟩ => ⟨a, b, c, d, e, f, r⟩⟩

theorem interestCalc_eq_some : interestCalc s e vid = some s' ↔
    ∃ v, findVault s vid = some v ∧ ∃ i, e.iota = some i ∧ 0 ≤ i ∧
      { s with vaults := setVault s.vaults { v with interest := v.interest + i } } = s' := by
  unfold interestCalc
  cases findVault s vid <;> cases e.iota <;> simp only [accepted, reduceCtorEq]

theorem donate_eq_some {d : Nat} : donate s f d x = some s' ↔
    0 < x ∧ ∃ s1, runBank s [.send f vm d x] = some s1 ∧
      { s1 with unsolicited := upd1 s1.unsolicited d (s1.unsolicited d + x) } = s' := by
  unfold donate
  simp only [accepted]

theorem fund_eq_some {to d : Nat} : fund s to d x = some s' ↔
    0 < x ∧ to ≠ vm ∧
      { s with bal := upd2 s.bal to d (s.bal to d + x), supply := upd1 s.supply d (s.supply d + x),
               extSupply := upd1 s.extSupply d (s.extSupply d + x) } = s' := by
  unfold fund
  simp only [accepted]

theorem seize_eq_some : seize s p e vid = some s' ↔
    ∃ v, findVault s vid = some v ∧ ∃ i, e.iota = some i ∧ v.product = p.id ∧ 0 ≤ i ∧
      ∃ s1, runBank s (seizeOps p v) = some s1 ∧
        { s1 with vaults := delVault s1.vaults v.id, length := s1.length - 1,
                  locked := s1.locked ++ [⟨v.id, v.product, v.amountIn, v.amountOut,
                                           v.amountOut + (v.interest + i) + v.closingFee⟩],
                  vaultIds := updL s1.vaultIds p.id ((s1.vaultIds p.id).erase v.id) } = s' := by
  unfold seize
  cases findVault s vid <;> cases e.iota <;> simp only [accepted, reduceCtorEq]

theorem settle_eq_some : settle s p vid = some s' ↔
    ∃ l, s.locked.find? (·.vaultId = vid) = some l ∧ l.product = p.id ∧
      { s with locked := s.locked.erase l, supply := upd1 s.supply p.denomOut (s.supply p.denomOut - l.debt),
               coll := upd1 s.coll l.product (s.coll l.product - l.amountIn),
               minted := upd1 s.minted l.product (s.minted l.product - l.debt) } = s' := by
  unfold settle
  cases s.locked.find? (·.vaultId = vid) <;> simp only [accepted, reduceCtorEq]

theorem settle1_eq_some : settle1 s p vid = some s' ↔
    ∃ l, s.locked.find? (·.vaultId = vid) = some l ∧ l.product = p.id ∧
      { s with locked := s.locked.erase l, supply := upd1 s.supply p.denomOut (s.supply p.denomOut - l.amountOut),
               coll := upd1 s.coll l.product (s.coll l.product - l.amountIn),
               minted := upd1 s.minted l.product (s.minted l.product - l.amountOut) } = s' := by
  unfold settle1
  cases s.locked.find? (·.vaultId = vid) <;> simp only [accepted, reduceCtorEq]

theorem esmVault_eq_some : esmVault s p e vid = some s' ↔
    ∃ v, findVault s vid = some v ∧ v.product = p.id ∧ e.esm = true ∧ e.pastCoolOff = true ∧
      ∃ s1, runBank s (esmVaultOps p v) = some s1 ∧
        { s1 with vaults := delVault s1.vaults v.id, length := s1.length - 1,
                  coll := upd1 s1.coll p.id (s1.coll p.id - v.amountIn),
                  minted := upd1 s1.minted p.id (s1.minted p.id - v.amountOut),
                  vaultIds := updL s1.vaultIds p.id ((s1.vaultIds p.id).erase v.id),
                  extSupply := upd1 s1.extSupply p.denomOut (s1.extSupply p.denomOut + v.amountOut),
                  redeem := upd2 s1.redeem p.app p.denomOut (s1.redeem p.app p.denomOut + v.amountOut) } = s' := by
  unfold esmVault
  cases findVault s vid <;> simp only [accepted, reduceCtorEq]

theorem esmStable_eq_some : esmStable s p e vid = some s' ↔
    ∃ r, findStable s vid = some r ∧ r.product = p.id ∧ e.esm = true ∧ e.pastCoolOff = true ∧
      ∃ s1, runBank s (esmStableOps p r.amountIn) = some s1 ∧
        { s1 with coll := upd1 s1.coll p.id (s1.coll p.id - r.amountIn),
                  minted := upd1 s1.minted p.id (s1.minted p.id - r.amountOut),
                  vaultIds := updL s1.vaultIds p.id ((s1.vaultIds p.id).erase r.id),
                  redeem := upd2 s1.redeem p.app p.denomOut (s1.redeem p.app p.denomOut + r.amountOut) } = s' := by
  unfold esmStable
  cases findStable s vid <;> simp only [accepted, reduceCtorEq]

theorem esmCollector_eq_some {d : Nat} : esmCollector s app d x = some s' ↔
    0 < x ∧ x ≤ s.bal cm d ∧
      { s with bal := upd2 s.bal cm d (s.bal cm d - x), supply := upd1 s.supply d (s.supply d - x),
               extSupply := upd1 s.extSupply d (s.extSupply d - x),
               redeem := upd2 s.redeem app d (s.redeem app d - x) } = s' := by
  unfold esmCollector
  simp only [accepted]

structure EsmBurnGuards (s : State) (f app d : Nat) (x : Int) : Prop where
  amt_pos : 0 < x
  registered : s.redeem app d ≠ 0
  le_registered : x ≤ s.redeem app d
  user : f ≠ vm
  funds : x ≤ s.bal f d

theorem esmBurn_eq_some {d : Nat} : esmBurn s f app d x = some s' ↔
    EsmBurnGuards s f app d x ∧
      { s with bal := upd2 s.bal f d (s.bal f d - x), supply := upd1 s.supply d (s.supply d - x),
               extSupply := upd1 s.extSupply d (s.extSupply d - x),
               redeem := upd2 s.redeem app d (s.redeem app d - x) } = s' := by
  unfold esmBurn
  simp only [accepted]
  exact ⟨fun ⟨a, b, c, d, e, r⟩ => ⟨⟨a, b, c, d, e⟩, r⟩, fun ⟨⟨a, b, c, d, e⟩, r⟩ => ⟨a, b, c, d, e, r⟩⟩

theorem creditRecord_some {owner : Nat} {cin cout : Int} {v : VaultRec}
    (h : s.vaults.find? (fun v => v.owner = owner ∧ v.product = p.id) = some v) :
    creditRecord s p owner cin cout =
      { s with vaults := setVault s.vaults { v with amountIn := v.amountIn + cin, amountOut := v.amountOut + cout } } := by
  unfold creditRecord; rw [h]

theorem creditRecord_none {owner : Nat} {cin cout : Int}
    (h : s.vaults.find? (fun v => v.owner = owner ∧ v.product = p.id) = none) :
    creditRecord s p owner cin cout =
      { s with vaults := s.vaults ++ [⟨s.nextVault + 1, owner, p.id, cin, cout, 0, 0⟩], nextVault := s.nextVault + 1,
               length := s.length + 1, vaultIds := updL s.vaultIds p.id (s.vaultIds p.id ++ [s.nextVault + 1]) } := by
  unfold creditRecord; rw [h]

theorem creditVault_eq_some {cin cout : Int} : creditVault s p f cin cout = some s' ↔
    0 ≤ cin ∧ 0 ≤ cout ∧ ∃ s1, runBank s [.sendPos am vm p.denomIn cin] = some s1 ∧
      creditRecord { s1 with supply := upd1 s1.supply p.denomOut (s1.supply p.denomOut + cout),
                             coll := upd1 s1.coll p.id (s1.coll p.id + cin),
                             minted := upd1 s1.minted p.id (s1.minted p.id + cout) } p f cin cout = s' := by
  unfold creditVault creditRecord
  simp only [accepted]

structure EsmReturn1Guards (p : Product) (e : Env) (l : LockedRec) (cur infl : Int) : Prop where
  product : l.product = p.id
  esm : e.esm = true
  cur_nonneg : 0 ≤ cur
  cur_le : cur ≤ l.amountIn
  collected_nonneg : 0 ≤ infl
  collected_lt : infl < l.amountOut

theorem esmReturn1_eq_some {cur infl : Int} : esmReturn1 s p e vid f cur infl = some s' ↔
    ∃ l, s.locked.find? (·.vaultId = vid) = some l ∧ EsmReturn1Guards p e l cur infl ∧
      ∃ s1, settle1 s p vid = some s1 ∧ creditVault s1 p f cur (l.amountOut - infl) = some s' := by
  unfold esmReturn1
  cases s.locked.find? (·.vaultId = vid) <;> simp only [accepted, reduceCtorEq]
  exact ⟨fun ⟨a, b, c, d, e, f, r⟩ => ⟨⟨a, b, c, d, e, f⟩, r⟩, fun ⟨⟨a, b, c, d, e, f⟩, r⟩ => ⟨a, b, c, d, e, f, r⟩⟩

structure EsmReturn2Guards (p : Product) (e : Env) (l : LockedRec) (cur curDebt fee : Int) : Prop where
  product : l.product = p.id
  esm : e.esm = true
  cur_nonneg : 0 ≤ cur
  cur_le : cur ≤ l.amountIn
  debt_nonneg : 0 ≤ curDebt
  fee_nonneg : 0 ≤ fee
  collected_nonneg : 0 ≤ l.debt + fee - curDebt

theorem esmReturn2_eq_some {cur curDebt fee : Int} : esmReturn2 s p e vid f cur curDebt fee = some s' ↔
    ∃ l, s.locked.find? (·.vaultId = vid) = some l ∧ EsmReturn2Guards p e l cur curDebt fee ∧
      creditRecord { s with supply := upd1 s.supply p.denomOut (s.supply p.denomOut - trigger2Burn l curDebt fee),
                            minted := upd1 s.minted p.id (s.minted p.id - trigger2Burn l curDebt fee),
                            coll := upd1 s.coll p.id (s.coll p.id - (l.amountIn - cur)) } p f cur curDebt = s' := by
  unfold esmReturn2
  cases s.locked.find? (·.vaultId = vid) <;> simp only [accepted, reduceCtorEq]
  exact ⟨fun ⟨a, b, c, d, e, f, g, r⟩ => ⟨⟨a, b, c, d, e, f, g⟩, r⟩, fun ⟨⟨a, b, c, d, e, f, g⟩, r⟩ => ⟨a, b, c, d, e, f, g, r⟩⟩

/-- the message names a product, directly or through a vault (`Msg.product`); the other four carry a denomination and run
without a product -/
def Msg.named : Msg → Bool
  | .donate .. | .fund .. | .esmCollector .. | .esmBurn .. => false
  | _ => true

/-- `step` on a message that names a product: the look-up written once, outside the match on the message -/
def stepIn (cfg : Nat → Option Product) (s : State) (e : Env) (m : Msg) : Option State :=
  match m.product s with
  | none => none
  | some pr =>
    match cfg pr with
    | none => none
    | some p => if p.id ≠ pr then none else stepP s p e m

theorem step_named (cfg : Nat → Option Product) (s : State) (e : Env) (m : Msg) (hm : m.named = true) :
    step cfg s e m = stepIn cfg s e m := by
  cases m <;> first | rfl | cases hm

/-- an accepted message that names a product ran the handler of the configured product it names -/
theorem step_of_named {cfg : Nat → Option Product} {m : Msg} (hn : m.named = true) (h : step cfg s e m = some s') :
    ∃ p, m.product s = some p.id ∧ cfg p.id = some p ∧ stepP s p e m = some s' := by
  rw [step_named _ _ _ _ hn] at h
  unfold stepIn at h
  cases hpr : m.product s with
  | none => simp only [hpr, reduceCtorEq] at h
  | some pr =>
    cases hp : cfg pr with
    | none => simp only [hpr, hp, reduceCtorEq] at h
    | some p =>
      simp only [hpr, hp, accepted] at h
      obtain ⟨rfl, h⟩ := h
      exact ⟨p, rfl, hp, h⟩

end Comdex.Vault
