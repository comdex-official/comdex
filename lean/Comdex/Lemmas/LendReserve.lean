import Comdex.Lemmas.LendEffects
import Comdex.Lemmas.Lend
/-!
The reserve ledger of x/lend: the balance of the reserve module account against the book-keeping records (`ReserveBuybackAssetData`,
`AllReserveStats`, `FundReserveBal`). `BalStep`: a step leaves "reserve balance − recorded net inflow" alone for every asset. Core Lean only.
-/
namespace Comdex.Lend

theorem lookup_filter_ne (b : Bank) (k k0 : Nat × Nat) :
    (b.filter fun e => e.1 != k0).lookup k = if k = k0 then none else b.lookup k := by
  induction b with
  | nil => simp [List.lookup]
  | cons e b ih =>
    obtain ⟨ek, ev⟩ := e
    by_cases h0 : ek = k0
    · subst h0
      simp only [List.filter_cons, bne_self_eq_false, Bool.false_eq_true, if_false, ih]
      by_cases hk : k = ek
      · simp [hk]
      · have : (k == ek) = false := by simp [hk]
        simp [List.lookup, this, hk]
    · have hne : (ek != k0) = true := by simp [h0]
      simp only [List.filter_cons, hne, if_true]
      by_cases hk : k = ek
      · subst hk; simp [List.lookup, h0]
      · have : (k == ek) = false := by simp [hk]
        simp only [List.lookup, this, ih]

theorem get_add (b : Bank) (a d : Nat) (x : Int) (a' d' : Nat) :
    (b.add a d x).get a' d' = if a' = a ∧ d' = d then b.get a d + x else b.get a' d' := by
  unfold Bank.add Bank.get
  by_cases h : a' = a ∧ d' = d
  · obtain ⟨rfl, rfl⟩ := h
    simp [List.lookup]
  · have hk : ((a', d') == (a, d)) = false := by
      simp only [beq_eq_false_iff_ne, ne_eq, Prod.mk.injEq]; exact h
    have hk' : ¬ ((a', d') = (a, d)) := by simpa using h
    simp only [List.lookup, hk, lookup_filter_ne, hk', if_false, h]

theorem send_get {b b' : Bank} {src dst d : Nat} {x : Int} (h : b.send src dst d x = .ok b') (R a : Nat) :
    b'.get R a = b.get R a + (if R = dst ∧ a = d then x else 0) - (if R = src ∧ a = d then x else 0) := by
  unfold Bank.send at h
  split at h
  · cases h
  split at h
  · cases h; subst x; simp
  split at h
  · cases h
  · cases h
    -- two `add`s, each read by `get_add`; the cases: `(R, a)` is both entries (`src = dst`), the credited one, the debited one, neither
    simp only [get_add]
    by_cases h1 : R = dst ∧ a = d <;> by_cases h2 : R = src ∧ a = d <;> simp only [h1, h2, if_false]
    · obtain ⟨rfl, rfl⟩ := h1
      simp_all
      omega
    · obtain ⟨rfl, rfl⟩ := h1
      simp_all
    · obtain ⟨rfl, rfl⟩ := h2
      simp_all
      omega
    · simp_all

theorem mint_get {b b' : Bank} {acct d : Nat} {x : Int} (h : b.mint acct d x = .ok b') (R a : Nat) :
    b'.get R a = b.get R a + (if R = acct ∧ a = d then x else 0) := by
  unfold Bank.mint at h
  split at h
  · cases h
  split at h <;> cases h
  · subst x; simp
  · rw [get_add]; split
    · rename_i hc; rw [hc.1, hc.2]
    · omega

theorem burn_get {b b' : Bank} {acct d : Nat} {x : Int} (h : b.burn acct d x = .ok b') (R a : Nat) :
    b'.get R a = b.get R a - (if R = acct ∧ a = d then x else 0) := by
  unfold Bank.burn at h
  split at h
  · cases h
  split at h
  · cases h; subst x; simp
  split at h <;> cases h
  rw [get_add]; split
  · rename_i hc; rw [hc.1, hc.2]; omega
  · omega

theorem send_other {b b' : Bank} {src dst d : Nat} {x : Int} {R : Nat} (h : b.send src dst d x = .ok b') (hs : src ≠ R) (hd : dst ≠ R)
    (a : Nat) : b'.get R a = b.get R a := by
  rw [send_get h, if_neg (fun e => hd e.1.symm), if_neg (fun e => hs e.1.symm)]; omega

theorem mint_other {b b' : Bank} {acct d : Nat} {x : Int} {R : Nat} (h : b.mint acct d x = .ok b') (hs : acct ≠ R) (a : Nat) :
    b'.get R a = b.get R a := by
  rw [mint_get h, if_neg (fun e => hs e.1.symm)]; omega

theorem burn_other {b b' : Bank} {acct d : Nat} {x : Int} {R : Nat} (h : b.burn acct d x = .ok b') (hs : acct ≠ R) (a : Nat) :
    b'.get R a = b.get R a := by
  rw [burn_get h, if_neg (fun e => hs e.1.symm)]; omega

theorem send_to {b b' : Bank} {src d : Nat} {x : Int} {R : Nat} (h : b.send src R d x = .ok b') (hs : src ≠ R) (a : Nat) :
    b'.get R a = b.get R a + if a = d then x else 0 := by
  rw [send_get h, if_neg (c := R = src ∧ a = d) (fun e => hs e.1.symm)]; simp

theorem send_from {b b' : Bank} {dst d : Nat} {x : Int} {R : Nat} (h : b.send R dst d x = .ok b') (hd : dst ≠ R) (a : Nat) :
    b'.get R a = b.get R a - if a = d then x else 0 := by
  rw [send_get h, if_neg (c := R = dst ∧ a = d) (fun e => hd e.1.symm)]; simp

theorem Bank.wrap_other {b b' : Bank} {u pool d c R : Nat} {x : Int} (h : b.wrap u pool d c x b') (hu : u ≠ R) (hp : pool ≠ R) (a : Nat) :
    b'.get R a = b.get R a := by
  obtain ⟨b1, h1, b2, h2, h3⟩ := h
  rw [send_other h3 hp hu, mint_other h2 hp, send_other h1 hu hp]

theorem Bank.unwrap_other {b b' : Bank} {u pool c d R : Nat} {x : Int} (h : b.unwrap u pool c d x b') (hu : u ≠ R) (hp : pool ≠ R) (a : Nat) :
    b'.get R a = b.get R a := by
  obtain ⟨b1, h1, b2, h2, h3⟩ := h
  rw [send_other h3 hp hu, burn_other h2 hp, send_other h1 hu hp]

theorem getResv_modResv (rs : List Resv) (a a' : Nat) (f : Resv → Resv) (hf : ∀ r, (f r).asset = r.asset) :
    getResv (modResv rs a f) a' = if a' = a then f (getResv rs a) else getResv rs a' := by
  unfold getResv modResv
  rw [KeyedRecs.find?_upsert Resv.asset (fun _ => beq_iff_eq) (fun _ => Iff.rfl) (fun _ => beq_iff_eq) (fun r h => (hf r).trans h)
    (hf { asset := a }) rs]
  by_cases e : a' = a
  · rw [if_pos e, if_pos e]; cases rs.find? (fun r => r.asset == a) <;> rfl
  · rw [if_neg e, if_neg e]

theorem halves_asset (r : Resv) (x : Int) (inc : Bool) : (r.halves x inc).asset = r.asset := by
  unfold Resv.halves; cases inc <;> rfl
theorem halves_flow (r : Resv) (x : Int) (inc : Bool) : (r.halves x inc).flow = r.flow := by
  unfold Resv.halves Resv.flow; cases inc <;> rfl
theorem halves_keep_equal (r : Resv) (x : Int) (inc : Bool) (h : r.reserve = r.buyback) : (r.halves x inc).reserve = (r.halves x inc).buyback := by
  unfold Resv.halves; cases inc <;> simp [h]

theorem flow_mod (rs : List Resv) (a a' : Nat) (f : Resv → Resv) (hf : ∀ r, (f r).asset = r.asset) (d : Int)
    (hd : ∀ r, (f r).flow = r.flow + d) : (getResv (modResv rs a f) a').flow = (getResv rs a').flow + if a' = a then d else 0 := by
  rw [getResv_modResv _ _ _ _ hf]
  by_cases h : a' = a
  · subst h; simp [hd]
  · simp [h]

section flow
variable (rs : List Resv) (a a' : Nat) (x : Int)

theorem flow_resvRepay : (getResv (resvRepay rs a x) a').flow = (getResv rs a').flow + if a' = a then x else 0 :=
  flow_mod rs a a' _ (fun r => by simp [halves_asset]) x fun r => by simp [Resv.flow, Resv.halves]; omega

theorem flow_bookRepay : (getResv (bookRepay rs a x) a').flow = (getResv rs a').flow + if a' = a then posPart x else 0 := by
  unfold bookRepay posPart; split
  · exact flow_resvRepay rs a a' x
  · simp

theorem flow_addPenalty : (getResv (modResv rs a (·.addPenalty x)) a').flow = (getResv rs a').flow + if a' = a then x else 0 :=
  flow_mod rs a a' _ (fun r => by simp [Resv.addPenalty, halves_asset]) x fun r => by simp [Resv.addPenalty, Resv.flow, Resv.halves]; omega

theorem flow_addFunded : (getResv (modResv rs a (·.addFunded x)) a').flow = (getResv rs a').flow + if a' = a then x else 0 :=
  flow_mod rs a a' _ (fun r => by simp [Resv.addFunded, halves_asset]) x fun r => by simp [Resv.addFunded, Resv.flow, Resv.halves]; omega

theorem flow_payReward : (getResv (modResv rs a (·.payReward x)) a').flow = (getResv rs a').flow + if a' = a then -x else 0 :=
  flow_mod rs a a' _ (fun r => by simp [Resv.payReward, halves_asset]) (-x) fun r => by simp [Resv.payReward, Resv.flow, Resv.halves]; omega

theorem flow_noteReward : (getResv (modResv rs a (·.noteReward x)) a').flow = (getResv rs a').flow := by
  simpa using flow_mod rs a a' (·.noteReward x) (fun r => rfl) 0 fun r => by simp [Resv.noteReward, Resv.flow]

end flow

theorem halvesEq_mod (rs : List Resv) (a : Nat) (f : Resv → Resv) (hf : ∀ r, r.reserve = r.buyback → (f r).reserve = (f r).buyback)
    (h : ∀ r ∈ rs, r.reserve = r.buyback) : ∀ r ∈ modResv rs a f, r.reserve = r.buyback :=
  KeyedRecs.forall_upsert h (fun r hr => hf r (h r hr)) (hf _ rfl)

/-- module accounts of the configuration are different accounts -/
structure CfgOk (cfg : Cfg) : Prop where
  pools : ∀ p ∈ cfg.pools, p.acct ≠ cfg.reserveAcct
  auction : cfg.auctionAcct ≠ cfg.reserveAcct

theorem pool_acct_ne {cfg : Cfg} (ok : CfgOk cfg) {id : Nat} {p : PoolCfg} (h : cfg.pool? id = some p) : p.acct ≠ cfg.reserveAcct :=
  ok.pools p (by unfold Cfg.pool? at h; exact List.mem_of_find?_eq_some h)

abbrev NotR (cfg : Cfg) (l : Lend) : Prop := l.owner ≠ cfg.reserveAcct
abbrev NotRLocked (cfg : Cfg) (k : Locked) : Prop := k.owner ≠ cfg.reserveAcct
abbrev DenOk (cfg : Cfg) (b : Borrow) : Prop := ∀ pair, cfg.pair? b.pairId = some pair → b.outDenom = pair.assetOut

/-- what the ledger needs of the books: payouts to owners are not reserve inflows, and a borrow is repaid in the asset the records are
keyed by -/
structure Own (cfg : Cfg) (ls : List Lend) (bs : List Borrow) (ks : List Locked) : Prop where
  lends : ∀ l ∈ ls, NotR cfg l
  locked : ∀ k ∈ ks, NotRLocked cfg k
  denoms : ∀ b ∈ bs, DenOk cfg b

section own
-- every lemma of the section takes `o` as its first explicit argument
variable {cfg : Cfg} {ls : List Lend} {bs : List Borrow} {ks : List Locked} (o : Own cfg ls bs ks)
include o
theorem Own.setLend {l l' : Lend} (h : NotR cfg l) (hl : l'.SameAs l) : Own cfg (setLend ls l') bs ks :=
  { o with lends := all_put lendKey _ o.lends (by unfold NotR; rw [hl.owner]; exact h) }
theorem Own.addLend {l : Lend} (h : NotR cfg l) : Own cfg (ls ++ [l]) bs ks := { o with lends := all_append _ o.lends h }
theorem Own.delLend (k : Nat) : Own cfg (delLend ls k) bs ks := { o with lends := all_del lendKey _ k o.lends }
theorem Own.setBorrow {b b' : Borrow} (h : DenOk cfg b) (hb : b'.SameAs b) : Own cfg ls (setBorrow bs b') ks :=
  { o with denoms := all_put borrowKey _ o.denoms (by unfold DenOk; rw [hb.pairId, hb.outDenom]; exact h) }
theorem Own.addBorrow {b : Borrow} (h : DenOk cfg b) : Own cfg ls (bs ++ [b]) ks := { o with denoms := all_append _ o.denoms h }
theorem Own.delBorrow (k : Nat) : Own cfg ls (delBorrow bs k) ks := { o with denoms := all_del borrowKey _ k o.denoms }
theorem Own.addLocked {k : Locked} (h : NotRLocked cfg k) : Own cfg ls bs (ks ++ [k]) := { o with locked := all_append _ o.locked h }
theorem Own.delLocked (k : Nat) : Own cfg ls bs (delLocked ks k) := { o with locked := fun x hx => o.locked x (List.mem_filter.mp hx).1 }
end own

def OwnS (cfg : Cfg) (s : State) : Prop := Own cfg s.lends s.borrows s.locked

def BalStep (cfg : Cfg) (s s' : State) : Prop :=
  ∀ a, s'.bank.get cfg.reserveAcct a - (getResv s'.resv a).flow = s.bank.get cfg.reserveAcct a - (getResv s.resv a).flow

theorem BalStep.refl (cfg : Cfg) (s : State) : BalStep cfg s s := fun _ => rfl
theorem BalStep.trans {cfg : Cfg} {s1 s2 s3 : State} (h1 : BalStep cfg s1 s2) (h2 : BalStep cfg s2 s3) : BalStep cfg s1 s3 :=
  fun a => by rw [h2 a, h1 a]

variable {cfg : Cfg} {s s' : State}

theorem BalStep.of_unchanged (hr : ∀ a, (getResv s'.resv a).flow = (getResv s.resv a).flow)
    (hb : ∀ a, s'.bank.get cfg.reserveAcct a = s.bank.get cfg.reserveAcct a) : BalStep cfg s s' := fun a => by rw [hr, hb]

theorem resLedger_step {bank0 : Bank} (h : ResLedger cfg bank0 s) (b : BalStep cfg s s') : ResLedger cfg bank0 s' := by
  intro a
  have h1 := h a
  have h2 := b a
  omega

end Comdex.Lend
