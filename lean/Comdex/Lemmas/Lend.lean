import Comdex.Model.Lend
import Comdex.Lemmas.KeyedRecs
import Comdex.Lemmas.ListSum
/-!
The book invariant of lending (`Core`: ids ascend below the counters, borrowed totals; `TL`: lent total): what replacing,
appending and removing a position does to the sums, what a change of a record does to the published totals (`Moves`), and the steps that
several cases of `Book.core` / `Book.tl` (LendBook) share. `put`, `Uniq` (fixed: `put_self` is stated in them) and `del`
(the `!=` of `delLend`) are `KeyedRecs`' `put`, `Nodup` of the keys, `del`; their facts call `KeyedRecs`. Names: the step `x` of a store is
`core_x c`, `tl_x c t`, `ids_x h` (LendIds), `o.x` (`Own`, LendReserve); dot names here (`c.modStats`, `t.mod`) are about the records alone.
Core Lean only.
-/
namespace Comdex.Lend

theorem sumBy_eq {α} (f : α → Int) (l : List α) : sumBy f l = (l.map f).sum := by
  induction l with
  | nil => rfl
  | cons a l ih => simp only [sumBy, List.map_cons, List.sum_cons, ih]

theorem sumBy_append {α} (f : α → Int) (l : List α) (x : α) : sumBy f (l ++ [x]) = sumBy f l + f x := by
  rw [sumBy_eq, sumBy_eq, ListSum.sum_map_snoc]

theorem sumBy_congr {α} (f g : α → Int) (l : List α) (h : ∀ x ∈ l, f x = g x) : sumBy f l = sumBy g l := by
  rw [sumBy_eq, sumBy_eq, ListSum.sum_map_congr f g l h]

theorem sumBy_add {α} (f g : α → Int) (l : List α) : sumBy (fun x => f x + g x) l = sumBy f l + sumBy g l := by
  rw [sumBy_eq, sumBy_eq, sumBy_eq, ListSum.sum_map_add]

theorem sumBy_zero {α} (f : α → Int) (l : List α) (h : ∀ x ∈ l, f x = 0) : sumBy f l = 0 := by
  rw [sumBy_eq, ListSum.sum_map_zero f l h]

def Uniq {α} (key : α → Nat) (l : List α) : Prop := l.Pairwise fun a b => key a ≠ key b

theorem Uniq.nodup {α} {key : α → Nat} {l : List α} (h : Uniq key l) : (l.map key).Nodup := List.pairwise_map.mpr h

def put {α} (key : α → Nat) (l : List α) (v : α) : List α := l.map fun x => if key x = key v then v else x
def del {α} (key : α → Nat) (l : List α) (k : Nat) : List α := l.filter fun x => key x != k

theorem del_eq {α} (key : α → Nat) (l : List α) (k : Nat) : del key l k = KeyedRecs.del key l k :=
  List.filter_congr fun x _ => by by_cases h : key x = k <;> simp [h]

theorem mem_del {α} (key : α → Nat) (l : List α) (k : Nat) (x : α) (h : x ∈ del key l k) : x ∈ l ∧ key x ≠ k :=
  KeyedRecs.mem_del key (del_eq key l k ▸ h)

theorem all_put {α} (key : α → Nat) (P : α → Prop) {l : List α} {v : α} (h : ∀ x ∈ l, P x) (hv : P v) : ∀ x ∈ put key l v, P x := by
  intro x hx
  rcases KeyedRecs.mem_put key hx with rfl | ⟨hx', _⟩
  · exact hv
  · exact h x hx'

theorem all_del {α} (key : α → Nat) (P : α → Prop) {l : List α} (k : Nat) (h : ∀ x ∈ l, P x) : ∀ x ∈ del key l k, P x :=
  fun x hx => h x (mem_del key l k x hx).1

theorem all_append {α} (P : α → Prop) {l : List α} {v : α} (h : ∀ x ∈ l, P x) (hv : P v) : ∀ x ∈ l ++ [v], P x := by
  intro x hx
  rcases List.mem_append.mp hx with hx | hx
  · exact h x hx
  · simp at hx; subst hx; exact hv

theorem sumBy_put {α} (key : α → Nat) (f : α → Int) (l : List α) (old v : α)
    (hu : Uniq key l) (hm : old ∈ l) (hk : key old = key v) :
    sumBy f (put key l v) = sumBy f l + f v - f old := by
  rw [sumBy_eq, sumBy_eq, show put key l v = KeyedRecs.put key l v from rfl, KeyedRecs.sum_put key f l old v hu.nodup hm hk.symm]; omega

theorem sumBy_del {α} (key : α → Nat) (f : α → Int) (l : List α) (old : α)
    (hu : Uniq key l) (hm : old ∈ l) :
    sumBy f (del key l (key old)) = sumBy f l - f old := by
  rw [sumBy_eq, sumBy_eq, del_eq, KeyedRecs.sum_del key f l old hu.nodup hm]

theorem sumBy_pick {α} (key : α → Nat) (c : α → Int) (l : List α) (old : α) (hu : Uniq key l) (hm : old ∈ l) :
    sumBy (fun x => if key x = key old then c x else 0) l = c old := by
  have h := sumBy_del key (fun x => if key x = key old then c x else 0) l old hu hm
  rw [sumBy_zero _ _ fun x hx => if_neg (mem_del key l _ x hx).2, if_pos rfl] at h
  omega

theorem put_self {α} (key : α → Nat) (l : List α) (v : α) (hu : Uniq key l) (hm : v ∈ l) : put key l v = l := by
  obtain ⟨l₁, l₂, rfl, h1, h2⟩ := KeyedRecs.split key hu.nodup hm
  exact KeyedRecs.put_split key rfl h1 h2

theorem uniq_eq {α} (key : α → Nat) {l : List α} (hu : Uniq key l) {x y : α} (hx : x ∈ l) (hy : y ∈ l) (h : key x = key y) : x = y :=
  KeyedRecs.eq_of_key_eq hu.nodup hx hy h

theorem find_put {α} (key : α → Nat) (l : List α) (old v : α) (hm : old ∈ l) (hk : key old = key v) :
    (put key l v).find? (fun x => key x == key v) = some v := by
  refine (KeyedRecs.find?_put key (fun _ => beq_iff_eq) l v).trans ?_
  rw [if_pos rfl]
  have : (l.find? fun x => key x == key v).isSome := List.find?_isSome.2 ⟨old, hm, (beq_iff_eq (a := key old)).2 hk⟩
  obtain ⟨w, hw⟩ := Option.isSome_iff_exists.1 this
  rw [hw]; rfl

theorem find_del {α} (key : α → Nat) (l : List α) (k : Nat) : (del key l k).find? (fun x => key x == k) = none := by
  apply List.find?_eq_none.mpr
  intro x hx
  have := (mem_del key l k x hx).2
  simp [this]

/-! ## ids ascend: records are appended under a counter, replaced in place, removed by filtering -/

def Asc (l : List Nat) : Prop := l.Pairwise (· < ·)

theorem asc_append {l : List Nat} (h : Asc l) (k : Nat) (hk : ∀ x ∈ l, x < k) : Asc (l ++ [k]) := by
  unfold Asc
  rw [List.pairwise_append]
  refine ⟨h, by simp, ?_⟩
  intro a ha b hb
  simp at hb; subst hb; exact hk a ha

theorem asc_uniq {α} (key : α → Nat) {l : List α} (h : Asc (l.map key)) : Uniq key l := by
  unfold Asc at h
  rw [List.pairwise_map] at h
  exact h.imp (fun hab => Nat.ne_of_lt hab)

theorem asc_put {α} (key : α → Nat) {l : List α} (v : α) (h : Asc (l.map key)) : Asc ((put key l v).map key) :=
  (KeyedRecs.map_key_put key l v).symm ▸ h

theorem asc_del {α} (key : α → Nat) {l : List α} (k : Nat) (h : Asc (l.map key)) : Asc ((del key l k).map key) :=
  List.Pairwise.sublist (List.filter_sublist.map key) h

theorem asc_new {α} (key : α → Nat) {l : List α} (v : α) (h : Asc (l.map key)) (hv : ∀ x ∈ l, key x < key v) : Asc ((l ++ [v]).map key) := by
  rw [List.map_append]; exact asc_append h _ fun x hx => by obtain ⟨y, hy, rfl⟩ := List.mem_map.mp hx; exact hv y hy

abbrev lendKey (l : Lend) : Nat := l.id
abbrev borrowKey (b : Borrow) : Nat := b.id

/-- `l'` is the lend position `l` with other amounts -/
structure Lend.SameAs (l' l : Lend) : Prop where
  id : l'.id = l.id
  pool : l'.pool = l.pool
  asset : l'.asset = l.asset
  owner : l'.owner = l.owner

/-- `b'` is the borrow `b` with other amounts, interest or liquidation flag -/
structure Borrow.SameAs (b' b : Borrow) : Prop where
  id : b'.id = b.id
  lendingId : b'.lendingId = b.lendingId
  pairId : b'.pairId = b.pairId
  stable : b'.stable = b.stable
  outDenom : b'.outDenom = b.outDenom

theorem setLend_eq (ls : List Lend) (v : Lend) : setLend ls v = put lendKey ls v := rfl
theorem delLend_eq (ls : List Lend) (k : Nat) : delLend ls k = del lendKey ls k := rfl
theorem setBorrow_eq (bs : List Borrow) (v : Borrow) : setBorrow bs v = put borrowKey bs v := rfl
theorem delBorrow_eq (bs : List Borrow) (k : Nat) : delBorrow bs k = del borrowKey bs k := rfl

theorem getLend_mem {ls : List Lend} {k : Nat} {l : Lend} (h : getLend ls k = some l) : l ∈ ls ∧ l.id = k :=
  KeyedRecs.find?_key lendKey h fun _ => beq_iff_eq
theorem getBorrow_mem {bs : List Borrow} {k : Nat} {b : Borrow} (h : getBorrow bs k = some b) : b ∈ bs ∧ b.id = k :=
  KeyedRecs.find?_key borrowKey h fun _ => beq_iff_eq

theorem getLend_id {ls : List Lend} {k : Nat} {l : Lend} (h : getLend ls k = some l) : getLend ls l.id = some l := by
  rw [(getLend_mem h).2]; exact h
theorem getBorrow_id {bs : List Borrow} {k : Nat} {b : Borrow} (h : getBorrow bs k = some b) : getBorrow bs b.id = some b := by
  rw [(getBorrow_mem h).2]; exact h

theorem getLend_setLend {ls : List Lend} {k : Nat} {l l' : Lend} (hg : getLend ls k = some l) (hid : l'.id = l.id) :
    getLend (setLend ls l') k = some l' := by
  obtain ⟨hm, rfl⟩ := getLend_mem hg
  have := find_put lendKey ls l l' hm (by simp [lendKey, hid])
  simp only [lendKey, hid] at this
  exact this

theorem getBorrow_setBorrow {bs : List Borrow} {k : Nat} {b b' : Borrow} (hg : getBorrow bs k = some b) (hid : b'.id = b.id) :
    getBorrow (setBorrow bs b') k = some b' := by
  obtain ⟨hm, rfl⟩ := getBorrow_mem hg
  have := find_put borrowKey bs b b' hm (by simp [borrowKey, hid])
  simp only [borrowKey, hid] at this
  exact this

theorem getLend_delLend (ls : List Lend) (k : Nat) : getLend (delLend ls k) k = none := find_del lendKey ls k

/-- what a borrow pledges: its collateral, unless it is handed over to a liquidation auction -/
def pledge (b : Borrow) : Int := if b.liq = false then b.amountIn else 0
def pledgeTo (k : Nat) (b : Borrow) : Int := if b.lendingId = k ∧ b.liq = false then b.amountIn else 0
def lentIn (bs : List Borrow) (p a : Nat) (l : Lend) : Int := if l.pool = p ∧ l.asset = a then l.avail + pledgedOf bs l.id else 0
def owedIn (cfg : Cfg) (p a : Nat) (stable : Bool) (b : Borrow) : Int :=
  if b.liq = false ∧ b.stable = stable ∧ cfg.pairOut b.pairId = some (p, a) then b.amountOut else 0

theorem pledgedOf_eq (bs : List Borrow) (k : Nat) : pledgedOf bs k = sumBy (pledgeTo k) bs := rfl
theorem lendSum_eq (ls : List Lend) (bs : List Borrow) (p a : Nat) : lendSum ls bs p a = sumBy (lentIn bs p a) ls := rfl

theorem pledge_open {b : Borrow} (hq : b.liq = false) : pledge b = b.amountIn := if_pos hq
theorem pledge_liq {b : Borrow} (hq : b.liq = true) : pledge b = 0 := if_neg (by simp [hq])

theorem pledgeTo_eq (j : Nat) (b : Borrow) : pledgeTo j b = if j = b.lendingId then pledge b else 0 := by
  unfold pledgeTo pledge
  by_cases hj : j = b.lendingId
  · subst hj; by_cases hq : b.liq = false <;> simp [hq]
  · rw [if_neg hj, if_neg fun e => hj e.1.symm]

theorem lendSum_congr (ls : List Lend) {bs bs' : List Borrow} (h : ∀ j, pledgedOf bs' j = pledgedOf bs j) (p a : Nat) :
    lendSum ls bs' p a = lendSum ls bs p a :=
  sumBy_congr _ _ _ fun l _ => by show (if _ then _ else _) = _; rw [h]

theorem lendSum_shift (ls : List Lend) (bs bs' : List Borrow) {k : Nat} {l : Lend} (x : Int) (hu : Uniq lendKey ls)
    (hg : getLend ls k = some l) (hpl : ∀ j, pledgedOf bs' j = pledgedOf bs j + if j = k then x else 0) (p a : Nat) :
    lendSum ls bs' p a = lendSum ls bs p a + if l.pool = p ∧ l.asset = a then x else 0 := by
  rw [lendSum_eq, lendSum_eq]
  have h1 : sumBy (lentIn bs' p a) ls =
      sumBy (fun l => lentIn bs p a l + (if lendKey l = k then (if l.pool = p ∧ l.asset = a then x else 0) else 0)) ls := by
    apply sumBy_congr
    intro l _
    unfold lentIn
    rw [hpl l.id]
    by_cases hk : l.id = k <;> by_cases hc : l.pool = p ∧ l.asset = a <;> simp [hk, hc, lendKey] <;> omega
  rw [h1, sumBy_add]
  congr 1
  obtain ⟨hm, hid⟩ := getLend_mem hg
  subst hid
  exact sumBy_pick lendKey (fun l => if l.pool = p ∧ l.asset = a then x else 0) ls l hu hm

theorem lendSum_set {ls : List Lend} {bs bs' : List Borrow} {l l' : Lend} (x : Int) {dL : Int} (hu : Uniq lendKey ls)
    (hg : getLend ls l.id = some l) (hl : l'.SameAs l)
    (hpl : ∀ j, pledgedOf bs' j = pledgedOf bs j + if j = l.id then x else 0) (hd : l'.avail - l.avail + x = dL) (p a : Nat) :
    lendSum (setLend ls l') bs' p a = lendSum ls bs p a + if l.pool = p ∧ l.asset = a then dL else 0 := by
  subst hd
  obtain ⟨hm, _⟩ := getLend_mem hg
  rw [lendSum_eq, setLend_eq, sumBy_put lendKey (lentIn bs' p a) ls l l' hu hm hl.id.symm, ← lendSum_eq,
    lendSum_shift ls bs bs' x hu hg hpl p a]
  unfold lentIn
  rw [hl.id, hl.pool, hl.asset]
  by_cases hc : l.pool = p ∧ l.asset = a <;> simp [hc] <;> omega

theorem lendSum_set0 {ls : List Lend} {bs bs' : List Borrow} {l l' : Lend} (x : Int) (hu : Uniq lendKey ls)
    (hg : getLend ls l.id = some l) (hl : l'.SameAs l)
    (hpl : ∀ j, pledgedOf bs' j = pledgedOf bs j + if j = l.id then x else 0) (hd : l'.avail - l.avail + x = 0) (p a : Nat) :
    lendSum (setLend ls l') bs' p a = lendSum ls bs p a := by
  rw [lendSum_set x hu hg hl hpl hd, ite_self, Int.add_zero]

theorem lendSum_append (ls : List Lend) (bs : List Borrow) (l : Lend) (p a : Nat) (h0 : pledgedOf bs l.id = 0) :
    lendSum (ls ++ [l]) bs p a = lendSum ls bs p a + if l.pool = p ∧ l.asset = a then l.avail else 0 := by
  rw [lendSum_eq, sumBy_append, ← lendSum_eq]; unfold lentIn; rw [h0, Int.add_zero]

theorem lendSum_del (ls : List Lend) (bs : List Borrow) (l : Lend) (hu : Uniq lendKey ls) (hg : getLend ls l.id = some l) (p a : Nat) :
    lendSum (delLend ls l.id) bs p a = lendSum ls bs p a - if l.pool = p ∧ l.asset = a then l.avail + pledgedOf bs l.id else 0 :=
  sumBy_del lendKey (lentIn bs p a) ls l hu (getLend_mem hg).1

theorem pledged_put (bs : List Borrow) (b b' : Borrow) (hu : Uniq borrowKey bs) (hg : getBorrow bs b.id = some b)
    (hb : b'.SameAs b) (j : Nat) :
    pledgedOf (setBorrow bs b') j = pledgedOf bs j + if j = b.lendingId then pledge b' - pledge b else 0 := by
  rw [pledgedOf_eq, setBorrow_eq, sumBy_put borrowKey (pledgeTo j) bs b b' hu (getBorrow_mem hg).1 hb.id.symm, ← pledgedOf_eq, pledgeTo_eq, pledgeTo_eq,
    hb.lendingId]
  split <;> omega

theorem pledged_append (bs : List Borrow) (b : Borrow) (j : Nat) :
    pledgedOf (bs ++ [b]) j = pledgedOf bs j + if j = b.lendingId then pledge b else 0 := by
  rw [pledgedOf_eq, sumBy_append, ← pledgedOf_eq, pledgeTo_eq]

theorem pledged_del (bs : List Borrow) (b : Borrow) (hu : Uniq borrowKey bs) (hg : getBorrow bs b.id = some b) (j : Nat) :
    pledgedOf (delBorrow bs b.id) j = pledgedOf bs j + if j = b.lendingId then - pledge b else 0 := by
  have := sumBy_del borrowKey (pledgeTo j) bs b hu (getBorrow_mem hg).1
  rw [pledgeTo_eq] at this
  rw [pledgedOf_eq, delBorrow_eq, this, ← pledgedOf_eq]
  split <;> omega

theorem pledged_none (bs : List Borrow) (k : Nat) (h : ∀ b ∈ bs, b.lendingId ≠ k) : pledgedOf bs k = 0 :=
  sumBy_zero _ _ fun b hb => if_neg fun e => h b hb e.1

theorem borrowed_put (cfg : Cfg) (bs : List Borrow) (b b' : Borrow) (hu : Uniq borrowKey bs) (hg : getBorrow bs b.id = some b)
    (hid : b'.id = b.id) (p a : Nat) (st : Bool) :
    borrowedSum cfg (setBorrow bs b') p a st = borrowedSum cfg bs p a st + owedIn cfg p a st b' - owedIn cfg p a st b :=
  sumBy_put borrowKey (owedIn cfg p a st) bs b b' hu (getBorrow_mem hg).1 hid.symm

theorem borrowed_append (cfg : Cfg) (bs : List Borrow) (b : Borrow) (p a : Nat) (st : Bool) :
    borrowedSum cfg (bs ++ [b]) p a st = borrowedSum cfg bs p a st + owedIn cfg p a st b :=
  sumBy_append _ _ _

theorem borrowed_del (cfg : Cfg) (bs : List Borrow) (b : Borrow) (hu : Uniq borrowKey bs) (hg : getBorrow bs b.id = some b) (p a : Nat) (st : Bool) :
    borrowedSum cfg (delBorrow bs b.id) p a st = borrowedSum cfg bs p a st - owedIn cfg p a st b :=
  sumBy_del borrowKey (owedIn cfg p a st) bs b hu (getBorrow_mem hg).1

theorem pairOut_of_pair {cfg : Cfg} {k : Nat} {pair : PairCfg} (h : cfg.pair? k = some pair) :
    cfg.pairOut k = some (pair.outPool, pair.assetOut) := by
  unfold Cfg.pairOut; rw [h]

theorem pair_id {cfg : Cfg} {k : Nat} {pair : PairCfg} (h : cfg.pair? k = some pair) : pair.id = k := by
  simpa using List.find?_some h

section owedIn
variable {cfg : Cfg} {b : Borrow}

theorem owedIn_open {pair : PairCfg} (hp : cfg.pair? b.pairId = some pair) (hq : b.liq = false) (p' a' : Nat) (sf : Bool) :
    owedIn cfg p' a' sf b = if pair.outPool = p' ∧ pair.assetOut = a' then (if b.stable = sf then b.amountOut else 0) else 0 := by
  unfold owedIn; rw [pairOut_of_pair hp]
  by_cases hc : pair.outPool = p' ∧ pair.assetOut = a'
  · obtain ⟨rfl, rfl⟩ := hc
    by_cases hs : b.stable = sf <;> simp [hq, hs]
  · rw [if_neg hc, if_neg]
    rintro ⟨-, -, e⟩
    injection e with e; injection e with e1 e2; exact hc ⟨e1, e2⟩

theorem owedIn_liq (hq : b.liq = true) (p' a' : Nat) (sf : Bool) : owedIn cfg p' a' sf b = 0 := by
  unfold owedIn; simp [hq]

end owedIn

theorem mem_modStats {ss : List Stats} {p a : Nat} {f : Stats → Stats} {st : Stats} (h : st ∈ modStats ss p a f) :
    ∃ s0 ∈ ss, st = if s0.pool = p ∧ s0.asset = a then f s0 else s0 := by
  unfold modStats at h
  obtain ⟨y, hy, rfl⟩ := List.mem_map.mp h
  exact ⟨y, hy, rfl⟩

/-- one lemma for every published component (`proj`: a total or an id list) that follows a function `F` of the stores: after `modStats` with
a modifier that acts on the component as `g`, it follows any `F'` that differs from `F` by `g` at the record's key -/
theorem tracks_mod {β} (proj : Stats → β) (F F' : Nat → Nat → β) (g : β → β) {ss : List Stats} {p a : Nat} {f : Stats → Stats}
    (hkey : ∀ st, (f st).pool = st.pool ∧ (f st).asset = st.asset) (hproj : ∀ st, proj (f st) = g (proj st))
    (hF : ∀ p' a', F' p' a' = if p = p' ∧ a = a' then g (F p' a') else F p' a')
    (h : ∀ st ∈ ss, proj st = F st.pool st.asset) : ∀ st ∈ modStats ss p a f, proj st = F' st.pool st.asset := by
  intro st hst
  obtain ⟨s0, hs0, rfl⟩ := mem_modStats hst
  split
  · rename_i hc; rw [hproj, (hkey s0).1, (hkey s0).2, hF, h s0 hs0, if_pos ⟨hc.1.symm, hc.2.symm⟩]
  · rename_i hc; rw [hF, h s0 hs0, if_neg fun e => hc ⟨e.1.symm, e.2.symm⟩]

def projB (sf : Bool) (st : Stats) : Int := if sf then st.totalStable else st.totalBorrowed

/-- `TotalBorrowedEq` (`sf = false`) and `TotalStableEq` (`sf = true`) on the two components they read -/
def TB (cfg : Cfg) (bs : List Borrow) (ss : List Stats) : Prop :=
  ∀ sf, ∀ st ∈ ss, projB sf st = borrowedSum cfg bs st.pool st.asset sf

/-- `TotalLendEq` on the three components it reads -/
def TL (ls : List Lend) (bs : List Borrow) (ss : List Stats) : Prop :=
  ∀ st ∈ ss, st.totalLend = lendSum ls bs st.pool st.asset

theorem totalLendEq_iff {s : State} : TotalLendEq s ↔ TL s.lends s.borrows s.stats := Iff.rfl
theorem TB.totalBorrowedEq {cfg : Cfg} {s : State} (t : TB cfg s.borrows s.stats) : TotalBorrowedEq cfg s := t false
theorem TB.totalStableEq {cfg : Cfg} {s : State} (t : TB cfg s.borrows s.stats) : TotalStableEq cfg s := t true

/-- `nl`, `nb`: the lend and the borrow counter -/
structure Core (cfg : Cfg) (ls : List Lend) (bs : List Borrow) (ss : List Stats) (nl nb : Nat) : Prop where
  lendAsc : Asc (ls.map lendKey)
  lendLe : ∀ l ∈ ls, l.id ≤ nl
  borrowAsc : Asc (bs.map borrowKey)
  borrowLe : ∀ b ∈ bs, b.id ≤ nb
  /-- the lend position itself may be gone after a hand-over -/
  refLe : ∀ b ∈ bs, b.lendingId ≤ nl
  borrowed : TB cfg bs ss

/-- what the record modifier `f` does to what the invariants read: it keeps the key, adds `dL` to the lent total and `dB sf` to the
borrowed totals, and maps the two id lists by `gl`, `gb` -/
structure Moves (f : Stats → Stats) (dL : Int) (dB : Bool → Int) (gl gb : List Nat → List Nat) : Prop where
  key : ∀ st, (f st).pool = st.pool ∧ (f st).asset = st.asset
  lent : ∀ st, (f st).totalLend = st.totalLend + dL
  borrowed : ∀ sf st, projB sf (f st) = projB sf st + dB sf
  lids : ∀ st, (f st).lendIds = gl st.lendIds
  bids : ∀ st, (f st).borrowIds = gb st.borrowIds

theorem moves_totalLend (d : Int) : Moves (fun s => { s with totalLend := s.totalLend + d }) d (fun _ => 0) id id :=
  ⟨fun _ => ⟨rfl, rfl⟩, fun _ => rfl, fun sf _ => by cases sf <;> simp [projB], fun _ => rfl, fun _ => rfl⟩

theorem moves_totalInterest (d : Int) : Moves (fun s => { s with totalInterest := s.totalInterest + d }) 0 (fun _ => 0) id id :=
  ⟨fun _ => ⟨rfl, rfl⟩, fun _ => by simp, fun sf _ => by cases sf <;> simp [projB], fun _ => rfl, fun _ => rfl⟩

theorem moves_borrowed (sb : Bool) (d : Int) :
    Moves (fun s => if sb then { s with totalStable := s.totalStable + d } else { s with totalBorrowed := s.totalBorrowed + d }) 0
      (fun sf => if sb = sf then d else 0) id id :=
  ⟨fun _ => by cases sb <;> exact ⟨rfl, rfl⟩, fun _ => by cases sb <;> simp, fun sf _ => by cases sb <;> cases sf <;> simp [projB],
   fun _ => by cases sb <;> rfl, fun _ => by cases sb <;> rfl⟩

theorem moves_lendIds (g : List Nat → List Nat) : Moves (fun s => { s with lendIds := g s.lendIds }) 0 (fun _ => 0) g id :=
  ⟨fun _ => ⟨rfl, rfl⟩, fun _ => by simp, fun sf _ => by cases sf <;> simp [projB], fun _ => rfl, fun _ => rfl⟩

theorem moves_borrowIds (g : List Nat → List Nat) : Moves (fun s => { s with borrowIds := g s.borrowIds }) 0 (fun _ => 0) id g :=
  ⟨fun _ => ⟨rfl, rfl⟩, fun _ => by simp, fun sf _ => by cases sf <;> simp [projB], fun _ => rfl, fun _ => rfl⟩

section transitions
variable {cfg : Cfg} {ls ls' : List Lend} {bs bs' : List Borrow} {ss : List Stats} {nl nb p a : Nat} {f : Stats → Stats} {dL : Int}
  {dB : Bool → Int} {gl gb : List Nat → List Nat}

theorem TL.mod (t : TL ls bs ss) (m : Moves f dL dB gl gb)
    (hF : ∀ p' a', lendSum ls' bs' p' a' = lendSum ls bs p' a' + if p = p' ∧ a = a' then dL else 0) : TL ls' bs' (modStats ss p a f) :=
  tracks_mod _ _ _ (· + dL) m.key m.lent (fun p' a' => by rw [hF]; split <;> simp) t

theorem TB.mod (t : TB cfg bs ss) (m : Moves f dL dB gl gb)
    (hF : ∀ sf p' a', borrowedSum cfg bs' p' a' sf = borrowedSum cfg bs p' a' sf + if p = p' ∧ a = a' then dB sf else 0) :
    TB cfg bs' (modStats ss p a f) :=
  fun sf => tracks_mod (projB sf) (fun p a => borrowedSum cfg bs p a sf) (fun p a => borrowedSum cfg bs' p a sf) (· + dB sf) m.key
    (m.borrowed sf) (fun p' a' => by rw [hF]; split <;> simp) (t sf)

theorem TL.mod0 (t : TL ls bs ss) (m : Moves f 0 dB gl gb) (hF : ∀ p' a', lendSum ls' bs' p' a' = lendSum ls bs p' a') :
    TL ls' bs' (modStats ss p a f) :=
  t.mod m fun p' a' => by rw [hF, ite_self, Int.add_zero]

theorem TB.mod0 (t : TB cfg bs ss) (m : Moves f dL (fun _ => 0) gl gb) (hF : ∀ sf p' a', borrowedSum cfg bs' p' a' sf = borrowedSum cfg bs p' a' sf) :
    TB cfg bs' (modStats ss p a f) :=
  t.mod m fun sf p' a' => by rw [hF, ite_self, Int.add_zero]

theorem TL.congr (t : TL ls bs ss) (hF : ∀ p' a', lendSum ls' bs' p' a' = lendSum ls bs p' a') : TL ls' bs' ss :=
  fun st hst => (t st hst).trans (hF _ _).symm

theorem TB.congr (t : TB cfg bs ss) (hF : ∀ sf p' a', borrowedSum cfg bs' p' a' sf = borrowedSum cfg bs p' a' sf) : TB cfg bs' ss :=
  fun sf st hst => (t sf st hst).trans (hF _ _ _).symm

variable (h : Core cfg ls bs ss nl nb)
include h

theorem Core.lendUniq : Uniq lendKey ls := asc_uniq lendKey h.lendAsc
theorem Core.borrowUniq : Uniq borrowKey bs := asc_uniq borrowKey h.borrowAsc

theorem Core.stats {ss' : List Stats} (ht : TB cfg bs ss') : Core cfg ls bs ss' nl nb := { h with borrowed := ht }

theorem core_setLend {l l' : Lend} (hg : getLend ls l.id = some l) (hid : l'.id = l.id) : Core cfg (setLend ls l') bs ss nl nb :=
  { h with lendAsc := asc_put lendKey l' h.lendAsc, lendLe := all_put lendKey _ h.lendLe (hid ▸ h.lendLe l (getLend_mem hg).1) }

theorem core_setBorrow {b b' : Borrow} {ss' : List Stats} (hg : getBorrow bs b.id = some b) (ht : TB cfg (setBorrow bs b') ss')
    (hid : b'.id = b.id) (hl : b'.lendingId = b.lendingId) : Core cfg ls (setBorrow bs b') ss' nl nb :=
  { h with borrowAsc := asc_put borrowKey b' h.borrowAsc, borrowLe := all_put borrowKey _ h.borrowLe (hid ▸ h.borrowLe b (getBorrow_mem hg).1),
           refLe := all_put borrowKey _ h.refLe (hl ▸ h.refLe b (getBorrow_mem hg).1), borrowed := ht }

theorem core_delBorrow (k : Nat) {ss' : List Stats} (ht : TB cfg (delBorrow bs k) ss') : Core cfg ls (delBorrow bs k) ss' nl nb :=
  { h with borrowAsc := asc_del borrowKey k h.borrowAsc, borrowLe := all_del borrowKey _ k h.borrowLe, refLe := all_del borrowKey _ k h.refLe, borrowed := ht }

theorem Core.modStats (p a : Nat) (m : Moves f dL (fun _ => 0) gl gb) : Core cfg ls bs (modStats ss p a f) nl nb :=
  h.stats (h.borrowed.mod0 m fun _ _ _ => rfl)

omit h in
theorem TL.modStats (t : TL ls bs ss) (p a : Nat) (m : Moves f 0 dB gl gb) : TL ls bs (modStats ss p a f) :=
  t.mod0 m fun _ _ => rfl

theorem core_lendDelta {l l' : Lend} (hg : getLend ls l.id = some l) (d : Int) (hid : l'.id = l.id) :
    Core cfg (setLend ls l') bs (addTotalLend ss l.pool l.asset d) nl nb :=
  (core_setLend h hg hid).stats (h.borrowed.mod0 (moves_totalLend d) fun _ _ _ => rfl)

/-- `Core` reads neither the lent totals nor which lend positions exist: any lend may go, any lent total may move -/
theorem core_delLend (k : Nat) (p a : Nat) (d : Int) : Core cfg (delLend ls k) bs (addTotalLend ss p a d) nl nb :=
  { h with lendAsc := asc_del lendKey k h.lendAsc, lendLe := all_del lendKey _ k h.lendLe, borrowed := h.borrowed.mod0 (moves_totalLend d) fun _ _ _ => rfl }

omit h in
theorem borrowsOfLend_empty {k : Nat} (he : (borrowsOfLend bs k).isEmpty = true) : ∀ b ∈ bs, b.lendingId ≠ k := by
  intro b hb e
  have : b ∈ borrowsOfLend bs k := List.mem_filter.mpr ⟨hb, by simp [e]⟩
  rw [List.isEmpty_iff.mp he] at this
  cases this

theorem core_borrowSet {b b' : Borrow} (hg : getBorrow bs b.id = some b) (hb : b'.SameAs b) (hq : b'.liq = b.liq)
    (hy : b'.amountOut = b.amountOut) : Core cfg ls (setBorrow bs b') ss nl nb :=
  core_setBorrow h hg (h.borrowed.congr fun sf p' a' => by
    rw [borrowed_put cfg bs b b' h.borrowUniq hg hb.id]; unfold owedIn; rw [hq, hb.stable, hb.pairId, hy]; omega) hb.id hb.lendingId

theorem tl_borrowTouch (t : TL ls bs ss) {b b' : Borrow} (hg : getBorrow bs b.id = some b) (hb : b'.SameAs b)
    (hq : b'.liq = b.liq) (hx : b'.amountIn = b.amountIn) : TL ls (setBorrow bs b') ss :=
  t.congr <| lendSum_congr ls fun j => by rw [pledged_put bs b b' h.borrowUniq hg hb j, pledge, pledge, hq, hx]; simp

theorem core_borrowLiq {b b' : Borrow} {pair : PairCfg} (hg : getBorrow bs b.id = some b) (hq : b.liq = false)
    (hp : cfg.pair? b.pairId = some pair) (hb : b'.SameAs b) (hq' : b'.liq = true) :
    Core cfg ls (setBorrow bs b') (addBorrowed ss pair.outPool pair.assetOut b.stable (-b.amountOut)) nl nb :=
  core_setBorrow h hg (h.borrowed.mod (moves_borrowed _ _) fun sf p' a' => by
    rw [borrowed_put cfg bs b b' h.borrowUniq hg hb.id, owedIn_open hp hq, owedIn_liq hq']
    repeat' split
    all_goals omega) hb.id hb.lendingId

theorem pledged_liq {b b' : Borrow} (hg : getBorrow bs b.id = some b) (hb : b'.SameAs b) (hq : b.liq = false) (hq' : b'.liq = true) (j : Nat) :
    pledgedOf (setBorrow bs b') j = pledgedOf bs j + if j = b.lendingId then -b.amountIn else 0 := by
  rw [pledged_put bs b b' h.borrowUniq hg hb j, pledge_open hq, pledge_liq hq']; split <;> omega

end transitions

def CoreS (cfg : Cfg) (s : State) : Prop := Core cfg s.lends s.borrows s.stats s.lendCtr s.borrowCtr

end Comdex.Lend
