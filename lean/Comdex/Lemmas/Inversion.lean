/-! Inverting a handler written with `Except` or `Option` one guard, bind or look-up at a time: `h : body = .ok v` becomes what the step
passed and `h : rest = .ok v`.  The lemmas are about `Except`; `match_ok` serves `Option`-valued handlers as well. -/
namespace Comdex

theorem guard_ok {ε : Type u} {α : Type v} {c : Prop} [Decidable c] {u : ε} {r : Except ε α} {v : α}
    (h : (if c then Except.error u else r) = .ok v) : ¬ c ∧ r = .ok v := by
  by_cases hc : c
  · rw [if_pos hc] at h; cases h
  · rw [if_neg hc] at h; exact ⟨hc, h⟩

theorem ensure_ok {ε : Type u} {α : Type v} {c : Prop} [Decidable c] {u : ε} {r : Except ε α} {v : α}
    (h : (if c then r else Except.error u) = .ok v) : c ∧ r = .ok v := by
  by_cases hc : c
  · rw [if_pos hc] at h; exact ⟨hc, h⟩
  · rw [if_neg hc] at h; cases h

theorem bind_ok {ε : Type u} {α β : Type v} {x : Except ε α} {f : α → Except ε β} {v : β}
    (h : x >>= f = .ok v) : ∃ a, x = .ok a ∧ f a = .ok v := by
  cases x with
  | error _ => cases h
  | ok a => exact ⟨a, rfl, h⟩

/-- `if c then throw u` as the `do` notation unfolds it; `β : Type` because `Unit` is -/
theorem throwIf_ok {ε : Type u} {β : Type} {c : Prop} [Decidable c] {u : ε} {k : Unit → Except ε β} {v : β}
    (h : (if c then (throw u : Except ε Unit) >>= k else k ()) = .ok v) : ¬ c ∧ k () = .ok v := by
  by_cases hc : c
  · rw [if_pos hc] at h; cases h
  · rw [if_neg hc] at h; exact ⟨hc, h⟩

/-- from `h : (match x with | .error _ => .error u | .ok v => rest v) = .ok w` (or `| none => none | some v => rest v`, `= some w`) leaves
`hx : x = .ok v`, `h : rest v = .ok w`.  A macro because no lemma can say it: every definition has its own matcher, which the unifier
does not unfold.  Trap: where the goal mentions `x`, `generalize` replaces it there too (a clause `x = some v` then closes by `rfl`). -/
macro "match_ok " hx:ident " : " x:term " with " v:rcasesPat " at " h:ident : tactic =>
  `(tactic| (generalize $hx : $x = r at $h:ident; obtain _ | $v := r; (· cases $h:ident); dsimp only at $h:ident))

end Comdex
