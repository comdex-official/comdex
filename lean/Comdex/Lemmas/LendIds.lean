import Comdex.Lemmas.Lend
import Comdex.Lemmas.SortSearch
/-!
The id lists of the pool-asset records (`PoolAssetLBMapping.LendIds` / `BorrowIds`). `DeleteIDFromAssetStatsMapping` removes an id by
binary search (`sort.Search`): on a strictly ascending list that is the removal of the id, on an unsorted one it can miss it. `IdsC`
(lists exact, every position has its record) under the elementary store transitions; that ids ascend in both stores is a clause of
`Core`. Core Lean only.
-/
namespace Comdex.Lend

theorem getD_zero_eq_getElem (l : List Nat) (i : Nat) (h : i < l.length) : l.getD i 0 = l[i] := by
  simp [List.getD, h]

theorem asc_lt {l : List Nat} (h : Asc l) {i j : Nat} (hj : j < l.length) (hij : i < j) : l.getD i 0 < l.getD j 0 := by
  rw [getD_zero_eq_getElem l i (by omega), getD_zero_eq_getElem l j hj]
  exact (List.pairwise_iff_getElem.mp h) i j (by omega) hj hij

theorem eraseIdx_eq_filter (l : List Nat) (k r : Nat) (hr : r < l.length) (hk : l.getD r 0 = k)
    (ho : ∀ t, t < l.length → t ≠ r → l.getD t 0 ≠ k) : l.eraseIdx r = l.filter (· != k) := by
  induction l generalizing r with
  | nil => simp at hr
  | cons a l ih =>
    cases r with
    | zero =>
      have ha : a = k := by simpa [List.getD] using hk
      have hrest : l.filter (· != k) = l := by
        apply List.filter_eq_self.mpr
        intro x hx
        obtain ⟨t, ht, rfl⟩ := List.getElem_of_mem hx
        have := ho (t + 1) (by simp; omega) (by omega)
        simp [List.getD] at this
        simpa [ht] using this
      simp [List.eraseIdx, ha, hrest]
    | succ r =>
      have ha : a ≠ k := by
        have := ho 0 (by simp) (by omega)
        simpa [List.getD] using this
      have hrec := ih r (by simpa using hr) (by simpa [List.getD] using hk) (by
        intro t ht htr
        have := ho (t + 1) (by simp; omega) (by omega)
        simpa [List.getD] using this)
      simp [List.eraseIdx, ha, hrec]

theorem delId_eq_filter (ids : List Nat) (h : Asc ids) (k : Nat) : delId ids k = ids.filter (· != k) := by
  unfold delId
  -- the search returns the first index `r` whose entry is `≥ k`; the list ascends, so `k` can stand at `r` and nowhere else
  have mono : ∀ a b, a ≤ b → b < ids.length → decide (ids.getD a 0 ≥ k) = true → decide (ids.getD b 0 ≥ k) = true := by
    intro a b hab hb ha
    rcases Nat.lt_or_eq_of_le hab with hlt | rfl
    · have := asc_lt h hb hlt
      simp only [decide_eq_true_eq] at ha ⊢; omega
    · exact ha
  obtain ⟨hlo, hhi, hle⟩ := sortSearch_mono (fun i => decide (ids.getD i 0 ≥ k)) ids.length mono
  generalize sortSearch (fun i => decide (ids.getD i 0 ≥ k)) ids.length 0 ids.length = r at *
  have hlo' : ∀ t, t < r → ids.getD t 0 < k := fun t ht => by
    have := hlo t ht; simp only [decide_eq_false_iff_not] at this; omega
  have hhi' : ∀ t, r ≤ t → t < ids.length → ids.getD t 0 ≥ k := fun t ht htn => by
    have := hhi t ht htn; simpa using this
  by_cases hc : r < ids.length ∧ ids.getD r 0 = k
  · simp only [hc, and_self, if_true]
    apply eraseIdx_eq_filter ids k r hc.1 hc.2
    intro t ht htr
    rcases Nat.lt_or_gt_of_ne htr with hlt | hgt
    · have := hlo' t hlt; omega
    · have := asc_lt h ht hgt; omega
  · simp only [hc, if_false]
    symm
    apply List.filter_eq_self.mpr
    intro x hx
    obtain ⟨t, ht, rfl⟩ := List.getElem_of_mem hx
    have hxe : ids.getD t 0 = ids[t] := getD_zero_eq_getElem ids t ht
    simp only [bne_iff_ne, ne_eq]
    intro e
    by_cases htr : t < r
    · have := hlo' t htr; omega
    · by_cases hrt : t = r
      · subst hrt; exact hc ⟨ht, by omega⟩
      · have h1 := hhi' r (Nat.le_refl _) (by omega)
        have h2 := asc_lt h ht (by omega : r < t)
        omega

/-! ## the id list of a sub-population of a keyed store -/

def idsOf {α} (key : α → Nat) (q : α → Bool) (l : List α) : List Nat := (l.filter q).map key

section idsOf
variable {α} (key : α → Nat) (q : α → Bool)

theorem asc_idsOf {l : List α} (h : Asc (l.map key)) : Asc (idsOf key q l) :=
  List.Pairwise.sublist (List.Sublist.map _ List.filter_sublist) h

theorem mem_idsOf {l : List α} {k : Nat} : k ∈ idsOf key q l ↔ ∃ x ∈ l, key x = k ∧ q x = true := by
  simp only [idsOf, List.mem_map, List.mem_filter]
  exact ⟨fun ⟨x, ⟨hx, hq⟩, e⟩ => ⟨x, hx, e, hq⟩, fun ⟨x, hx, e, hq⟩ => ⟨x, ⟨hx, hq⟩, e⟩⟩

/-- the id lists index the store exactly: a stored record is listed iff it belongs to the sub-population -/
theorem mem_idsOf_self {l : List α} {x : α} (hu : Uniq key l) (hx : x ∈ l) : key x ∈ idsOf key q l ↔ q x = true :=
  (mem_idsOf key q).trans ⟨fun ⟨_, hy, e, hq⟩ => uniq_eq key hu hy hx e ▸ hq, fun hq => ⟨x, hx, rfl, hq⟩⟩

theorem idsOf_append (l : List α) (x : α) : idsOf key q (l ++ [x]) = if q x then idsOf key q l ++ [key x] else idsOf key q l := by
  unfold idsOf; rw [List.filter_append, List.map_append]; cases hq : q x <;> simp [hq]

theorem map_filter_comm (q : Nat → Bool) (l : List α) : (l.filter fun x => q (key x)).map key = (l.map key).filter q := by
  induction l with
  | nil => rfl
  | cons a l ih => by_cases h : q (key a) = true <;> simp [h, ih]

theorem idsOf_del (l : List α) (k : Nat) : idsOf key q (del key l k) = (idsOf key q l).filter (· != k) := by
  unfold idsOf del
  rw [← map_filter_comm key (· != k), List.filter_filter, List.filter_filter]
  congr 1
  exact List.filter_congr fun x _ => Bool.and_comm _ _

theorem idsOf_put {l : List α} {old v : α} (hu : Uniq key l) (hm : old ∈ l) (hk : key v = key old) (hq : q v = q old) :
    idsOf key q (put key l v) = idsOf key q l := by
  have same : ∀ x ∈ l, key x = key v → q x = q v ∧ key x = key v := fun x hx e =>
    (uniq_eq key hu hx hm (e.trans hk)) ▸ ⟨hq.symm, hk.symm⟩
  clear hu hm
  unfold idsOf put
  induction l with
  | nil => rfl
  | cons x l ih =>
    have ih := ih fun y hy => same y (by simp [hy])
    simp only [List.map_cons, List.filter_cons]
    split
    · rename_i e
      obtain ⟨h1, h2⟩ := same x (by simp) e
      rw [← h1]; split <;> simp [ih, h2]
    · split <;> simp [ih]

end idsOf

theorem lendIdsOf_eq (ls : List Lend) (p a : Nat) : lendIdsOf ls p a = idsOf lendKey (fun l => l.pool == p && l.asset == a) ls := rfl
theorem borrowIdsOf_eq (cfg : Cfg) (bs : List Borrow) (p a : Nat) :
    borrowIdsOf cfg bs p a = idsOf borrowKey (fun b => cfg.pairOut b.pairId == some (p, a)) bs := rfl

theorem asc_lendIdsOf {ls : List Lend} (h : Asc (ls.map (·.id))) (p a : Nat) : Asc (lendIdsOf ls p a) := asc_idsOf lendKey _ h
theorem asc_borrowIdsOf {cfg : Cfg} {bs : List Borrow} (h : Asc (bs.map (·.id))) (p a : Nat) : Asc (borrowIdsOf cfg bs p a) :=
  asc_idsOf borrowKey _ h

theorem mem_lendIdsOf {ls : List Lend} {p a k : Nat} : k ∈ lendIdsOf ls p a ↔ ∃ l ∈ ls, l.id = k ∧ l.pool = p ∧ l.asset = a := by
  rw [lendIdsOf_eq, mem_idsOf]; simp only [Bool.and_eq_true, beq_iff_eq, lendKey]

theorem mem_borrowIdsOf {cfg : Cfg} {bs : List Borrow} {p a k : Nat} :
    k ∈ borrowIdsOf cfg bs p a ↔ ∃ b ∈ bs, b.id = k ∧ cfg.pairOut b.pairId = some (p, a) := by
  rw [borrowIdsOf_eq, mem_idsOf]; simp only [beq_iff_eq, borrowKey]

theorem mem_lendIdsOf_self {ls : List Lend} {l : Lend} (hu : Uniq lendKey ls) (hl : l ∈ ls) {p a : Nat} :
    l.id ∈ lendIdsOf ls p a ↔ l.pool = p ∧ l.asset = a := by
  rw [lendIdsOf_eq, mem_idsOf_self lendKey _ hu hl]; simp only [Bool.and_eq_true, beq_iff_eq]

theorem mem_borrowIdsOf_self {cfg : Cfg} {bs : List Borrow} {b : Borrow} (hu : Uniq borrowKey bs) (hb : b ∈ bs) {p a : Nat} :
    b.id ∈ borrowIdsOf cfg bs p a ↔ cfg.pairOut b.pairId = some (p, a) := by
  rw [borrowIdsOf_eq, mem_idsOf_self borrowKey _ hu hb]; simp only [beq_iff_eq]

theorem filter_ne_self (l : List Nat) (k : Nat) (h : k ∉ l) : l.filter (· != k) = l :=
  (del_eq id l k).trans (KeyedRecs.del_absent id l k (by rwa [List.map_id]))

/-- `IdsOk` on the three components it reads -/
def IdsL (cfg : Cfg) (ls : List Lend) (bs : List Borrow) (ss : List Stats) : Prop :=
  ∀ st ∈ ss, st.lendIds = lendIdsOf ls st.pool st.asset ∧ st.borrowIds = borrowIdsOf cfg bs st.pool st.asset

theorem idsOk_iff {cfg : Cfg} {s : State} : IdsOk cfg s ↔ IdsL cfg s.lends s.borrows s.stats := Iff.rfl

def HasRecord (ss : List Stats) (p a : Nat) : Prop := ∃ st ∈ ss, st.pool = p ∧ st.asset = a

structure IdsC (cfg : Cfg) (ls : List Lend) (bs : List Borrow) (ss : List Stats) : Prop where
  lists : IdsL cfg ls bs ss
  lendRec : ∀ l ∈ ls, HasRecord ss l.pool l.asset
  borrowRec : ∀ b ∈ bs, ∃ p a, cfg.pairOut b.pairId = some (p, a) ∧ HasRecord ss p a

theorem HasRecord.mod {ss : List Stats} (p a : Nat) {f : Stats → Stats} (hk : ∀ st, (f st).pool = st.pool ∧ (f st).asset = st.asset) {P A : Nat}
    (h : HasRecord ss P A) : HasRecord (modStats ss p a f) P A := by
  obtain ⟨st, hst, h1, h2⟩ := h
  refine ⟨_, List.mem_map.mpr ⟨st, hst, rfl⟩, ?_⟩
  split
  · rw [(hk st).1, (hk st).2]; exact ⟨h1, h2⟩
  · exact ⟨h1, h2⟩

theorem HasRecord.of_getStats {ss : List Stats} {p a : Nat} {st : Stats} (h : getStats ss p a = some st) : HasRecord ss p a := by
  have h1 := List.find?_some h
  simp only [Bool.and_eq_true, beq_iff_eq] at h1
  exact ⟨st, List.mem_of_find?_eq_some h, h1⟩

section transitions
variable {cfg : Cfg} {ls ls' : List Lend} {bs bs' : List Borrow} {ss : List Stats} {p a : Nat} {f : Stats → Stats} {dL : Int}
  {dB : Bool → Int} {gl gb : List Nat → List Nat}

theorem IdsL.mod (h : IdsL cfg ls bs ss) (m : Moves f dL dB gl gb)
    (hl : ∀ p' a', lendIdsOf ls' p' a' = if p = p' ∧ a = a' then gl (lendIdsOf ls p' a') else lendIdsOf ls p' a')
    (hb : ∀ p' a', borrowIdsOf cfg bs' p' a' = if p = p' ∧ a = a' then gb (borrowIdsOf cfg bs p' a') else borrowIdsOf cfg bs p' a') :
    IdsL cfg ls' bs' (modStats ss p a f) := fun st hst =>
  ⟨tracks_mod (·.lendIds) _ _ gl m.key m.lids hl (fun st hst => (h st hst).1) st hst,
   tracks_mod (·.borrowIds) _ _ gb m.key m.bids hb (fun st hst => (h st hst).2) st hst⟩

-- from here to the end of the section every lemma takes `h` as its first explicit argument
variable (h : IdsC cfg ls bs ss)
include h

theorem IdsC.lend_listed (hu : Uniq lendKey ls) {l : Lend} (hl : l ∈ ls) {st : Stats} (hst : st ∈ ss) :
    l.id ∈ st.lendIds ↔ l.pool = st.pool ∧ l.asset = st.asset := by
  rw [(h.lists st hst).1]; exact mem_lendIdsOf_self hu hl

theorem IdsC.borrow_listed (hu : Uniq borrowKey bs) {b : Borrow} (hb : b ∈ bs) {st : Stats} (hst : st ∈ ss) :
    b.id ∈ st.borrowIds ↔ cfg.pairOut b.pairId = some (st.pool, st.asset) := by
  rw [(h.lists st hst).2]; exact mem_borrowIdsOf_self hu hb

theorem ids_stats (p a : Nat) (m : Moves f dL dB id id) : IdsC cfg ls bs (modStats ss p a f) :=
  { h with lists := h.lists.mod m (fun _ _ => (ite_self _).symm) (fun _ _ => (ite_self _).symm),
           lendRec := fun l hl => (h.lendRec l hl).mod p a m.key,
           borrowRec := fun b hb => by obtain ⟨P, A, e, r⟩ := h.borrowRec b hb; exact ⟨P, A, e, r.mod p a m.key⟩ }

theorem ids_addTotalLend (p a : Nat) (d : Int) : IdsC cfg ls bs (addTotalLend ss p a d) := ids_stats h p a (moves_totalLend d)
theorem ids_addBorrowed (p a : Nat) (sb : Bool) (d : Int) : IdsC cfg ls bs (addBorrowed ss p a sb d) := ids_stats h p a (moves_borrowed sb d)
theorem ids_setLend {l l' : Lend} (la : Asc (ls.map lendKey)) (hg : getLend ls l.id = some l) (hl : l'.SameAs l) :
    IdsC cfg (setLend ls l') bs ss :=
  { borrowRec := h.borrowRec,
    lists := fun st hst => by
      rw [lendIdsOf_eq, setLend_eq, idsOf_put lendKey _ (asc_uniq lendKey la) (getLend_mem hg).1 hl.id (by rw [hl.pool, hl.asset])]; exact h.lists st hst
    lendRec := all_put lendKey _ h.lendRec (hl.pool ▸ hl.asset ▸ h.lendRec l (getLend_mem hg).1) }

theorem ids_setBorrow {b b' : Borrow} (ba : Asc (bs.map borrowKey)) (hg : getBorrow bs b.id = some b) (hb : b'.SameAs b) :
    IdsC cfg ls (setBorrow bs b') ss :=
  { lendRec := h.lendRec,
    lists := fun st hst => by
      rw [borrowIdsOf_eq, setBorrow_eq, idsOf_put borrowKey _ (asc_uniq borrowKey ba) (getBorrow_mem hg).1 hb.id (by rw [hb.pairId])]; exact h.lists st hst
    borrowRec := all_put borrowKey _ h.borrowRec (hb.pairId ▸ h.borrowRec b (getBorrow_mem hg).1) }

theorem ids_lendNew (l : Lend) (hr : HasRecord ss l.pool l.asset) :
    IdsC cfg (ls ++ [l]) bs (addLendId ss l.pool l.asset l.id) :=
  have m := moves_lendIds (· ++ [l.id])
  { lists := h.lists.mod m (fun p' a' => by
        rw [lendIdsOf_eq, idsOf_append]
        by_cases hc : l.pool = p' ∧ l.asset = a' <;> simp [hc, lendIdsOf_eq, lendKey]) (fun _ _ => (ite_self _).symm)
    lendRec := all_append _ (fun x hx => (h.lendRec x hx).mod _ _ m.key) (hr.mod _ _ m.key)
    borrowRec := fun b hb => by obtain ⟨P, A, e, r⟩ := h.borrowRec b hb; exact ⟨P, A, e, r.mod _ _ m.key⟩ }

theorem ids_lendDel {k : Nat} {l : Lend} (la : Asc (ls.map lendKey)) (hg : getLend ls k = some l) : IdsC cfg (delLend ls k) bs (delLendId ss l.pool l.asset k) := by
  obtain ⟨-, rfl⟩ := getLend_mem hg
  have m := moves_lendIds (delId · l.id)
  exact {
    lists := h.lists.mod m (fun p' a' => by
        rw [lendIdsOf_eq, delLend_eq, idsOf_del, ← lendIdsOf_eq]
        split
        · rw [delId_eq_filter _ (asc_lendIdsOf la _ _)]
        · rename_i hc
          exact filter_ne_self _ _ fun hk => hc ((mem_lendIdsOf_self (asc_uniq lendKey la) (getLend_mem hg).1).mp hk))
      (fun _ _ => (ite_self _).symm)
    lendRec := fun x hx => (h.lendRec x (mem_del lendKey ls l.id x hx).1).mod _ _ m.key
    borrowRec := fun b hb => by obtain ⟨P, A, e, r⟩ := h.borrowRec b hb; exact ⟨P, A, e, r.mod _ _ m.key⟩ }

theorem ids_borrowNew (b : Borrow) {p a : Nat} (hp : cfg.pairOut b.pairId = some (p, a))
    (hr : HasRecord ss p a) : IdsC cfg ls (bs ++ [b]) (addBorrowId ss p a b.id) :=
  have m := moves_borrowIds (· ++ [b.id])
  { lists := h.lists.mod m (fun _ _ => (ite_self _).symm) (fun p' a' => by
        rw [borrowIdsOf_eq, idsOf_append, hp]
        by_cases hc : p = p' ∧ a = a' <;> simp [hc, borrowIdsOf_eq, borrowKey])
    lendRec := fun x hx => (h.lendRec x hx).mod _ _ m.key
    borrowRec := all_append _ (fun x hx => by obtain ⟨P, A, e, r⟩ := h.borrowRec x hx; exact ⟨P, A, e, r.mod _ _ m.key⟩)
      ⟨p, a, hp, hr.mod _ _ m.key⟩ }

theorem ids_borrowDel {k : Nat} {b : Borrow} {p a : Nat} (ba : Asc (bs.map borrowKey)) (hg : getBorrow bs k = some b) (hp : cfg.pairOut b.pairId = some (p, a)) :
    IdsC cfg ls (delBorrow bs k) (delBorrowId ss p a k) := by
  obtain ⟨-, rfl⟩ := getBorrow_mem hg
  have m := moves_borrowIds (delId · b.id)
  exact {
    lists := h.lists.mod m (fun _ _ => (ite_self _).symm) (fun p' a' => by
        rw [borrowIdsOf_eq, delBorrow_eq, idsOf_del, ← borrowIdsOf_eq]
        split
        · rw [delId_eq_filter _ (asc_borrowIdsOf ba _ _)]
        · rename_i hc
          refine filter_ne_self _ _ fun hk => ?_
          injection hp.symm.trans ((mem_borrowIdsOf_self (asc_uniq borrowKey ba) (getBorrow_mem hg).1).mp hk) with e
          injection e with e1 e2
          exact hc ⟨e1, e2⟩)
    lendRec := fun x hx => (h.lendRec x hx).mod _ _ m.key
    borrowRec := fun x hx => by obtain ⟨P, A, e, r⟩ := h.borrowRec x (mem_del borrowKey bs b.id x hx).1; exact ⟨P, A, e, r.mod _ _ m.key⟩ }

end transitions

def IdsS (cfg : Cfg) (s : State) : Prop := IdsC cfg s.lends s.borrows s.stats

end Comdex.Lend
