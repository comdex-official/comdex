import Comdex.Lemmas.VaultKinds
/-! Configuration changes in the middle of a history (C01 / C02 / C03).

Products are configured through wasm bindings / governance (`WasmAddExtendedPairsVaultRecords`, `WasmUpdatePairsVault`,
x/asset `UpdateAssetRecords`): fees, debt ceiling / floor, min CR, `IsVaultActive`, asset decimals can change between any
two messages. What can NOT change is a product's identity: its id, and the two assets of its pair (`CfgExt`).

The ledger part of the invariant (`InvL`: everything except the C03 limits) does not read the changeable parameters
(`invL_reconfig`). The limits do not survive a reconfiguration; what does is stated with bounds as parameters (`InvB`). -/
namespace Comdex.Vault

/-- debt floor and ceiling occur in rejecting guards only: nothing a handler computes reads them, which the `rfl` lemmas below
record. The reconfiguration proofs do not go through `relax`: they take the bounds as parameters of the invariant (`InvB`, `Within`). -/
def Product.relax (p : Product) (fl ce : Int) : Product := { p with debtFloor := fl, debtCeiling := ce }

@[simp] theorem relax_verifyCR (p : Product) (fl ce : Int) (e : Env) (a b : Int) :
    verifyCR (p.relax fl ce) e a b = verifyCR p e a b := rfl
@[simp] theorem relax_mintAndSplit (p : Product) (fl ce : Int) (u : Nat) (x : Int) :
    mintAndSplit (p.relax fl ce) u x = mintAndSplit p u x := rfl
@[simp] theorem relax_ownedVault (s : State) (p : Product) (fl ce : Int) (e : Env) (f a pr v : Nat) :
    ownedVault s (p.relax fl ce) e f a pr v = ownedVault s p e f a pr v := rfl

@[simp] theorem relax_stableWithdrawOps (p : Product) (fl ce : Int) (u : Nat) (x : Int) :
    stableWithdrawOps (p.relax fl ce) u x = stableWithdrawOps p u x := rfl
@[simp] theorem relax_stableWithdrawAmounts (p : Product) (fl ce : Int) (x : Int) :
    stableWithdrawAmounts (p.relax fl ce) x = stableWithdrawAmounts p x := rfl

theorem relax_deposit (s : State) (p : Product) (e : Env) (f a pr v : Nat) (x : Int) (fl ce : Int) :
    deposit s (p.relax fl ce) e f a pr v x = deposit s p e f a pr v x := rfl

/-- what a reconfiguration can NOT change: a configured product stays configured, with the same two assets. (Fees, limits,
min CR, flags, decimals and prices are free; new products may appear.) -/
def CfgExt (cfg cfg' : Nat → Option Product) : Prop :=
  ∀ k p, cfg k = some p → ∃ q, cfg' k = some q ∧ q.denomIn = p.denomIn ∧ q.denomOut = p.denomOut

theorem CfgExt.refl (cfg : Nat → Option Product) : CfgExt cfg cfg := fun _ p h => ⟨p, h, rfl, rfl⟩

theorem CfgExt.trans {a b c : Nat → Option Product} (h1 : CfgExt a b) (h2 : CfgExt b c) : CfgExt a c := by
  intro k p hp
  obtain ⟨q, hq, e1, e2⟩ := h1 k p hp
  obtain ⟨r, hr, f1, f2⟩ := h2 k q hq
  exact ⟨r, hr, by rw [f1, e1], by rw [f2, e2]⟩

def InvL (cfg : Nat → Option Product) (G : Gaps) (s : State) : Prop :=
  Wf cfg s ∧ CountOkG G s ∧ (∀ d, CustodyAtG cfg G s d) ∧ (∀ p, TotalsAtG G s p) ∧ (∀ d, SupplyAtG cfg G s d)

theorem InvL.wf {cfg : Nat → Option Product} {G : Gaps} {s : State} (h : InvL cfg G s) : Wf cfg s := h.1
theorem InvL.totals {cfg : Nat → Option Product} {G : Gaps} {s : State} (h : InvL cfg G s) : ∀ k, TotalsAtG G s k := h.2.2.2.1
theorem InvL.supply {cfg : Nat → Option Product} {G : Gaps} {s : State} (h : InvL cfg G s) : ∀ d, SupplyAtG cfg G s d := h.2.2.2.2

theorem InvB.toL {cfg : Nat → Option Product} {lo hi : Nat → Product → Int} {G : Gaps} {s : State} (h : InvB cfg lo hi G s) :
    InvL cfg G s := ⟨h.1, h.2.1, h.2.2.1, h.2.2.2.1, h.2.2.2.2.1⟩

theorem InvL.withBounds {cfg : Nat → Option Product} {lo hi : Nat → Product → Int} {G : Gaps} {s : State} (h : InvL cfg G s)
    (hl : LimB cfg lo hi s) : InvB cfg lo hi G s := ⟨h.1, h.2.1, h.2.2.1, h.2.2.2.1, h.2.2.2.2, hl⟩

theorem InvG.toL {cfg : Nat → Option Product} {G : Gaps} {s : State} (h : InvG cfg G s) : InvL cfg G s :=
  InvB.toL (lo := cfgFloor) (hi := cfgCeil) h

theorem InvL.withLimits {cfg : Nat → Option Product} {G : Gaps} {s : State} (h : InvL cfg G s) (hl : Limits cfg s) :
    InvG cfg G s := h.withBounds (lo := cfgFloor) (hi := cfgCeil) hl

theorem denomIn_ext {cfg cfg' : Nat → Option Product} (hx : CfgExt cfg cfg') (k : Nat) (hk : (cfg k).isSome) :
    denomInOf cfg' k = denomInOf cfg k := by
  cases hp : cfg k with
  | none => simp [hp] at hk
  | some p =>
    obtain ⟨q, hq, e1, _⟩ := hx k p hp
    simp [denomInOf, hp, hq, e1]

theorem denomOut_ext {cfg cfg' : Nat → Option Product} (hx : CfgExt cfg cfg') (k : Nat) (hk : (cfg k).isSome) :
    denomOutOf cfg' k = denomOutOf cfg k := by
  cases hp : cfg k with
  | none => simp [hp] at hk
  | some p =>
    obtain ⟨q, hq, _, e2⟩ := hx k p hp
    simp [denomOutOf, hp, hq, e2]

theorem isSome_ext {cfg cfg' : Nat → Option Product} (hx : CfgExt cfg cfg') (k : Nat) (hk : (cfg k).isSome) :
    (cfg' k).isSome := by
  cases hp : cfg k with
  | none => simp [hp] at hk
  | some p => obtain ⟨q, hq, _, _⟩ := hx k p hp; simp [hq]

theorem invL_reconfig {cfg cfg' : Nat → Option Product} (hx : CfgExt cfg cfg') (G : Gaps) (s : State)
    (h : InvL cfg G s) : InvL cfg' G s := by
  obtain ⟨⟨w1, w2, w3, w4, w5⟩, hcnt, hcus, htot, hsup⟩ := h
  have ecoll : ∀ d, collRecorded cfg' s d = collRecorded cfg s d := by
    intro d
    unfold collRecorded
    rw [sumBy_congr _ _ s.vaults (fun v hv => by rw [denomIn_ext hx v.product (w2 v hv).2.1]),
        sumBy_congr _ _ s.stables (fun v hv => by rw [denomIn_ext hx v.product (w4 v hv).2])]
  have eprin : ∀ d, principalRecorded cfg' s d = principalRecorded cfg s d := by
    intro d
    unfold principalRecorded
    rw [sumBy_congr _ _ s.vaults (fun v hv => by rw [denomOut_ext hx v.product (w2 v hv).2.1]),
        sumBy_congr _ _ s.stables (fun v hv => by rw [denomOut_ext hx v.product (w4 v hv).2]),
        sumBy_congr _ _ s.locked (fun v hv => by rw [denomOut_ext hx v.product (w5 v hv).1])]
  refine ⟨⟨w1, ?_, w3, ?_, ?_⟩, hcnt, ?_, htot, ?_⟩
  · intro v hv; obtain ⟨a, b, c⟩ := w2 v hv; exact ⟨a, isSome_ext hx _ b, c⟩
  · intro v hv; obtain ⟨a, b⟩ := w4 v hv; exact ⟨a, isSome_ext hx _ b⟩
  · intro v hv; obtain ⟨a, b⟩ := w5 v hv; exact ⟨isSome_ext hx _ a, b⟩
  · intro d; have := hcus d; unfold CustodyAtG at *; rw [ecoll]; exact this
  · intro d; have := hsup d; unfold SupplyAtG at *; rw [eprin]; exact this

end Comdex.Vault
