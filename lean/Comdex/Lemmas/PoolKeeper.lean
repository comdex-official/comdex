import Comdex.Model.PoolKeeper
import Comdex.Lemmas.Pool
import Comdex.Lemmas.KeyedRecs
/-!
The keeper level of property C06 (`Model/PoolKeeper.lean`): what a returned `execDeposit` / `execWithdraw` looked like and when they
return, reserves per share after one move of the pool and along a chain of moves, one request of the end-block batch seen from one pool,
and the whole batch (`execRequests_project`).
-/
namespace Comdex.PoolKeeper
open Comdex.Pool

theorem isDepleted_false {p : KPool} (h : isDepleted p = some false) :
    p.ps ≠ 0 ∧ (p.rx ≠ 0 ∨ p.ry ≠ 0) ∧ (p.ranged = false → p.rx ≠ 0 ∧ p.ry ≠ 0) := by
  unfold isDepleted at h
  split at h
  · rename_i hr
    split at h
    · have h' := Option.some.inj h
      have hn : ¬ (p.ps = 0 ∨ (p.rx = 0 ∧ p.ry = 0)) := of_decide_eq_false h'
      refine ⟨fun e => hn (Or.inl e), ?_, fun e => by rw [hr] at e; cases e⟩
      by_cases hx : p.rx = 0
      · right; intro hy; exact hn (Or.inr ⟨hx, hy⟩)
      · left; exact hx
    · cases h
  · have h' := Option.some.inj h
    have hn : ¬ (p.ps = 0 ∨ p.rx = 0 ∨ p.ry = 0) := of_decide_eq_false h'
    exact ⟨fun e => hn (Or.inl e), Or.inl (fun e => hn (Or.inr (Or.inl e))),
      fun _ => ⟨fun e => hn (Or.inr (Or.inl e)), fun e => hn (Or.inr (Or.inr e))⟩⟩

theorem isDepleted_true {p : KPool} (h : isDepleted p = some true) :
    p.ps = 0 ∨ (p.ranged = true ∧ p.rx = 0 ∧ p.ry = 0) ∨ (p.ranged = false ∧ (p.rx = 0 ∨ p.ry = 0)) := by
  unfold isDepleted at h
  split at h
  · rename_i hr
    split at h
    · have h' := Option.some.inj h
      have hn : (p.ps = 0 ∨ (p.rx = 0 ∧ p.ry = 0)) := of_decide_eq_true h'
      rcases hn with a | a
      · exact Or.inl a
      · exact Or.inr (Or.inl ⟨hr, a⟩)
    · cases h
  · rename_i hr
    have h' := Option.some.inj h
    have hn : (p.ps = 0 ∨ p.rx = 0 ∨ p.ry = 0) := of_decide_eq_true h'
    rcases hn with a | a
    · exact Or.inl a
    · exact Or.inr (Or.inr ⟨by simpa using hr, a⟩)

theorem depositDom {p : KPool} {x y : Int} (hp : KInv p) (hdep : isDepleted p = some false) (hx : 0 ≤ x) (hy : 0 ≤ y) :
    DepositDom p.rx p.ry p.ps x y := by
  obtain ⟨hrx, hry, hps⟩ := hp
  obtain ⟨hps0, hr, _⟩ := isDepleted_false hdep
  exact ⟨hrx, hry, by omega, by omega, hx, hy⟩

theorem withdrawDom {p : KPool} {pc : Int} {fee : Dec} (hp : KInv p) (hdep : isDepleted p = some false) (hpc : 0 ≤ pc)
    (hle : pc ≤ p.ps) (hf0 : 0 ≤ fee) (hf1 : fee ≤ Dec.one) : WithdrawDom p.rx p.ry p.ps pc fee := by
  obtain ⟨hrx, hry, hps⟩ := hp
  have := (isDepleted_false hdep).1
  exact ⟨hrx, hry, by omega, hpc, hle, hf0, hf1⟩

theorem isDepleted_basic_some {p : KPool} (h : p.ranged = false) : ∃ b, isDepleted p = some b := by
  unfold isDepleted; rw [h]; exact ⟨_, rfl⟩

/-- with zero supply every pool is depleted (if its constructor returns) -/
theorem isDepleted_ps_zero {p : KPool} (h : p.ps = 0) : isDepleted p = some true ∨ isDepleted p = none := by
  unfold isDepleted
  split
  · split
    · left; simp [h]
    · right; rfl
  · left; simp [h]

theorem execDeposit_cases {p : KPool} {x y : Int} {o : DepOut} (h : execDeposit p x y = some o) :
    (∃ dis, o = depFail x y dis) ∨
    (p.disabled = false ∧ isDepleted p = some false ∧
      ∃ ax ay pc, deposit p.rx p.ry p.ps x y = some (ax, ay, pc) ∧ 0 < pc ∧ 0 ≤ ax ∧ 0 ≤ ay ∧ ax ≤ x ∧ ay ≤ y ∧
        o = { status := .succeeded, ax := ax, ay := ay, mint := pc, rfx := x - ax, rfy := y - ay, disable := false }) := by
  unfold execDeposit at h
  cases hd : p.disabled
  · rw [hd, if_neg Bool.false_ne_true] at h
    split at h
    · cases h
    · exact Or.inl ⟨true, (Option.some.inj h).symm⟩
    · next hdep =>
      split at h
      · cases h
      · next ax ay pc hdp =>
        by_cases hpc0 : pc = 0
        · rw [if_pos hpc0] at h; exact Or.inl ⟨false, (Option.some.inj h).symm⟩
        · rw [if_neg hpc0] at h
          by_cases hneg : pc < 0 ∨ ax < 0 ∨ ay < 0
          · rw [if_pos hneg] at h; cases h
          · rw [if_neg hneg] at h
            by_cases hle : x < ax ∨ y < ay
            · rw [if_pos hle] at h; cases h
            · rw [if_neg hle] at h
              refine Or.inr ⟨rfl, hdep, ax, ay, pc, hdp, ?_, ?_, ?_, ?_, ?_, (Option.some.inj h).symm⟩ <;> omega
  · rw [hd, if_pos rfl] at h
    exact Or.inl ⟨false, (Option.some.inj h).symm⟩

theorem execDeposit_total {p : KPool} {x y : Int} (hb : isDepleted p ≠ none)
    (hdp : isDepleted p = some false →
      ∃ ax ay pc, deposit p.rx p.ry p.ps x y = some (ax, ay, pc) ∧ 0 ≤ pc ∧ 0 ≤ ax ∧ ax ≤ x ∧ 0 ≤ ay ∧ ay ≤ y) :
    ∃ o, execDeposit p x y = some o := by
  unfold execDeposit
  cases p.disabled
  · rw [if_neg Bool.false_ne_true]
    cases hdep : isDepleted p with
    | none => exact absurd hdep hb
    | some b =>
      cases b
      · obtain ⟨ax, ay, pc, h, _⟩ := hdp hdep
        simp only [h]
        by_cases h0 : pc = 0
        · rw [if_pos h0]; exact ⟨_, rfl⟩
        · rw [if_neg h0, if_neg (by omega), if_neg (by omega)]; exact ⟨_, rfl⟩
      · exact ⟨_, rfl⟩
  · exact ⟨_, rfl⟩

theorem execWithdraw_cases {fee : Dec} {p : KPool} {pc : Int} {o : WdrOut} (h : execWithdraw fee p pc = some o) :
    (∃ dis, o = wdrFail pc dis) ∨
    (p.disabled = false ∧ isDepleted p = some false ∧
      ∃ x y, withdraw p.rx p.ry p.ps pc fee = some (x, y) ∧ ¬ (x = 0 ∧ y = 0) ∧ 0 ≤ x ∧ 0 ≤ y ∧ x ≤ p.rx ∧ y ≤ p.ry ∧
        o = { status := .succeeded, x := x, y := y, burn := pc, rfpc := 0, disable := decide (pc = p.ps) }) := by
  unfold execWithdraw at h
  cases hd : p.disabled
  · rw [hd, if_neg Bool.false_ne_true] at h
    split at h
    · cases h
    · exact Or.inl ⟨true, (Option.some.inj h).symm⟩
    · next hdep =>
      split at h
      · cases h
      · next x y hw =>
        by_cases hz : x = 0 ∧ y = 0
        · rw [if_pos hz] at h; exact Or.inl ⟨false, (Option.some.inj h).symm⟩
        · rw [if_neg hz] at h
          by_cases hneg : x < 0 ∨ y < 0
          · rw [if_pos hneg] at h; cases h
          · rw [if_neg hneg] at h
            by_cases hle : p.rx < x ∨ p.ry < y
            · rw [if_pos hle] at h; cases h
            · rw [if_neg hle] at h
              refine Or.inr ⟨rfl, hdep, x, y, hw, hz, ?_, ?_, ?_, ?_, (Option.some.inj h).symm⟩ <;> omega
  · rw [hd, if_pos rfl] at h
    exact Or.inl ⟨false, (Option.some.inj h).symm⟩

theorem execWithdraw_total {fee : Dec} {p : KPool} {pc : Int} (hb : isDepleted p ≠ none)
    (hw : isDepleted p = some false →
      ∃ x y, withdraw p.rx p.ry p.ps pc fee = some (x, y) ∧ 0 ≤ x ∧ x ≤ p.rx ∧ 0 ≤ y ∧ y ≤ p.ry) :
    ∃ o, execWithdraw fee p pc = some o := by
  unfold execWithdraw
  cases p.disabled
  · rw [if_neg Bool.false_ne_true]
    cases hdep : isDepleted p with
    | none => exact absurd hdep hb
    | some b =>
      cases b
      · obtain ⟨x, y, h, _⟩ := hw hdep
        simp only [h]
        by_cases h0 : x = 0 ∧ y = 0
        · rw [if_pos h0]; exact ⟨_, rfl⟩
        · rw [if_neg h0, if_neg (by omega), if_neg (by omega)]; exact ⟨_, rfl⟩
      · exact ⟨_, rfl⟩
  · exact ⟨_, rfl⟩

theorem stepOrStay_cases (fee : Dec) (p : KPool) (o : Op) :
    stepOrStay fee p o = p ∨ stepOp fee p o = some (stepOrStay fee p o) := by
  unfold stepOrStay
  cases stepOp fee p o
  · exact Or.inl rfl
  · exact Or.inr rfl

/-- `r0/s0 · (a/b) ≤ r1/s1` and `r1/s1 · (a'/b') ≤ r2/s2` give `r0/s0 · (aa'/bb') ≤ r2/s2` (cross-multiplied), also when an
intermediate supply is zero, provided a zero supply stays zero.  The first bound times `a'·s2` and the second times `b·s0` meet in
`r1·s0·s2`; what is left carries the factor `s1`, which is cancelled (no condition on `r1`). -/
theorem perShare_chain {a b a' b' r0 r1 r2 s0 s1 s2 : Int}
    (ha' : 0 ≤ a') (hb : 0 ≤ b) (hb' : 0 ≤ b') (hr2 : 0 ≤ r2) (hs0 : 0 ≤ s0) (hs1 : 0 ≤ s1) (hs2 : 0 ≤ s2)
    (h1 : a * (r0 * s1) ≤ b * (r1 * s0)) (h2 : a' * (r1 * s2) ≤ b' * (r2 * s1)) (hz : s1 = 0 → s2 = 0) :
    (a * a') * (r0 * s2) ≤ (b * b') * (r2 * s0) := by
  by_cases hs : s1 = 0
  · rw [hz hs, Int.mul_zero, Int.mul_zero]
    exact Int.mul_nonneg (Int.mul_nonneg hb hb') (Int.mul_nonneg hr2 hs0)
  have k1 := Int.mul_le_mul_of_nonneg_right h1 (Int.mul_nonneg ha' hs2)
  have k2 := Int.mul_le_mul_of_nonneg_left h2 (Int.mul_nonneg hb hs0)
  refine Int.le_of_mul_le_mul_right (a := s1) ?_ (by omega)
  linarith

theorem perShareGe_refl (k : Nat) {p : KPool} (h : KInv p) : PerShareGe k p p := by
  obtain ⟨hx, hy, hs⟩ := h
  -- `10^17` as in `PerShareGe`: see `Pool.perShare_of_rate`
  have hpow : ((100000000000000000 - 1 : Int)) ^ k ≤ (100000000000000000 : Int) ^ k :=
    pow_le_pow_left₀ (by decide) (by decide) k
  exact ⟨Int.mul_le_mul_of_nonneg_right hpow (Int.mul_nonneg hx hs),
         Int.mul_le_mul_of_nonneg_right hpow (Int.mul_nonneg hy hs)⟩

theorem perShareGe_trans {j k : Nat} {p q r : KPool} (hp : 0 ≤ p.ps) (hq : 0 ≤ q.ps) (hr : KInv r)
    (h1 : PerShareGe j p q) (h2 : PerShareGe k q r) (hz : q.ps = 0 → r.ps = 0) : PerShareGe (j + k) p r := by
  obtain ⟨rx, ry, rps⟩ := hr
  have a1 : (0:Int) ≤ (100000000000000000 - 1) ^ k := le_of_lt (pow_pos (by decide) k)
  have b0 : (0:Int) ≤ 100000000000000000 ^ j := le_of_lt (pow_pos (by decide) j)
  have b1 : (0:Int) ≤ 100000000000000000 ^ k := le_of_lt (pow_pos (by decide) k)
  unfold PerShareGe
  rw [pow_add, pow_add]
  exact ⟨perShare_chain a1 b0 b1 rx hp hq rps h1.1 h2.1 hz, perShare_chain a1 b0 b1 ry hp hq rps h1.2 h2.2 hz⟩

theorem perShareGe_zero_of_move {p q : KPool} {dx dy ds : Int}
    (ex : q.rx = p.rx + dx) (ey : q.ry = p.ry + dy) (es : q.ps = p.ps + ds)
    (hx : p.rx * ds ≤ dx * p.ps) (hy : p.ry * ds ≤ dy * p.ps) : PerShareGe 0 p q := by
  unfold PerShareGe
  rw [ex, ey, es]
  simp only [pow_zero, Int.one_mul]
  exact ⟨(move_iff_exact _ _ _ _).mpr hx, (move_iff_exact _ _ _ _).mpr hy⟩

theorem perShareGe_zero_of_unmove {p q : KPool} {ox oy m : Int}
    (ex : q.rx = p.rx - ox) (ey : q.ry = p.ry - oy) (es : q.ps = p.ps - m)
    (hx : ox * p.ps ≤ p.rx * m) (hy : oy * p.ps ≤ p.ry * m) : PerShareGe 0 p q := by
  unfold PerShareGe
  rw [ex, ey, es]
  simp only [pow_zero, Int.one_mul]
  exact ⟨(unmove_iff_exact _ _ _ _).mpr hx, (unmove_iff_exact _ _ _ _).mpr hy⟩

theorem perShareGe_one_of_move {p q : KPool} {dx dy ds : Int} (hp : KInv p) (hds : 0 ≤ ds)
    (ex : q.rx = p.rx + dx) (ey : q.ry = p.ry + dy) (es : q.ps = p.ps + ds)
    (hx : RateNotBetter p.rx p.ps dx ds) (hy : RateNotBetter p.ry p.ps dy ds) : PerShareGe 1 p q := by
  unfold PerShareGe
  rw [ex, ey, es]
  simp only [pow_one]
  exact ⟨perShare_of_rate hp.1 hp.2.2 hds hx, perShare_of_rate hp.2.1 hp.2.2 hds hy⟩

theorem findPool_id {pools : List KPool} {id : Nat} {p : KPool} (h : findPool pools id = some p) : p.id = id :=
  (KeyedRecs.find?_key (fun p : KPool => p.id) h fun _ => decide_eq_true_iff).2

theorem findPool_mem {pools : List KPool} {id : Nat} {p : KPool} (h : findPool pools id = some p) : p ∈ pools :=
  List.mem_of_find?_eq_some h

theorem findPool_setPool (pools : List KPool) (q : KPool) (id : Nat) :
    findPool (setPool pools q) id = if q.id = id then (findPool pools id).map fun _ => q else findPool pools id :=
  KeyedRecs.find?_put (fun p : KPool => p.id) (fun _ => decide_eq_true_iff) pools q

/-- One executed request ("find pool `k`, execute, store") seen from pool `id`.  The rest of the history, `ops`, is carried along so
that the inductions over the two loops need no case distinction of their own. -/
theorem project_step {fee : Dec} {pools : List KPool} {q q' p : KPool} {k id : Nat} {op : Op} (hq : findPool pools k = some q)
    (hf : findPool pools id = some p) (hop : stepOp fee q op = some q') (hid : q'.id = q.id) (ops : List Op) :
    ∃ p', findPool (setPool pools q') id = some p' ∧ runOps fee p' ops = runOps fee p (if k = id then op :: ops else ops) := by
  have e := findPool_setPool pools q' id
  rw [hid, findPool_id hq] at e
  by_cases hk : k = id
  · cases (hk ▸ hq).symm.trans hf
    refine ⟨q', e.trans (by rw [if_pos hk]; exact congrArg (Option.map fun _ => q') hf), ?_⟩
    rw [if_pos hk, runOps, stepOrStay, hop]
  · exact ⟨p, e.trans ((if_neg hk).trans hf), by rw [if_neg hk]⟩

theorem filter_map_cons {R β : Type} (c : R → Prop) [DecidablePred c] (f : R → β) (r : R) (rs : List R) :
    ((r :: rs).filter (fun r => c r)).map f =
      if c r then f r :: (rs.filter (fun r => c r)).map f else (rs.filter (fun r => c r)).map f := by
  rw [List.filter_cons]
  simp only [decide_eq_true_eq]
  split <;> rfl

theorem runDeposits_project {fee : Dec} (id : Nat) {reqs : List DepReq} {pools pools' : List KPool} {outs : List DepOut} {p : KPool}
    (h : runDeposits pools reqs = some (pools', outs)) (hf : findPool pools id = some p) :
    findPool pools' id = some (runOps fee p ((reqs.filter (fun r => r.pool = id)).map fun r => Op.dep r.x r.y)) := by
  induction reqs generalizing pools p outs with
  | nil => cases h; exact hf
  | cons r rs ih =>
    unfold runDeposits at h
    match_ok hq : findPool pools r.pool with q at h
    match_ok ho : execDeposit q r.x r.y with o at h
    match_ok hrest : runDeposits (setPool pools (applyDep q o)) rs with ⟨_, _⟩ at h
    cases h
    obtain ⟨p', hf', e⟩ := project_step (fee := fee) (op := .dep r.x r.y) hq hf (congrArg (Option.map (applyDep q)) ho) rfl
      ((rs.filter (fun r => r.pool = id)).map fun r => Op.dep r.x r.y)
    rw [ih hrest hf', e, filter_map_cons (fun r : DepReq => r.pool = id)]

theorem runWithdraws_project {fee : Dec} (id : Nat) {reqs : List WdrReq} {pools pools' : List KPool} {outs : List WdrOut} {p : KPool}
    (h : runWithdraws fee pools reqs = some (pools', outs)) (hf : findPool pools id = some p) :
    findPool pools' id = some (runOps fee p ((reqs.filter (fun r => r.pool = id)).map fun r => Op.wdr r.pc)) := by
  induction reqs generalizing pools p outs with
  | nil => cases h; exact hf
  | cons r rs ih =>
    unfold runWithdraws at h
    match_ok hq : findPool pools r.pool with q at h
    match_ok ho : execWithdraw fee q r.pc with o at h
    match_ok hrest : runWithdraws fee (setPool pools (applyWdr q o)) rs with ⟨_, _⟩ at h
    cases h
    obtain ⟨p', hf', e⟩ := project_step (op := .wdr r.pc) hq hf (congrArg (Option.map (applyWdr q)) ho) rfl
      ((rs.filter (fun r => r.pool = id)).map fun r => Op.wdr r.pc)
    rw [ih hrest hf', e, filter_map_cons (fun r : WdrReq => r.pool = id)]

theorem runOps_append (fee : Dec) (p : KPool) (a b : List Op) :
    runOps fee p (a ++ b) = runOps fee (runOps fee p a) b := by
  induction a generalizing p with
  | nil => rfl
  | cons o os ih => exact ih _

/-- **Each pool sees exactly its own requests, in order**, whatever the other pools' requests were; no condition on the fee, the
pool or the requests. -/
theorem execRequests_project {fee : Dec} {pools pools' : List KPool} {deps : List DepReq} {wdrs : List WdrReq}
    {dos : List DepOut} {wos : List WdrOut} {id : Nat} {p : KPool}
    (h : execRequests fee pools deps wdrs = some (pools', dos, wos)) (hf : findPool pools id = some p) :
    findPool pools' id = some (runOps fee p (((deps.filter fun r => r.pool = id).map fun r => Op.dep r.x r.y) ++
      (wdrs.filter fun r => r.pool = id).map fun r => Op.wdr r.pc)) := by
  unfold execRequests at h
  match_ok hd : runDeposits pools deps with ⟨p1, _⟩ at h
  match_ok hw : runWithdraws fee p1 wdrs with ⟨_, _⟩ at h
  cases h
  rw [runOps_append]
  exact runWithdraws_project id hw (runDeposits_project id hd hf)

end Comdex.PoolKeeper
