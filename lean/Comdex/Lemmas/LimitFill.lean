import Comdex.Lemmas.DutchV2W
import Comdex.Lemmas.LimitBid
import Comdex.Model.LimitFill
/-!
The joint model: limit-bid book + second-generation Dutch auction + the module account they share.  `JInv other0 je s` = the
all-history ledger of the auction (`DutchV2.InvW`) and the book invariant: every record positive, `BidValue = Σ records + exact`
(`exact` = deposits consumed by exact fills, whose `BidValue` the code forgets to reduce), and `otherD` — the debt denom in the module account that is NOT proceeds of this auction — is exactly
`other0 + Σ records + fees retained + over` (`over` = debited from deposits beyond what the auction charged, D24).
Every operation keeps it; the begin-blocker's limit-bid loop does so with ANY number of bidders in the bucket and with the auction
value read before the loop.
-/
namespace Comdex.LimitFill
open Comdex.DutchV2
open Comdex.Locker (Store)
open Comdex.LimitBid (getK putK delK getD0 fee Shift getK_mem getD0_of_getK getD0_nonneg sumK_eq getK_putK_ne getK_delK_ne)

def Pos (deps : List (RKey × Int)) : Prop := ∀ kv ∈ deps, kv.2 > 0

theorem Pos.get {deps : List (RKey × Int)} (h : Pos deps) {k : RKey} {v : Int} (hk : getK deps k = some v) : v > 0 :=
  h (k, v) (getK_mem hk)

theorem total_nonneg {deps : List (RKey × Int)} (h : Pos deps) : 0 ≤ total deps := by
  rw [total, sumK_eq, Store.sumBy_eq]
  exact ListSum.sum_map_nonneg _ _ fun p hp => Int.le_of_lt (h p hp)

/-- the book of one market; `other0` is what the module account held of the debt denomination, outside this auction,
before any deposit -/
structure BookInv (other0 : Int) (s : JSt) : Prop where
  pos : Pos s.deps
  bv : s.bv = total s.deps + s.exact
  cust : s.d.otherD = other0 + total s.deps + s.fees + s.over
  exact_nonneg : 0 ≤ s.exact

theorem BookInv.shift {other0 δ : Int} {s s' : JSt} {k : RKey} (hb : BookInv other0 s) (hs : Shift s.deps s'.deps k δ)
    (h1 : s'.bv - s'.exact = s.bv - s.exact + δ)
    (h2 : s'.d.otherD - s'.fees - s'.over = s.d.otherD - s.fees - s.over + δ)
    (h3 : s.exact ≤ s'.exact) : BookInv other0 s' := by
  have ht : total s'.deps = total s.deps + δ := hs.sum _
  have := hb.bv; have := hb.cust
  exact ⟨hs.pos hb.pos, by omega, by omega, Int.le_trans hb.exact_nonneg h3⟩

def JInv (other0 : Int) (je : JEnv) (s : JSt) : Prop := InvW je.e s.d ∧ BookInv other0 s

theorem JInv.ledger {other0 : Int} {je : JEnv} {s : JSt} (h : JInv other0 je s) : InvW je.e s.d := h.1

theorem JInv.book {other0 : Int} {je : JEnv} {s : JSt} (h : JInv other0 je s) : BookInv other0 s := h.2

/-- the account receives `x`, the record moves by `δ`, `x - δ` is retained as fees; `otherD` is named (`o`) so that payouts, `x < 0`,
fit `InvW.deposit` as well -/
theorem JInv.move {other0 : Int} {je : JEnv} {s : JSt} {b : Bank} {deps' : List (RKey × Int)} {k : RKey} {δ x o v f : Int}
    (hi : JInv other0 je s) (hs : Shift s.deps deps' k δ) (hb : b.get .auction .debt = s.d.bank.get .auction .debt + x)
    (ho : o = s.d.otherD + x) (hv : v = s.bv + δ) (hf : f = s.fees + (x - δ)) :
    JInv other0 je { s with d := { s.d with bank := b, otherD := o }, deps := deps', bv := v, fees := f } :=
  ⟨ho ▸ hi.ledger.deposit (r := s.d.reserve) hb,
    hi.book.shift hs (by simp only; omega) (by simp only; omega) (Int.le_refl _)⟩

theorem deposit_inv {other0 : Int} {je : JEnv} {s s' : JSt} {who : Nat} {prem amt : Int}
    (hi : JInv other0 je s) (h : depositStep s who prem amt = .ok s') : JInv other0 je s' := by
  unfold depositStep at h
  obtain ⟨ha, h⟩ := guard_ok h
  obtain ⟨-, h⟩ := guard_ok h
  obtain ⟨-, h⟩ := guard_ok h
  match_ok hb : send s.d.bank (.bidder who) .auction .debt amt with b at h
  cases h
  obtain ⟨-, d⟩ := send_xfer hb
  have h0 := getD0_nonneg hi.book.pos (prem, who)
  exact hi.move (.put (fun _ => by omega) rfl) (by rw [d]; simp [xfer]) rfl rfl (by omega)

theorem cancelCore_inv {other0 : Int} {je : JEnv} {s s' : JSt} {k : RKey} {rec : Int}
    (hi : JInv other0 je s) (hk : getK s.deps k = some rec) (h : cancelCore je s k rec = .ok s') : JInv other0 je s' := by
  simp only [cancelCore, hi.book.pos.get hk, if_true] at h
  match_ok hb : send s.d.bank .auction (.bidder k.2) .debt (rec - fee je.closingFee rec) with b at h
  cases h
  obtain ⟨-, d⟩ := send_xfer hb
  have hd0 := getD0_of_getK hk
  exact hi.move (δ := -rec) (x := -(rec - fee je.closingFee rec)) (.del (by omega)) (by rw [d]; simp [xfer]) (by omega) (by omega)
    (by omega)

theorem cancel_inv {other0 : Int} {je : JEnv} {s s' : JSt} {who : Nat} {prem : Int}
    (hi : JInv other0 je s) (h : cancelStep je s who prem = .ok s') : JInv other0 je s' := by
  unfold cancelStep at h
  obtain ⟨-, h⟩ := guard_ok h
  match_ok hk : getK s.deps (prem, who) with rec at h
  · exact cancelCore_inv hi hk h

theorem withdraw_ok {je : JEnv} {s s' : JSt} {who : Nat} {prem amt : Int} (h : withdrawStep je s who prem amt = .ok s') :
    ∃ rec, getK s.deps (prem, who) = some rec ∧ 0 < amt ∧ amt ≤ rec ∧
      ((amt = rec ∧ cancelCore je s (prem, who) rec = .ok s') ∨
       (amt < rec ∧ ∃ b, send s.d.bank .auction (.bidder who) .debt (amt - fee je.withdrawalFee amt) = .ok b ∧
          s' = { s with d := { s.d with bank := b, otherD := s.d.otherD - (amt - fee je.withdrawalFee amt) },
                        deps := putK s.deps (prem, who) (rec - amt), bv := s.bv - amt,
                        fees := s.fees + fee je.withdrawalFee amt })) := by
  unfold withdrawStep at h
  obtain ⟨hamt, h⟩ := guard_ok h
  obtain ⟨-, h⟩ := guard_ok h
  match_ok hk : getK s.deps (prem, who) with rec at h
  obtain ⟨hle, h⟩ := guard_ok h
  refine ⟨rec, rfl, by omega, by omega, ?_⟩
  by_cases he : amt = rec
  · rw [if_pos he] at h; exact .inl ⟨he, h⟩
  rw [if_neg he, if_pos (by omega : rec > 0)] at h
  match_ok hb : send s.d.bank .auction (.bidder who) .debt (amt - fee je.withdrawalFee amt) with b at h
  cases h
  exact .inr ⟨by omega, b, rfl, rfl⟩

theorem withdraw_inv {other0 : Int} {je : JEnv} {s s' : JSt} {who : Nat} {prem amt : Int}
    (hi : JInv other0 je s) (h : withdrawStep je s who prem amt = .ok s') : JInv other0 je s' := by
  obtain ⟨rec, hk, -, -, ⟨rfl, h⟩ | ⟨hlt, b, hb, rfl⟩⟩ := withdraw_ok h
  · exact cancelCore_inv hi hk h
  obtain ⟨-, d⟩ := send_xfer hb
  have hd0 := getD0_of_getK hk
  exact hi.move (δ := -amt) (x := -(amt - fee je.withdrawalFee amt)) (.put (fun _ => by omega) (by omega)) (by rw [d]; simp [xfer])
    (by omega) (by omega) (by omega)

theorem snapshot_sublist (deps : List (RKey × Int)) (k : Int) (order : List Nat) :
    ((snapshot deps k order).map Prod.fst).Sublist order := by
  induction order with
  | nil => exact .slnil
  | cons w r ih =>
    unfold snapshot
    cases getK deps (k, w) with
    | none => exact ih.cons w
    | some amt => exact ih.cons_cons w

theorem snapshot_spec (deps : List (RKey × Int)) (k : Int) (order : List Nat) (hnd : order.Nodup) :
    (∀ x ∈ snapshot deps k order, getK deps (k, x.1) = some x.2) ∧ ((snapshot deps k order).map Prod.fst).Nodup := by
  refine ⟨?_, hnd.sublist (snapshot_sublist deps k order)⟩
  clear hnd
  induction order with
  | nil => exact nofun
  | cons w r ih =>
    unfold snapshot
    cases hk : getK deps (k, w) with
    | none => exact ih
    | some amt => exact List.forall_mem_cons.mpr ⟨hk, ih⟩

theorem fillLoopJ_cons {je : JEnv} {a : Auc} {dt k : Int} {s s' : JSt} {who : Nat} {amt : Int} {l : List (Nat × Int)}
    (h : fillLoopJ je a dt k s ((who, amt) :: l) = .ok s') :
    ∃ d', placeBid je.e s.d a who amt dt true = .ok d' ∧
      ((amt = a.debt ∧
          s' = { s with d := d', deps := delK s.deps (k, who), over := s.over + (amt - (d'.paid - s.d.paid)), exact := s.exact + amt }) ∨
       (a.debt < amt ∧
          fillLoopJ je a dt k { s with d := d', deps := putK s.deps (k, who) (amt - a.debt), bv := s.bv - a.debt,
                                       over := s.over + (a.debt - (d'.paid - s.d.paid)) } l = .ok s') ∨
       (amt < a.debt ∧
          fillLoopJ je a dt k { s with d := d', deps := delK s.deps (k, who), bv := s.bv - amt,
                                       over := s.over + (amt - (d'.paid - s.d.paid)) } l = .ok s')) := by
  unfold fillLoopJ at h
  generalize placeBid je.e s.d a who amt dt true = r at h ⊢
  obtain _ | d' := r
  · cases h
  refine ⟨d', rfl, ?_⟩
  simp only at h
  by_cases hge : amt ≥ a.debt
  · rw [if_pos hge] at h
    by_cases heq : amt = a.debt
    · rw [if_pos heq] at h; exact .inl ⟨heq, (Except.ok.inj h).symm⟩
    · rw [if_neg heq] at h; exact .inr (.inl ⟨by omega, h⟩)
  · rw [if_neg hge] at h; exact .inr (.inr ⟨by omega, h⟩)

/-- `a` is the (stale) auction value read before the loop -/
theorem fillLoopJ_inv {je : JEnv} {a : Auc} {dt k other0 : Int} (hw : WfEnv je.e) (hdt : 0 ≤ dt) :
    ∀ (l : List (Nat × Int)) (s s' : JSt), InvW je.e s.d → Stale je.e s.d a → BookInv other0 s →
      (∀ x ∈ l, getK s.deps (k, x.1) = some x.2) → (l.map Prod.fst).Nodup →
      fillLoopJ je a dt k s l = .ok s' → InvW je.e s'.d ∧ BookInv other0 s' := by
  intro l
  induction l with
  | nil => intro s s' hi _ hb _ _ h; unfold fillLoopJ at h; cases h; exact ⟨hi, hb⟩
  | cons hd tl ih =>
    intro s s' hi hst hb hget hnd h
    obtain ⟨who, amt⟩ := hd
    have hk : getK s.deps (k, who) = some amt := hget (who, amt) (by simp)
    have hamt := hb.pos.get hk
    have hd0 := getD0_of_getK hk
    have hnd2 : (who :: tl.map Prod.fst).Nodup := hnd
    obtain ⟨hnotin, hnd'⟩ := List.nodup_cons.mp hnd2
    obtain ⟨d', hd', hcase⟩ := fillLoopJ_cons h
    obtain ⟨i1, m1, m2, m3⟩ := placeBid_w hw hi hst hdt hd'
    simp only [if_true] at m3
    have hst' : Stale je.e d' a := hst.mono m1
    have hrest {deps' : List (RKey × Int)} {δ : Int} (hs : Shift s.deps deps' (k, who) δ) :
        ∀ x ∈ tl, getK deps' (k, x.1) = some x.2 := by
      intro x hx
      have hne : x.1 ≠ who := fun hc => hnotin (List.mem_map.mpr ⟨x, hx, hc⟩)
      rw [hs.others (k, x.1) fun hc => hne (Prod.mk.inj hc).2]
      exact hget x (by simp [hx])
    have hdel : Shift s.deps (delK s.deps (k, who)) (k, who) (-amt) := .del (by omega)
    rcases hcase with ⟨heq, rfl⟩ | ⟨hgt, h⟩ | ⟨hlt, h⟩
    · exact ⟨i1, hb.shift hdel (by simp only; omega) (by simp only [m3]; omega) (by simp only; omega)⟩
    · have hput : Shift s.deps (putK s.deps (k, who) (amt - a.debt)) (k, who) (-a.debt) := .put (fun _ => by omega) (by omega)
      refine ih _ s' i1 hst' ?_ (hrest hput) hnd' h
      exact hb.shift hput (by simp only; omega) (by simp only [m3]; omega) (Int.le_refl _)
    · refine ih _ s' i1 hst' ?_ (hrest hdel) hnd' h
      exact hb.shift hdel (by simp only; omega) (by simp only [m3]; omega) (Int.le_refl _)

structure WfJEnv (je : JEnv) : Prop where
  env : WfEnv je.e
  order : je.order.Nodup

theorem fillJ_cases {je : JEnv} {s s' : JSt} {dt : Int} (h : fillJ je s dt = .ok s') :
    s' = s ∨ ∃ a k, s.d.auc = some a ∧ bucket a = .ok (some k) ∧
      fillLoopJ je a dt k s (snapshot s.deps k je.order) = .ok s' := by
  unfold fillJ at h
  split at h
  · cases h; exact .inl rfl
  · next a ha =>
    split at h
    · cases h
    · cases h; exact .inl rfl
    · next k hk => exact .inr ⟨a, k, ha, hk, h⟩

theorem fillJ_inv {other0 : Int} {je : JEnv} {s s' : JSt} {dt : Int} (hw : WfJEnv je) (hdt : 0 ≤ dt)
    (hi : JInv other0 je s) (h : fillJ je s dt = .ok s') : JInv other0 je s' := by
  rcases fillJ_cases h with rfl | ⟨a, k, ha, -, h⟩
  · exact hi
  obtain ⟨sp1, sp2⟩ := snapshot_spec s.deps k je.order hw.order
  exact fillLoopJ_inv hw.env hdt _ _ _ hi.ledger (hi.ledger.stale ha) hi.book sp1 sp2 h

theorem orElseJ_cases (s : JSt) (r : Except Unit JSt) : orElseJ s r = s ∨ r = .ok (orElseJ s r) := by
  cases r with
  | error _ => exact .inl rfl
  | ok s' => exact .inr rfl

theorem step_tick (je : JEnv) (s : JSt) (esm : Bool) (now twaC : Int) (actC : Bool) (twaD : Int) (actD : Bool) :
    let s1 : JSt := { s with d := if esm then tickIterEsm je.e s.d now twaC actC twaD actD else tickIter je.e s.d now twaC actC twaD actD }
    step je s (.tick esm now twaC actC twaD actD) = s1 ∨ fillJ je s1 twaD = Except.ok (step je s (.tick esm now twaC actC twaD actD)) :=
  orElseJ_cases _ (fillJ je _ twaD)

theorem step_cases (je : JEnv) (s : JSt) (op : Op) : step je s op = s ∨ stepE je s op = .ok (step je s op) :=
  orElseJ_cases s (stepE je s op)

def WfOpJ : Op → Prop
  | .bid _ _ dt => 0 ≤ dt
  | .tick _ _ twaC _ twaD _ => 0 ≤ twaC ∧ 0 ≤ twaD
  | _ => True

theorem JInv.of_d {other0 : Int} {je : JEnv} {s : JSt} {d' : St} (hi : JInv other0 je s) (hw : InvW je.e d')
    (ho : d'.otherD = s.d.otherD) : JInv other0 je { s with d := d' } :=
  ⟨hw, ⟨hi.book.pos, hi.book.bv, by simp only; rw [ho]; exact hi.book.cust, hi.book.exact_nonneg⟩⟩

theorem tickIter_otherD (e : Env) (d : St) (now twaC twaD : Int) (actC actD : Bool) :
    (tickIter e d now twaC actC twaD actD).otherD = d.otherD := by
  rcases tickIter_cases e d now twaC actC twaD actD with h | ⟨a, a', -, -, h⟩ <;> rw [h]

theorem tickIterEsm_otherD (e : Env) (d : St) (now twaC twaD : Int) (actC actD : Bool) :
    (tickIterEsm e d now twaC actC twaD actD).otherD = d.otherD := by
  rcases tickIterEsm_cases e d now twaC actC twaD actD with h | h | ⟨a, s', -, -, htr, h⟩ <;> rw [h]
  · exact tickIter_otherD ..
  · obtain ⟨b, toBurn, fee, -, -, -, -, rfl⟩ := triggerEsm_ok htr
    rfl

theorem step_inv {other0 : Int} {je : JEnv} {s : JSt} {op : Op} (hw : WfJEnv je) (hi : JInv other0 je s) (hop : WfOpJ op) :
    JInv other0 je (step je s op) := by
  rcases step_cases je s op with h | h
  · rw [h]; exact hi
  generalize step je s op = s' at h ⊢
  cases op with
  | bid who amt dt =>
    simp only [stepE] at h
    split at h
    · next d' hd' =>
      cases h
      obtain ⟨a, ha, hd'⟩ := bidE_ok hd'
      obtain ⟨i1, -, -, m3⟩ := placeBid_w hw.env hi.ledger (hi.ledger.stale ha) hop hd'
      exact hi.of_d i1 m3
    · cases h
  | tick esm now twaC actC twaD actD =>
    obtain ⟨h1, h2⟩ := hop
    cases h
    have hi1 : JInv other0 je { s with d := (if esm then tickIterEsm je.e s.d now twaC actC twaD actD else tickIter je.e s.d now twaC actC twaD actD) } := by
      cases esm with
      | true => exact hi.of_d (did_w hw.env (op := .tickEsm now twaC actC twaD actD []) ⟨h1, h2⟩ (tickIterEsm_did ..) hi.ledger) (tickIterEsm_otherD _ _ _ _ _ _ _)
      | false => exact hi.of_d (did_w hw.env (op := .tick now twaC actC twaD actD []) ⟨h1, h2⟩ (tickIter_did ..) hi.ledger) (tickIter_otherD _ _ _ _ _ _ _)
    rcases orElseJ_cases _ (fillJ je _ twaD) with h | h
    · rw [h]; exact hi1
    · exact fillJ_inv hw h2 hi1 h
  | reserve who amt =>
    cases h
    have hws := step_w (op := .reserve who amt) hw.env hi.ledger (by simp [WfOpW])
    refine hi.of_d hws ?_
    rcases step_reserve je.e s.d who amt with h | ⟨b, r, -, h⟩ <;> rw [h]
  | deposit who prem amt => exact deposit_inv hi h
  | cancel who prem => exact cancel_inv hi h
  | withdraw who prem amt => exact withdraw_inv hi h

theorem run_inv {other0 : Int} {je : JEnv} (hw : WfJEnv je) (ops : List Op) (s : JSt) (hi : JInv other0 je s)
    (hops : ∀ op ∈ ops, WfOpJ op) : JInv other0 je (run je s ops) :=
  foldl_induction (f := step je) (P := JInv other0 je) (Q := WfOpJ) (step_inv hw) hi hops

theorem fillLoopJ_frame {je : JEnv} {a : Auc} {dt k : Int} :
    ∀ (l : List (Nat × Int)) (s s' : JSt), fillLoopJ je a dt k s l = .ok s' →
      ∀ key : RKey, key.1 ≠ k → getK s'.deps key = getK s.deps key := by
  intro l
  induction l with
  | nil => intro s s' h; unfold fillLoopJ at h; cases h; exact fun _ _ => rfl
  | cons hd tl ih =>
    intro s s' h key hne
    obtain ⟨who, amt⟩ := hd
    have hk : ((k, who) : RKey) ≠ key := fun hc => hne (hc ▸ rfl)
    obtain ⟨d', -, ⟨-, rfl⟩ | ⟨-, h⟩ | ⟨-, h⟩⟩ := fillLoopJ_cons h
    · exact getK_delK_ne _ _ _ hk
    · exact (ih _ s' h key hne).trans (getK_putK_ne _ _ _ _ hk)
    · exact (ih _ s' h key hne).trans (getK_delK_ne _ _ _ hk)

end Comdex.LimitFill
