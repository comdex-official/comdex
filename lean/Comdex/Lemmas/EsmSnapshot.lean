import Comdex.Model.EsmSnapshot
import Comdex.Lemmas.Fold
/-! Lemmas about the ESM price snapshot model. A walk changes the entries only by `put` (`walk_cons`), so every property `put`
preserves survives a walk and a run: `walk_induction`, `run_induction`. When a walk reaches its end: `walk_done`. -/
namespace Comdex.EsmSnapshot

theorem lookup_append_single (es : Entries) (k v a : Nat) :
    lookup (es ++ [(k, v)]) a =
      match lookup es a with
      | some p => some p
      | none => if k = a then some v else none := by
  induction es with
  | nil => simp [lookup]
  | cons e r ih => by_cases h : e.1 = a <;> simp [lookup, h, ih]

theorem lookup_mem {es : Entries} {a p : Nat} (h : lookup es a = some p) : (a, p) ∈ es := by
  induction es with
  | nil => simp [lookup] at h
  | cons e r ih =>
    obtain ⟨k', v'⟩ := e
    by_cases hk : k' = a <;> simp_all [lookup]

theorem mem_lookup_isSome {es : Entries} {a p : Nat} (h : (a, p) ∈ es) : (lookup es a).isSome = true := by
  induction es with
  | nil => cases h
  | cons e r ih =>
    obtain ⟨k', v'⟩ := e
    by_cases hk : k' = a
    · simp [lookup, hk]
    · simp only [lookup, hk, if_false]
      exact ih ((List.mem_cons.mp h).resolve_left fun e => hk (Prod.mk.inj e).1.symm)

def put (es : Entries) (f : Feed) : Entries := if (lookup es f.asset).isNone then es ++ [(f.asset, f.twa)] else es

theorem walk_cons (f : Feed) (fs : List Feed) (es : Entries) :
    walk (f :: fs) es = if f.found = false then walk fs es else if f.active = true then walk fs (put es f) else (es, false) := by
  cases hf : f.found <;> cases ha : f.active <;> simp [walk, put, hf, ha]

theorem put_mem {es : Entries} {f : Feed} {x : Nat × Nat} (h : x ∈ put es f) : x ∈ es ∨ x = (f.asset, f.twa) := by
  unfold put at h
  split at h <;> simp_all

theorem put_lookup_stable {es : Entries} {f : Feed} {a p : Nat} (h : lookup es a = some p) : lookup (put es f) a = some p := by
  unfold put
  split
  · rw [lookup_append_single, h]
  · exact h

theorem put_lookup_self (es : Entries) (f : Feed) : (lookup (put es f) f.asset).isSome = true := by
  unfold put
  cases hl : lookup es f.asset <;> simp [lookup_append_single, hl]

theorem walk_induction (P : Entries → Prop) (fs : List Feed) (es : Entries) (h0 : P es)
    (hput : ∀ es', ∀ f ∈ fs, f.found = true → f.active = true → P es' → P (put es' f)) : P (walk fs es).1 := by
  induction fs generalizing es with
  | nil => exact h0
  | cons f fs ih =>
    have ih' := fun es h => ih es h fun es' g hg => hput es' g (List.mem_cons_of_mem _ hg)
    rw [walk_cons]
    cases hf : f.found
    · exact ih' es h0
    · cases ha : f.active
      · exact h0
      · exact ih' _ (hput es f List.mem_cons_self hf ha h0)

theorem walk_lookup_stable (fs : List Feed) (es : Entries) (a p : Nat) (h : lookup es a = some p) :
    lookup (walk fs es).1 a = some p :=
  walk_induction (fun es' => lookup es' a = some p) fs es h fun _ _ _ _ _ => put_lookup_stable

theorem walk_done (fs : List Feed) (es : Entries) (h : (walk fs es).2 = true) :
    ∀ f ∈ fs, f.found = true → f.active = true ∧ (lookup (walk fs es).1 f.asset).isSome = true := by
  induction fs generalizing es with
  | nil => intro f hf; cases hf
  | cons g fs ih =>
    rw [walk_cons] at h ⊢
    intro f hf hfound
    cases hg : g.found <;> simp only [hg, if_true, if_false, Bool.true_eq_false] at h ⊢
    · exact ih es h f ((List.mem_cons.mp hf).resolve_left fun e => by simp [e, hg] at hfound) hfound
    · cases ha : g.active
      · simp [ha] at h
      · simp only [ha, if_true] at h ⊢
        rcases List.mem_cons.mp hf with rfl | hf
        · obtain ⟨p, hp⟩ := Option.isSome_iff_exists.mp (put_lookup_self es f)
          exact ⟨ha, by rw [walk_lookup_stable fs _ _ p hp]; rfl⟩
        · exact ih _ h f hf hfound

theorem walk_inactive (fs : List Feed) (es : Entries) (h : ∃ f ∈ fs, f.found = true ∧ f.active = false) :
    (walk fs es).2 = false := by
  obtain ⟨f, hf, hfound, hina⟩ := h
  cases hw : (walk fs es).2 with
  | false => rfl
  | true => have := (walk_done fs es hw f hf hfound).1; simp [hina] at this

theorem activeAt_iff {fs : List Feed} {a p : Nat} :
    activeAt fs a p = true ↔ ∃ f ∈ fs, f.asset = a ∧ f.found = true ∧ f.active = true ∧ f.twa = p := by
  simp [activeAt, and_assoc]

theorem activeIn_iff {fs : List Feed} {a : Nat} :
    activeIn fs a = true ↔ ∃ f ∈ fs, f.asset = a ∧ f.found = true ∧ f.active = true := by
  simp [activeIn, and_assoc]

theorem snapshotStep_of_status {st : St} (h : st.status = true) (fs : List Feed) : snapshotStep st fs = st := by
  simp [snapshotStep, h]

theorem snapshotStep_of_not_status {st : St} (h : st.status = false) (fs : List Feed) :
    snapshotStep st fs = { entries := (walk fs st.entries).1, status := (walk fs st.entries).2 } := by
  simp [snapshotStep, h]

theorem run_induction (P : Entries → Prop) (blocks : List (List Feed)) (st : St) (h0 : P st.entries)
    (hput : ∀ es', ∀ fs ∈ blocks, ∀ f ∈ fs, f.found = true → f.active = true → P es' → P (put es' f)) :
    P (run st blocks).entries :=
  foldl_induction (f := snapshotStep) (P := fun st : St => P st.entries)
    (Q := fun fs => ∀ es', ∀ f ∈ fs, f.found = true → f.active = true → P es' → P (put es' f))
    (fun {st fs} h hq => by
      show P (snapshotStep st fs).entries
      cases hs : st.status
      · rw [snapshotStep_of_not_status hs]
        exact walk_induction P fs st.entries h hq
      · rwa [snapshotStep_of_status hs]) h0 fun fs hfs es' => hput es' fs hfs

theorem run_mem (blocks : List (List Feed)) (st : St) (a p : Nat) (h : (a, p) ∈ (run st blocks).entries) :
    (a, p) ∈ st.entries ∨ ∃ fs ∈ blocks, activeAt fs a p = true :=
  run_induction (fun es' => (a, p) ∈ es' → (a, p) ∈ st.entries ∨ ∃ fs ∈ blocks, activeAt fs a p = true)
    blocks st .inl (fun _ fs hfs f hf hfound hact ih h => (put_mem h).elim ih fun e =>
      .inr ⟨fs, hfs, activeAt_iff.mpr ⟨f, hf, (Prod.mk.inj e).1.symm, hfound, hact, (Prod.mk.inj e).2.symm⟩⟩) h

theorem run_lookup_stable (blocks : List (List Feed)) (st : St) (a p : Nat) (h : lookup st.entries a = some p) :
    lookup (run st blocks).entries a = some p :=
  run_induction (fun es' => lookup es' a = some p) blocks st h fun _ _ _ _ _ _ _ => put_lookup_stable

theorem step_mem (st : St) (fs : List Feed) (a p : Nat) (h : (a, p) ∈ (snapshotStep st fs).entries) :
    (a, p) ∈ st.entries ∨ activeAt fs a p = true :=
  (run_mem [fs] st a p h).imp_right fun ⟨_, hgs, hf⟩ => List.mem_singleton.mp hgs ▸ hf

theorem step_lookup_stable (st : St) (fs : List Feed) (a p : Nat) (h : lookup st.entries a = some p) :
    lookup (snapshotStep st fs).entries a = some p :=
  run_lookup_stable [fs] st a p h

theorem run_status (blocks : List (List Feed)) (st : St) (h : (run st blocks).status = true) :
    st.status = true ∨ ∃ fs ∈ blocks, ∀ f ∈ fs, f.found = true →
      f.active = true ∧ (lookup (run st blocks).entries f.asset).isSome = true := by
  induction blocks generalizing st with
  | nil => exact Or.inl h
  | cons fs bs ih =>
    rcases ih (snapshotStep st fs) h with hs | ⟨gs, hgs, hh⟩
    · cases hst : st.status
      · refine Or.inr ⟨fs, List.mem_cons_self, fun f hf hfound => ?_⟩
        rw [snapshotStep_of_not_status hst] at hs
        obtain ⟨hact, hsome⟩ := walk_done fs st.entries hs f hf hfound
        obtain ⟨p, hp⟩ := Option.isSome_iff_exists.mp hsome
        refine ⟨hact, ?_⟩
        rw [run, List.foldl_cons, snapshotStep_of_not_status hst]
        exact Option.isSome_iff_exists.mpr ⟨p, run_lookup_stable bs _ f.asset p hp⟩
      · exact Or.inl rfl
    · exact Or.inr ⟨gs, List.mem_cons_of_mem _ hgs, hh⟩

end Comdex.EsmSnapshot
