import Comdex.Model.Pool
import Comdex.Lemmas.DecRound
import Comdex.Lemmas.Inversion
/-!
Property C06 on `Model/Pool.lean`: panic freedom (`Yields`), the arithmetic of `Deposit` / `Withdraw` (each rounding read through its
characterisation in `Lemmas/DecCore.lean`, `Lemmas/DecRound.lean`), reserve per share under a move, no overflow, ranged pools.
Names: `f_ok` inverts `f … = .ok v`; `f_yields`: `f` returns the value or overflows; `f_fits`, `f_eq_ok`: it returns it inside
the module bounds; `v_facts`: sign and bounds of `v`.
-/
namespace Comdex.Pool
open Comdex

theorem P_val : Dec.P = 1000000000000000000 := rfl

theorem tdiv_nn {a b : Int} (ha : 0 ≤ a) : a.tdiv b = a / b :=
  Int.tdiv_eq_ediv_of_nonneg ha

theorem mulTruncate_toDec (n b : Int) : Dec.mulTruncate (toDec n) b = n * b := Dec.ofInt_mulTruncate n b

theorem chk_ok {v w : Dec} (h : chk v = .ok w) : w = v := by
  unfold chk at h; split at h
  · exact (Except.ok.inj h).symm
  · exact absurd h (by simp)

theorem chkInt_ok {v w : Int} (h : chkInt v = .ok w) : w = v := by
  unfold chkInt at h; split at h
  · exact (Except.ok.inj h).symm
  · exact absurd h (by simp)

theorem quoTruncate_ok {a b w : Dec} (h : quoTruncate a b = .ok w) : b ≠ 0 ∧ w = Dec.quoTruncate a b := by
  unfold quoTruncate at h; split at h
  · exact absurd h (by simp)
  · exact ⟨by assumption, chk_ok h⟩

theorem quo_ok {a b w : Dec} (h : quo a b = .ok w) : b ≠ 0 ∧ w = Dec.quo a b := by
  unfold quo at h; split at h
  · exact absurd h (by simp)
  · exact ⟨by assumption, chk_ok h⟩

theorem mul_ok {a b w : Dec} (h : mul a b = .ok w) : w = Dec.mul a b := chk_ok h
theorem mulTruncate_ok {a b w : Dec} (h : mulTruncate a b = .ok w) : w = Dec.mulTruncate a b := chk_ok h
theorem add_ok {a b w : Dec} (h : add a b = .ok w) : w = Dec.add a b := chk_ok h
theorem sub_ok {a b w : Dec} (h : sub a b = .ok w) : w = Dec.sub a b := chk_ok h
theorem truncateInt_ok {a : Dec} {w : Int} (h : truncateInt a = .ok w) : w = Dec.truncateInt a := chkInt_ok h

/-- `m` returns `v` unless it ends in the overflow arm of `SafeMath`; in particular it does not panic -/
def Yields {α : Type} (m : M α) (v : α) : Prop := m = .ok v ∨ m = .error .overflow

theorem Yields.pure {α : Type} (a : α) : Yields (pure a : M α) a := Or.inl rfl

theorem Yields.bind {α β : Type} {x : M α} {f : α → M β} {a : α} {b : β} (hx : Yields x a) (hf : Yields (f a) b) :
    Yields (x >>= f) b := by
  rcases hx with rfl | rfl
  · exact hf
  · exact Or.inr rfl

/-- the checked primitives (`add`, `sub`, `mul`, `mulTruncate` are `chk` of the library value, `truncateInt` is `chkInt`) -/
theorem chk_yields (v : Dec) : Yields (chk v) v := by
  unfold chk; split
  · exact Or.inl rfl
  · exact Or.inr rfl

theorem chkInt_yields (v : Int) : Yields (chkInt v) v := by
  unfold chkInt; split
  · exact Or.inl rfl
  · exact Or.inr rfl

theorem quo_yields {a b : Dec} (hb : b ≠ 0) : Yields (quo a b) (Dec.quo a b) := by
  unfold quo; rw [if_neg hb]; exact chk_yields _

theorem quoTruncate_yields {a b : Dec} (hb : b ≠ 0) : Yields (quoTruncate a b) (Dec.quoTruncate a b) := by
  unfold quoTruncate; rw [if_neg hb]; exact chk_yields _

/-! ## The values of `Deposit` / `Withdraw`

`ratioVal` … `depositVals` (and `propVal`, `outVal`, `withdrawVals` further down) are what the steps of `depositCore` (`withdrawCore`)
compute when no check fires, written with the unchecked `Dec` operations: `depositCore_yields`, `withdrawCore_yields`. -/

def ratioVal (rx ry x y : Int) : Dec :=
  if toDec rx = 0 then Dec.quoTruncate (toDec y) (toDec ry)
  else if toDec ry = 0 then Dec.quoTruncate (toDec x) (toDec rx)
  else minDec (Dec.quoTruncate (toDec x) (toDec rx)) (Dec.quoTruncate (toDec y) (toDec ry))

def pcVal (rx ry ps x y : Int) : Int := Dec.truncateInt (Dec.mulTruncate (toDec ps) (ratioVal rx ry x y))
def mpVal (rx ry ps x y : Int) : Dec := Dec.quo (toDec (pcVal rx ry ps x y)) (toDec ps)
def accVal (r : Int) (mp : Dec) : Int := Dec.truncateInt (Dec.ceil (Dec.mul (toDec r) mp))

def depositVals (rx ry ps x y : Int) : Int × Int × Int :=
  (accVal rx (mpVal rx ry ps x y), accVal ry (mpVal rx ry ps x y), pcVal rx ry ps x y)

theorem toDec_eq_zero {n : Int} : toDec n = 0 ↔ n = 0 := Dec.ofInt_eq_zero

theorem depositRatio_yields {rx ry x y : Int} (h : rx ≠ 0 ∨ ry ≠ 0) : Yields (depositRatio rx ry x y) (ratioVal rx ry x y) := by
  unfold depositRatio ratioVal
  by_cases h0 : toDec rx = 0
  · rw [if_pos h0, if_pos h0]
    exact quoTruncate_yields fun e => h.elim (fun hx => hx (toDec_eq_zero.mp h0)) (fun hy => hy (toDec_eq_zero.mp e))
  · rw [if_neg h0, if_neg h0]
    by_cases h1 : toDec ry = 0
    · rw [if_pos h1, if_pos h1]; exact quoTruncate_yields h0
    · rw [if_neg h1, if_neg h1]
      exact (quoTruncate_yields h0).bind ((quoTruncate_yields h1).bind (Yields.pure _))

theorem depositCore_yields {rx ry ps x y : Int} (h : rx ≠ 0 ∨ ry ≠ 0) (hps : ps ≠ 0) :
    Yields (depositCore rx ry ps x y) (depositVals rx ry ps x y) :=
  (depositRatio_yields h).bind <| (chk_yields _).bind <| (chkInt_yields _).bind <|
    (quo_yields fun e => hps (toDec_eq_zero.mp e)).bind <| (chk_yields _).bind <| (chkInt_yields _).bind <|
    (chk_yields _).bind <| (chkInt_yields _).bind <| Yields.pure _

theorem deposit_cases {rx ry ps x y : Int} (h : rx ≠ 0 ∨ ry ≠ 0) (hps : ps ≠ 0) :
    deposit rx ry ps x y = some (depositVals rx ry ps x y) ∨ deposit rx ry ps x y = some (0, 0, 0) := by
  unfold deposit
  rcases depositCore_yields (x := x) (y := y) h hps with e | e <;> rw [e]
  · exact Or.inl rfl
  · exact Or.inr rfl

theorem toDec_pos {n : Int} (h : 0 < n) : 0 < toDec n := Dec.ofInt_pos h

theorem ratio_int {a b : Int} (ha : 0 ≤ a) (hb : 0 < b) :
    0 ≤ Dec.quoTruncate (toDec a) (toDec b) ∧ Dec.quoTruncate (toDec a) (toDec b) * b ≤ a * Dec.P :=
  ⟨Dec.quoTruncate_nonneg (Dec.ofInt_nonneg ha) (Dec.ofInt_nonneg (Int.le_of_lt hb)), Dec.quoTruncate_ofInt_mul_le ha hb⟩

theorem minDec_le_left (a b : Int) : minDec a b ≤ a := by
  unfold minDec; split
  · exact Int.le_refl a
  · exact Int.not_lt.mp (by assumption)
theorem minDec_le_right (a b : Int) : minDec a b ≤ b := by
  unfold minDec; split
  · exact Int.le_of_lt (by assumption)
  · exact Int.le_refl b
theorem minDec_nonneg {a b : Int} (ha : 0 ≤ a) (hb : 0 ≤ b) : 0 ≤ minDec a b := by
  unfold minDec; split
  · exact ha
  · exact hb

theorem ratioVal_facts {rx ry x y : Int} (hrx : 0 ≤ rx) (hry : 0 ≤ ry) (hr : 0 < rx ∨ 0 < ry) (hx : 0 ≤ x) (hy : 0 ≤ y) :
    0 ≤ ratioVal rx ry x y ∧ rx * ratioVal rx ry x y ≤ x * Dec.P ∧ ry * ratioVal rx ry x y ≤ y * Dec.P := by
  have hP := Dec.P_pos
  unfold ratioVal
  by_cases h0 : rx = 0
  · have hry' : 0 < ry := by omega
    rw [if_pos (toDec_eq_zero.mpr h0)]
    obtain ⟨a, b⟩ := ratio_int hy hry'
    refine ⟨a, ?_, by rw [Int.mul_comm]; exact b⟩
    rw [h0, Int.zero_mul]; exact Int.mul_nonneg hx (Int.le_of_lt hP)
  · have hrx' : 0 < rx := by omega
    rw [if_neg (fun h => h0 (toDec_eq_zero.mp h))]
    by_cases h1 : ry = 0
    · rw [if_pos (toDec_eq_zero.mpr h1)]
      obtain ⟨a, b⟩ := ratio_int hx hrx'
      refine ⟨a, by rw [Int.mul_comm]; exact b, ?_⟩
      rw [h1, Int.zero_mul]; exact Int.mul_nonneg hy (Int.le_of_lt hP)
    · have hry' : 0 < ry := by omega
      rw [if_neg (fun h => h1 (toDec_eq_zero.mp h))]
      obtain ⟨a1, b1⟩ := ratio_int hx hrx'
      obtain ⟨a2, b2⟩ := ratio_int hy hry'
      refine ⟨minDec_nonneg a1 a2, ?_, ?_⟩
      · calc rx * minDec _ _ ≤ rx * Dec.quoTruncate (toDec x) (toDec rx) :=
              Int.mul_le_mul_of_nonneg_left (minDec_le_left _ _) hrx
          _ = Dec.quoTruncate (toDec x) (toDec rx) * rx := Int.mul_comm _ _
          _ ≤ x * Dec.P := b1
      · calc ry * minDec _ _ ≤ ry * Dec.quoTruncate (toDec y) (toDec ry) :=
              Int.mul_le_mul_of_nonneg_left (minDec_le_right _ _) hry
          _ = Dec.quoTruncate (toDec y) (toDec ry) * ry := Int.mul_comm _ _
          _ ≤ y * Dec.P := b2

theorem pcVal_facts {rx ry ps x y : Int} (hps : 0 ≤ ps) (hr : 0 ≤ ratioVal rx ry x y) :
    0 ≤ pcVal rx ry ps x y ∧ pcVal rx ry ps x y * Dec.P ≤ ps * ratioVal rx ry x y := by
  have h := Int.mul_nonneg hps hr
  unfold pcVal
  rw [mulTruncate_toDec]
  exact ⟨Dec.truncateInt_nonneg h, Dec.truncateInt_mul_le h⟩

/-- `mintProportion = Quo(pc, ps)` is at most half an ulp (plus the inner truncation) below `pc·10^18/ps` -/
theorem mpVal_facts {rx ry ps x y : Int} (hpc : 0 ≤ pcVal rx ry ps x y) (hps : 0 < ps) :
    0 ≤ mpVal rx ry ps x y ∧
    (∀ k : Int, pcVal rx ry ps x y * Dec.P ≤ ps * k → mpVal rx ry ps x y ≤ k) ∧
    2 * Dec.PP * pcVal rx ry ps x y ≤ (2 * mpVal rx ry ps x y * Dec.P + Dec.P + 2) * ps := by
  have hP := Dec.P_pos
  unfold mpVal
  generalize pcVal rx ry ps x y = pc at hpc ⊢
  refine ⟨Dec.quo_nonneg _ _ (Dec.ofInt_nonneg hpc) (toDec_pos hps), fun k hk => ?_, ?_⟩
  · apply Dec.quo_le_of_ratio_le _ _ _ (Dec.ofInt_nonneg hpc) (toDec_pos hps)
    unfold toDec Dec.ofInt
    have := Int.mul_le_mul_of_nonneg_right hk (Int.le_of_lt hP)
    linarith
  · have h := Dec.quo_lower (toDec pc) (toDec ps) (toDec_pos hps)
    refine Int.le_of_lt (Int.lt_of_mul_lt_mul_right (a := Dec.P) ?_ (Int.le_of_lt hP))
    unfold toDec Dec.ofInt at h ⊢
    linarith

theorem accVal_le_iff (r mp k : Int) : accVal r mp ≤ k ↔ r * mp ≤ k * Dec.P := by
  unfold accVal
  rw [show Dec.mul (toDec r) mp = r * mp from Dec.ofInt_mul r mp]
  exact Dec.truncateInt_ceil_le_iff _ _

theorem accVal_nonneg {r mp : Int} (hr : 0 ≤ r) (hmp : 0 ≤ mp) : 0 ≤ accVal r mp := by
  have h := (accVal_le_iff r mp _).1 (Int.le_refl _)
  have := Int.mul_nonneg hr hmp
  simp only [P_val] at h
  omega

theorem rate_of_bounds {P r ps a pc mp : Int} (hr : 0 ≤ r) (hps : 0 ≤ ps) (hP : 0 ≤ P)
    (m2 : 2 * (P * P) * pc ≤ (2 * mp * P + P + 2) * ps) (a1 : r * mp ≤ a * P) :
    2 * (P * P) * (pc * r) ≤ 2 * (P * P) * (a * ps) + r * ps * (P + 2) := by
  have h1 := Int.mul_le_mul_of_nonneg_right m2 hr
  have h2 := Int.mul_le_mul_of_nonneg_left a1 (Int.mul_nonneg (Int.mul_nonneg (by decide : (0:Int) ≤ 2) hP) hps)
  linarith

theorem depositVals_laws {rx ry ps x y : Int} (h : DepositDom rx ry ps x y) :
    TakesAtMostOffered x (depositVals rx ry ps x y).1 ∧
    TakesAtMostOffered y (depositVals rx ry ps x y).2.1 ∧
    0 ≤ (depositVals rx ry ps x y).2.2 ∧
    RateNotBetter rx ps (depositVals rx ry ps x y).1 (depositVals rx ry ps x y).2.2 ∧
    RateNotBetter ry ps (depositVals rx ry ps x y).2.1 (depositVals rx ry ps x y).2.2 := by
  obtain ⟨hrx, hry, hr, hps, hx, hy⟩ := h
  have hP := Int.le_of_lt Dec.P_pos
  obtain ⟨r0, r1, r2⟩ := ratioVal_facts hrx hry hr hx hy
  obtain ⟨p0, p1⟩ := pcVal_facts (ps := ps) (Int.le_of_lt hps) r0
  obtain ⟨m0, m1, m2⟩ := mpVal_facts p0 hps
  have mle : mpVal rx ry ps x y ≤ ratioVal rx ry x y := m1 _ p1
  have up (r : Int) := (accVal_le_iff r (mpVal rx ry ps x y) _).1 (Int.le_refl _)
  exact ⟨⟨accVal_nonneg hrx m0, (accVal_le_iff _ _ x).2 (Int.le_trans (Int.mul_le_mul_of_nonneg_left mle hrx) r1)⟩,
    ⟨accVal_nonneg hry m0, (accVal_le_iff _ _ y).2 (Int.le_trans (Int.mul_le_mul_of_nonneg_left mle hry) r2)⟩, p0,
    rate_of_bounds hrx (Int.le_of_lt hps) hP m2 (up rx), rate_of_bounds hry (Int.le_of_lt hps) hP m2 (up ry)⟩

theorem rateNotBetter_zero {r ps : Int} (hr : 0 ≤ r) (hps : 0 ≤ ps) : RateNotBetter r ps 0 0 := by
  show 2 * Dec.PP * (0 * r) ≤ 2 * Dec.PP * (0 * ps) + r * ps * (Dec.P + 2)
  have := Int.mul_nonneg (Int.mul_nonneg hr hps) (by decide : (0:Int) ≤ Dec.P + 2)
  omega

def propVal (ps pc : Int) : Dec := Dec.quoTruncate (toDec pc) (toDec ps)
def outVal (r ps pc : Int) (fee : Dec) : Int :=
  Dec.truncateInt (Dec.mulTruncate (Dec.mulTruncate (toDec r) (propVal ps pc)) (Dec.sub Dec.one fee))
def withdrawVals (rx ry ps pc : Int) (fee : Dec) : Int × Int := (outVal rx ps pc fee, outVal ry ps pc fee)

theorem propVal_facts {ps pc : Int} (hpc : 0 ≤ pc) (hps : 0 < ps) :
    0 ≤ propVal ps pc ∧ propVal ps pc * ps ≤ pc * Dec.P ∧ (pc ≤ ps → propVal ps pc ≤ Dec.P) := by
  obtain ⟨q0, q1⟩ := ratio_int hpc hps
  refine ⟨q0, q1, fun hle => Int.le_of_mul_le_mul_right (Int.le_trans q1 ?_) hps⟩
  rw [Int.mul_comm]; exact Int.mul_le_mul_of_nonneg_left hle (Int.le_of_lt Dec.P_pos)

theorem withdrawCore_yields {rx ry ps pc : Int} {fee : Dec} (hps : ps ≠ 0) :
    Yields (withdrawCore rx ry ps pc fee) (withdrawVals rx ry ps pc fee) :=
  (quoTruncate_yields fun e => hps (toDec_eq_zero.mp e)).bind <| (chk_yields _).bind <| (chk_yields _).bind <|
    (chk_yields _).bind <| (chkInt_yields _).bind <| (chk_yields _).bind <| (chk_yields _).bind <| (chkInt_yields _).bind <|
    Yields.pure _

theorem withdraw_cases {rx ry ps pc : Int} {fee : Dec} (hps : ps ≠ 0) (hne : pc ≠ ps) :
    withdraw rx ry ps pc fee = some (withdrawVals rx ry ps pc fee) ∨ withdraw rx ry ps pc fee = some (0, 0) := by
  unfold withdraw
  rw [if_neg hne]
  rcases withdrawCore_yields (rx := rx) (ry := ry) (pc := pc) (fee := fee) hps with e | e <;> rw [e]
  · exact Or.inl rfl
  · exact Or.inr rfl

theorem outVal_facts {r ps pc : Int} {fee : Dec} (hr : 0 ≤ r) (hps : 0 < ps) (hpc : 0 ≤ pc) (hfee : fee ≤ Dec.one) :
    0 ≤ outVal r ps pc fee ∧ outVal r ps pc fee * ps * Dec.P ≤ r * pc * (Dec.P - fee) := by
  have hP := Dec.P_pos
  obtain ⟨q0, q1, _⟩ := propVal_facts hpc hps
  have hm : (0:Int) ≤ Dec.P - fee := Int.sub_nonneg_of_le hfee
  have hn : 0 ≤ r * propVal ps pc * (Dec.P - fee) := Int.mul_nonneg (Int.mul_nonneg hr q0) hm
  have hmid := Dec.mulTruncate_nonneg hn
  -- the two floors, each read through its adjunction: out·P·P ≤ r·prop·mult
  have s1 := (Dec.le_mulTruncate_iff hn).1 (Dec.truncateInt_mul_le hmid)
  unfold outVal
  rw [mulTruncate_toDec, show Dec.sub Dec.one fee = Dec.P - fee from rfl]
  refine ⟨Dec.truncateInt_nonneg hmid, ?_⟩
  generalize Dec.truncateInt (Dec.mulTruncate (r * propVal ps pc) (Dec.P - fee)) = out at s1 ⊢
  generalize Dec.P - fee = mult at *
  generalize propVal ps pc = prop at *
  have s2 : (r * mult) * (prop * ps) ≤ (r * mult) * (pc * Dec.P) :=
    Int.mul_le_mul_of_nonneg_left q1 (Int.mul_nonneg hr hm)
  have s3 : (out * Dec.P * Dec.P) * ps ≤ (r * prop * mult) * ps :=
    Int.mul_le_mul_of_nonneg_right s1 (Int.le_of_lt hps)
  have : (out * ps * Dec.P) * Dec.P ≤ (r * pc * mult) * Dec.P := by
    calc (out * ps * Dec.P) * Dec.P = (out * Dec.P * Dec.P) * ps := by ring
      _ ≤ (r * prop * mult) * ps := s3
      _ = (r * mult) * (prop * ps) := by ring
      _ ≤ (r * mult) * (pc * Dec.P) := s2
      _ = (r * pc * mult) * Dec.P := by ring
  exact Int.le_of_mul_le_mul_right this hP

theorem atMostProrata_zero {r ps pc : Int} {fee : Dec} (hr : 0 ≤ r) (hpc : 0 ≤ pc) (hfee : fee ≤ Dec.one) :
    AtMostProrata r ps pc fee 0 := by
  refine ⟨Int.le_refl 0, ?_⟩
  have : 0 ≤ r * pc * (Dec.P - fee) := Int.mul_nonneg (Int.mul_nonneg hr hpc) (Int.sub_nonneg_of_le hfee)
  show 0 * ps * Dec.P ≤ r * pc * (Dec.P - fee)
  omega

/-! ## Reserve per share under a move

A pool is a pair (reserve `r`, supply `s`) and every operation moves it by some `(dr, ds)`: a deposit by `(+a, +pc)`, a withdrawal
by `(−out, −pc)`, a donation by `(+d, 0)`, a failed request by `(0, 0)`.  That reserve per share does not fall is the same as
that the move's own rate `dr/ds` is no better for the mover than the pool's `r/s` (`move_iff`, a ring identity with no sign
condition); `RateNotBetter` and `AtMostProrata` are that rate law for the two signs of the move. -/

theorem move_iff (a b r s dr ds : Int) :
    a * (r * (s + ds)) ≤ b * ((r + dr) * s) ↔ b * (r * ds) ≤ b * (dr * s) + (b - a) * (r * (s + ds)) := by
  have e : b * ((r + dr) * s) - a * (r * (s + ds)) = b * (dr * s) + (b - a) * (r * (s + ds)) - b * (r * ds) := by ring
  rw [← Int.sub_nonneg, e, Int.sub_nonneg]

theorem move_iff_exact (r s dr ds : Int) : r * (s + ds) ≤ (r + dr) * s ↔ r * ds ≤ dr * s := by
  have h := move_iff 1 1 r s dr ds
  simp only [Int.one_mul, Int.sub_self, Int.zero_mul, Int.add_zero] at h
  exact h

theorem unmove_iff_exact (r s out m : Int) : r * (s - m) ≤ (r - out) * s ↔ out * s ≤ r * m := by
  have h := move_iff_exact r s (-out) (-m)
  rw [Int.mul_neg, Int.neg_mul, Int.neg_le_neg_iff] at h
  exact h

/-- A rate law with relative slack `e/n ≤ 1/N` on a move that adds shares costs at most the factor `(N−1)/N`; the hypothesis has
the shape of `RateNotBetter`.  With a slack one law for both signs of `ds` is false: `0 ≤ r·ds` is needed. -/
theorem move_of_rate {n e N r s dr ds : Int} (hn : 0 < n) (hN : 0 ≤ N) (he : e * N ≤ n)
    (hC : 0 ≤ r * s) (hB : 0 ≤ r * ds) (h : n * (ds * r) ≤ n * (dr * s) + r * s * e) :
    (N - 1) * (r * (s + ds)) ≤ N * ((r + dr) * s) := by
  refine (move_iff (N - 1) N r s dr ds).mpr ?_
  have h1 := Int.mul_le_mul_of_nonneg_left h hN
  have h2 := Int.mul_le_mul_of_nonneg_right he hC
  have h3 : n * (N * (r * ds)) ≤ n * (N * (dr * s) + r * s) := by linarith
  have h4 := Int.le_of_mul_le_mul_left h3 hn
  linarith

/-- The slack of `RateNotBetter`, `(P + 2)/(2·P²) ≈ 0.5·10^-18`, is far below the `10^-17` that `PerShareAfterDeposit` grants:
`(P + 2)·10^17 ≤ 2·P²`. -/
theorem perShare_of_rate {r ps a pc : Int} (hr : 0 ≤ r) (hps : 0 ≤ ps) (hpc : 0 ≤ pc)
    (h : RateNotBetter r ps a pc) : PerShareAfterDeposit r ps a pc :=
  move_of_rate (n := 2 * Dec.PP) (e := Dec.P + 2) (N := 100000000000000000) (by decide) (by decide) (by decide)
    (Int.mul_nonneg hr hps) (Int.mul_nonneg hr hpc) h

theorem rate_of_prorata {r ps pc out : Int} {fee : Dec} (hr : 0 ≤ r) (hpc : 0 ≤ pc) (hf0 : 0 ≤ fee)
    (h : AtMostProrata r ps pc fee out) : out * ps ≤ r * pc :=
  Int.le_of_mul_le_mul_right
    (Int.le_trans h.2 (Int.mul_le_mul_of_nonneg_left (Int.sub_le_self _ hf0) (Int.mul_nonneg hr hpc))) Dec.P_pos

theorem perShare_of_rate_out {r ps pc out : Int} (hr : 0 ≤ r) (hps : 0 < ps) (hle : pc ≤ ps) (h : out * ps ≤ r * pc) :
    PerShareAfterWithdraw r ps pc out ∧ out ≤ r :=
  ⟨(unmove_iff_exact r ps out pc).mpr h,
    Int.le_of_mul_le_mul_right (Int.le_trans h (Int.mul_le_mul_of_nonneg_left hle hr)) hps⟩

/-! ## When nothing overflows

Inside the module bounds (amounts ≤ `E40`) every checked step of `withdrawCore`, and of `depositCore` except the product `ps·ratio`,
returns its unchecked value (`…_fits`), hence so do the two functions (`…_eq_ok`). -/

/-- `2^315` (`Dec.fits`) -/
def B315 : Int := 66749594872528440074844428317798503581334516323645399060845050244444366430645017188217565216768
/-- `2^256` (`Dec.fitsInt`) -/
def B256 : Int := 115792089237316195423570985008687907853269984665640564039457584007913129639936
/-- `10^40 = amm.MaxCoinAmount`, the number the models call `PoolKeeper.maxCoinAmount` and `Amm.maxCoinAmount` -/
def E40 : Int := 10000000000000000000000000000000000000000
/-- `10^58 = 10^40 · 10^18`: a coin amount within the module bound as a raw `Dec`; below `2^315` -/
def E58 : Int := 10000000000000000000000000000000000000000 * 1000000000000000000

theorem E40_eq : E40 = 10 ^ 40 := by decide

-- the literal `2 ^ 315` is evaluated (by `decide`, `omega`) only under a raised `exponentiation.threshold`
set_option exponentiation.threshold 512 in
theorem B315_eq : ((2:Nat) ^ 315 : Nat) = B315.toNat := by decide
set_option exponentiation.threshold 512 in
theorem B256_eq : ((2:Nat) ^ 256 : Nat) = B256.toNat := by decide

set_option exponentiation.threshold 512 in
theorem chk_eq {v : Int} (h0 : 0 ≤ v) (h1 : v < B315) : chk v = .ok v := by
  unfold chk Dec.fits
  rw [if_pos]
  rw [decide_eq_true_eq, B315_eq]
  unfold B315 at *
  omega

set_option exponentiation.threshold 512 in
theorem chkInt_eq {v : Int} (h0 : 0 ≤ v) (h1 : v < B256) : chkInt v = .ok v := by
  unfold chkInt Dec.fitsInt
  rw [if_pos]
  rw [decide_eq_true_eq, B256_eq]
  unfold B256 at *
  omega

theorem lt315_of_le_E58 {v : Int} (h : v ≤ E58) : v < B315 := Int.lt_of_le_of_lt h (by decide)
theorem lt256_of_le_E40 {v : Int} (h : v ≤ E40) : v < B256 := Int.lt_of_le_of_lt h (by decide)
theorem P_le_E58 : Dec.P ≤ E58 := by decide
theorem mul_P_le_E58 {a : Int} (h : a ≤ E40) : a * Dec.P ≤ E58 :=
  Int.mul_le_mul_of_nonneg_right h (Int.le_of_lt Dec.P_pos)

theorem ok_bind {α β : Type} (a : α) (f : α → M β) : ((Except.ok a : M α) >>= f) = f a := rfl

theorem then_ok {α β : Type} {x : M α} {f : α → M β} {a : α} {b : β} (hx : x = .ok a) (hf : f a = .ok b) : (x >>= f) = .ok b := by
  rw [hx]; exact hf

theorem withdrawCoin_fits {r prop mult : Int} (hr : 0 ≤ r) (br : r ≤ E40) (q0 : 0 ≤ prop) (qP : prop ≤ Dec.P)
    (hm0 : 0 ≤ mult) (hm1 : mult ≤ Dec.P) :
    mulTruncate (toDec r) prop = .ok (Dec.mulTruncate (toDec r) prop) ∧
    mulTruncate (Dec.mulTruncate (toDec r) prop) mult = .ok (Dec.mulTruncate (Dec.mulTruncate (toDec r) prop) mult) ∧
    truncateInt (Dec.mulTruncate (Dec.mulTruncate (toDec r) prop) mult) =
      .ok (Dec.truncateInt (Dec.mulTruncate (Dec.mulTruncate (toDec r) prop) mult)) := by
  have hP := Dec.P_pos
  have n1 : 0 ≤ r * prop := Int.mul_nonneg hr q0
  have u1 : r * prop ≤ E58 := Int.mul_le_mul br qP q0 (by decide)
  have n2 : 0 ≤ r * prop * mult := Int.mul_nonneg n1 hm0
  have n3 : 0 ≤ r * prop * mult / Dec.P := Int.ediv_nonneg n2 (Int.le_of_lt hP)
  have u2 : r * prop * mult / Dec.P ≤ r * prop :=
    Int.ediv_le_of_le_mul hP (Int.mul_le_mul_of_nonneg_left hm1 n1)
  -- out·P ≤ mid ≤ r·prop ≤ r·P
  have u4 : r * prop * mult / Dec.P / Dec.P ≤ r :=
    Int.ediv_le_of_le_mul hP (Int.le_trans u2 (Int.mul_le_mul_of_nonneg_left qP hr))
  unfold mulTruncate truncateInt
  rw [mulTruncate_toDec, Dec.mulTruncate_eq n2, Dec.truncateInt_eq n3]
  exact ⟨chk_eq n1 (lt315_of_le_E58 u1), chk_eq n3 (lt315_of_le_E58 (Int.le_trans u2 u1)),
    chkInt_eq (Int.ediv_nonneg n3 (Int.le_of_lt hP)) (lt256_of_le_E40 (Int.le_trans u4 br))⟩

theorem withdrawCore_eq_ok {rx ry ps pc : Int} {fee : Dec} (h : WithdrawDom rx ry ps pc fee)
    (bx : rx ≤ E40) (bY : ry ≤ E40) :
    withdrawCore rx ry ps pc fee = .ok (withdrawVals rx ry ps pc fee) := by
  obtain ⟨hrx, hry, hps, hpc, hle, hf0, hf1⟩ := h
  obtain ⟨q0, _, qP⟩ := propVal_facts hpc hps
  have hm0 : (0:Int) ≤ Dec.one - fee := Int.sub_nonneg_of_le hf1
  have hm1 : Dec.one - fee ≤ Dec.P := Int.sub_le_self _ hf0
  have e1 : quoTruncate (toDec pc) (toDec ps) = .ok (propVal ps pc) := by
    unfold quoTruncate
    rw [if_neg (fun e => (Int.ne_of_gt hps) (toDec_eq_zero.mp e))]
    exact chk_eq q0 (lt315_of_le_E58 (Int.le_trans (qP hle) P_le_E58))
  have e2 : sub Dec.one fee = .ok (Dec.one - fee) :=
    chk_eq hm0 (lt315_of_le_E58 (Int.le_trans hm1 P_le_E58))
  obtain ⟨x3, x4, x5⟩ := withdrawCoin_fits hrx bx q0 (qP hle) hm0 hm1
  obtain ⟨y3, y4, y5⟩ := withdrawCoin_fits hry bY q0 (qP hle) hm0 hm1
  exact then_ok e1 <| then_ok e2 <| then_ok x3 <| then_ok x4 <| then_ok x5 <| then_ok y3 <| then_ok y4 <| then_ok y5 rfl

theorem quoTruncate_fits {a b : Int} (ha : 0 ≤ a) (ba : a ≤ E40) (hb : 0 < b) :
    quoTruncate (toDec a) (toDec b) = .ok (Dec.quoTruncate (toDec a) (toDec b)) := by
  obtain ⟨q0, q1⟩ := ratio_int ha hb
  have : Dec.quoTruncate (toDec a) (toDec b) ≤ a * Dec.P := by
    have h1 : Dec.quoTruncate (toDec a) (toDec b) * 1 ≤ Dec.quoTruncate (toDec a) (toDec b) * b :=
      Int.mul_le_mul_of_nonneg_left (by omega) q0
    rw [Int.mul_one] at h1
    exact Int.le_trans h1 q1
  unfold quoTruncate
  rw [if_neg (fun e => (Int.ne_of_gt hb) (toDec_eq_zero.mp e))]
  exact chk_eq q0 (lt315_of_le_E58 (Int.le_trans this (mul_P_le_E58 ba)))

theorem depositRatio_fits {rx ry x y : Int} (hrx : 0 ≤ rx) (hry : 0 ≤ ry) (hr : 0 < rx ∨ 0 < ry) (hx : 0 ≤ x) (hy : 0 ≤ y)
    (bx : x ≤ E40) (bY : y ≤ E40) : depositRatio rx ry x y = .ok (ratioVal rx ry x y) := by
  unfold depositRatio ratioVal
  by_cases h0 : rx = 0
  · rw [if_pos (toDec_eq_zero.mpr h0), if_pos (toDec_eq_zero.mpr h0)]
    exact quoTruncate_fits hy bY (by omega)
  · rw [if_neg (fun e => h0 (toDec_eq_zero.mp e)), if_neg (fun e => h0 (toDec_eq_zero.mp e))]
    by_cases h1 : ry = 0
    · rw [if_pos (toDec_eq_zero.mpr h1), if_pos (toDec_eq_zero.mpr h1)]
      exact quoTruncate_fits hx bx (by omega)
    · rw [if_neg (fun e => h1 (toDec_eq_zero.mp e)), if_neg (fun e => h1 (toDec_eq_zero.mp e))]
      exact then_ok (quoTruncate_fits hx bx (by omega)) <| then_ok (quoTruncate_fits hy bY (by omega)) rfl

theorem depositCoin_fits {r off mp ratio : Int} (hr0 : 0 ≤ r) (bo : off ≤ E40) (m0 : 0 ≤ mp) (mle : mp ≤ ratio)
    (hle : r * ratio ≤ off * Dec.P) :
    mul (toDec r) mp = .ok (r * mp) ∧ truncateInt (Dec.ceil (r * mp)) = .ok (accVal r mp) := by
  have n : 0 ≤ r * mp := Int.mul_nonneg hr0 m0
  have e : Dec.mul (toDec r) mp = r * mp := Dec.ofInt_mul _ _
  have u : r * mp ≤ off * Dec.P := Int.le_trans (Int.mul_le_mul_of_nonneg_left mle hr0) hle
  refine ⟨?_, ?_⟩
  · unfold mul; rw [e]; exact chk_eq n (lt315_of_le_E58 (Int.le_trans u (mul_P_le_E58 bo)))
  · unfold truncateInt
    rw [show Dec.truncateInt (Dec.ceil (r * mp)) = accVal r mp by unfold accVal; rw [e]]
    exact chkInt_eq (accVal_nonneg hr0 m0) (lt256_of_le_E40 (Int.le_trans ((accVal_le_iff r mp off).2 u) bo))

/-- `hov`: inside the module bounds `ps·ratio` is the only intermediate that can exceed 315 bits -/
theorem depositCore_eq_ok {rx ry ps x y : Int} (h : DepositDom rx ry ps x y) (bx : x ≤ E40) (bY : y ≤ E40)
    (hov : ps * ratioVal rx ry x y < B315) :
    depositCore rx ry ps x y = .ok (depositVals rx ry ps x y) := by
  obtain ⟨hrx, hry, hr, hps, hx, hy⟩ := h
  have hP := Dec.P_pos
  obtain ⟨r0, r1, r2⟩ := ratioVal_facts hrx hry hr hx hy
  obtain ⟨p0, p1⟩ := pcVal_facts (ps := ps) (Int.le_of_lt hps) r0
  have n1 : 0 ≤ ps * ratioVal rx ry x y := Int.mul_nonneg (Int.le_of_lt hps) r0
  have e1 : mulTruncate (toDec ps) (ratioVal rx ry x y) = .ok (ps * ratioVal rx ry x y) := by
    unfold mulTruncate; rw [mulTruncate_toDec]
    exact chk_eq n1 hov
  have epc : pcVal rx ry ps x y = ps * ratioVal rx ry x y / Dec.P := by
    unfold pcVal; rw [mulTruncate_toDec, Dec.truncateInt_eq n1]
  have e2 : truncateInt (ps * ratioVal rx ry x y) = .ok (pcVal rx ry ps x y) := by
    unfold truncateInt; rw [Dec.truncateInt_eq n1, epc]
    exact chkInt_eq (Int.ediv_nonneg n1 (Int.le_of_lt hP))
      (Int.ediv_lt_of_lt_mul hP (Int.lt_trans hov (by decide)))
  obtain ⟨m0, m1, _⟩ := mpVal_facts p0 hps
  have mle : mpVal rx ry ps x y ≤ ratioVal rx ry x y := m1 _ p1
  have rle : ratioVal rx ry x y ≤ E58 := by
    rcases hr with hr | hr
    · have : ratioVal rx ry x y * 1 ≤ rx * ratioVal rx ry x y := by
        rw [Int.mul_comm rx]; exact Int.mul_le_mul_of_nonneg_left (by omega) r0
      rw [Int.mul_one] at this
      exact Int.le_trans this (Int.le_trans r1 (mul_P_le_E58 bx))
    · have : ratioVal rx ry x y * 1 ≤ ry * ratioVal rx ry x y := by
        rw [Int.mul_comm ry]; exact Int.mul_le_mul_of_nonneg_left (by omega) r0
      rw [Int.mul_one] at this
      exact Int.le_trans this (Int.le_trans r2 (mul_P_le_E58 bY))
  have e3 : quo (toDec (pcVal rx ry ps x y)) (toDec ps) = .ok (mpVal rx ry ps x y) := by
    unfold quo
    rw [if_neg (fun e => (Int.ne_of_gt hps) (toDec_eq_zero.mp e))]
    exact chk_eq m0 (lt315_of_le_E58 (Int.le_trans mle rle))
  obtain ⟨x1, x2⟩ := depositCoin_fits hrx bx m0 mle r1
  obtain ⟨y1, y2⟩ := depositCoin_fits hry bY m0 mle r2
  exact then_ok (depositRatio_fits hrx hry hr hx hy bx bY) <| then_ok e1 <| then_ok e2 <| then_ok e3 <| then_ok x1 <|
    then_ok x2 <| then_ok y1 <| then_ok y2 rfl

/-! ## Ranged-pool records -/

/-- the price `(a + tx)/(b + ty)` of the translated curve falls when the quote reserve `a` falls and the base reserve `b` rises -/
theorem quo_shift_mono {tx ty a b a' b' : Int} (htx : 0 ≤ tx) (hty : 0 < ty) (ha' : 0 ≤ a') (hle : a' ≤ a) (hb : 0 ≤ b)
    (hge : b ≤ b') : Dec.quo (a' + tx) (b' + ty) ≤ Dec.quo (a + tx) (b + ty) :=
  Int.le_trans (Dec.quo_anti_right _ _ _ (by omega) (by omega : 0 < b + ty) (by omega))
    (Dec.quo_mono_left _ _ _ (by omega : a' + tx ≤ a + tx) (by omega))

/-- `quo_shift_mono` against the two corners `(0, B)` and `(A, 0)` of the box -/
theorem quo_box {tx ty a b A B : Int} (htx : 0 ≤ tx) (hty : 0 < ty) (ha : 0 ≤ a) (haA : a ≤ A) (hb : 0 ≤ b) (hbB : b ≤ B) :
    Dec.quo tx (B + ty) ≤ Dec.quo (a + tx) (b + ty) ∧ Dec.quo (a + tx) (b + ty) ≤ Dec.quo (A + tx) ty := by
  have lo := quo_shift_mono htx hty (Int.le_refl 0) ha hb hbB
  have hi := quo_shift_mono htx hty ha haA (Int.le_refl 0) hb
  rw [Int.zero_add] at lo hi
  exact ⟨lo, hi⟩

theorem pure_ok {α : Type} {a b : α} (h : (pure a : M α) = .ok b) : a = b := Except.ok.inj h

theorem validate_ok_true {minP maxP initP : Dec} (h : validateRangedPoolParams minP maxP initP = .ok true) :
    0 < initP ∧ minPoolPrice ≤ minP ∧ maxP ≤ maxPoolPrice ∧ minP < maxP ∧ minP ≤ initP ∧ initP ≤ maxP ∧
    minGapRatio ≤ Dec.quo (Dec.sub maxP minP) minP := by
  unfold validateRangedPoolParams at h
  -- a guard that fired would have returned `false`
  have no : ∀ {c : Prop} [Decidable c] {m : M Bool}, (if c then pure false else m) = .ok true → ¬ c ∧ m = .ok true := by
    intro c _ m h
    by_cases hc : c
    · rw [if_pos hc] at h; exact absurd (pure_ok h) (by decide)
    · rw [if_neg hc] at h; exact ⟨hc, h⟩
  obtain ⟨c1, h⟩ := no h
  obtain ⟨c2, h⟩ := no h
  obtain ⟨_, h⟩ := no h
  obtain ⟨c4, h⟩ := no h
  obtain ⟨c5, h⟩ := no h
  obtain ⟨d, hd, h⟩ := bind_ok h
  obtain ⟨g, hg, h⟩ := bind_ok h
  have e := pure_ok h
  rw [decide_eq_true_eq] at e
  obtain ⟨g1, g2, g3⟩ := e
  rw [(quo_ok hg).2, sub_ok hd] at g1
  exact ⟨Decidable.not_not.mp c1, Int.not_lt.mp c2, Int.not_lt.mp c4, Decidable.not_not.mp c5,
    Int.not_lt.mp g2, Int.not_lt.mp g3, Int.not_lt.mp g1⟩

theorem rangedPrice_ok {p : RPool} {v : Dec} (h : rangedPrice p = .ok v) : v = Dec.quo p.xComp p.yComp := by
  unfold rangedPrice at h
  split at h
  · cases h
  · exact (quo_ok h).2

/-- pool `p` with reserves `(rx, ry)` on the curve translated by `(tx, ty)`: the record `SetBalances` and `NewRangedPool` build -/
def RPool.onCurve (p : RPool) (rx ry : Int) (tx ty : Dec) : RPool :=
  { p with rx := rx, ry := ry, transX := tx, transY := ty, xComp := Dec.add (toDec rx) tx, yComp := Dec.add (toDec ry) ty }

theorem setBalances_fixed_ok {p q : RPool} {rx ry : Int} (h : setBalances p rx ry false = .ok q) :
    q = p.onCurve rx ry p.transX p.transY := by
  unfold setBalances at h
  simp only [Bool.false_eq_true, if_false] at h
  obtain ⟨⟨tx, ty⟩, ht, h⟩ := bind_ok h
  cases pure_ok ht
  obtain ⟨xc, hx, h⟩ := bind_ok h
  obtain ⟨yc, hy, h⟩ := bind_ok h
  cases add_ok hx; cases add_ok hy
  exact (pure_ok h).symm

theorem setBalances_derive (p : RPool) (rx ry : Int) :
    setBalances p rx ry true = newRangedPool rx ry p.ps p.minP p.maxP := by
  unfold setBalances newRangedPool
  simp only [if_true]

/-- `onCurve` overwrites every field but supply and range, so the other fields of the record on the right are immaterial -/
theorem newRangedPool_ok {rx ry ps : Int} {minP maxP : Dec} {p : RPool} (h : newRangedPool rx ry ps minP maxP = .ok p) :
    ∃ tx ty, deriveTranslation rx ry minP maxP = .ok (tx, ty) ∧
      p = RPool.onCurve ⟨rx, ry, ps, minP, maxP, tx, ty, 0, 0⟩ rx ry tx ty := by
  unfold newRangedPool at h
  obtain ⟨⟨tx, ty⟩, ht, h⟩ := bind_ok h
  obtain ⟨xc, hx, h⟩ := bind_ok h
  obtain ⟨yc, hy, h⟩ := bind_ok h
  cases add_ok hx; cases add_ok hy
  exact ⟨tx, ty, ht, (pure_ok h).symm⟩

theorem rangedPrice_in_box {p : RPool} {rx ry X Y : Int} {tx ty v : Dec} (hv : rangedPrice (p.onCurve rx ry tx ty) = .ok v)
    (htx : 0 ≤ tx) (hty : 0 < ty) (hrx : 0 ≤ rx) (hX : rx ≤ X) (hry : 0 ≤ ry) (hY : ry ≤ Y) :
    Dec.quo tx (Dec.add (toDec Y) ty) ≤ v ∧ v ≤ Dec.quo (Dec.add (toDec X) tx) ty := by
  have hP := Int.le_of_lt Dec.P_pos
  rw [rangedPrice_ok hv]
  exact quo_box htx hty (Int.mul_nonneg hrx hP) (Int.mul_le_mul_of_nonneg_right hX hP)
    (Int.mul_nonneg hry hP) (Int.mul_le_mul_of_nonneg_right hY hP)

theorem createRangedPool_ok {x y : Int} {minP maxP initP : Dec} {p : RPool}
    (h : createRangedPool x y minP maxP initP = .ok (some p)) :
    (0 < x ∨ 0 < y) ∧ validateRangedPoolParams minP maxP initP = .ok true ∧ p.minP = minP ∧ p.maxP = maxP := by
  unfold createRangedPool at h
  split at h
  · exact absurd (pure_ok h) (by simp)
  rename_i c
  obtain ⟨v, hv, h⟩ := bind_ok h
  split at h
  · exact absurd (pure_ok h) (by simp)
  rename_i cv
  obtain ⟨a, _, h⟩ := bind_ok h
  obtain ⟨ps, _, h⟩ := bind_ok h
  obtain ⟨q, hq, h⟩ := bind_ok h
  cases Option.some.inj (pure_ok h : some q = some p)
  obtain ⟨_, _, _, rfl⟩ := newRangedPool_ok hq
  have hv' : v = true := by
    cases v with
    | false => exact absurd rfl cv
    | true => rfl
  subst hv'
  refine ⟨?_, hv, rfl, rfl⟩
  by_cases hx : 0 < x
  · exact Or.inl hx
  · by_cases hy : 0 < y
    · exact Or.inr hy
    · exact absurd ⟨hx, hy⟩ c

end Comdex.Pool
