import Comdex.Lemmas.GoSem
import Comdex.Model.Twa
/-!
The 128-bit accumulation loop of `CalculateTwa` (`bits.Add64` with carry into `hi`, then `bits.Div64`) computes the
exact sum of the window and its mean.  Used by `Props/C17Pure.lean`.  Core Lean only.
-/
namespace Comdex.PureTwa
open Comdex.GoSem

local notation "W" => (18446744073709551616 : Nat)

/-- one round of the loop of `CalculateTwa` on the state `(hi, lo, carry)`, in the shape `do`-notation gives the translated body
(`Props/C17Pure.lean` `change`s the elaborated loop into it: a change of the translator's layout shows there first) -/
def twaBody (vs : List Nat) (i : Int) (s : Nat × Nat × Nat) : M (ForInStep (Nat × Nat × Nat)) := do
  let x ← indexI vs i
  let r := bitsAdd64 s.2.1 x 0
  pure (ForInStep.yield (u64Add s.1 r.2, r.1, r.2))

/-- `n` rounds from index `a`. `hi + n < W` is the budget of the high word (at most one carry per round); the carry component of
the result is existential because the last `bitsAdd64` carry is never read. -/
theorem twaLoop (vs : List Nat) (hv : ∀ v ∈ vs, v < W) :
    ∀ (n a hi lo c : Nat), lo < W → hi + n < W →
      (a + n ≤ vs.length → ∃ c',
        forIn ((List.range' a n).map (fun (k : Nat) => (k : Int))) (hi, lo, c) (twaBody vs)
          = .ok ((hi * W + lo + ((vs.drop a).take n).sum) / W, (hi * W + lo + ((vs.drop a).take n).sum) % W, c')) ∧
      (a ≤ vs.length → vs.length < a + n →
        forIn ((List.range' a n).map (fun (k : Nat) => (k : Int))) (hi, lo, c) (twaBody vs) = .error .panic) := by
  intro n
  induction n with
  | zero =>
    intro a hi lo c hlo _
    constructor
    · intro _
      refine ⟨c, ?_⟩
      simp only [List.range'_zero, List.map_nil, List.forIn_nil, List.take_zero, List.sum_nil, Nat.add_zero]
      have e1 : (hi * W + lo) / W = hi := by omega
      have e2 : (hi * W + lo) % W = lo := by omega
      rw [e1, e2]; rfl
    · intro h1 h2; omega
  | succ n ih =>
    intro a hi lo c hlo hhi
    simp only [List.range'_succ, List.map_cons, List.forIn_cons]
    by_cases ha : a < vs.length
    · have hva : vs[a] < W := hv _ (List.getElem_mem ha)
      have hstep : twaBody vs (a : Int) (hi, lo, c)
          = .ok (ForInStep.yield (hi + (lo + vs[a]) / W, (lo + vs[a]) % W, (lo + vs[a]) / W)) := by
        unfold twaBody
        rw [indexI_ofNat_lt ha]
        have hc : (lo + vs[a]) / W ≤ 1 := by omega
        have : u64Add hi ((lo + vs[a] + 0) / two64) = hi + (lo + vs[a]) / W := by
          rw [Nat.add_zero]
          exact u64Add_of_fits (by show hi + (lo + vs[a]) / W < W; omega)
        simp only [ok_bind, bitsAdd64, this]
        rfl
      rw [hstep]
      simp only [ok_bind]
      have hlo' : (lo + vs[a]) % W < W := Nat.mod_lt _ (by decide)
      have hhi' : hi + (lo + vs[a]) / W + n < W := by
        have : (lo + vs[a]) / W ≤ 1 := by omega
        omega
      obtain ⟨ihS, ihF⟩ := ih (a + 1) (hi + (lo + vs[a]) / W) ((lo + vs[a]) % W) ((lo + vs[a]) / W) hlo' hhi'
      constructor
      · intro hlen
        obtain ⟨c', hc'⟩ := ihS (by omega)
        refine ⟨c', ?_⟩
        rw [hc']
        have hd : (vs.drop a).take (n + 1) = vs[a] :: (vs.drop (a + 1)).take n := by
          rw [List.drop_eq_getElem_cons ha, List.take_succ_cons]
        rw [hd, List.sum_cons]
        have e : (hi + (lo + vs[a]) / W) * W + (lo + vs[a]) % W = hi * W + lo + vs[a] := by omega
        rw [e, Nat.add_assoc (hi * W + lo)]
      · intro _ hlen
        exact ihF (by omega) (by omega)
    · have hstep : twaBody vs (a : Int) (hi, lo, c) = .error .panic := by
        unfold twaBody
        rw [indexI_ofNat_ge (by omega)]
        rfl
      rw [hstep]
      constructor
      · intro hlen; omega
      · intro _ _; rfl

/-- the model's failures are both run-time panics of the Go function -/
def twaOutcome (r : Except Twa.Panic Nat) : M Nat :=
  match r with
  | .ok v => .ok v
  | .error _ => .error .panic

end Comdex.PureTwa
