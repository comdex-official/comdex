/-!
Lists of records with a numeric key (`id`), kept without two records of one key: replacing the record of a key (`List.map`), removing
it (`List.filter`), and what that does to a sum over the list.  The one idea: such a list splits as `l₁ ++ v0 :: l₂` around the record of
a key, with the key absent from both sides, and both operations act on the middle only.  Stated on the `map`/`filter` terms themselves,
which `Vault.setBy`/`delBy`, `Lend.setLend`/`setBorrow` (through `Lend.put`) and `PoolKeeper.setPool` unfold to.  Reading is by
`List.find?` with the key test spelt as the model spells it (`hp`): after `map` (`find?_map`), after `put`, and after the models' other
way of writing, in place or appended when the key is new (`find?_upsert`, `forall_upsert`).  Association lists read by a recursion of
their own (`Locker.Store`, `LimitBid.getK`) are in `LockerStore.lean`.  Core Lean only.
-/
namespace Comdex.KeyedRecs

theorem eq_of_key_eq {α : Type _} {β : Type _} {key : α → β} {l : List α} (hnd : (l.map key).Nodup) {x y : α}
    (hx : x ∈ l) (hy : y ∈ l) (h : key x = key y) : x = y := by
  induction l with
  | nil => cases hx
  | cons a as ih =>
    rw [List.map_cons, List.nodup_cons] at hnd
    rcases List.mem_cons.mp hx with rfl | hx' <;> rcases List.mem_cons.mp hy with rfl | hy'
    · rfl
    · exact absurd (h ▸ List.mem_map_of_mem hy') hnd.1
    · exact absurd (h ▸ List.mem_map_of_mem hx') hnd.1
    · exact ih hnd.2 hx' hy'

theorem nodup_append {α : Type _} {β : Type _} {key : α → β} {l l' : List α} (h : (l.map key).Nodup) (h' : (l'.map key).Nodup)
    (hd : ∀ x ∈ l, ∀ y ∈ l', key x ≠ key y) : ((l ++ l').map key).Nodup := by
  rw [List.map_append, List.nodup_append]
  refine ⟨h, h', fun a ha b hb => ?_⟩
  obtain ⟨x, hx, rfl⟩ := List.mem_map.mp ha
  obtain ⟨y, hy, rfl⟩ := List.mem_map.mp hb
  exact hd x hx y hy

theorem nodup_snoc {α : Type _} {β : Type _} {key : α → β} {l : List α} {v : α} (hnd : (l.map key).Nodup)
    (hv : ∀ x ∈ l, key x ≠ key v) : ((l ++ [v]).map key).Nodup :=
  nodup_append hnd (List.pairwise_singleton _ _) fun x hx y hy => by cases List.mem_singleton.mp hy; exact hv x hx

/-! Above, `key` is implicit and of any type; from here on it is explicit (the terms `put key l v`, `del key l k` need it) and `Nat`-valued. -/
universe u
variable {α : Type u} (key : α → Nat)

abbrev put (l : List α) (v : α) : List α := l.map fun w => if key w = key v then v else w
abbrev del (l : List α) (k : Nat) : List α := l.filter fun w => key w ≠ k

theorem put_absent (l : List α) (v : α) (h : key v ∉ l.map key) : put key l v = l := by
  refine (List.map_congr_left fun a ha => if_neg fun e => h ?_).trans (List.map_id' l)
  exact e ▸ List.mem_map_of_mem ha

theorem del_absent (l : List α) (k : Nat) (h : k ∉ l.map key) : del key l k = l :=
  List.filter_eq_self.mpr fun _ ha => decide_eq_true fun e => h (e ▸ List.mem_map_of_mem ha)

theorem mem_put {l : List α} {v w : α} (h : w ∈ put key l v) : w = v ∨ w ∈ l ∧ key w ≠ key v := by
  obtain ⟨a, ha, rfl⟩ := List.mem_map.mp h
  split
  · exact .inl rfl
  · exact .inr ⟨ha, ‹_›⟩

theorem map_key_put (l : List α) (v : α) : (put key l v).map key = l.map key := by
  rw [List.map_map]; exact List.map_congr_left fun a _ => by simp only [Function.comp]; split <;> simp [*]

theorem mem_del {l : List α} {k : Nat} {w : α} (h : w ∈ del key l k) : w ∈ l ∧ key w ≠ k :=
  ⟨(List.mem_filter.mp h).1, of_decide_eq_true (List.mem_filter.mp h).2⟩

theorem nodup_del (l : List α) (k : Nat) (h : (l.map key).Nodup) : ((del key l k).map key).Nodup :=
  h.sublist (List.filter_sublist.map key)

theorem split {l : List α} {v0 : α} (hnd : (l.map key).Nodup) (hm : v0 ∈ l) :
    ∃ l₁ l₂, l = l₁ ++ v0 :: l₂ ∧ key v0 ∉ l₁.map key ∧ key v0 ∉ l₂.map key := by
  obtain ⟨l₁, l₂, rfl⟩ := List.append_of_mem hm
  rw [List.map_append, List.map_cons, List.nodup_append] at hnd
  exact ⟨l₁, l₂, rfl, fun h => hnd.2.2 _ h _ (List.mem_cons_self ..) rfl, (List.nodup_cons.mp hnd.2.1).1⟩

theorem put_split {l₁ l₂ : List α} {v0 v : α} (hid : key v = key v0)
    (h1 : key v0 ∉ l₁.map key) (h2 : key v0 ∉ l₂.map key) : put key (l₁ ++ v0 :: l₂) v = l₁ ++ v :: l₂ := by
  have e1 := put_absent key l₁ v (hid ▸ h1)
  have e2 := put_absent key l₂ v (hid ▸ h2)
  unfold put at *
  rw [List.map_append, List.map_cons, e1, e2, if_pos hid.symm]

theorem del_split {l₁ l₂ : List α} {v0 : α}
    (h1 : key v0 ∉ l₁.map key) (h2 : key v0 ∉ l₂.map key) : del key (l₁ ++ v0 :: l₂) (key v0) = l₁ ++ l₂ := by
  have e1 := del_absent key l₁ _ h1
  have e2 := del_absent key l₂ _ h2
  unfold del at *
  rw [List.filter_append, List.filter_cons, e1, e2]; simp

theorem sum_put (f : α → Int) (l : List α) (v0 v : α) (hnd : (l.map key).Nodup) (hm : v0 ∈ l) (hid : key v = key v0) :
    ((put key l v).map f).sum = (l.map f).sum - f v0 + f v := by
  obtain ⟨l₁, l₂, rfl, h1, h2⟩ := split key hnd hm
  rw [put_split key hid h1 h2]; simp only [List.map_append, List.map_cons, List.sum_append_int, List.sum_cons]; omega

theorem sum_del (f : α → Int) (l : List α) (v0 : α) (hnd : (l.map key).Nodup) (hm : v0 ∈ l) :
    ((del key l (key v0)).map f).sum = (l.map f).sum - f v0 := by
  obtain ⟨l₁, l₂, rfl, h1, h2⟩ := split key hnd hm
  rw [del_split key h1 h2]; simp only [List.map_append, List.map_cons, List.sum_append_int, List.sum_cons]; omega

/-- `hp` says how the key test is spelt: `fun _ => decide_eq_true_iff` for `decide (key w = k)`, `fun _ => beq_iff_eq` for `key w == k` -/
theorem find?_key {p : α → Bool} {l : List α} {k : Nat} {v : α} (h : l.find? p = some v) (hp : ∀ w, p w = true ↔ key w = k) :
    v ∈ l ∧ key v = k :=
  ⟨List.mem_of_find?_eq_some h, (hp v).1 (List.find?_some h)⟩

theorem find?_map {p : α → Bool} {k : Nat} (hp : ∀ w, p w = true ↔ key w = k) {g : α → α} (hg : ∀ w, key (g w) = key w)
    (l : List α) : (l.map g).find? p = (l.find? p).map g := by
  rw [List.find?_map, show p ∘ g = p from funext fun w => Bool.eq_iff_iff.2 (by rw [Function.comp, hp, hp, hg])]

theorem find?_put {p : α → Bool} {k : Nat} (hp : ∀ w, p w = true ↔ key w = k) (l : List α) (v : α) :
    (put key l v).find? p = if key v = k then (l.find? p).map fun _ => v else l.find? p := by
  rw [put, find?_map key hp (fun w => by split <;> simp [*])]
  cases h : l.find? p with
  | none => split <;> rfl
  | some w =>
    have hw := (hp w).1 (List.find?_some h)
    by_cases hv : key v = k
    · rw [if_pos hv]; exact congrArg some (if_pos (hw.trans hv.symm))
    · rw [if_neg hv]; exact congrArg some (if_neg fun e => hv (e.symm.trans hw))

/-- The other way of writing a keyed list: the record of `k` rewritten in place by `f`, or `d` appended when there is none
(`Liquidation.Bal.add`, `Offsets.set`, `Lend.modResv`, `Feed.Books.put`).  `q`, `c`, `p` are the model's spellings of the key tests. -/
theorem find?_upsert {q p : α → Bool} {c : α → Prop} [DecidablePred c] {k k' : Nat}
    (hq : ∀ w, q w = true ↔ key w = k) (hc : ∀ w, c w ↔ key w = k) (hp : ∀ w, p w = true ↔ key w = k')
    {f : α → α} (hf : ∀ w, key w = k → key (f w) = k) {d : α} (hd : key d = k) (l : List α) :
    (if l.any q then l.map (fun w => if c w then f w else w) else l ++ [d]).find? p =
      if k' = k then some ((l.find? q).elim d f) else l.find? p := by
  have hpq : k' = k → p = q := fun e => funext fun w => Bool.eq_iff_iff.2 (by rw [hp, hq, e])
  have hg : ∀ w, key (if c w then f w else w) = key w := fun w => by
    split
    · next h => exact (hf w ((hc w).1 h)).trans ((hc w).1 h).symm
    · rfl
  cases hx : l.find? q with
  | none =>
    rw [if_neg (by rw [Bool.not_eq_true, List.any_eq_false]; exact fun w hw => List.find?_eq_none.1 hx w hw), List.find?_append]
    by_cases e : k' = k
    · rw [if_pos e, hpq e, hx, Option.none_or, List.find?_cons, (hq d).2 hd]; rfl
    · rw [if_neg e, List.find?_cons, Bool.eq_false_iff.2 (mt (hp d).1 fun h => e (h.symm.trans hd))]; exact Option.or_none
  | some x =>
    rw [if_pos (List.any_eq_true.2 ⟨x, List.mem_of_find?_eq_some hx, List.find?_some hx⟩), find?_map key hp hg]
    by_cases e : k' = k
    · rw [if_pos e, hpq e, hx]; exact congrArg some (if_pos ((hc x).2 ((hq x).1 (List.find?_some hx))))
    · rw [if_neg e]
      cases hy : l.find? p with
      | none => rfl
      | some y => exact congrArg some (if_neg fun h => e (((hp y).1 (List.find?_some hy)).symm.trans ((hc y).1 h)))

theorem forall_upsert {P : α → Prop} {q : α → Bool} {c : α → Prop} [DecidablePred c] {f : α → α} {d : α} {l : List α}
    (h : ∀ w ∈ l, P w) (hf : ∀ w ∈ l, P (f w)) (hd : P d) :
    ∀ w ∈ (if l.any q then l.map (fun w => if c w then f w else w) else l ++ [d]), P w := by
  intro w hw
  split at hw
  · obtain ⟨x, hx, rfl⟩ := List.mem_map.mp hw
    split
    · exact hf x hx
    · exact h x hx
  · rcases List.mem_append.mp hw with hw | hw
    · exact h w hw
    · cases List.mem_singleton.mp hw; exact hd

end Comdex.KeyedRecs
