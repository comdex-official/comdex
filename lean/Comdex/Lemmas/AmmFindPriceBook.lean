import Comdex.Lemmas.AmmFindPrice
import Comdex.Lemmas.AmmMatchDust
/-!
The view of `NewOrderBook(os…)` is a well-formed view (`ViewOk`): where the grid lemmas and the engine lemmas meet.
-/
namespace Comdex.Amm

theorem mem_prices_insertTick (incr : Bool) (x : Order) (ts : List Tick) (q : Int)
    (h : q ∈ (insertTick incr x ts).map (·.price)) : q = x.price ∨ q ∈ ts.map (·.price) := by
  fun_induction insertTick incr x ts with
  | case1 => simpa using h
  | case2 t ts _ => exact Or.inr (by simpa using h)
  | case3 t ts _ _ => simpa using h
  | case4 t ts _ _ ih =>
    rcases List.mem_cons.mp h with h | h
    · exact Or.inr (by simp [h])
    · exact (ih h).imp id fun h => by simp [h]

theorem Rdir.trans {incr : Bool} {a b c : Int} (h₁ : Rdir incr a b) (h₂ : Rdir incr b c) : Rdir incr a c := by
  unfold Rdir at *; cases incr <;> simp only [Bool.false_eq_true, if_false, if_true] at * <;> omega

/-- the test by which `addOrder` puts a new tick before tick price `t` -/
theorem Rdir.of_before {incr : Bool} {x t : Int} (h : (if incr = true then decide (t > x) else decide (t < x)) = true) :
    Rdir incr x t := by
  unfold Rdir; cases incr <;> simpa using h

theorem Rdir.of_not_before {incr : Bool} {x t : Int} (hne : ¬ t = x)
    (h : ¬ (if incr = true then decide (t > x) else decide (t < x)) = true) : Rdir incr t x := by
  unfold Rdir; cases incr <;> simp at h ⊢ <;> omega

theorem insertTick_sorted (incr : Bool) (x : Order) (ts : List Tick)
    (h : (ts.map (·.price)).Pairwise (Rdir incr)) : ((insertTick incr x ts).map (·.price)).Pairwise (Rdir incr) := by
  fun_induction insertTick incr x ts with
  | case1 => simp
  | case2 t ts _ => exact h
  | case3 t ts _ hc =>
    simp only [List.map_cons, List.pairwise_cons] at h ⊢
    refine ⟨fun q hq => ?_, h⟩
    rcases List.mem_cons.mp hq with rfl | hq
    · exact Rdir.of_before hc
    · exact (Rdir.of_before hc).trans (h.1 q hq)
  | case4 t ts hne hc ih =>
    simp only [List.map_cons, List.pairwise_cons] at h ⊢
    refine ⟨fun q hq => ?_, ih h.2⟩
    rcases mem_prices_insertTick incr x ts q hq with rfl | hq
    · exact Rdir.of_not_before hne hc
    · exact h.1 q hq

theorem newBook_sorted (os : List Order) :
    ((newBook os).buys.map (·.price)).Pairwise (Rdir false) ∧ ((newBook os).sells.map (·.price)).Pairwise (Rdir true) := by
  refine newBook_induct (P := fun _ b => (b.buys.map (·.price)).Pairwise (Rdir false) ∧
    (b.sells.map (·.price)).Pairwise (Rdir true)) ⟨by simp, by simp⟩ ?_ os
  intro _ b o hb
  rcases addOrder_cases b o with e | ⟨_, e⟩ | ⟨_, e⟩ <;> rw [e]
  · exact hb
  · exact ⟨insertTick_sorted false o b.buys hb.1, hb.2⟩
  · exact ⟨hb.1, insertTick_sorted true o b.sells hb.2⟩

theorem accSums_prices (ts : List Tick) (prev : Int) : (accSums ts prev).map (·.1) = ts.map (·.price) := by
  induction ts generalizing prev with
  | nil => rfl
  | cons t ts ih => simp [accSums, ih]

theorem accSums_ok (incr : Bool) (ts : List Tick) (prev : Int)
    (hs : (ts.map (·.price)).Pairwise (Rdir incr)) (hn : ∀ t ∈ ts, 0 ≤ totalMatchable t.orders t.price) :
    AccOk (Rdir incr) prev (accSums ts prev) := by
  induction ts generalizing prev with
  | nil => trivial
  | cons t ts ih =>
    simp only [List.map_cons, List.pairwise_cons] at hs
    unfold accSums
    simp only
    refine ⟨by have := hn t (by simp); omega, ?_, ih _ hs.2 (fun t' ht' => hn t' (by simp [ht']))⟩
    rw [accSums_prices]; exact hs.1

theorem tick_price_newBook (os : List Order) :
    ∀ t ∈ (newBook os).buys ++ (newBook os).sells, ∃ o ∈ os, t.price = o.price := fun t ht =>
  (List.mem_append.mp ht).elim (fun h => ((newBook_ticks os).1 t h).price) (fun h => ((newBook_ticks os).2 t h).price)

theorem makeView_ok (os : List Order) (prec : Nat) (hw : ∀ o ∈ os, Wf o)
    (ht : ∀ o ∈ os, GridTick prec o.price) :
    ViewOk (makeView (newBook os)) prec := by
  have hok := newBook_ok os hw
  obtain ⟨s1, s2⟩ := newBook_sorted os
  have hpr := tick_price_newBook os
  have hpos : ∀ t ∈ (newBook os).buys ++ (newBook os).sells, 0 < t.price := by
    intro t htm
    obtain ⟨o, ho, he⟩ := hpr t htm
    rw [he]; exact (hw o ho).price_pos
  have hnb : ∀ t ∈ (newBook os).buys, 0 ≤ totalMatchable t.orders t.price := fun t htm =>
    totalMatchable_nonneg _ _ (hpos t (by simp [htm])) (fun o ho => (hok.1 t htm o ho).1)
  have hns : ∀ t ∈ (newBook os).sells, 0 ≤ totalMatchable t.orders t.price := fun t htm =>
    totalMatchable_nonneg _ _ (hpos t (by simp [htm])) (fun o ho => (hok.2 t htm o ho).1)
  refine ⟨?_, ?_, ?_, ?_⟩
  · exact accSums_ok false (newBook os).buys 0 s1 hnb
  · exact accSums_ok true (newBook os).sells 0 s2 hns
  · intro q hq
    simp only [makeView, accSums_prices, List.mem_map] at hq
    obtain ⟨t, htm, rfl⟩ := hq
    obtain ⟨o, ho, he⟩ := hpr t (by simp [htm])
    rw [he]; exact ht o ho
  · intro q hq
    simp only [makeView, accSums_prices, List.mem_map] at hq
    obtain ⟨t, htm, rfl⟩ := hq
    obtain ⟨o, ho, he⟩ := hpr t (by simp [htm])
    rw [he]; exact ht o ho

end Comdex.Amm
