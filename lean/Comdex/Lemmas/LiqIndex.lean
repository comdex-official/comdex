import Comdex.Lemmas.LiqOrders
/-!
Index completeness of the liquidity ledger model (C07): in every reachable state

* order keys `(appId, pairId, id)` are unique in the order store,
* every order's id is at most its pair's `lastOrderId` (so a freshly allotted id is new),
* every LIVE market-making order is listed in the market-making index of its owner for its (app, pair).

`IdxInv` is preserved by every operation of the model when the lookup of `cancelMMOrder` is the repaired one
(`Cfg.swapLookup = false`); with it, `MsgCancelMMOrder` / `MsgMMOrder` are shown to end EVERY market-making order of the owner in
the pair, with no premise about the index.
-/
namespace Comdex.LiqLedger

structure IdxOk (os : List Order) (ps : List Pair) (mm : List MMIndex) : Prop where
  uniq : (os.map Order.key).Nodup
  bound : ∀ o ∈ os, ∃ p, findBy (isPair o.app o.pair) ps = some p ∧ o.id ≤ p.lastOrderId
  complete : ∀ o ∈ os, o.typ = .mm → o.status.live = true →
    ∃ idx, findBy (isMM o.app o.pair o.owner) mm = some idx ∧ o.id ∈ idx.ids

def IdxInv (s : State) : Prop := IdxOk s.orders s.pairs s.mm

theorem IdxInv.of_same {s s' : State} (hi : IdxInv s) (h : OrdSame s s') : IdxInv s' := by
  unfold IdxInv; rw [h.orders, h.pairs, h.mm]; exact hi

theorem findBy_key_of_mem : ∀ {l : List Order}, (l.map Order.key).Nodup → ∀ {o : Order}, o ∈ l → findBy (isO o.key) l = some o := by
  intro l
  induction l with
  | nil => intro _ o h; cases h
  | cons x t ih =>
    intro hn o ho
    simp only [List.map_cons, List.nodup_cons] at hn
    rcases List.mem_cons.mp ho with rfl | hot
    · simp [findBy, (isO_iff _ _).2 rfl]
    · have hne : isO o.key x = false := by
        cases hx : isO o.key x with
        | false => rfl
        | true =>
          exfalso; apply hn.1
          rw [(isO_iff _ _).1 hx]
          exact List.mem_map.mpr ⟨o, hot, rfl⟩
      simp [findBy, hne, ih hn.2 hot]

theorem IdxInv.lookup {s : State} (hi : IdxInv s) {o : Order} (h : o ∈ s.orders) : s.order? o.key = some o :=
  findBy_key_of_mem hi.uniq h

theorem map_key_modBy (k : OKey) (g : Order → Order) (hg : ∀ x, (g x).key = x.key) :
    ∀ l : List Order, (modBy (isO k) g l).map Order.key = l.map Order.key := by
  intro l
  induction l with
  | nil => rfl
  | cons x t ih => by_cases hx : isO k x = true <;> simp [modBy, hx, hg, ih]

theorem IdxOk.modO {os : List Order} {ps : List Pair} {mm : List MMIndex} (h : IdxOk os ps mm) (k : OKey) (g : Order → Order)
    (hg : ∀ x, (g x).app = x.app ∧ (g x).pair = x.pair ∧ (g x).id = x.id ∧ (g x).owner = x.owner ∧ (g x).typ = x.typ)
    (hl : ∀ x, findBy (isO k) os = some x → (g x).status.live = true → x.status.live = true) :
    IdxOk (modBy (isO k) g os) ps mm := by
  refine ⟨?_, ?_, ?_⟩
  · rw [map_key_modBy k g (fun x => by simp [Order.key, (hg x).1, (hg x).2.1, (hg x).2.2.1])]
    exact h.uniq
  · apply forall_modBy h.bound
    intro x hx
    have hm := (findBy_some_prop hx).2
    obtain ⟨p, hp, hle⟩ := h.bound x hm
    obtain ⟨e1, e2, e3, -, -⟩ := hg x
    exact ⟨p, by rw [e1, e2]; exact hp, by rw [e3]; exact hle⟩
  · apply forall_modBy h.complete
    intro x hx ht hlive
    have hm := (findBy_some_prop hx).2
    obtain ⟨e1, e2, e3, e4, e5⟩ := hg x
    obtain ⟨idx, hidx, hmem⟩ := h.complete x hm (by rw [← e5]; exact ht) (hl x hx hlive)
    exact ⟨idx, by rw [e1, e2, e4]; exact hidx, by rw [e3]; exact hmem⟩

theorem isPair_iff (a p : Nat) (x : Pair) : isPair a p x = true ↔ x.app = a ∧ x.id = p := by
  simp [isPair]

theorem IdxOk.modPair {os : List Order} {ps : List Pair} {mm : List MMIndex} (h : IdxOk os ps mm) (a p : Nat) (g : Pair → Pair)
    (hg : ∀ x, (g x).app = x.app ∧ (g x).id = x.id)
    (hl : ∀ x, findBy (isPair a p) ps = some x → x.lastOrderId ≤ (g x).lastOrderId) :
    IdxOk os (modBy (isPair a p) g ps) mm := by
  refine ⟨h.uniq, ?_, h.complete⟩
  intro o ho
  obtain ⟨pp, hpp, hle⟩ := h.bound o ho
  have hk : ∀ a' p' x, isPair a' p' (g x) = isPair a' p' x := by
    intro a' p' x; simp [isPair, (hg x).1, (hg x).2]
  by_cases hc : o.app = a ∧ o.pair = p
  · obtain ⟨rfl, rfl⟩ := hc
    refine ⟨g pp, ?_, Nat.le_trans hle (hl pp hpp)⟩
    rw [findBy_modBy_same (hk _ _), hpp]; rfl
  · refine ⟨pp, ?_, hle⟩
    rw [findBy_modBy_other (hk _ _)]
    · exact hpp
    · intro x hx
      obtain ⟨h1, h2⟩ := (isPair_iff _ _ _).1 hx
      cases hq : isPair o.app o.pair x with
      | false => rfl
      | true =>
        obtain ⟨g1, g2⟩ := (isPair_iff _ _ _).1 hq
        exact absurd ⟨g1.symm.trans h1, g2.symm.trans h2⟩ hc

theorem IdxOk.filter {os : List Order} {ps : List Pair} {mm : List MMIndex} (h : IdxOk os ps mm) (q : Order → Bool) :
    IdxOk (os.filter q) ps mm := by
  refine ⟨?_, fun o ho => h.bound o (List.mem_filter.mp ho).1, fun o ho => h.complete o (List.mem_filter.mp ho).1⟩
  exact List.Nodup.sublist (List.Sublist.map _ List.filter_sublist) h.uniq

theorem finishOrder_idx {cfg : Cfg} {s s' : State} {k : OKey} {st : OStatus} (hst : st.live = false) (hi : IdxInv s)
    (h : finishOrder cfg s k st = some s') : IdxInv s' := by
  have hp := pairs_finishOrder h
  have hm := mm_finishOrder h
  obtain ⟨o, ho, hc⟩ := finishOrder_orders h
  rcases hc with ⟨-, he⟩ | ⟨-, r, f, he⟩
  · subst he; exact hi
  · unfold IdxInv
    rw [hp, hm, he]
    apply hi.modO
    · intro x; exact ⟨rfl, rfl, rfl, rfl, rfl⟩
    · intro x _ hl; simp only [hst] at hl; cases hl

theorem Ended.idx {cfg : Cfg} {s s' : State} (hi : IdxInv s) (h : Ended cfg s s') : IdxInv s' :=
  h.rel (R := fun s s' => IdxInv s → IdxInv s') (fun _ h => h) (fun h1 h2 h => h2 (h1 h))
    (fun hst hf hi => finishOrder_idx hst hi hf) hi

theorem IdxOk.append_new {os : List Order} {ps : List Pair} {mm : List MMIndex} (h : IdxOk os ps mm) {a p : Nat} {pp : Pair}
    (hpp : findBy (isPair a p) ps = some pp) (ns : List Order) (last' : Nat) (mm' : List MMIndex)
    (hle : pp.lastOrderId ≤ last')
    (hns : ∀ o ∈ ns, o.app = a ∧ o.pair = p ∧ pp.lastOrderId < o.id ∧ o.id ≤ last')
    (hnd : (ns.map Order.key).Nodup)
    (hold : ∀ o ∈ os, o.typ = .mm → o.status.live = true → ∃ idx, findBy (isMM o.app o.pair o.owner) mm' = some idx ∧ o.id ∈ idx.ids)
    (hnew : ∀ o ∈ ns, o.typ = .mm → o.status.live = true → ∃ idx, findBy (isMM o.app o.pair o.owner) mm' = some idx ∧ o.id ∈ idx.ids) :
    IdxOk (os ++ ns) (modBy (isPair a p) (fun q => { q with lastOrderId := last' }) ps) mm' := by
  have h1 : IdxOk os (modBy (isPair a p) (fun q => { q with lastOrderId := last' }) ps) mm :=
    h.modPair a p _ (fun x => ⟨rfl, rfl⟩) (fun x hx => by rw [hpp] at hx; cases hx; exact hle)
  refine ⟨?_, ?_, ?_⟩
  · refine KeyedRecs.nodup_append h.uniq hnd fun o ho n hn he => ?_
    obtain ⟨n1, n2, n3, -⟩ := hns n hn
    simp only [Order.key, Prod.mk.injEq] at he
    obtain ⟨e1, e2, e3⟩ := he
    obtain ⟨p', hp', hb⟩ := h.bound o ho
    rw [e1, e2, n1, n2, hpp] at hp'
    cases hp'
    omega
  · intro o ho
    rcases List.mem_append.mp ho with ho | ho
    · exact h1.bound o ho
    · obtain ⟨n1, n2, -, n4⟩ := hns o ho
      refine ⟨{ pp with lastOrderId := last' }, ?_, n4⟩
      rw [n1, n2, findBy_modBy_same (g := fun q : Pair => { q with lastOrderId := last' }) (fun x => rfl), hpp]; rfl
  · intro o ho
    rcases List.mem_append.mp ho with ho | ho
    · exact hold o ho
    · exact hnew o ho

theorem idx_placeOrder {cfg : Cfg} {s s' : State} {app user pair : Nat} {typ : OType} {buy : Bool}
    {msgOffer msgPrice price amount : Nat} {lifespan : Int} {ext : Bool} (hi : IdxInv s)
    (h : placeOrder cfg s app user pair typ buy msgOffer msgPrice price amount lifespan ext = some s') : IdxInv s' := by
  obtain ⟨ac, p, s1, hty, -, -, hp, -, rfl⟩ := placeOrder_eff h
  show IdxOk (s.orders ++ _) (modBy _ _ s.pairs) s.mm
  apply hi.append_new hp _ _ _ (Nat.le_succ _)
  · intro o ho
    simp only [List.mem_singleton] at ho
    subst ho
    obtain ⟨-, e1, e2⟩ := pair?_some hp
    exact ⟨e1, e2, Nat.lt_succ_self _, Nat.le_refl _⟩
  · simp
  · exact hi.complete
  · intro o ho ht
    simp only [List.mem_singleton] at ho
    subst ho
    exact absurd ht hty

theorem isMM_iff (a p u : Nat) (x : MMIndex) : isMM a p u x = true ↔ x.app = a ∧ x.pair = p ∧ x.owner = u := by
  simp [isMM, and_assoc]

theorem isMM_disjoint {a p u a' p' u' : Nat} (hne : ¬ (a' = a ∧ p' = p ∧ u' = u)) (x : MMIndex) (h : isMM a' p' u' x = true) :
    isMM a p u x = false := by
  obtain ⟨h1, h2, h3⟩ := (isMM_iff _ _ _ _).1 h
  cases hq : isMM a p u x with
  | false => rfl
  | true =>
    obtain ⟨g1, g2, g3⟩ := (isMM_iff _ _ _ _).1 hq
    exact absurd ⟨h1.symm.trans g1, h2.symm.trans g2, h3.symm.trans g3⟩ hne

theorem IdxInv.no_live_mm {s : State} (hi : IdxInv s) {app pid user : Nat}
    (hd : ∀ idx, findBy (isMM app pid user) s.mm = some idx → ∀ id ∈ idx.ids, ∀ o, s.order? (app, pid, id) = some o → o.status.live = false) :
    ∀ o ∈ s.orders, o.app = app → o.pair = pid → o.owner = user → o.typ = .mm → o.status.live = false := by
  intro o ho e1 e2 e3 ht
  cases hl : o.status.live with
  | false => rfl
  | true =>
    obtain ⟨idx', hidx', hmem⟩ := hi.complete o ho ht hl
    rw [e1, e2, e3] at hidx'
    have hlk := hi.lookup ho
    rw [show o.key = (app, pid, o.id) by simp [Order.key, e1, e2]] at hlk
    exact hl.symm.trans (hd idx' hidx' o.id hmem o hlk)

/-- **`cancelMMOrder` (repaired lookup) leaves no live market-making order of the owner in the pair** — not only none of the
indexed ones: by index completeness there is no other.  The index entry is gone and the invariant is kept. -/
theorem idx_cancelMMCore {cfg : Cfg} (hsw : cfg.swapLookup = false) {s s' : State} {app user : Nat} {p : Pair} {skip : Bool}
    (hi : IdxInv s) (h : cancelMMCore cfg s app user p skip = some s') :
    IdxInv s' ∧
    (∀ o ∈ s'.orders, o.app = app → o.pair = p.id → o.owner = user → o.typ = .mm → o.status.live = false) ∧
    findBy (isMM app p.id user) s'.mm = none := by
  obtain ⟨idx, s1, hidx, h1, rfl⟩ | ⟨hnone, rfl⟩ := cancelMMCore_eff h
  · have i1 := (cancelMMFold_ended h1).idx hi
    have m1 := (cancelMMFold_ended h1).mm
    have done := cancelMM_fold_done hsw _ _ _ h1
    have claim := i1.no_live_mm (app := app) (pid := p.id) (user := user) fun idx' h' => by
      rw [m1, hidx] at h'; cases h'; exact done
    refine ⟨?_, claim, ?_⟩
    · refine ⟨i1.uniq, i1.bound, ?_⟩
      intro o ho ht hl
      obtain ⟨idx', hidx', hmem⟩ := i1.complete o ho ht hl
      refine ⟨idx', ?_, hmem⟩
      show findBy _ (s1.mm.filter fun x => !isMM app p.id user x) = _
      rw [findBy_filter_other]
      · exact hidx'
      · intro x hx
        apply isMM_disjoint _ x hx
        intro hc
        have := claim o ho hc.1 hc.2.1 hc.2.2 ht
        rw [hl] at this; cases this
    · exact findBy_filter_not _ _
  · exact ⟨hi, hi.no_live_mm fun idx' h' => (by rw [hnone] at h'; cases h'), hnone⟩

theorem pairs_cancelMMCore {cfg : Cfg} {s s' : State} {app user : Nat} {p : Pair} {skip : Bool}
    (h : cancelMMCore cfg s app user p skip = some s') : s'.pairs = s.pairs := by
  obtain ⟨s1, he, hs⟩ := cancelMMCore_ended h
  rw [hs]; exact he.pairs

theorem idx_mmOrder {cfg : Cfg} (hsw : cfg.swapLookup = false) {s s' : State} {app user pair : Nat} {buys sells : List Tick}
    {lifespan : Int} {ext : Bool} (hi : IdxInv s) (h : mmOrder cfg s app user pair buys sells lifespan ext = some s') :
    IdxInv s' := by
  obtain ⟨p, s1, s2, s3, hp, hc1, -, -, rfl⟩ := mmOrder_eff h
  obtain ⟨-, hpa, hpi⟩ := pair?_some hp
  obtain ⟨i1, claim, none1⟩ := idx_cancelMMCore hsw hi hc1
  have hp1 : findBy (isPair app pair) s1.pairs = some p := by rw [pairs_cancelMMCore hc1]; exact hp
  obtain ⟨hkey, hnd⟩ := mmOrders_spec p user (s.now + lifespan) buys sells
  show IdxOk (s1.orders ++ _) (modBy _ _ s1.pairs) ((s1.mm.filter _) ++ _)
  apply i1.append_new hp1 _ _ _ (by omega)
  · intro o ho
    obtain ⟨a, b, c, d, -⟩ := hkey o ho
    exact ⟨a.trans hpa, b.trans hpi, c, d⟩
  · exact hnd
  · -- orders already in the store: their owner / pair differs from the replaced index
    intro o ho ht hl
    obtain ⟨idx', hidx', hmem⟩ := i1.complete o ho ht hl
    refine ⟨idx', ?_, hmem⟩
    have hne : ¬ (o.app = app ∧ o.pair = pair ∧ o.owner = user) := by
      intro hc
      have := claim o ho hc.1 (hc.2.1.trans hpi.symm) hc.2.2 ht
      rw [hl] at this; cases this
    rw [findBy_append, findBy_filter_other (fun x hx => isMM_disjoint hne x hx), hidx']
  · intro o ho _ _
    obtain ⟨a, b, -, -, -, f, -⟩ := hkey o ho
    refine ⟨⟨app, pair, user, (mmOrders p user (s.now + lifespan) buys sells).map (·.id)⟩, ?_, List.mem_map.mpr ⟨o, ho, rfl⟩⟩
    rw [a.trans hpa, b.trans hpi, f, findBy_append, findBy_filter_not]
    simp [findBy, isMM]

theorem idx_createPair {cfg : Cfg} {s s' : State} {app creator : Nat} {base quote : Denom} {ext : Bool} (hi : IdxInv s)
    (h : createPair cfg s app creator base quote ext = some s') : IdxInv s' := by
  obtain ⟨ac, s1, -, rfl⟩ := createPair_eff h
  refine ⟨hi.uniq, ?_, hi.complete⟩
  intro o ho
  obtain ⟨pp, hpp, hle⟩ := hi.bound o ho
  exact ⟨pp, by rw [findBy_append, hpp], hle⟩

theorem idx_prePass {cfg : Cfg} {s s' : State} {k : OKey} (hi : IdxInv s) (h : prePass cfg s k = some s') : IdxInv s' := by
  obtain ⟨o, ho, ⟨hst, rfl⟩ | ⟨-, rfl⟩ | ⟨-, hf⟩⟩ := prePass_eff h
  · show IdxOk (modBy _ _ s.orders) s.pairs s.mm
    apply hi.modO
    · intro x; exact ⟨rfl, rfl, rfl, rfl, rfl⟩
    · intro x hx _
      have : s.order? k = some x := hx
      rw [ho] at this; cases this
      rw [hst]; rfl
  · exact hi
  · exact finishOrder_idx rfl hi hf

theorem idx_fillOrder {cfg : Cfg} {p : Pair} {s s' : State} {f : Fill} (hi : IdxInv s) (h : fillOrder cfg p s f = some s') :
    IdxInv s' := by
  obtain ⟨o, s1, ho, hlive, -, -, rfl, hfin⟩ := fillOrder_eff h
  have hmid : IdxInv ((s.modO (p.app, p.id, f.id) (·.filled f)).credit (.mIn p.app p.id) (sideIn p f.buy) f.paid) := by
    show IdxOk (modBy _ _ s.orders) s.pairs s.mm
    refine hi.modO _ _ (fun x => ⟨rfl, rfl, rfl, rfl, rfl⟩) fun x hx _ => ?_
    have : s.order? (p.app, p.id, f.id) = some x := hx
    rw [ho] at this; cases this
    exact hlive
  rcases hfin with rfl | hf
  · exact hmid
  · exact finishOrder_idx rfl hmid hf

/-- begin-block pruning removes only orders that are not live; the MM indexes keep the ids of deleted orders (the code skips
them: "the order has already been deleted from store") -/
theorem idx_beginBlock {s : State} (hi : IdxInv s) (app : Nat) : IdxInv (beginBlock s app) := by
  show IdxOk (s.orders.filter _) s.pairs s.mm
  exact hi.filter _

theorem idx_migrate {cfg : Cfg} {s s' : State} (hi : IdxInv s) (h : migrate cfg s = some s') : IdxInv s' := by
  obtain ⟨hty, rfl⟩ := migrate_eff h
  show IdxOk (s.orders.map _) s.pairs s.mm
  refine ⟨?_, ?_, ?_⟩
  · rw [List.map_map]
    have : (Order.key ∘ fun o : Order => if (cfg.app? o.app).isSome then { o with typ := .limit } else o) = Order.key := by
      funext o; simp only [Function.comp]; split <;> rfl
    rw [this]; exact hi.uniq
  · intro o ho
    obtain ⟨o0, ho0, rfl⟩ := List.mem_map.mp ho
    have := hi.bound o0 ho0
    split
    · exact this
    · exact this
  · intro o ho ht
    obtain ⟨o0, ho0, rfl⟩ := List.mem_map.mp ho
    exfalso
    split at ht
    · cases ht
    · exact hty o0 ho0 ht

theorem Atom.idx {cfg : Cfg} (hsw : cfg.swapLookup = false) {k : Kind} {s s' : State} (h : Atom cfg k s s') (hi : IdxInv s) :
    IdxInv s' := by
  cases k with
  | pool | exec | create => exact hi.of_same (h.poolStep trivial).ord
  | prune => cases h; exact idx_beginBlock hi _
  | migrate => cases h with | migrate h => exact idx_migrate hi h
  | batch =>
    cases h with
    | poolPayIn h => exact hi.of_same (poolPayIn_bankOnly h).ordSame
    | fill h => exact idx_fillOrder hi h
    | payOut _ h => exact (hi.of_same (.of_send h)).of_same ⟨rfl, rfl, rfl⟩
  | order =>
    cases h with
    | block => exact hi.of_same ⟨rfl, rfl, rfl⟩
    | createPair h => exact idx_createPair hi h
    | place h => exact idx_placeOrder hi h
    | mmOrder h => exact idx_mmOrder hsw hi h
    | cancelMM h => exact (idx_cancelMMCore hsw hi h).1
    | finish hst h => exact finishOrder_idx hst hi h
    | prePass h => exact idx_prePass hi h
    | nextBatch => exact IdxOk.modPair hi _ _ _ (fun _ => ⟨rfl, rfl⟩) (fun _ _ => Nat.le_refl _)

theorem runT_idx {cfg : Cfg} (hsw : cfg.swapLookup = false) (ops : List Op) (s : State) (hi : IdxInv s) : IdxInv (runT cfg s ops) :=
  runT_keeps (fun a => a.idx hsw) hi

theorem genesis_idx (funds : List (Nat × Nat × Nat)) : IdxInv (genesis funds) := by
  refine ⟨?_, ?_, ?_⟩
  · show (List.map Order.key []).Nodup
    exact List.nodup_nil
  · intro o ho; cases ho
  · intro o ho; cases ho

theorem keys_finishOrder {cfg : Cfg} {s s' : State} {k : OKey} {st : OStatus} (h : finishOrder cfg s k st = some s') :
    s'.orders.map Order.key = s.orders.map Order.key := by
  obtain ⟨o, -, hc⟩ := finishOrder_orders h
  rcases hc with ⟨-, he⟩ | ⟨-, r, f, he⟩
  · subst he; rfl
  · rw [he]; exact map_key_modBy k (fun o' => { o' with status := st, refunded := r, feeFwd := f }) (fun x => rfl) _

theorem Ended.keys {cfg : Cfg} {s s' : State} (h : Ended cfg s s') : s'.orders.map Order.key = s.orders.map Order.key :=
  h.rel (R := fun s s' => s'.orders.map Order.key = s.orders.map Order.key) (fun _ => rfl) (fun h1 h2 => h2.trans h1)
    fun _ hf => keys_finishOrder hf

theorem keys_cancelMMCore {cfg : Cfg} {s s' : State} {app user : Nat} {p : Pair} {skip : Bool}
    (h : cancelMMCore cfg s app user p skip = some s') : s'.orders.map Order.key = s.orders.map Order.key := by
  obtain ⟨s1, he, hs⟩ := cancelMMCore_ended h
  rw [hs]; exact he.keys

theorem mmOrder_split {cfg : Cfg} {s s' : State} {app user pair : Nat} {buys sells : List Tick} {lifespan : Int} {ext : Bool}
    (h : mmOrder cfg s app user pair buys sells lifespan ext = some s') :
    ∃ (p : Pair) (s1 : State) (new : List Order), s.pair? app pair = some p ∧ cancelMMCore cfg s app user p true = some s1 ∧
      s'.orders = s1.orders ++ new ∧ (∀ o ∈ new, o.status = .notExecuted ∧ o.typ = .mm ∧ o.owner = user ∧ o.app = app ∧ o.pair = pair) := by
  obtain ⟨p, s1, s2, s3, hp, hc1, -, -, rfl⟩ := mmOrder_eff h
  obtain ⟨-, hpa, hpi⟩ := pair?_some hp
  refine ⟨p, s1, mmOrders p user (s.now + lifespan) buys sells, hp, hc1, rfl, fun o ho => ?_⟩
  obtain ⟨a, b, -, -, e, f, g⟩ := (mmOrders_spec p user (s.now + lifespan) buys sells).1 o ho
  exact ⟨g, e, f, a.trans hpa, b.trans hpi⟩

end Comdex.LiqLedger
