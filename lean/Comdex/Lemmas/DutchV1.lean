import Comdex.Model.DutchV1
import Comdex.Lemmas.Inversion
import Comdex.Lemmas.Fold
import Comdex.Lemmas.DutchBank
import Comdex.Lemmas.DutchConv
/-!
The first-generation Dutch auction model: each handler inverted once, the ledger / custody invariant kept by every operation.
-/
namespace Comdex.DutchV1
open Comdex.Dec
open Comdex.DutchV2 (Acct Denom Bank send sendPos burn conv usdValue burnPos_ok posPart_eq xfer xfer_zero send_xfer sendPos_of_nonneg
  conv_ok convVal conv_bound conv_bound_back)

structure PlanOK (e : Env) (a : Auc) (p : Plan) : Prop where
  in_nonneg : 0 ≤ p.inAmt
  in_le_tab : p.inAmt ≤ e.target - a.inCur
  slice_nonneg : 0 ≤ p.slice
  slice_le : p.slice ≤ a.outCur

/-- `PlaceDutchAuctionBid` (dutch.go) and `PlaceLendDutchAuctionBid` (dutch_lend.go) are one function up to the decimals of the
first dust value (`usdDec`) and what follows the dust rules (`fin`): `plan_eq`, `DutchV1Lend.plan_eq` -/
def planG {α : Type} (target decC decD usdDec dust : Int) (a : Auc) (slice0 : Int) (fin : Bool → Int → Int → Except Unit α) :
    Except Unit α :=
  if slice0 = 0 then .error () else
  if slice0 > a.outCur then .error () else
  match conv slice0 a.price decC a.inPrice decD with
  | .error _ => .error ()
  | .ok (owe0, in0) =>
  if in0 ≤ 0 then .error () else
  let tab := target - a.inCur
  match (if in0 > tab then (match conv tab a.inPrice decD a.price decC with
                             | .ok (o, sl) => Except.ok (true, tab, o, sl)
                             | .error _ => .error ())
         else .ok (false, in0, owe0, slice0)) with
  | .error _ => .error ()
  | .ok (flag, inAmt, owe, slice) =>
  if inAmt < 0 then .error () else
  match usdValue a.outCur a.price usdDec, usdValue tab a.inPrice decD with
  | .ok outLeft, .ok outLeftDebt =>
    let left := Dec.sub outLeft owe
    let leftDebt := Dec.sub outLeftDebt owe
    if left < Dec.ofInt dust ∧ left ≠ 0 ∧ flag = false then .error ()
    else if leftDebt < Dec.ofInt dust ∧ leftDebt ≠ 0 ∧ left ≠ 0 then .error ()
    else if slice < 0 then .error ()
    else fin flag inAmt slice
  | _, _ => .error ()

theorem plan_eq (e : Env) (a : Auc) (sl : Int) :
    plan e a sl = planG e.target e.decC e.decD e.decC e.dust a sl fun flag inAmt slice =>
      if a.outCur - slice < 0 then .error () else .ok { flag := flag, inAmt := inAmt, slice := slice } := rfl

/-- what is exchanged: the slice asked for at the posted price if that fits the remaining target, else the remaining target and
the collateral it buys.  `@Ne Int`: `omega` does not use a fact elaborated at `Dec` (header of `Lemmas/DecCore.lean`). -/
theorem planG_cases {α : Type} {target decC decD usdDec dust : Int} {a : Auc} {slice0 : Int} {fin : Bool → Int → Int → Except Unit α}
    {p : α} (h : planG target decC decD usdDec dust a slice0 fin = .ok p) :
    @Ne Int a.inPrice 0 ∧ ∃ flag inAmt slice, fin flag inAmt slice = .ok p ∧ 0 ≤ inAmt ∧ inAmt ≤ target - a.inCur ∧ 0 ≤ slice ∧
    ((convVal slice0 a.price decC a.inPrice decD ≤ target - a.inCur ∧
        flag = false ∧ inAmt = convVal slice0 a.price decC a.inPrice decD ∧ slice = slice0) ∨
     (target - a.inCur < convVal slice0 a.price decC a.inPrice decD ∧ @Ne Int a.price 0 ∧
        flag = true ∧ inAmt = target - a.inCur ∧ slice = convVal (target - a.inCur) a.inPrice decD a.price decC)) := by
  unfold planG at h
  obtain ⟨h0, h⟩ := guard_ok h
  obtain ⟨h1, h⟩ := guard_ok h
  match_ok hc0 : conv slice0 a.price decC a.inPrice decD with ⟨owe0, in0⟩ at h
  obtain ⟨rfl, hdC, hip⟩ := conv_ok hc0
  obtain ⟨h2, h⟩ := guard_ok h
  match_ok hsel : (if convVal slice0 a.price decC a.inPrice decD > target - a.inCur then _ else _) with ⟨flag, inAmt, owe, slice⟩ at h
  obtain ⟨t1, h⟩ := guard_ok h
  generalize usdValue a.outCur a.price usdDec = u1 at h
  generalize usdValue (target - a.inCur) a.inPrice decD = u2 at h
  obtain _ | outLeft := u1
  · cases h
  obtain _ | outLeftDebt := u2
  · cases h
  simp only [] at h
  obtain ⟨-, h⟩ := guard_ok h
  obtain ⟨-, h⟩ := guard_ok h
  obtain ⟨t2, hfin⟩ := guard_ok h
  have t1 := Int.not_lt.mp t1; have t2 := Int.not_lt.mp t2
  by_cases hgt : convVal slice0 a.price decC a.inPrice decD > target - a.inCur
  · rw [if_pos hgt] at hsel
    match_ok hc1 : conv (target - a.inCur) a.inPrice decD a.price decC with ⟨o, sl⟩ at hsel
    cases hsel
    obtain ⟨rfl, -, hpr⟩ := conv_ok hc1
    exact ⟨hip, _, _, _, hfin, t1, Int.le_refl _, t2, Or.inr ⟨hgt, hpr, rfl, rfl, rfl⟩⟩
  · rw [if_neg hgt] at hsel
    cases hsel
    exact ⟨hip, _, _, _, hfin, t1, Int.not_lt.mp hgt, t2, Or.inl ⟨Int.not_lt.mp hgt, rfl, rfl, rfl⟩⟩

theorem plan_ok {e : Env} {a : Auc} {slice0 : Int} {p : Plan} (h : plan e a slice0 = .ok p) : PlanOK e a p := by
  rw [plan_eq] at h
  obtain ⟨-, flag, inAmt, slice, hfin, t1, t1', t2, -⟩ := planG_cases h
  obtain ⟨t3, hfin⟩ := guard_ok hfin                                -- `Coin.Sub` (dutch.go:285)
  cases hfin
  exact ⟨t1, t1', t2, Int.sub_nonneg.mp (Int.not_lt.mp t3)⟩

/-- `C10.v1_bid_at_posted_price`, cross-multiplied: the bidder names the collateral, the debt is computed from it and truncated
(`dutch.go:192`); when the target is reached the collateral is recomputed from the remaining target (`:205`) -/
theorem plan_posted {e : Env} {a : Auc} {slice0 : Int} {p : Plan} (h : plan e a slice0 = .ok p)
    (hdC : 0 < e.decC) (hdD : 0 < e.decD) (hpr : (0 : Int) ≤ a.price) (hip : (0 : Int) ≤ a.inPrice)
    (hs : e.decC * (a.price + P) ≤ a.price * P)
    (hsb : e.decD * (a.inPrice + P) * (P + 2) ≤ a.inPrice * (P * P)) :
    (p.slice - 1) * (e.decD * a.price) ≤ (p.inAmt + 2) * a.inPrice * e.decC := by
  rw [plan_eq] at h
  obtain ⟨hip0, flag, inAmt, slice, hfin, hin, -, -, hcase⟩ := planG_cases h
  obtain ⟨-, hfin⟩ := guard_ok hfin
  cases hfin
  have hippos : (0 : Int) < a.inPrice := lt_of_le_of_ne hip (Ne.symm hip0)
  rcases hcase with ⟨-, -, rfl, rfl⟩ | ⟨-, hpr0, -, rfl, rfl⟩
  · -- the debt charged is the slice converted: it is worth the slice minus two debt units
    have := conv_bound_back slice a.price e.decC a.inPrice e.decD hdC hippos (by omega) hsb
    have h2 : 0 ≤ e.decD * a.price := Int.mul_nonneg (by omega) hpr
    show (slice - 1) * (e.decD * a.price) ≤ (convVal slice a.price e.decC a.inPrice e.decD + 2) * a.inPrice * e.decC
    linarith
  · have := conv_bound (e.target - a.inCur) a.inPrice e.decD a.price e.decC hin hip hdD (by omega) (by omega) hs
    have h2 : 0 ≤ 2 * a.inPrice * e.decC := Int.mul_nonneg (by omega) (by omega)
    show (convVal (e.target - a.inCur) a.inPrice e.decD a.price e.decC - 1) * (e.decD * a.price) ≤ (e.target - a.inCur + 2) * a.inPrice * e.decC
    linarith

structure Inv (e : Env) (s : St) : Prop where
  paid_nonneg : 0 ≤ s.paid
  recv_nonneg : 0 ≤ s.recv
  open_ : ∀ a, s.auc = some a →
      s.paid = a.inCur ∧ a.inCur ≤ e.target ∧ s.recv + a.outCur = e.coll0 ∧ 0 ≤ a.outCur ∧
      s.bank.get .auction .coll = s.otherC + a.outCur ∧ s.bank.get .auction .debt = s.otherD + a.inCur
  closed : s.auc = none →
      s.paid ≤ e.target ∧ s.recv ≤ e.coll0 ∧
      s.bank.get .auction .coll = s.otherC ∧ s.bank.get .auction .debt = s.otherD

structure Inv.Open (e : Env) (s : St) (a : Auc) : Prop where
  paid : s.paid = a.inCur
  in_le : a.inCur ≤ e.target
  recv : s.recv + a.outCur = e.coll0
  out_nonneg : 0 ≤ a.outCur
  custody_coll : s.bank.get .auction .coll = s.otherC + a.outCur
  custody_debt : s.bank.get .auction .debt = s.otherD + a.inCur

theorem Inv.opened {e : Env} {s : St} {a : Auc} (hi : Inv e s) (ha : s.auc = some a) : Inv.Open e s a :=
  have ⟨h1, h2, h3, h4, h5, h6⟩ := hi.open_ a ha
  ⟨h1, h2, h3, h4, h5, h6⟩

theorem Inv.paid_le {e : Env} {s : St} (hi : Inv e s) : s.paid ≤ e.target := by
  cases h : s.auc with
  | none => exact (hi.closed h).1
  | some a => have o := hi.opened h; have := o.paid; have := o.in_le; omega

theorem Inv.recv_le {e : Env} {s : St} (hi : Inv e s) : s.recv ≤ e.coll0 := by
  cases h : s.auc with
  | none => exact (hi.closed h).2.1
  | some a => have o := hi.opened h; have := o.recv; have := o.out_nonneg; omega

theorem Inv.of_open {e : Env} {s : St} {a : Auc} (ha : s.auc = some a) (h1 : 0 ≤ s.paid) (h2 : 0 ≤ s.recv) (o : Inv.Open e s a) :
    Inv e s :=
  ⟨h1, h2, fun a' ha' => by
    cases ha.symm.trans ha'
    exact ⟨o.paid, o.in_le, o.recv, o.out_nonneg, o.custody_coll, o.custody_debt⟩,
   fun hn => by rw [ha] at hn; cases hn⟩

/-- the state `StartDutchAuction` leaves: nothing collected, the whole seized collateral for sale -/
theorem init_inv {e : Env} {a : Auc} (b : Bank) (nf : Option Int) (hout : a.outCur = e.coll0) (hin : a.inCur = 0)
    (ht : 0 ≤ e.target) (hc : 0 ≤ e.coll0) : Inv e (initSt e a b nf) := by
  refine Inv.of_open rfl (Int.le_refl 0) (Int.le_refl 0)
    { paid := hin.symm, in_le := hin ▸ ht, recv := ?_, out_nonneg := hout ▸ hc, custody_coll := ?_, custody_debt := ?_ }
  · show 0 + a.outCur = e.coll0; rw [hout, Int.zero_add]
  · show b.get .auction .coll = b.get .auction .coll - e.coll0 + a.outCur; rw [hout, Int.sub_add_cancel]
  · show b.get .auction .debt = b.get .auction .debt + a.inCur; rw [hin, Int.add_zero]

/-- the collector's net-fee record gets some new value `nf`; nothing below depends on which -/
theorem close_ok {e : Env} {s s' : St} (hpr : 0 ≤ e.principal) (h : close e s = .ok s') :
    0 ≤ e.target - e.principal ∧ ∃ (b : Bank) (nf : Int),
      (∀ x d, b.get x d = s.bank.get x d - (if x = Acct.auction ∧ d = Denom.debt then e.principal else 0)
        + xfer .auction .collector .debt (e.target - e.principal) x d) ∧
      s' = { s with bank := b, burned := s.burned + e.principal, netFees := some nf, auc := none } := by
  unfold close at h
  match_ok hb1 : (if e.principal > 0 then burn s.bank .auction .debt e.principal else .ok s.bank) with b1 at h
  match_ok hb2 : sendPos b1 .auction .collector .debt (e.target - e.principal) with b2 at h
  obtain ⟨hfee, h⟩ := guard_ok h
  cases h
  have d1 := burnPos_ok hb1 hpr
  have d2 := sendPos_of_nonneg hb2 (by omega)
  rw [show (if e.principal > 0 then e.principal else 0) = e.principal from posPart_eq hpr]
  exact ⟨by omega, b2, _, fun x d => by rw [d2, d1], rfl⟩

theorem fromCollector_ok {s s' : St} {amt : Int} (h : fromCollector s amt = .ok s') :
    0 ≤ amt ∧ ∃ (b : Bank) (nf : Int), (∀ x d, b.get x d = s.bank.get x d + xfer .collector .auction .debt amt x d) ∧
      s' = { s with bank := b, netFees := some nf } := by
  unfold fromCollector at h
  match_ok hnf : s.netFees with q at h
  obtain ⟨hneg, h⟩ := guard_ok h
  obtain ⟨-, h⟩ := guard_ok h
  match_ok hb : send s.bank .collector .auction .debt amt with b at h
  cases h
  exact ⟨by omega, b, _, (send_xfer hb).2, rfl⟩

/-- `rest`: the unsold collateral of a bid that reaches the target, to the owner; `top`: what the collector adds when the
collateral is sold out below it -/
theorem apply_ok {e : Env} {s s' : St} {a : Auc} {who : Nat} {p : Plan}
    (hpr : 0 ≤ e.principal) (hp : PlanOK e a p) (h : apply e s a who p = .ok s') :
    ∃ (b : Bank) (rest top burnt fee : Int),
      (∀ x d, b.get x d = s.bank.get x d + xfer (.bidder who) .auction .debt p.inAmt x d
          + xfer .auction (.bidder who) .coll p.slice x d + xfer .auction .owner .coll rest x d
          + xfer .collector .auction .debt top x d - (if x = Acct.auction ∧ d = Denom.debt then burnt else 0)
          + xfer .auction .collector .debt fee x d) ∧
      ((burnt = e.principal ∧ fee = e.target - e.principal ∧ 0 ≤ fee ∧
          (e.target ≤ a.inCur + p.inAmt ∧ rest = a.outCur - p.slice ∧ top = 0 ∨
           a.inCur + p.inAmt < e.target ∧ a.outCur - p.slice = 0 ∧ rest = 0 ∧ top = e.target - (a.inCur + p.inAmt)) ∧
          ∃ nf, s' = { s with bank := b, paid := s.paid + p.inAmt, recv := s.recv + p.slice,
                              burned := s.burned + e.principal, netFees := some nf, auc := none }) ∨
       (a.inCur + p.inAmt < e.target ∧ a.outCur - p.slice ≠ 0 ∧ rest = 0 ∧ top = 0 ∧ burnt = 0 ∧ fee = 0 ∧
          s' = { s with bank := b, paid := s.paid + p.inAmt, recv := s.recv + p.slice,
                        auc := some { a with outCur := a.outCur - p.slice, inCur := a.inCur + p.inAmt } })) := by
  unfold apply at h
  match_ok hb1 : sendPos s.bank (.bidder who) .auction .debt p.inAmt with b1 at h
  match_ok hb2 : sendPos b1 .auction (.bidder who) .coll p.slice with b2 at h
  have d1 := sendPos_of_nonneg hb1 hp.in_nonneg
  have d2 := sendPos_of_nonneg hb2 hp.slice_nonneg
  have hsl := hp.slice_le
  by_cases hreach : a.inCur + p.inAmt ≥ e.target
  · rw [if_pos hreach] at h
    match_ok hb3 : sendPos b2 .auction .owner .coll (a.outCur - p.slice) with b3 at h
    have d3 := sendPos_of_nonneg hb3 (by omega)
    obtain ⟨hfee, b, nf, hb, rfl⟩ := close_ok hpr h
    exact ⟨b, _, 0, _, _, fun x d => by rw [hb]; show b3.get x d - _ + _ = _; rw [d3, d2, d1, xfer_zero, Int.add_zero],
      Or.inl ⟨rfl, rfl, hfee, Or.inl ⟨hreach, rfl, rfl⟩, nf, rfl⟩⟩
  · rw [if_neg hreach] at h
    by_cases hzero : a.outCur - p.slice = 0
    · rw [if_pos hzero] at h
      match_ok hs2 : fromCollector _ (e.target - (a.inCur + p.inAmt)) with s2 at h
      obtain ⟨-, b3, nf3, d3, rfl⟩ := fromCollector_ok hs2
      obtain ⟨hfee, b, nf, hb, rfl⟩ := close_ok hpr h
      exact ⟨b, 0, _, _, _, fun x d => by rw [hb]; show b3.get x d - _ + _ = _; rw [d3]; show b2.get x d + _ - _ + _ = _; rw [d2, d1, xfer_zero, Int.add_zero],
        Or.inl ⟨rfl, rfl, hfee, Or.inr ⟨by omega, hzero, rfl, rfl⟩, nf, rfl⟩⟩
    · rw [if_neg hzero] at h
      cases h
      exact ⟨b2, 0, 0, 0, 0, fun x d => by rw [d2, d1]; simp [xfer_zero],
        Or.inr ⟨by omega, hzero, rfl, rfl, rfl, rfl, rfl⟩⟩

/-- what an accepted bid moves for the bidders; when it closes the auction, everything the bidders paid over the auction's life has
been burned or sent to the collector (net of what the collector added) and the unsold collateral went to the owner -/
structure Moves (e : Env) (s s' : St) (who : Nat) (p : Plan) : Prop where
  paid : s'.paid = s.paid + p.inAmt
  recv : s'.recv = s.recv + p.slice
  bidder_debt : s'.bank.get (.bidder who) .debt = s.bank.get (.bidder who) .debt - p.inAmt
  bidder_coll : s'.bank.get (.bidder who) .coll = s.bank.get (.bidder who) .coll + p.slice
  others : ∀ n, n ≠ who → s'.bank.get (.bidder n) .coll = s.bank.get (.bidder n) .coll ∧
                          s'.bank.get (.bidder n) .debt = s.bank.get (.bidder n) .debt
  closed : s'.auc = none →
      (s'.burned - s.burned) + (s'.bank.get .collector .debt - s.bank.get .collector .debt) = s'.paid ∧
      s'.bank.get .owner .coll - s.bank.get .owner .coll = e.coll0 - s'.recv

theorem apply_moves {e : Env} {s s' : St} {a : Auc} {who : Nat} {p : Plan}
    (hpr : 0 ≤ e.principal) (hi : Inv e s) (ha : s.auc = some a) (hp : PlanOK e a p) (h : apply e s a who p = .ok s') :
    Moves e s s' who p := by
  have o1 := (hi.opened ha).paid; have o3 := (hi.opened ha).recv
  obtain ⟨b, rest, top, burnt, fee, hb, hcase⟩ := apply_ok hpr hp h
  have h6 := hp.in_le_tab
  have m3 : b.get (.bidder who) .debt = s.bank.get (.bidder who) .debt - p.inAmt := by simp [hb, xfer]; omega
  have m4 : b.get (.bidder who) .coll = s.bank.get (.bidder who) .coll + p.slice := by simp [hb, xfer]
  have m5 : ∀ n, n ≠ who → b.get (.bidder n) .coll = s.bank.get (.bidder n) .coll ∧
      b.get (.bidder n) .debt = s.bank.get (.bidder n) .debt := fun n hn => by simp [hb, xfer, hn]
  have k3 : b.get .owner .coll = s.bank.get .owner .coll + rest := by simp [hb, xfer]
  have k4 : b.get .collector .debt = s.bank.get .collector .debt - top + fee := by simp [hb, xfer]; omega
  clear hb hi h hp
  rcases hcase with ⟨rfl, rfl, -, hclose, nf, rfl⟩ | ⟨-, -, -, -, -, -, rfl⟩
  · refine ⟨rfl, rfl, m3, m4, m5, fun _ => ⟨?_, ?_⟩⟩
    · show s.burned + e.principal - s.burned + (b.get .collector .debt - _) = s.paid + p.inAmt
      clear * - k4 o1 hclose h6; omega
    · show b.get .owner .coll - _ = e.coll0 - (s.recv + p.slice)
      clear * - k3 o3 hclose; omega
  · exact ⟨rfl, rfl, m3, m4, m5, fun hn => (by cases hn)⟩

theorem apply_inv {e : Env} {s s' : St} {a : Auc} {who : Nat} {p : Plan}
    (hpr : 0 ≤ e.principal) (hi : Inv e s) (ha : s.auc = some a) (hp : PlanOK e a p) (h : apply e s a who p = .ok s') :
    Inv e s' := by
  have o := hi.opened ha
  have hpaid := o.paid; have hrecv := o.recv; have hout := o.out_nonneg; have hcc := o.custody_coll; have hcd := o.custody_debt
  obtain ⟨b, rest, top, burnt, fee, hb, hcase⟩ := apply_ok hpr hp h
  have k1 : b.get .auction .debt = s.bank.get .auction .debt + p.inAmt + top - burnt - fee := by simp [hb, xfer]; omega
  have k2 : b.get .auction .coll = s.bank.get .auction .coll - p.slice - rest := by simp [hb, xfer]; omega
  have h1 := hi.paid_nonneg; have h2 := hi.recv_nonneg
  have h5 := hp.in_nonneg; have h6 := hp.in_le_tab; have h7 := hp.slice_nonneg; have h8 := hp.slice_le
  clear hb hi h hp
  rcases hcase with ⟨rfl, rfl, hfee, hclose, nf, rfl⟩ | ⟨hlt, hnz, rfl, rfl, rfl, rfl, rfl⟩
  · refine ⟨Int.add_nonneg h1 h5, Int.add_nonneg h2 h7, fun a' ha' => (by cases ha'), fun _ => ⟨?_, ?_, ?_, ?_⟩⟩
    · show s.paid + p.inAmt ≤ e.target; clear * - hpaid h6; omega
    · show s.recv + p.slice ≤ e.coll0; clear * - hrecv hout h8; omega
    · show b.get .auction .coll = s.otherC; clear * - k2 hcc hclose; omega
    · show b.get .auction .debt = s.otherD; clear * - k1 hcd hclose h6; omega
  · refine Inv.of_open rfl (Int.add_nonneg h1 h5) (Int.add_nonneg h2 h7)
      { paid := congrArg (· + p.inAmt) hpaid, in_le := Int.le_of_lt hlt, recv := ?_, out_nonneg := Int.sub_nonneg.mpr h8,
        custody_coll := ?_, custody_debt := ?_ }
    · show s.recv + p.slice + (a.outCur - p.slice) = e.coll0; clear * - hrecv; omega
    · show b.get .auction .coll = s.otherC + (a.outCur - p.slice); clear * - k2 hcc; omega
    · show b.get .auction .debt = s.otherD + (a.inCur + p.inAmt); clear * - k1 hcd; omega

theorem bidE_ok {e : Env} {s s' : St} {who : Nat} {sl : Int} (h : bidE e s who sl = .ok s') :
    ∃ a p, s.auc = some a ∧ plan e a sl = .ok p ∧ apply e s a who p = .ok s' := by
  unfold bidE at h
  match_ok ha : s.auc with a at h
  match_ok hp : plan e a sl with p at h
  exact ⟨a, p, rfl, hp, h⟩

theorem bidE_inv {e : Env} {s s' : St} {who : Nat} {sl : Int} (hpr : 0 ≤ e.principal) (hi : Inv e s) (h : bidE e s who sl = .ok s') : Inv e s' := by
  obtain ⟨a, p, ha, hp, h⟩ := bidE_ok h
  exact apply_inv hpr hi ha (plan_ok hp) h

theorem iterate_fields {e : Env} {a a' : Auc} {now twaC twaD : Int} {actC actD : Bool}
    (h : iterate e a now twaC actC twaD actD = .ok a') : a'.outCur = a.outCur ∧ a'.inCur = a.inCur := by
  unfold iterate at h
  obtain ⟨-, h⟩ := throwIf_ok h
  obtain ⟨p, -, h⟩ := bind_ok h
  by_cases hn : now > a.end_
  · rw [if_pos hn] at h
    obtain ⟨-, h⟩ := throwIf_ok h
    obtain ⟨i', -, h⟩ := bind_ok h
    obtain ⟨e', -, h⟩ := bind_ok h
    cases h; exact ⟨rfl, rfl⟩
  · rw [if_neg hn] at h
    cases h; exact ⟨rfl, rfl⟩

theorem priceUpdate_fields {e : Env} {a a' : Auc} {now twaD : Int} {actD : Bool}
    (h : priceUpdate e a now twaD actD = .ok a') : a'.outCur = a.outCur ∧ a'.inCur = a.inCur := by
  unfold priceUpdate at h
  obtain ⟨-, h⟩ := throwIf_ok h
  obtain ⟨p, -, h⟩ := bind_ok h
  cases h; exact ⟨rfl, rfl⟩

theorem Inv.reprice {e : Env} {s : St} {a a' : Auc} (hi : Inv e s) (ha : s.auc = some a)
    (h1 : a'.outCur = a.outCur) (h2 : a'.inCur = a.inCur) : Inv e { s with auc := some a' } :=
  ⟨hi.paid_nonneg, hi.recv_nonneg, fun a'' h'' => by cases h''; rw [h1, h2]; exact hi.open_ a ha, fun hn => by cases hn⟩

/-- `dutch.go:515-637` -/
theorem windDown_ok {e : Env} {s s' : St} {a : Auc} {snapshot : Bool} (hpr : 0 ≤ e.principal) (hout : 0 ≤ a.outCur) (hin : 0 ≤ a.inCur)
    (h : windDown e s a snapshot = .ok s') :
    s'.auc = none ∧ s'.paid = s.paid ∧ s'.recv = s.recv ∧ s'.otherC = s.otherC ∧ s'.otherD = s.otherD ∧
    s'.bank.get .auction .coll = s.bank.get .auction .coll - a.outCur ∧
    s'.bank.get .auction .debt = s.bank.get .auction .debt - a.inCur ∧
    (s'.bank.get .vaultMod .coll - s.bank.get .vaultMod .coll) + (s'.bank.get .esm .coll - s.bank.get .esm .coll) = a.outCur ∧
    (s'.burned - s.burned) + (s'.bank.get .collector .debt - s.bank.get .collector .debt) = a.inCur ∧
    (a.inCur < e.principal → s'.bank.get .vaultMod .coll = s.bank.get .vaultMod .coll + a.outCur ∧ s'.burned = s.burned + a.inCur) ∧
    (e.principal ≤ a.inCur → s'.bank.get .esm .coll = s.bank.get .esm .coll + a.outCur ∧ s'.burned = s.burned + e.principal ∧
        s'.bank.get .collector .debt = s.bank.get .collector .debt + (a.inCur - e.principal)) := by
  unfold windDown at h
  have hpp : ∀ {x : Int}, 0 ≤ x → (if x > 0 then x else 0) = x := fun hx => posPart_eq hx
  by_cases hlt : a.inCur < e.principal
  · rw [if_pos hlt] at h
    match_ok hb1 : sendPos s.bank .auction .vaultMod .coll a.outCur with b1 at h
    match_ok hb2 : (if a.inCur > 0 then burn b1 .auction .debt a.inCur else .ok b1) with b2 at h
    cases h
    have d1 := sendPos_of_nonneg hb1 hout
    have d2 := burnPos_ok hb2 hin
    refine ⟨rfl, rfl, rfl, rfl, rfl, ?_, ?_, ?_, ?_, fun _ => ⟨?_, ?_⟩, fun hc => absurd hlt (Int.not_lt.mpr hc)⟩
    · simp [d2, d1, xfer]; omega
    · simp [d2, d1, xfer]
    · simp [d2, d1, xfer]
    · simp [d2, d1, xfer, hpp hin]
    · simp [d2, d1, xfer]
    · simp [hpp hin]
  · rw [if_neg hlt] at h
    match_ok hb1 : (if e.principal > 0 then burn s.bank .auction .debt e.principal else .ok s.bank) with b1 at h
    match_ok hb2 : sendPos b1 .auction .collector .debt (a.inCur - e.principal) with b2 at h
    obtain ⟨-, h⟩ := guard_ok h
    match_ok hb3 : send b2 .auction .esm .coll a.outCur with b3 at h
    cases h
    have d1 := burnPos_ok hb1 hpr
    have d2 := sendPos_of_nonneg hb2 (by omega)
    obtain ⟨-, d3⟩ := send_xfer hb3
    refine ⟨rfl, rfl, rfl, rfl, rfl, ?_, ?_, ?_, ?_, fun hc => absurd hc hlt, fun _ => ⟨?_, ?_, ?_⟩⟩
    · simp [d3, d2, d1, xfer]; omega
    · simp [d3, d2, d1, xfer]
    · simp [d3, d2, d1, xfer]
    · simp [d3, d2, d1, xfer, hpp hpr]
    · simp [d3, d2, d1, xfer]
    · simp [hpp hpr]
    · simp [d3, d2, d1, xfer]

/-- bid: `bidE_inv`; price hooks: `Inv.reprice`; wind-down: closed clause from `windDown_ok` -/
theorem step_inv {e : Env} {s : St} (hpr : 0 ≤ e.principal) (op : Op) (hi : Inv e s) : Inv e (step e s op) := by
  cases op with
  | bid who sl =>
    show Inv e (match bidE e s who sl with | .ok s' => s' | .error _ => s)
    cases hb : bidE e s who sl with
    | error _ => exact hi
    | ok s' => exact bidE_inv hpr hi hb
  | tick now twaC actC twaD actD =>
    show Inv e (match s.auc with | none => s | some a => _)
    cases ha : s.auc with
    | none => exact hi
    | some a =>
      show Inv e (match iterate e a now twaC actC twaD actD with | .ok a' => { s with auc := some a' } | .error _ => s)
      cases hit : iterate e a now twaC actC twaD actD with
      | error _ => exact hi
      | ok a' => exact hi.reprice ha (iterate_fields hit).1 (iterate_fields hit).2
  | tickEsm now twaC actC twaD actD snapshot =>
    show Inv e (match s.auc with | none => s | some a => _)
    cases ha : s.auc with
    | none => exact hi
    | some a =>
      show Inv e (match priceUpdate e a now twaD actD with | .error _ => s | .ok a1 => _)
      cases hpu : priceUpdate e a now twaD actD with
      | error _ => exact hi
      | ok a1 =>
        obtain ⟨i1, i2⟩ := priceUpdate_fields hpu
        have hi1 := hi.reprice ha i1 i2
        show Inv e (if now > a.end_ then (match windDown e { s with auc := some a1 } a1 snapshot with | .ok s' => s' | .error _ => s)
          else { s with auc := some a1 })
        by_cases hn : now > a.end_
        · rw [if_pos hn]
          cases hwd : windDown e { s with auc := some a1 } a1 snapshot with
          | error _ => exact hi
          | ok s' =>
            have o := hi.opened ha
            have hpaid := o.paid; have hin := o.in_le; have hrecv := o.recv; have hout := o.out_nonneg
            have hcc := o.custody_coll; have hcd := o.custody_debt
            have hin0 : 0 ≤ a1.inCur := by rw [i2, ← hpaid]; exact hi.paid_nonneg
            obtain ⟨w1, w2, w3, w4, w5, w6, w7, -⟩ := windDown_ok hpr (by rw [i1]; exact hout) hin0 hwd
            simp only at w2 w3 w4 w5 w6 w7
            have h1 := hi.paid_nonneg; have h2 := hi.recv_nonneg
            refine ⟨w2 ▸ h1, w3 ▸ h2, fun a' ha' => (by rw [w1] at ha'; cases ha'), fun _ => ⟨?_, ?_, ?_, ?_⟩⟩
            · rw [w2]; clear * - hpaid hin; omega
            · rw [w3]; clear * - hrecv hout; omega
            · rw [w6, w4, i1]; clear * - hcc; omega
            · rw [w7, w5, i2]; clear * - hcd; omega
        · rw [if_neg hn]; exact hi1

theorem run_inv {e : Env} (hpr : 0 ≤ e.principal) (ops : List Op) (s : St) (hi : Inv e s) : Inv e (run e s ops) :=
  foldl_induction (f := step e) (Q := fun _ => True) (fun {_ op} hi _ => step_inv hpr op hi) hi fun _ _ => trivial

end Comdex.DutchV1
