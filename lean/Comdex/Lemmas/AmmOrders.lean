import Comdex.Model.AmmOrders
import Comdex.Lemmas.AmmKeeper
/-!
Market orders and MM orders at the keeper level (`Model/AmmOrders.lean`; on `AmmKeeper`).  Placing them (and cancelling an orderer's
previous MM orders) keeps `KInv`, so what `C05.order_within_amount` says of limit orders extends to runs with all three kinds; the
prices the code computes for them are positive ticks of the grid.
-/
namespace Comdex.Amm

/-- `GridTick` with its positivity (`GridTick.pos`) written out: the form `MsgOk` asks for -/
def GridPrice (prec : Nat) (p : Int) : Prop := 0 < p ∧ ∃ k, k ≤ hiIdx prec ∧ p = ((T prec k : Nat) : Int)

theorem placeAt_inv (prec : Nat) (s : KState) (d : Dir) (price amount expireAt : Int) (h : KInv prec s)
    (ha : 0 ≤ amount) (hg : GridPrice prec price) : KInv prec (placeAt s d price amount expireAt).1 :=
  h.snoc (freshOrder_inv prec _ d price amount _ _ hg.2 ha) rfl

theorem cancelMM_inv (prec : Nat) (s s' : KState) (ids : List Nat) (h : KInv prec s) (hc : cancelMM s ids = some s') :
    KInv prec s' ∧ s'.lastPrice = s.lastPrice := by
  unfold cancelMM at hc
  split at hc
  · cases hc
  · cases hc
    refine ⟨h.map_status _ (fun so => ?_), rfl⟩
    split
    · exact ⟨_, rfl⟩
    · exact ⟨so.status, rfl⟩

theorem placeTicks_inv (prec : Nat) (s : KState) (d : Dir) (e : Int) (l : List (Int × Int)) (h : KInv prec s)
    (hl : ∀ pa ∈ l, GridPrice prec pa.1 ∧ 0 ≤ pa.2) :
    KInv prec (placeTicks s d e l).1 ∧ (placeTicks s d e l).1.lastPrice = s.lastPrice := by
  induction l generalizing s with
  | nil => exact ⟨h, rfl⟩
  | cons x xs ih =>
    obtain ⟨p, a⟩ := x
    unfold placeTicks
    simp only
    obtain ⟨hg, ha⟩ := hl (p, a) (by simp)
    have h1 := placeAt_inv prec s d p a e h ha hg
    obtain ⟨i1, i2⟩ := ih (placeAt s d p a e).1 h1 (fun pa hpa => hl pa (by simp [hpa]))
    exact ⟨i1, by rw [i2]; rfl⟩

theorem placeSide_inv (prec : Nat) (s : KState) (d : Dir) (e : Int) (maxNumTicks : Nat) (side : Option (Int × Int × Int))
    (h : KInv prec s)
    (hl : ∀ mn mx amt, side = some (mn, mx, amt) → ∀ pa ∈ mmOrderTicks d mn mx amt maxNumTicks prec, GridPrice prec pa.1 ∧ 0 ≤ pa.2) :
    KInv prec (placeSide s d e maxNumTicks prec side).1 ∧ (placeSide s d e maxNumTicks prec side).1.lastPrice = s.lastPrice := by
  cases side with
  | none => exact ⟨h, rfl⟩
  | some x =>
    obtain ⟨mn, mx, amt⟩ := x
    exact placeTicks_inv prec s d e _ h (hl mn mx amt rfl)

/-- a message the theorems accept: its computed prices are grid prices, amounts `≥ 0` -/
def MsgOk (prec : Nat) (ratio : Int) (maxNumTicks : Nat) (lastPrice : Option Int) : KMsg → Prop
  | .limit d p a _ => PlaceOk prec d p a
  | .market d a _ => 0 ≤ a ∧ ∀ lp, lastPrice = some lp → GridPrice prec (marketPrice prec d lp ratio)
  | .mm _ buy sell _ =>
    (∀ mn mx amt, buy = some (mn, mx, amt) → ∀ pa ∈ mmOrderTicks .buy mn mx amt maxNumTicks prec, GridPrice prec pa.1 ∧ 0 ≤ pa.2) ∧
    (∀ mn mx amt, sell = some (mn, mx, amt) → ∀ pa ∈ mmOrderTicks .sell mn mx amt maxNumTicks prec, GridPrice prec pa.1 ∧ 0 ≤ pa.2)

theorem applyMsg_inv (prec : Nat) (ratio : Int) (maxNumTicks : Nat) (st : MState) (m : KMsg) (h : KInv prec st.k)
    (hok : MsgOk prec ratio maxNumTicks st.k.lastPrice m) :
    KInv prec (applyMsg st prec ratio maxNumTicks m).k ∧ (applyMsg st prec ratio maxNumTicks m).k.lastPrice = st.k.lastPrice := by
  cases m with
  | limit d p a e =>
    exact ⟨placeOrder_inv prec st.k d p a e h hok, rfl⟩
  | market d a e =>
    unfold applyMsg placeMarket
    cases hlp : st.k.lastPrice with
    | none => simp only; exact ⟨h, hlp⟩
    | some lp =>
      simp only
      exact ⟨placeAt_inv prec st.k d _ a e h hok.1 (hok.2 lp hlp), hlp⟩
  | mm owner buy sell e =>
    unfold applyMsg placeMM
    simp only
    cases hc : cancelMM st.k (match st.mmIndex.lookup owner with | some ids => ids | none => []) with
    | none => exact ⟨h, rfl⟩
    | some s0 =>
      simp only
      obtain ⟨h0, l0⟩ := cancelMM_inv prec st.k s0 _ h hc
      obtain ⟨h1, l1⟩ := placeSide_inv prec s0 .buy e maxNumTicks buy h0 hok.1
      obtain ⟨h2, l2⟩ := placeSide_inv prec _ .sell e maxNumTicks sell h1 hok.2
      exact ⟨h2, by rw [l2, l1, l0]⟩

theorem applyMsgs_inv (prec : Nat) (ratio : Int) (maxNumTicks : Nat) (st : MState) (ms : List KMsg) (h : KInv prec st.k)
    (hok : ∀ m ∈ ms, MsgOk prec ratio maxNumTicks st.k.lastPrice m) :
    KInv prec (applyMsgs st prec ratio maxNumTicks ms).k := by
  induction ms generalizing st with
  | nil => exact h
  | cons m ms ih =>
    unfold applyMsgs
    obtain ⟨h1, l1⟩ := applyMsg_inv prec ratio maxNumTicks st m h (hok m (by simp))
    apply ih _ h1
    intro m' hm'
    rw [l1]
    exact hok m' (by simp [hm'])

/-- every message is `MsgOk` in the state it is delivered in (the last price changes between batches) -/
def RunOk (prec : Nat) (ratio : Int) (maxNumTicks : Nat) : MState → List MBatch → Prop
  | _, [] => True
  | st, b :: bs =>
    (∀ m ∈ b.msgs, MsgOk prec ratio maxNumTicks st.k.lastPrice m) ∧
    RunOk prec ratio maxNumTicks
      { applyMsgs st prec ratio maxNumTicks b.msgs with
        k := prune (batchStep (applyMsgs st prec ratio maxNumTicks b.msgs).k prec b.now) } bs

theorem runMBatches_inv (prec : Nat) (hprec : 10 ^ prec < 2 ^ 300 - 1) (ratio : Int) (maxNumTicks : Nat) (st : MState)
    (bs : List MBatch) (h : KInv prec st.k) (hok : RunOk prec ratio maxNumTicks st bs) :
    KInv prec (runMBatches st prec ratio maxNumTicks bs).k := by
  induction bs generalizing st with
  | nil => exact h
  | cons b bs ih =>
    unfold runMBatches
    simp only
    obtain ⟨hb, hrest⟩ := hok
    have h1 := applyMsgs_inv prec ratio maxNumTicks st b.msgs h hb
    exact ih _ (prune_inv prec _ (batchStep_inv prec hprec _ b.now h1)) hrest

theorem fitted_grid (prec : Nat) (d : Dir) (x : Int) (hx1 : ((10 ^ prec : Nat) : Int) ≤ x)
    (hx2 : x ≤ ((T prec (hiIdx prec) : Nat) : Int)) :
    GridPrice prec (match d with | .buy => priceToDownTick x prec | .sell => priceToUpTick x prec) := by
  obtain ⟨n, rfl⟩ := Int.eq_ofNat_of_zero_le (Int.le_trans (Int.natCast_nonneg _) hx1)
  have h := gridTick_fitted prec n (by exact_mod_cast hx1) (by exact_mod_cast hx2)
  cases d
  · exact ⟨h.1.pos, h.1⟩
  · exact ⟨h.2.pos, h.2⟩

theorem mmTickPrices_mem (d : Dir) (minP maxP gap : Int) (prec fuel i : Nat) (prev : Option Int) (p : Int)
    (h : p ∈ mmTickPrices d minP maxP gap prec fuel i prev) :
    ∃ j, i ≤ j ∧ j < i + fuel ∧ p = mmStepPrice d minP maxP gap prec j := by
  induction fuel generalizing i prev with
  | zero => simp [mmTickPrices] at h
  | succ fuel ih =>
    unfold mmTickPrices at h
    simp only at h
    by_cases hprev : prev = some (mmStepPrice d minP maxP gap prec i)
    · rw [if_pos hprev] at h
      obtain ⟨j, h1, h2, h3⟩ := ih (i + 1) prev h
      exact ⟨j, by omega, by omega, h3⟩
    · rw [if_neg hprev] at h
      rcases List.mem_cons.mp h with rfl | h
      · exact ⟨i, by omega, by omega, rfl⟩
      · obtain ⟨j, h1, h2, h3⟩ := ih (i + 1) _ h
        exact ⟨j, by omega, by omega, h3⟩

/-- step `j ≤ n − 2` of the ladder is `a + gap·j` (buy) or `b − gap·j` (sell), `gap = ⌊(b−a)/(n−1)⌋`: `gap·j ≤ b − a` keeps it in
`[a, b]`, and `fitted_grid` fits it -/
theorem mmOrderTicks_ok (prec : Nat) (d : Dir) (a b : Nat) (amt : Int) (n : Nat) (hn : 2 ≤ n) (hab : a ≤ b)
    (hga : GridPrice prec (a : Int)) (hgb : GridPrice prec (b : Int)) (hamt : 0 ≤ amt) :
    ∀ pa ∈ mmOrderTicks d (a : Int) (b : Int) amt n prec, GridPrice prec pa.1 ∧ 0 ≤ pa.2 := by
  intro pa hpa
  unfold mmOrderTicks at hpa
  by_cases he : (a : Int) = (b : Int)
  · rw [if_pos he] at hpa
    simp only [List.mem_singleton] at hpa
    subst hpa
    exact ⟨hga, hamt⟩
  · rw [if_neg he] at hpa
    simp only at hpa
    have hn1 : (0 : Int) < (n : Int) - 1 := by omega
    have hd0 : (0 : Int) ≤ (b : Int) - a := by omega
    obtain ⟨gap, hgap⟩ : ∃ g : Int, Dec.quoInt ((b : Int) - a) ((n : Int) - 1) = g := ⟨_, rfl⟩
    rw [hgap] at hpa
    have hg0 : 0 ≤ gap := by
      rw [← hgap]; unfold Dec.quoInt; exact Int.tdiv_nonneg hd0 (by omega)
    have hgn : gap * ((n : Int) - 1) ≤ (b : Int) - a := by
      rw [← hgap]
      exact Dec.tdiv_mul_le hd0 hn1
    generalize hps : mmTickPrices d (a : Int) (b : Int) gap prec (n - 1) 0 none = ps at hpa
    have hprices : ∀ p ∈ ps, GridPrice prec p := by
      intro p hp
      rw [← hps] at hp
      obtain ⟨j, _, hj2, hj3⟩ := mmTickPrices_mem d _ _ gap prec _ 0 none p hp
      have hj4 : j + 2 ≤ n := by omega
      have hjn : (j : Int) ≤ (n : Int) - 1 := by omega
      have hgj : gap * (j : Int) ≤ (b : Int) - a :=
        Int.le_trans (Int.mul_le_mul_of_nonneg_left hjn hg0) hgn
      have hgj0 : 0 ≤ gap * (j : Int) := Int.mul_nonneg hg0 (by omega)
      have hA : ((10 ^ prec : Nat) : Int) ≤ (a : Int) := by
        obtain ⟨_, k, _, e⟩ := hga; rw [e]; exact_mod_cast pow_le_T prec k
      have hB : (b : Int) ≤ ((T prec (hiIdx prec) : Nat) : Int) := by
        obtain ⟨_, k, hk, e⟩ := hgb; rw [e]; exact_mod_cast T_mono prec hk
      have := fitted_grid prec d (match d with | .buy => (a : Int) + gap * j | .sell => (b : Int) - gap * j)
        (by cases d <;> simp only <;> omega) (by cases d <;> simp only <;> omega)
      rw [hj3]
      unfold mmStepPrice Dec.mulInt
      cases d <;> exact this
    have hlen0 : (0 : Int) < (ps.length : Int) + 1 := by omega
    have hta : 0 ≤ amt.tdiv ((ps.length : Int) + 1) := Int.tdiv_nonneg hamt (by omega)
    have hlast : 0 ≤ amt - amt.tdiv ((ps.length : Int) + 1) * ps.length := by
      have h1 : amt.tdiv ((ps.length : Int) + 1) * ((ps.length : Int) + 1) ≤ amt := Dec.tdiv_mul_le hamt hlen0
      have h2 : amt.tdiv ((ps.length : Int) + 1) * ((ps.length : Int) + 1) =
          amt.tdiv ((ps.length : Int) + 1) * ps.length + amt.tdiv ((ps.length : Int) + 1) := by ring
      omega
    rcases List.mem_append.mp hpa with hm | hm
    · rw [List.mem_map] at hm
      obtain ⟨p, hp, rfl⟩ := hm
      exact ⟨hprices p hp, hta⟩
    · simp only [List.mem_singleton] at hm
      subst hm
      refine ⟨?_, hlast⟩
      cases d <;> simp only <;> assumption

end Comdex.Amm
