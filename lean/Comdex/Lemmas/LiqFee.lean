import Comdex.Lemmas.LiqAtom
/-!
The swap-fee collector of a pair (C07 / C04): in every step of the model the balance of `PairSwapFeeCollectorAddress(app, pair)`
changes by exactly the swap fee attributable to the executed portion of the orders of that pair that ENDED in the step
(`FeeEq`).  Nothing else in the liquidity module's messages and block hooks pays into or out of it.  With the escrow identity (`Inv.pairEsc`) and the per-order
ledger (`Inv.ords`) this closes the batch ledger: what leaves the pair escrow for an ended order is refund + forwarded fee =
remaining + reserve.
-/
namespace Comdex.LiqLedger

def SfSame (s s' : State) : Prop := ∀ a p d, s'.bal (.swapFee a p) d = s.bal (.swapFee a p) d

theorem SfSame.refl (s : State) : SfSame s s := fun _ _ _ => rfl

theorem SfSame.trans {s1 s2 s3 : State} (h1 : SfSame s1 s2) (h2 : SfSame s2 s3) : SfSame s1 s3 :=
  fun a p d => (h2 a p d).trans (h1 a p d)

theorem SfSame.of_bank {s s' : State} (h : s'.bank = s.bank) : SfSame s s' := by
  intro a p d; simp [State.bal, h]

def Acct.isSwapFee : Acct → Bool
  | .swapFee _ _ => true
  | _ => false

theorem sf_send {s s' : State} {f t : Acct} {d : Denom} {n : Nat} (h : s.send f t d n = some s') (hf : f.isSwapFee = false)
    (ht : t.isSwapFee = false) : SfSame s s' :=
  fun _ _ _ => State.send_bal_other h _ (fun e => by rw [← e] at hf; cases hf) (fun e => by rw [← e] at ht; cases ht)

theorem sf_fold {α : Type} {f : State → α → Option State} (hf : ∀ s x s', f s x = some s' → SfSame s s') :
    ∀ (l : List α) (s s' : State), foldOpt f s l = some s' → SfSame s s' :=
  fun _ _ _ h => foldOpt_rel SfSame.refl SfSame.trans hf h

theorem Moves.sfSame {A : Acct → Bool} {s s' : State} (h : Moves A s.bank s'.bank) (hA : ∀ a p, A (.swapFee a p) = false) :
    SfSame s s' := fun a p d => h.get_of_not (hA a p) d

theorem PoolStep.sfSame {s s' : State} (h : PoolStep s s') : SfSame s s' := h.bank.sfSame fun _ _ => rfl

theorem sf_migrate {cfg : Cfg} {s s' : State} (h : migrate cfg s = some s') : SfSame s s' := by
  obtain ⟨-, rfl⟩ := migrate_eff h
  exact SfSame.of_bank rfl

theorem settle_fwd (rate : Nat) (o : Order) : (settle rate o).2 = fwdSpec rate o := by rw [settle_spec]

def fwdTerm (cfg : Cfg) (a p : Nat) (d : Denom) (o : Order) : Nat :=
  if o.app = a ∧ o.pair = p ∧ o.od = d ∧ o.status.live = false then fwdSpec (rateOf cfg o.app) o else 0

/-- swap fee attributable to the executed portions of the ENDED orders of pair `(a, p)` with offer denom `d` that are on record -/
def fwdSum (cfg : Cfg) (a p : Nat) (d : Denom) (l : List Order) : Nat := sumOver (fwdTerm cfg a p d) l

/-- the swap-fee collector's balance moved by exactly the fee of the orders that ended -/
def FeeEq (cfg : Cfg) (a p : Nat) (d : Denom) (s s' : State) : Prop :=
  s'.bal (.swapFee a p) d + fwdSum cfg a p d s.orders = s.bal (.swapFee a p) d + fwdSum cfg a p d s'.orders

theorem FeeEq.refl (cfg : Cfg) (a p : Nat) (d : Denom) (s : State) : FeeEq cfg a p d s s := rfl

theorem FeeEq.trans {cfg : Cfg} {a p : Nat} {d : Denom} {s1 s2 s3 : State} (h1 : FeeEq cfg a p d s1 s2) (h2 : FeeEq cfg a p d s2 s3) :
    FeeEq cfg a p d s1 s3 := by
  unfold FeeEq at *; omega

theorem FeeEq.of_same {cfg : Cfg} {a p : Nat} {d : Denom} {s s' : State} (hb : SfSame s s') (ho : s'.orders = s.orders) :
    FeeEq cfg a p d s s' := by
  unfold FeeEq; rw [hb a p d, ho]

theorem fwdSum_modBy (cfg : Cfg) (a p : Nat) (d : Denom) {pr : Order → Bool} (g : Order → Order) {l : List Order} {o : Order}
    (h : findBy pr l = some o) :
    fwdSum cfg a p d (modBy pr g l) + fwdTerm cfg a p d o = fwdSum cfg a p d l + fwdTerm cfg a p d (g o) :=
  sumOver_modBy _ g h

/-- **`FinishOrder`**: the collector of the order's pair receives exactly the fee on the executed portion, in the offer denom;
no other collector balance moves -/
theorem fe_finishOrder {cfg : Cfg} {a p : Nat} {d : Denom} {s s' : State} {k : OKey} {st : OStatus} (hst : st.live = false)
    (h : finishOrder cfg s k st = some s') : FeeEq cfg a p d s s' := by
  obtain ⟨o, ho, ⟨-, rfl⟩ | ⟨hlive, ac, s1, s2, hac, h1, h2, rfl⟩⟩ := finishOrder_eff h
  · exact FeeEq.refl _ _ _ _ _
  have hs := fwdSum_modBy cfg a p d
    (fun o' => { o' with status := st, refunded := (settle ac.feeRate o).1, feeFwd := (settle ac.feeRate o).2 }) ho
  have hb := State.bal_send_in h2 (.swapFee a p) nofun d
  rw [sf_send h1 rfl rfl a p d, settle_fwd] at hb
  show s2.bal (.swapFee a p) d + _ = _ + fwdSum cfg a p d (modBy _ _ s.orders)
  rw [hb]
  simp only [fwdTerm, fwdSpec, hlive, hst, rateOf_of_app hac, and_true, Bool.true_eq_false, and_false, if_false, Nat.add_zero] at hs
  simp only [fwdSpec, Acct.swapFee.injEq, and_assoc]
  omega

theorem Ended.feeEq {cfg : Cfg} {a p : Nat} {d : Denom} {s s' : State} (h : Ended cfg s s') : FeeEq cfg a p d s s' :=
  h.rel (FeeEq.refl cfg a p d) FeeEq.trans fun hst hf => fe_finishOrder hst hf

theorem fwdSum_modO {cfg : Cfg} {a p : Nat} {d : Denom} {l : List Order} (k : OKey) (g : Order → Order)
    (hz : ∀ x, findBy (isO k) l = some x → fwdTerm cfg a p d (g x) = fwdTerm cfg a p d x) :
    fwdSum cfg a p d (modBy (isO k) g l) = fwdSum cfg a p d l := by
  cases hx : findBy (isO k) l with
  | none => rw [modBy_of_none hx]
  | some x =>
    have := fwdSum_modBy cfg a p d g hx
    rw [hz x hx] at this
    omega

theorem fwdSum_append_live {cfg : Cfg} {a p : Nat} {d : Denom} (l ns : List Order) (hl : ∀ o ∈ ns, o.status.live = true) :
    fwdSum cfg a p d (l ++ ns) = fwdSum cfg a p d l := by
  unfold fwdSum
  rw [sumOver_append]
  have : sumOver (fwdTerm cfg a p d) ns = 0 := by
    induction ns with
    | nil => rfl
    | cons x t ih =>
      have hx : fwdTerm cfg a p d x = 0 := by simp [fwdTerm, hl x (by simp)]
      simp [sumOver, hx, ih (fun o ho => hl o (by simp [ho]))]
  omega

theorem fe_placeOrder {cfg : Cfg} {a p : Nat} {d : Denom} {s s' : State} {app user pair : Nat} {typ : OType} {buy : Bool}
    {msgOffer msgPrice price amount : Nat} {lifespan : Int} {ext : Bool}
    (h : placeOrder cfg s app user pair typ buy msgOffer msgPrice price amount lifespan ext = some s') : FeeEq cfg a p d s s' := by
  obtain ⟨ac, pp, s1, -, -, -, -, h1, rfl⟩ := placeOrder_eff h
  unfold FeeEq
  show s1.bal _ _ + _ = _ + fwdSum cfg a p d (s.orders ++ _)
  rw [sf_send h1 rfl rfl a p d, fwdSum_append_live]
  intro o ho
  simp only [List.mem_singleton] at ho
  subst ho; rfl

theorem fe_cancelMMCore {cfg : Cfg} {a p : Nat} {d : Denom} {s s' : State} {app user : Nat} {pp : Pair} {skip : Bool}
    (h : cancelMMCore cfg s app user pp skip = some s') : FeeEq cfg a p d s s' := by
  obtain ⟨s1, he, hs⟩ := cancelMMCore_ended h
  rw [hs]
  exact he.feeEq.trans (.of_same (.of_bank rfl) rfl)

theorem fe_mmOrder {cfg : Cfg} {a p : Nat} {d : Denom} {s s' : State} {app user pair : Nat} {buys sells : List Tick}
    {lifespan : Int} {ext : Bool} (h : mmOrder cfg s app user pair buys sells lifespan ext = some s') : FeeEq cfg a p d s s' := by
  obtain ⟨pp, s1, s2, s3, -, hc, h2, h3, rfl⟩ := mmOrder_eff h
  refine (fe_cancelMMCore hc).trans ?_
  unfold FeeEq
  show s3.bal _ _ + _ = _ + fwdSum cfg a p d (s1.orders ++ _)
  rw [((sf_send h2 rfl rfl).trans (sf_send h3 rfl rfl)) a p d, fwdSum_append_live]
  intro o ho
  rw [((mmOrders_spec pp user (s.now + lifespan) buys sells).1 o ho).2.2.2.2.2.2]; rfl

theorem fe_prePass {cfg : Cfg} {a p : Nat} {d : Denom} {s s' : State} {k : OKey} (h : prePass cfg s k = some s') :
    FeeEq cfg a p d s s' := by
  obtain ⟨o, ho, ⟨hst, rfl⟩ | ⟨-, rfl⟩ | ⟨-, hf⟩⟩ := prePass_eff h
  · unfold FeeEq
    show s.bal _ _ + _ = _ + fwdSum cfg a p d (modBy _ _ s.orders)
    rw [fwdSum_modO]
    intro x hx
    have : s.order? k = some x := hx
    rw [ho] at this; cases this
    simp [fwdTerm, hst, OStatus.live]
  · exact .refl _ _ _ _ _
  · exact fe_finishOrder rfl hf

theorem fe_fillOrder {cfg : Cfg} {a p : Nat} {d : Denom} {pp : Pair} {s s' : State} {f : Fill} (h : fillOrder cfg pp s f = some s') :
    FeeEq cfg a p d s s' := by
  obtain ⟨o, s1, ho, hlive, -, -, rfl, hfin⟩ := fillOrder_eff h
  have hmid : FeeEq cfg a p d s ((s.modO (pp.app, pp.id, f.id) (·.filled f)).credit (.mIn pp.app pp.id) (sideIn pp f.buy) f.paid) := by
    unfold FeeEq
    rw [Moves.sfSame (A := Acct.ghost) (s := s) (.credit _ _ _ _ rfl rfl) (fun _ _ => rfl) a p d]
    show s.bal _ _ + _ = _ + fwdSum cfg a p d (modBy _ _ s.orders)
    rw [fwdSum_modO]
    intro x hx
    have : s.order? (pp.app, pp.id, f.id) = some x := hx
    rw [ho] at this; cases this
    have z1 : fwdTerm cfg a p d o = 0 := by simp [fwdTerm, hlive]
    rw [z1]
    simp [fwdTerm, Order.filled, OStatus.live]
  rcases hfin with rfl | hf
  · exact hmid
  · exact hmid.trans (fe_finishOrder rfl hf)

theorem fe_migrate {cfg : Cfg} {a p : Nat} {d : Denom} {s s' : State} (h : migrate cfg s = some s') : FeeEq cfg a p d s s' := by
  obtain ⟨hty, rfl⟩ := migrate_eff h
  unfold FeeEq fwdSum
  show s.bal _ _ + _ = _ + sumOver _ (s.orders.map _)
  rw [sumOver_map]
  intro o ho
  have := hty o ho
  split
  · simp [fwdTerm, fwdSpec, this]
  · rfl

theorem Atom.feeEq {cfg : Cfg} (a p : Nat) (d : Denom) {k : Kind} {s s' : State} (h : Atom cfg k s s') (hk : k ≠ .prune) :
    FeeEq cfg a p d s s' := by
  cases k with
  | pool | exec | create => exact .of_same (h.poolStep trivial).sfSame (h.poolStep trivial).ord.orders
  | prune => exact absurd rfl hk
  | migrate => cases h with | migrate h => exact fe_migrate h
  | batch =>
    cases h with
    | poolPayIn h => exact .of_same ((poolPayIn_moves h).sfSame fun _ _ => rfl) (poolPayIn_bankOnly h).orders
    | fill h => exact fe_fillOrder h
    | payOut ht h => exact .of_same ((payOut_moves ht h).sfSame fun _ _ => rfl) (State.send_fields h).orders
  | order =>
    cases h with
    | block | nextBatch => exact .of_same (.of_bank rfl) rfl
    | createPair h =>
      obtain ⟨ac, s1, h1, rfl⟩ := createPair_eff h
      exact .of_same ((sf_send h1 rfl rfl).trans (.of_bank rfl)) rfl
    | place h => exact fe_placeOrder h
    | mmOrder h => exact fe_mmOrder h
    | cancelMM h => exact fe_cancelMMCore h
    | finish hst h => exact fe_finishOrder hst h
    | prePass h => exact fe_prePass h

/-- **The swap-fee collector, every operation** (except begin-block pruning, which moves no coin and only deletes ended
orders): the balance of the swap-fee collector of pair `(a, p)` in denom `d` grows by exactly the fee on the executed portion of
the orders of that pair with offer denom `d` that ended in the step. -/
theorem step_feeEq {cfg : Cfg} {s s' : State} {op : Op} (a p : Nat) (d : Denom) (hop : ∀ x, op ≠ .beginBlock x)
    (h : step cfg s op = some s') : FeeEq cfg a p d s s' :=
  step_rel (FeeEq.refl cfg a p d) FeeEq.trans (fun hk at' => at'.feeEq a p d fun e => by
    obtain ⟨x, hx⟩ := e ▸ hk; exact hop x hx) h

end Comdex.LiqLedger
