import Comdex.Lemmas.DutchV2Step
import Comdex.Lemmas.Fold
/-!
The exact ledger of one second-generation Dutch auction (`Inv`), kept by every operation under "at most one limit bid per
premium", and what an accepted market bid does to every balance and every book entry (`bidE_effect`).
-/
namespace Comdex.DutchV2

/-- `otherC`, `otherD`: what in the module account is not this auction's; `booked`: the penalty an external close keeps as module
fees; `short`: reserve draws that were needed but silently not made (D23). -/
structure Inv (e : Env) (s : St) : Prop where
  paid_nonneg : 0 ≤ s.paid
  recv_nonneg : 0 ≤ s.recv
  open_ : ∀ a, s.auc = some a →
      s.paid + a.debt = e.target ∧ s.recv + a.coll = e.coll0 ∧ 0 ≤ a.debt ∧ 0 ≤ a.coll ∧ 0 ≤ a.bonus ∧
      (0 : Int) ≤ a.price ∧ (0 : Int) ≤ a.init ∧ a.end_ = a.start + e.T ∧
      s.bank.get .auction .coll = s.otherC + a.coll ∧
      s.bank.get .auction .debt + s.short = s.otherD + s.paid + s.booked
  closed : s.auc = none →
      s.paid ≤ e.target ∧ s.recv ≤ e.coll0 ∧
      s.bank.get .auction .coll = s.otherC ∧
      s.bank.get .auction .debt + s.short = s.otherD + s.booked

structure Inv.Open (e : Env) (s : St) (a : Auc) : Prop where
  paid : s.paid + a.debt = e.target
  recv : s.recv + a.coll = e.coll0
  debt_nonneg : 0 ≤ a.debt
  coll_nonneg : 0 ≤ a.coll
  bonus_nonneg : 0 ≤ a.bonus
  price_nonneg : (0 : Int) ≤ a.price
  init_nonneg : (0 : Int) ≤ a.init
  window : a.end_ = a.start + e.T
  custody_coll : s.bank.get .auction .coll = s.otherC + a.coll
  custody_debt : s.bank.get .auction .debt + s.short = s.otherD + s.paid + s.booked

theorem Inv.opened {e : Env} {s : St} {a : Auc} (hi : Inv e s) (ha : s.auc = some a) : Inv.Open e s a :=
  have ⟨h1, h2, h3, h4, h5, h6, h7, h8, h9, h10⟩ := hi.open_ a ha
  ⟨h1, h2, h3, h4, h5, h6, h7, h8, h9, h10⟩

theorem Inv.paid_le {e : Env} {s : St} (hi : Inv e s) : s.paid ≤ e.target := by
  cases h : s.auc with
  | none => exact (hi.closed h).1
  | some a => have o := hi.opened h; have := o.paid; have := o.debt_nonneg; omega

theorem Inv.recv_le {e : Env} {s : St} (hi : Inv e s) : s.recv ≤ e.coll0 := by
  cases h : s.auc with
  | none => exact (hi.closed h).2.1
  | some a => have o := hi.opened h; have := o.recv; have := o.coll_nonneg; omega

theorem Inv.of_open {e : Env} {s : St} {a : Auc} (ha : s.auc = some a) (h1 : 0 ≤ s.paid) (h2 : 0 ≤ s.recv) (o : Inv.Open e s a) :
    Inv e s :=
  ⟨h1, h2, fun a' ha' => by
    cases ha.symm.trans ha'
    exact ⟨o.paid, o.recv, o.debt_nonneg, o.coll_nonneg, o.bonus_nonneg, o.price_nonneg, o.init_nonneg, o.window,
      o.custody_coll, o.custody_debt⟩,
   fun hn => by rw [ha] at hn; cases hn⟩

theorem otherD_auto (auto : Bool) (x pay : Int) :
    (if auto then x - pay else x) = x - pay + (if auto then 0 else pay) := by cases auto <;> simp

theorem apply_inv {e : Env} {s s' : St} {a : Auc} {who : Nat} {p : Plan} {auto : Bool}
    (hi : Inv e s) (ha : s.auc = some a) (hp : PlanOK a p) (h : apply e s a who p auto = .ok s') : Inv e s' := by
  have o := hi.opened ha
  have hpaid := o.paid; have hrecv := o.recv; have hcc := o.custody_coll; have hcd := o.custody_debt
  obtain ⟨b2, r, g, hg0, hgN, hb2, s2, rfl, hcl⟩ := apply_ok hp h
  have hc2 : b2.get .auction .coll = s.bank.get .auction .coll - p.total := by simp [hb2, xfer]; omega
  have hd2 : b2.get .auction .debt = s.bank.get .auction .debt + g + (if auto then 0 else p.pay) := by simp [hb2, xfer]
  have hod := otherD_auto auto s.otherD p.pay
  have h1 := hi.paid_nonneg; have h2 := hi.recv_nonneg
  have h3 := hp.pay_nonneg; have h4 := hp.total_nonneg; have h5 := hp.pay_le; have h6 := hp.total_le
  clear hb2 h hi
  rcases hcl with ⟨hc, s3, b4, hd, d4, rfl⟩ | ⟨hc, rfl⟩
  · obtain ⟨-, -, hcoll, hdebt⟩ := distribute_frame hd
    have e3 := hcoll .auction
    simp only [] at e3 hdebt
    have hN := hp.draw_add_pay hc
    have e1 : b4.get .auction .coll = s3.bank.get .auction .coll - (a.coll - p.total) := by simp [d4, xfer]; omega
    have e2 : b4.get .auction .debt = s3.bank.get .auction .debt := by simp [d4, xfer]
    generalize (if p.clipped then p.need else 0) = N at *
    generalize (if auto then s.otherD - p.pay else s.otherD) = od at *
    generalize (if auto then 0 else p.pay) = pay' at *
    refine ⟨Int.add_nonneg h1 h3, Int.add_nonneg h2 h4, fun a' ha' => (by cases ha'), fun _ => ⟨?_, ?_, ?_, ?_⟩⟩
    · show s.paid + p.pay ≤ e.target; clear * - hpaid h5; omega
    · show s.recv + p.total ≤ e.coll0; clear * - hrecv h6; omega
    · show b4.get .auction .coll = s.otherC; clear * - e1 e3 hc2 hcc; omega
    · show b4.get .auction .debt + (s.short + (N - g)) = od + s3.booked; clear * - e2 hdebt hd2 hod hcd hpaid hN; omega
  · have hlt := hp.pay_lt hc
    rw [hp.partial_unclipped hc] at hgN ⊢
    simp only [Bool.false_eq_true, if_false] at hgN ⊢
    generalize (if auto then s.otherD - p.pay else s.otherD) = od at *
    generalize (if auto then 0 else p.pay) = pay' at *
    refine Inv.of_open rfl (Int.add_nonneg h1 h3) (Int.add_nonneg h2 h4)
      { paid := ?_, recv := ?_, debt_nonneg := Int.sub_nonneg.mpr h5, coll_nonneg := Int.sub_nonneg.mpr h6,
        bonus_nonneg := Int.sub_nonneg.mpr (Int.le_trans hp.share_le (Int.le_refl _)),
        price_nonneg := o.price_nonneg, init_nonneg := o.init_nonneg, window := o.window, custody_coll := ?_, custody_debt := ?_ }
    · show s.paid + p.pay + (a.debt - p.pay) = e.target; clear * - hpaid; omega
    · show s.recv + p.total + (a.coll - p.total) = e.coll0; clear * - hrecv; omega
    · show b2.get .auction .coll = s.otherC + (a.coll - p.total); clear * - hc2 hcc; omega
    · show b2.get .auction .debt + (s.short + (0 - g)) = od + (s.paid + p.pay) + s.booked
      clear * - hd2 hod hcd hg0 hgN; omega

theorem placeBid_inv {e : Env} {s s' : St} {a : Auc} {who : Nat} {amt dt : Int} {auto : Bool}
    (hw : WfEnv e) (hi : Inv e s) (ha : s.auc = some a) (hdt : 0 ≤ dt)
    (h : placeBid e s a who amt dt auto = .ok s') : Inv e s' := by
  obtain ⟨p, hp, h⟩ := placeBid_ok h
  have o := hi.opened ha
  exact apply_inv hi ha (plan_ok hp o.bonus_nonneg (debtPrice_nonneg e dt hdt) hw.decD_pos o.price_nonneg hw.decC_pos) h

/-- at most one limit bid in any premium bucket: `LimitOrderBid` hands every bid of the bucket the auction value it read BEFORE
its loop (D7), so `Inv` survives a fill only if the loop runs at most once -/
def NoSharedPremium (lbids : List LBid) : Prop := ∀ k : Int, (lbids.filter (fun l => l.1 = k)).length ≤ 1

theorem fillLoop_inv {e : Env} {s s' : St} {a : Auc} {dt : Int} {l : List LBid}
    (hw : WfEnv e) (hi : Inv e s) (ha : s.auc = some a) (hdt : 0 ≤ dt) (hl : l.length ≤ 1)
    (h : fillLoop e a dt s l = .ok s') : Inv e s' := by
  match l, hl with
  | [], _ => rw [fillLoop_nil h]; exact hi
  | [(_, who, amt)], _ =>
    obtain ⟨s1, hs1, rfl | h⟩ := fillLoop_cons h
    · exact placeBid_inv hw hi ha hdt hs1
    · rw [fillLoop_nil h]; exact placeBid_inv hw hi ha hdt hs1

/-- well-formed operation: oracle values are unsigned, at most one limit bid per premium bucket; a block under emergency shutdown
belongs to these histories for lend- and externally initiated auctions (for a vault-initiated one `TriggerEsm` pays the
proceeds out while the auction stays open — `C10.trigger_esm_moves`, `C10.esm_trigger_repeats_counterexample`) -/
def WfOp (e : Env) : Op → Prop
  | .bid _ _ dt => 0 ≤ dt
  | .tick _ twaC _ twaD _ lbids => 0 ≤ twaC ∧ 0 ≤ twaD ∧ NoSharedPremium lbids
  | .tickEsm _ twaC _ twaD _ lbids => 0 ≤ twaC ∧ 0 ≤ twaD ∧ NoSharedPremium lbids ∧ e.kind ≠ .vault
  | .reserve _ _ => True
  | .limit _ _ _ => True

theorem Inv.deposit {e : Env} {s : St} {b : Bank} {r : Option Int} {k : Int} (hi : Inv e s)
    (hc : b.get .auction .coll = s.bank.get .auction .coll) (hd : b.get .auction .debt = s.bank.get .auction .debt + k) :
    Inv e { s with bank := b, reserve := r, otherD := s.otherD + k } := by
  refine ⟨hi.paid_nonneg, hi.recv_nonneg, fun a ha => ?_, fun hn => ?_⟩
  · have o := hi.opened ha
    have hcd := o.custody_debt
    exact ⟨o.paid, o.recv, o.debt_nonneg, o.coll_nonneg, o.bonus_nonneg, o.price_nonneg, o.init_nonneg, o.window,
      hc.trans o.custody_coll, by show b.get _ _ + s.short = s.otherD + k + s.paid + s.booked; omega⟩
  · obtain ⟨c1, c2, c3, c4⟩ := hi.closed hn
    exact ⟨c1, c2, hc.trans c3, by show b.get _ _ + s.short = s.otherD + k + s.booked; omega⟩

theorem did_inv {e : Env} {s s' : St} {op : Op} (hw : WfEnv e) (hop : WfOp e op) (h : Did e op s s') (hi : Inv e s) : Inv e s' := by
  have upd {a a' : Auc} {now twaC twaD : Int} {actC actD : Bool} (ha : s.auc = some a) (hit : iterate e a now twaC actC twaD actD = .ok a')
      (htw : 0 ≤ twaC) : Inv e { s with auc := some a' } := by
    have o := hi.opened ha
    obtain ⟨i1, i2, i3, i4, i5, i6⟩ := iterate_ok hw hit htw o.init_nonneg o.window
    exact Inv.of_open rfl hi.paid_nonneg hi.recv_nonneg
      { paid := i2 ▸ o.paid, recv := i1 ▸ o.recv, debt_nonneg := i2 ▸ o.debt_nonneg, coll_nonneg := i1 ▸ o.coll_nonneg,
        bonus_nonneg := i3 ▸ o.bonus_nonneg, price_nonneg := i4, init_nonneg := i5, window := i6,
        custody_coll := i1 ▸ o.custody_coll, custody_debt := o.custody_debt }
  cases h with
  | skip => exact hi
  | bid ha h => exact placeBid_inv hw hi ha hop h
  | update ha hit | updateEsm ha hit => exact upd ha hit hop.1
  | esm _ hk _ => exact absurd hk hop.2.2.2
  | fill ha h => exact fillLoop_inv hw hi ha hop.2.1 (hop.2.2 _) h
  | fillEsm ha h => exact fillLoop_inv hw hi ha hop.2.1 (hop.2.2.1 _) h
  | deposit dst r k hb hk =>
    refine hi.deposit ?_ ?_
    · rcases hk with ⟨rfl, rfl⟩ | ⟨rfl, rfl⟩ <;> simp [hb, xfer]
    · rcases hk with ⟨rfl, rfl⟩ | ⟨rfl, rfl⟩ <;> simp [hb, xfer]

theorem step_inv {e : Env} {s : St} {op : Op} (hw : WfEnv e) (hi : Inv e s) (hop : WfOp e op) : Inv e (step e s op) :=
  have ⟨_, h1, h2⟩ := step_did e s op
  did_inv hw hop h2 (did_inv hw hop h1 hi)

theorem run_inv {e : Env} (hw : WfEnv e) (ops : List Op) (s : St) (hi : Inv e s) (hops : ∀ op ∈ ops, WfOp e op) :
    Inv e (run e s ops) :=
  foldl_induction (f := step e) (step_inv hw) hi hops

theorem bidE_apply {e : Env} {s s' : St} {who : Nat} {amt dt : Int} (hw : WfEnv e) (hi : Inv e s) (hdt : 0 ≤ dt)
    (h : bidE e s who amt dt = .ok s') : ∃ a p, s.auc = some a ∧ PlanOK a p ∧ apply e s a who p false = .ok s' := by
  obtain ⟨a, ha, h⟩ := bidE_ok h
  obtain ⟨p, hp, h⟩ := placeBid_ok h
  have o := hi.opened ha
  exact ⟨a, p, ha, plan_ok hp o.bonus_nonneg (debtPrice_nonneg e dt hdt) hw.decD_pos o.price_nonneg hw.decC_pos, h⟩

/-- an accepted market bid: `g` came from the reserve, the bidder paid `p.pay` for `p.total`; a closing bid adds the distribution and
hands the unsold collateral to the owner -/
theorem bidE_effect {e : Env} {s s' : St} {who : Nat} {amt dt : Int} (hw : WfEnv e) (hi : Inv e s) (hdt : 0 ≤ dt)
    (h : bidE e s who amt dt = .ok s') :
    Inv e s' ∧ ∃ a p g, s.auc = some a ∧ PlanOK a p ∧ s'.paid = s.paid + p.pay ∧ s'.recv = s.recv + p.total ∧
      (s'.auc = none → p.close = true ∧ DistOK e ∧ s'.burned = s.burned + distBurn e ∧ s'.netFees = s.netFees + distFee e ∧
          s'.extFees = s.extFees + distBooked e ∧ s'.booked = s.booked + distBooked e) ∧
      ∀ x d, s'.bank.get x d = s.bank.get x d + xfer .reserve .auction .debt g x d + xfer (.bidder who) .auction .debt p.pay x d
        + xfer .auction (.bidder who) .coll p.total x d
        + if p.close then distBank e x d + xfer .auction .owner .coll (a.coll - p.total) x d else 0 := by
  obtain ⟨a, p, ha, hp, h⟩ := bidE_apply hw hi hdt h
  refine ⟨apply_inv hi ha hp h, a, p, ?_⟩
  obtain ⟨b2, r, g, -, -, hb2, s2, rfl, hcl⟩ := apply_ok hp h
  rcases hcl with ⟨hc, s3, b4, hd, d4, rfl⟩ | ⟨hc, rfl⟩
  · obtain ⟨hok, b3, hb3, rfl⟩ := distribute_effect hd
    refine ⟨g, ha, hp, rfl, rfl, fun _ => ⟨hc, hok, rfl, rfl, rfl, rfl⟩, fun x d => ?_⟩
    show b4.get x d = _
    rw [d4, hb3, hb2, if_pos hc]; simp only [Bool.false_eq_true, if_false]; omega
  · refine ⟨g, ha, hp, rfl, rfl, ?_, fun x d => ?_⟩
    · intro hn; cases hn
    show b2.get x d = _
    rw [hb2, hc]; simp only [Bool.false_eq_true, if_false]; omega

end Comdex.DutchV2
