import Comdex.Lemmas.Accrual
import Mathlib.Algebra.Order.Field.Basic
import Mathlib.Data.Rat.Cast.Order
/-! Error bounds (in ℚ) of the exact rounding model, for `C18.more_frequent_accrual_not_more`. -/
namespace Comdex.Accrual

/-- unit round-off of binary64 -/
def uq : ℚ := 1 / 2 ^ 53

theorem uq_pos : 0 < uq := by unfold uq; norm_num
theorem uq_le_one : uq ≤ 1 := by unfold uq; norm_num

theorem rhe_near (p q : Nat) (hq : 0 < q) : |((rhe p q : Nat) : ℚ) - (p : ℚ) / q| ≤ 1 / 2 := by
  obtain ⟨h1, h2⟩ := rhe_spec p q hq
  have h1' : (2 * ((rhe p q : ℚ) * q) : ℚ) ≤ 2 * p + q := by exact_mod_cast h1
  have h2' : (2 * (p : ℚ)) ≤ 2 * ((rhe p q : ℚ) * q) + q := by exact_mod_cast h2
  have hq' : (0 : ℚ) < q := Nat.cast_pos.mpr hq
  have e : (p : ℚ) / q * q = p := div_mul_cancel₀ _ (ne_of_gt hq')
  refine abs_sub_le_iff.mpr ⟨?_, ?_⟩ <;> refine le_of_mul_le_mul_right ?_ hq'
  · rw [sub_mul, e]; linarith only [h1']
  · rw [sub_mul, e]; linarith only [h2']

theorem half_spacing (p q : Nat) (hq : 0 < q) : (2 : ℚ) ^ expo (p / q) ≤ 2 * ((p : ℚ) / q * uq) + 1 := by
  have hq' : (0 : ℚ) < q := Nat.cast_pos.mpr hq
  generalize hk : expo (p / q) = k
  have h0 : 0 ≤ (p : ℚ) / q * uq := mul_nonneg (div_nonneg (Nat.cast_nonneg p) (le_of_lt hq')) (le_of_lt uq_pos)
  rcases Nat.eq_zero_or_pos k with h0 | hpos
  · rw [h0, pow_zero]; exact le_add_of_nonneg_left (mul_nonneg zero_le_two ‹_›)
  · have hb := binade_bottom_le (p / q) (by rw [hk]; exact hpos)
    rw [hk] at hb
    have hb' : (2 : ℚ) ^ (52 + k) ≤ ((p / q : Nat) : ℚ) := by exact_mod_cast hb
    have hd : ((p / q : Nat) : ℚ) ≤ (p : ℚ) / q := by
      rw [le_div_iff₀ hq']; exact_mod_cast Nat.div_mul_le_self p q
    have e2 : (2 : ℚ) ^ k = 2 * ((2 : ℚ) ^ (52 + k) * uq) := by unfold uq; rw [pow_add]; ring
    rw [e2]
    exact le_add_of_le_of_nonneg
      (mul_le_mul_of_nonneg_left (mul_le_mul_of_nonneg_right (le_trans hb' hd) (le_of_lt uq_pos)) zero_le_two) zero_le_one

/-- nearest double: relative error `2^-53`, plus half a unit (`2^-1075`) in the lowest binades -/
theorem roundNat_near (p q : Nat) (hq : 0 < q) :
    |((roundNat p q : Nat) : ℚ) - (p : ℚ) / q| ≤ (p : ℚ) / q * uq + 1 / 2 := by
  unfold roundNat
  simp only []
  have hs := half_spacing p q hq
  generalize expo (p / q) = k at hs ⊢
  have h2k : (0 : ℚ) < 2 ^ k := pow_pos two_pos k
  have e : ((p : ℚ) / ((q * 2 ^ k : Nat) : ℚ)) * 2 ^ k = (p : ℚ) / q := by
    rw [Nat.cast_mul, Nat.cast_pow, Nat.cast_ofNat, div_mul_eq_mul_div, mul_div_mul_right _ _ (ne_of_gt h2k)]
  -- the error of the quotient by `q·2^k`, scaled by `2^k`
  rw [Nat.cast_mul, Nat.cast_pow, Nat.cast_ofNat, ← e, ← sub_mul, abs_mul, abs_of_pos h2k, e]
  have := mul_le_mul_of_nonneg_right (rhe_near p (q * 2 ^ k) (Nat.mul_pos hq (Nat.pow_pos (by decide)))) (le_of_lt h2k)
  linarith only [this, hs]

theorem U_cast_pos : (0 : ℚ) < (U : ℚ) := Nat.cast_pos.mpr U_pos

theorem toNat_cast (x : Int) (hx : 0 ≤ x) : ((x.toNat : Nat) : ℚ) = (x : ℚ) := by
  have : ((x.toNat : Nat) : Int) = x := Int.toNat_of_nonneg hx
  exact_mod_cast this

theorem fround_q (p : Int) (q : Nat) (hq : 0 < q) (hp : 0 ≤ p) :
    ((fround p q : Int) : ℚ) ≤ (p : ℚ) / q * (1 + uq) + 1 / 2 ∧
    (p : ℚ) / q * (1 - uq) - 1 / 2 ≤ ((fround p q : Int) : ℚ) := by
  rw [fround_of_nonneg p q hp, Int.cast_natCast, ← toNat_cast p hp]
  obtain ⟨h1, h2⟩ := abs_sub_le_iff.mp (roundNat_near p.toNat q hq)
  exact ⟨by rw [mul_add, mul_one, add_assoc]; exact sub_le_iff_le_add'.mp h1,
    by rw [mul_sub, mul_one, sub_sub]; exact sub_le_comm.mp h2⟩

theorem fmt18_q (x : Int) (hx : 0 ≤ x) :
    ((fmt18 x : Int) : ℚ) ≤ (x : ℚ) / U * P18 + 1 / 2 ∧ (x : ℚ) / U * P18 - 1 / 2 ≤ ((fmt18 x : Int) : ℚ) := by
  rw [fmt18_of_nonneg x hx, Int.cast_natCast, ← toNat_cast x hx, div_mul_eq_mul_div, ← Nat.cast_mul]
  obtain ⟨h1, h2⟩ := abs_sub_le_iff.mp (rhe_near (x.toNat * P18) U U_pos)
  exact ⟨sub_le_iff_le_add'.mp h1, sub_le_comm.mp h2⟩

/-- half a unit (`2^-1075`) in multiples of 1.0: the absolute term of `roundNat_near` -/
def τq : ℚ := 1 / 2 / U
theorem τq_nonneg : 0 ≤ τq := div_nonneg (by norm_num) (le_of_lt U_cast_pos)

theorem fround_unit (p : Int) (q : Nat) (hq : 0 < q) (hp : 0 ≤ p) :
    ((fround p q : Int) : ℚ) / U ≤ (p : ℚ) / q / U * (1 + uq) + τq ∧
    (p : ℚ) / q / U * (1 - uq) - τq ≤ ((fround p q : Int) : ℚ) / U := by
  obtain ⟨h1, h2⟩ := fround_q p q hq hp
  have a1 := div_le_div_of_nonneg_right h1 (le_of_lt U_cast_pos)
  have a2 := div_le_div_of_nonneg_right h2 (le_of_lt U_cast_pos)
  rw [add_div, mul_div_right_comm] at a1
  rw [sub_div, mul_div_right_comm] at a2
  exact ⟨a1, a2⟩

/-! ### the chain of roundings, in normalised variables (`x = pow`, `a = principal`, both as reals; `d` the rounded difference
`x − 1`, `m` the rounded product `d·a`, `i` the interest formatted to 18 digits) -/

theorem chain_upper (x a u τ P d m i : ℚ) (ha : 0 ≤ a) (hu : 0 ≤ u) (hP : 0 ≤ P)
    (hd : d ≤ (x - 1) * (1 + u) + τ) (hm : m ≤ d * (a * (1 + u)) + τ) (hi : i ≤ m * P + 1 / 2) :
    i ≤ (x - 1) * (a * ((1 + u) * (1 + u)) * P) + τ * (a * (1 + u) + 1) * P + 1 / 2 := by
  have h1 := mul_le_mul_of_nonneg_right hd (mul_nonneg ha (add_nonneg zero_le_one hu))
  have h2 := mul_le_mul_of_nonneg_right (le_trans hm (add_le_add_left h1 τ)) hP
  calc i ≤ m * P + 1 / 2 := hi
    _ ≤ (((x - 1) * (1 + u) + τ) * (a * (1 + u)) + τ) * P + 1 / 2 := add_le_add_left h2 _
    _ = _ := by ring

theorem chain_lower (x a u τ P d m i : ℚ) (ha : 0 ≤ a) (hu1 : u ≤ 1) (hP : 0 ≤ P)
    (hd : (x - 1) * (1 - u) - τ ≤ d) (hm : d * (a * (1 - u)) - τ ≤ m) (hi : m * P - 1 / 2 ≤ i) :
    (x - 1) * (a * ((1 - u) * (1 - u)) * P) - τ * (a * (1 - u) + 1) * P - 1 / 2 ≤ i := by
  have h1 := mul_le_mul_of_nonneg_right hd (mul_nonneg ha (sub_nonneg.mpr hu1))
  have h2 := mul_le_mul_of_nonneg_right (le_trans (sub_le_sub_right h1 τ) hm) hP
  calc (x - 1) * (a * ((1 - u) * (1 - u)) * P) - τ * (a * (1 - u) + 1) * P - 1 / 2
      = (((x - 1) * (1 - u) - τ) * (a * (1 - u)) - τ) * P - 1 / 2 := by ring
    _ ≤ m * P - 1 / 2 := sub_le_sub_right h2 _
    _ ≤ i := hi

/-- the two-interval law in real numbers, with the conclusion in the shape of `subaddErr` -/
theorem subadd_core {xa xb xc ε k u P T T' iA iB iC : ℚ} (ha1 : 1 ≤ xa) (hb1 : 1 ≤ xb) (hk : 0 ≤ k) (hP : 0 ≤ P)
    (hT : T' ≤ T) (hT6 : T ≤ 1 / 6) (hsub : xa * xb ≤ xc * (1 + ε))
    (hA : iA ≤ (xa - 1) * (k * ((1 + u) * (1 + u)) * P) + T + 1 / 2)
    (hB : iB ≤ (xb - 1) * (k * ((1 + u) * (1 + u)) * P) + T + 1 / 2)
    (hC : (xc - 1) * (k * ((1 - u) * (1 - u)) * P) - T' - 1 / 2 ≤ iC) :
    iA + iB ≤ iC + (P * k * (xc * ε * ((1 + u) * (1 + u)) + (xc - 1) * (4 * u)) + 2) := by
  have hK : 0 ≤ k * ((1 + u) * (1 + u)) * P := mul_nonneg (mul_nonneg hk (mul_self_nonneg _)) hP
  -- (xa − 1) + (xb − 1) ≤ xa·xb − 1 ≤ xc·(1+ε) − 1
  have h0 := mul_nonneg (sub_nonneg.mpr ha1) (sub_nonneg.mpr hb1)
  have h1 := mul_le_mul_of_nonneg_right (show (xa - 1) + (xb - 1) ≤ xc * (1 + ε) - 1 by linarith only [h0, hsub]) hK
  -- (1+u)² − (1−u)² = 4u
  have e : (xc * (1 + ε) - 1) * (k * ((1 + u) * (1 + u)) * P) - (xc - 1) * (k * ((1 - u) * (1 - u)) * P)
      = P * k * (xc * ε * ((1 + u) * (1 + u)) + (xc - 1) * (4 * u)) := by ring
  rw [← e]
  generalize k * ((1 + u) * (1 + u)) * P = K at *
  generalize k * ((1 - u) * (1 - u)) * P = K' at *
  linarith only [h1, hA, hB, hC, hT, hT6]

theorem one_le_unit (X : Int) (h : (U : Int) ≤ X) : (1 : ℚ) ≤ (X : ℚ) / U := by
  rw [le_div_iff₀ U_cast_pos, one_mul]; exact_mod_cast h

theorem interest_bounds (X a : Int) (hX : (U : Int) ≤ X) (ha : 0 ≤ a) :
    ((interestOfPow X a : Int) : ℚ) ≤
      ((X : ℚ) / U - 1) * ((a : ℚ) / U * ((1 + uq) * (1 + uq)) * P18) + τq * ((a : ℚ) / U * (1 + uq) + 1) * P18 + 1 / 2 ∧
    ((X : ℚ) / U - 1) * ((a : ℚ) / U * ((1 - uq) * (1 - uq)) * P18) - τq * ((a : ℚ) / U * (1 - uq) + 1) * P18 - 1 / 2
      ≤ ((interestOfPow X a : Int) : ℚ) := by
  have hU := ne_of_gt U_cast_pos
  have hd0 : 0 ≤ fsub X (U : Int) := fsub_nonneg _ _ hX
  obtain ⟨d1, d2⟩ := fround_unit (X - (U : Int)) 1 (by decide) (Int.sub_nonneg_of_le hX)
  obtain ⟨m1, m2⟩ := fround_unit (fsub X (U : Int) * a) U U_pos (Int.mul_nonneg hd0 ha)
  obtain ⟨i1, i2⟩ := fmt18_q (fmul (fsub X (U : Int)) a) (fmul_nonneg _ _ hd0 ha)
  rw [Int.cast_sub, Int.cast_natCast, Nat.cast_one, div_one, sub_div, div_self hU] at d1 d2
  rw [Int.cast_mul, div_div, mul_div_mul_comm, mul_assoc] at m1 m2
  have ha' : (0 : ℚ) ≤ (a : ℚ) / U := div_nonneg (by exact_mod_cast ha) (le_of_lt U_cast_pos)
  exact ⟨chain_upper _ _ uq τq P18 _ _ _ ha' (le_of_lt uq_pos) (Nat.cast_nonneg _) d1 m1 i1,
    chain_lower _ _ uq τq P18 _ _ _ ha' uq_le_one (Nat.cast_nonneg _) d2 m2 i2⟩

theorem subaddErr_eq (E : Nat) (a c : Int) :
    subaddErr E a c = (P18 : ℚ) * ((a : ℚ) / U) *
      ((c : ℚ) / U * (1 / (E : ℚ)) * ((1 + uq) * (1 + uq)) + ((c : ℚ) / U - 1) * (4 * uq)) + 2 := by
  unfold subaddErr uq
  push_cast
  rfl

/-- `2^63`: beyond it `amount.Int64()` panics (`calcRewards`) -/
theorem aF_pow63 : aF (2 ^ 63) = 2 ^ 63 * (U : Int) := by decide +kernel

theorem abs_err_small : 6 * (2 ^ 64 + 1) * P18 ≤ 2 * U := by decide +kernel

/-- `1/6`: three accruals then add `1/2` to the three half units of the 18-digit formatting, the `+ 2` of `subaddErr` -/
theorem abs_err_le (α : ℚ) (h63 : α ≤ 2 ^ 63) : τq * (α * (1 + uq) + 1) * P18 ≤ 1 / 6 := by
  have h1 : α * (1 + uq) + 1 ≤ 2 ^ 64 + 1 := by
    have := mul_le_mul h63 (add_le_add_right uq_le_one 1) (add_nonneg zero_le_one (le_of_lt uq_pos)) (by norm_num)
    linarith only [this]
  have h2 := mul_le_mul_of_nonneg_right (mul_le_mul_of_nonneg_left h1 τq_nonneg) (Nat.cast_nonneg P18 : (0 : ℚ) ≤ P18)
  refine le_trans h2 ?_
  have hn : ((6 * (2 ^ 64 + 1) * P18 : Nat) : ℚ) ≤ ((2 * U : Nat) : ℚ) := Nat.cast_le.mpr abs_err_small
  push_cast at hn
  unfold τq
  rw [div_mul_eq_mul_div, div_mul_eq_mul_div, div_le_iff₀ U_cast_pos]
  linarith only [hn]


theorem interestOfPow_subadd (A B C a : Int) (E : Nat) (hE : 0 < E) (hA : (U : Int) ≤ A) (hB : (U : Int) ≤ B)
    (hC : (U : Int) ≤ C) (hsub : A * B * (E : Int) ≤ C * (U : Int) * ((E : Int) + 1)) (ha : 0 ≤ a)
    (ha63 : a ≤ 2 ^ 63 * (U : Int)) :
    ((interestOfPow A a + interestOfPow B a : Int) : ℚ) ≤ ((interestOfPow C a : Int) : ℚ) + subaddErr E a C := by
  have hU := U_cast_pos
  have hEq : (0 : ℚ) < E := Nat.cast_pos.mpr hE
  have ha' : (0 : ℚ) ≤ (a : ℚ) / U := div_nonneg (by exact_mod_cast ha) (le_of_lt hU)
  have hsubq : (A : ℚ) / U * ((B : ℚ) / U) ≤ (C : ℚ) / U * (1 + 1 / (E : ℚ)) := by
    have h' : (A : ℚ) * B * E ≤ (C : ℚ) * U * ((E : ℚ) + 1) := by exact_mod_cast hsub
    rw [one_add_div (ne_of_gt hEq), div_mul_div_comm, div_mul_div_comm, div_le_div_iff₀ (mul_pos hU hU) (mul_pos hU hEq)]
    linarith only [mul_le_mul_of_nonneg_right h' (le_of_lt hU)]
  have hT : τq * ((a : ℚ) / U * (1 - uq) + 1) * P18 ≤ τq * ((a : ℚ) / U * (1 + uq) + 1) * P18 :=
    mul_le_mul_of_nonneg_right (mul_le_mul_of_nonneg_left (add_le_add_left (mul_le_mul_of_nonneg_left
      (by linarith only [uq_pos]) ha') 1) τq_nonneg) (Nat.cast_nonneg _)
  rw [subaddErr_eq, Int.cast_add]
  exact subadd_core (one_le_unit A hA) (one_le_unit B hB) ha' (Nat.cast_nonneg _) hT
    (abs_err_le ((a : ℚ) / U) (by rw [div_le_iff₀ hU]; exact_mod_cast ha63)) hsubq
    (interest_bounds A a hA ha).1 (interest_bounds B a hB ha).1 (interest_bounds C a hC ha).2

end Comdex.Accrual
