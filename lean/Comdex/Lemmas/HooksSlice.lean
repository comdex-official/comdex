import Comdex.Model.Hooks
import Comdex.Lemmas.LiquidationSweep
/-! The sweep prelude of `Model/Hooks.lean` (`sliceStartEnd`, `sweepBounds`, `intOfU64`) is the one of `Model/Liquidation.lean`
(`sliceBoundsI`, `sweepBoundsI`, `toGoInt`): both transcribe `GetSliceStartEndForLiquidations` and the two calls around it. Its facts
are those of `Lemmas/LiquidationSweep.lean`, carried over by the equations below. Core Lean only. -/
namespace Comdex.Hooks
open Comdex.Liquidation

theorem wrap64_eq (x : Int) : wrap64 x = wrapInt x := rfl

theorem intOfU64_eq (x : Nat) : intOfU64 x = toGoInt x := rfl

theorem sliceStartEnd_eq (n off b : Int) : sliceStartEnd n off b = sliceBoundsI n off b := by
  unfold sliceStartEnd sliceBoundsI
  simp only [Bool.or_eq_true, decide_eq_true_eq, wrap64_eq, or_assoc]
  congr

theorem sweepBounds_eq_sweepBoundsI (n off b : Int) : sweepBounds n off b = sweepBoundsI n off b := by
  unfold sweepBounds sweepBoundsI
  simp only [sliceStartEnd_eq]

theorem sweepSliceOk_iff (cap counter offset batch : Nat) (hb : toGoInt batch < 9223372036854775808)
    (hw : toGoInt offset + toGoInt batch < 9223372036854775808) :
    sweepSliceOk cap counter offset batch = true ↔
      0 ≤ toGoInt counter ∧ (sweepBoundsI (toGoInt counter) (toGoInt offset) (toGoInt batch)).2 ≤ cap := by
  unfold sweepSliceOk goSliceOk
  simp only [sweepBounds_eq_sweepBoundsI, intOfU64_eq, Bool.and_eq_true, decide_eq_true_eq, and_assoc]
  exact sweepBoundsI_legal_iff cap _ _ _ hb hw

/-- the counter reads negative when a `uint64` was decremented below zero -/
theorem sweepSliceOk_neg (cap counter offset batch : Nat) (hc : toGoInt counter < 0) :
    sweepSliceOk cap counter offset batch = false := by
  unfold sweepSliceOk goSliceOk
  rw [sweepBounds_eq_sweepBoundsI, intOfU64_eq, sweepBoundsI_neg _ _ _ hc]
  simp only [Bool.and_eq_false_imp, Bool.and_eq_true, decide_eq_true_eq, decide_eq_false_iff_not]
  omega

end Comdex.Hooks
