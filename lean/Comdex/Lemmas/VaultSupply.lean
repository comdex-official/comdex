import Comdex.Lemmas.Vault
import Comdex.Lemmas.VaultStep
/-! What every accepted message does to the supply (C02): `supply_delta_exact` — the supply of every denom moves by exactly
`supplyDelta` (Model/Vault.lean), a quantity read off the message and the pre-state, and zero for every message that neither
mints nor burns. A record update never touches the supply, so each case is `netSup` of the handler's bank calls: a row of
`stepP_supply`, or a lemma `H_supply` of its own where C02 or another row uses it too. -/
namespace Comdex.Vault

variable {s s' : State} {p : Product} {e : Env} {f app pr vid : Nat} {x : Int} {d : Nat}

theorem runBank_supply {ops : List BankOp} {s1 : State} {y : Int} (hb : runBank s ops = some s1) (hn : netSup ops d = y)
    (hs : s'.supply = s1.supply := by rfl) : s'.supply d = s.supply d + y := by
  rw [hs, ← hn]; exact (runBank_effect _ _ _ hb).supply d

/-- a handler that only sends: `netSup` of its list is `0` by computation. The conclusion is a row of `stepP_supply`, whose goal fixes `p` -/
theorem runBank_supply0 {ops : List BankOp} {s1 : State} (hb : runBank s ops = some s1) (hn : netSup ops d = 0 := by rfl)
    (hs : s'.supply = s1.supply := by rfl) : s'.supply d = s.supply d + if d = p.denomOut then 0 else 0 :=
  (runBank_supply hb hn hs).trans ((Int.add_zero _).trans (ite_add_zero _ _))

theorem deposit_supply (h : deposit s p e f app pr vid x = some s') : s'.supply = s.supply := by
  obtain ⟨v, -, -, s1, hb, rfl⟩ := deposit_eq_some.mp h
  exact funext fun d => (runBank_supply (y := 0) hb rfl).trans (Int.add_zero _)

theorem draw_supply (h : draw s p e f app pr vid x = some s') : s'.supply d = s.supply d + if d = p.denomOut then x else 0 := by
  obtain ⟨v, -, -, s1, hb, rfl⟩ := draw_eq_some.mp h
  exact runBank_supply hb (netSup_mintAndSplit ..)

theorem repay_supply (h : repay s p e f app pr vid x = some s') :
    s'.supply d = s.supply d + if d = p.denomOut then supplyDeltaP s p e (.repay f app pr vid x) else 0 := by
  obtain ⟨v, hov, -, h⟩ := repay_eq_some.mp h
  obtain ⟨v0, i, rfl, ho⟩ := ownedVault_eq_some.mp hov
  simp only [supplyDeltaP, ho.found, ho.iota]
  split at h
  · next hle => obtain ⟨s1, hb, rfl⟩ := h; rw [if_pos hle]; exact runBank_supply0 hb
  · next hgt => obtain ⟨-, s1, hb, rfl⟩ := h; rw [if_neg hgt]; exact runBank_supply hb (netSup_repayPrincipalOps (Int.not_le.mp hgt))

theorem close_supply (hwf : ∀ w ∈ s.vaults, 0 ≤ w.amountOut) (h : close s p e f app pr vid = some s') :
    s'.supply d = s.supply d + if d = p.denomOut then supplyDeltaP s p e (.close f app pr vid) else 0 := by
  obtain ⟨-, -, v, hov, s1, hb, rfl⟩ := close_eq_some.mp h
  obtain ⟨v0, i, rfl, ho⟩ := ownedVault_eq_some.mp hov
  simp only [supplyDeltaP, ho.found]
  exact runBank_supply hb (netSup_closeOps (hwf v0 ho.mem))

theorem depositAndDraw_supply (h : depositAndDraw s p e f app pr vid x = some s') :
    s'.supply d = s.supply d + if d = p.denomOut then supplyDeltaP s p e (.depositAndDraw f app pr vid x) else 0 := by
  obtain ⟨v0, hf, y, hy, s1, hd, h⟩ := depositAndDraw_eq_some.mp h
  simp only [supplyDeltaP, hf, hy, Option.getD_some]
  rw [draw_supply h, deposit_supply hd]

theorem stableDeposit_supply (h : stableDeposit s p e f app pr vid x = some s') :
    s'.supply d = s.supply d + if d = p.denomOut then otherToken x p.decIn p.decOut else 0 := by
  obtain ⟨-, -, sv, -, -, -, -, -, s1, hb, rfl⟩ := stableDeposit_eq_some.mp h
  exact runBank_supply hb netSup_stableMintOps

theorem stableWithdraw_supply (hp : ProductOk p) (h : stableWithdraw s p e f app pr vid x = some s') :
    s'.supply d = s.supply d + if d = p.denomOut then -(stableWithdrawAmounts p x).1 else 0 := by
  obtain ⟨g, -, sv, -, -, -, s1, hb, rfl⟩ := stableWithdraw_eq_some.mp h
  exact runBank_supply hb (netSup_stableWithdrawOps hp g.amt_pos)

theorem creditRecord_supply (s : State) (p : Product) (o : Nat) (cin cout : Int) : (creditRecord s p o cin cout).supply = s.supply := by
  unfold creditRecord; split <;> rfl

theorem stepP_supply (m : Msg) (hp : ProductOk p)
    (hwf : ∀ w ∈ s.vaults, 0 ≤ w.amountOut) (hm : m.named = true) (h : stepP s p e m = some s') :
    s'.supply d = s.supply d + if d = p.denomOut then supplyDeltaP s p e m else 0 := by
  cases m with
  | create f a pr i o => obtain ⟨-, s1, hb, rfl⟩ := create_eq_some.mp h; exact runBank_supply hb netSup_createOps
  | deposit f a pr v x => exact deposit_supply h ▸ ite_add_zero _ _
  | withdraw f a pr v x => obtain ⟨v, -, -, s1, hb, rfl⟩ := withdraw_eq_some.mp h; exact runBank_supply0 hb
  | draw f a pr v x => exact draw_supply h
  | repay f a pr v x => exact repay_supply h
  | close f a pr v => exact close_supply hwf h
  | depositAndDraw f a pr v x => exact depositAndDraw_supply h
  | stableCreate f a pr x =>
    obtain ⟨-, -, -, -, -, s1, hb, rfl⟩ := stableCreate_eq_some.mp h; exact runBank_supply hb netSup_stableMintOps
  | stableDeposit f a pr v x => exact stableDeposit_supply h
  | stableWithdraw f a pr v x => exact stableWithdraw_supply hp h
  | interestCalc a v => obtain ⟨w, -, i, -, -, rfl⟩ := interestCalc_eq_some.mp h; exact ite_add_zero _ _
  | seize v => obtain ⟨w, -, i, -, -, -, s1, hb, rfl⟩ := seize_eq_some.mp h; exact runBank_supply0 hb
  | esmVault v => obtain ⟨w, -, -, -, -, s1, hb, rfl⟩ := esmVault_eq_some.mp h; exact runBank_supply0 hb
  | esmStable v => obtain ⟨w, -, -, -, -, s1, hb, rfl⟩ := esmStable_eq_some.mp h; exact runBank_supply0 hb
  | settle v => obtain ⟨l, hf, -, rfl⟩ := settle_eq_some.mp h; simp only [supplyDeltaP, hf, upd1_sub]
  | settle1 v => obtain ⟨l, hf, -, rfl⟩ := settle1_eq_some.mp h; simp only [supplyDeltaP, hf, upd1_sub]
  | esmReturn1 v o c i =>
    obtain ⟨l, hf, -, s1, h1, h2⟩ := esmReturn1_eq_some.mp h
    obtain ⟨l', hf', -, rfl⟩ := settle1_eq_some.mp h1
    obtain ⟨-, -, s2, hb, rfl⟩ := creditVault_eq_some.mp h2
    cases hf.symm.trans hf'
    rw [creditRecord_supply]
    simp only [supplyDeltaP, upd1_add, upd1_sub, runBank_supply (s' := s2) (d := d) hb netSup_sendPos]
    split <;> omega
  | esmReturn2 v o c dd f =>
    obtain ⟨l, hf, -, rfl⟩ := esmReturn2_eq_some.mp h
    rw [creditRecord_supply]; simp only [supplyDeltaP, hf, upd1_sub]
  | _ => cases hm

theorem supplyDelta_named {cfg : Nat → Option Product} {s : State} {e : Env} {m : Msg} {pr : Nat} {p : Product} {d : Nat}
    (hn : m.named = true) (hpr : m.product s = some pr) (hp : cfg pr = some p) :
    supplyDelta cfg s e m d = if d = p.denomOut then supplyDeltaP s p e m else 0 := by
  cases m <;> first | exact Bool.noConfusion hn | simp only [supplyDelta, hpr, hp]

theorem supply_delta_exact (cfg : Nat → Option Product) (hc : CfgOk cfg) (s s' : State) (e : Env) (m : Msg)
    (hwf : ∀ w ∈ s.vaults, 0 ≤ w.amountOut) (h : step cfg s e m = some s') (d : Nat) :
    s'.supply d = s.supply d + supplyDelta cfg s e m d := by
  by_cases hn : m.named = true
  · obtain ⟨p, hpr, hp, h⟩ := step_of_named hn h
    rw [supplyDelta_named hn hpr hp]; exact stepP_supply m (hc.ok hp) hwf hn h
  · cases m with
    | donate f d0 x =>
      obtain ⟨-, s1, hb, rfl⟩ := donate_eq_some.mp h
      exact runBank_supply (y := 0) hb rfl
    | fund t d0 x => obtain ⟨-, -, rfl⟩ := fund_eq_some.mp h; simp only [supplyDelta, upd1_add]
    | esmCollector a d0 x => obtain ⟨-, -, rfl⟩ := esmCollector_eq_some.mp h; simp only [supplyDelta, upd1_sub]
    | esmBurn f a d0 x => obtain ⟨-, rfl⟩ := esmBurn_eq_some.mp h; simp only [supplyDelta, upd1_sub]
    | _ => exact absurd rfl hn

end Comdex.Vault
