import Comdex.Base.GoSem
import Comdex.Lemmas.DecCore
import Comdex.Lemmas.Attrs
/-!
Facts about `Comdex.GoSem` (`Base/GoSem.lean`) for the `Props/CxxPure.lean` files, each of which ties a translated Go function
`Gen.Pure.f : … → M α` to the model of its property; how the tie is stated depends on what the model does with the two panic classes
of `M` (table in notes/PURE.md).  Core Lean only.
-/
set_option exponentiation.threshold 512 -- `Dec.fits`, `Dec.fitsInt` compare with `2 ^ 315`, `2 ^ 256`
namespace Comdex.GoSem

/-- outcome of a whole Go function whose only failure mode is a panic: `none` = the call panics -/
def ofOption {α : Type} : Option α → M α
  | some a => .ok a
  | none => .error .panic

@[simp] theorem ofOption_some {α : Type} (a : α) : ofOption (some a) = .ok a := rfl
@[simp] theorem ofOption_none {α : Type} : (ofOption (none : Option α)) = .error .panic := rfl

theorem ok_bind {α β : Type} (a : α) (f : α → M β) : ((Except.ok a : M α) >>= f) = f a := rfl
theorem error_bind {α β : Type} (e : Fail) (f : α → M β) : ((Except.error e : M α) >>= f) = Except.error e := rfl
theorem ite_bind {α β : Type} (c : Prop) [Decidable c] (a b : M α) (f : α → M β) :
    (if c then a else b) >>= f = if c then a >>= f else b >>= f := by
  split <;> rfl

@[simp] theorem safeMath_ok {α : Type} (a : α) (h : M α) : safeMath (.ok a) h = .ok a := rfl
@[simp] theorem safeMath_overflow {α : Type} (h : M α) : safeMath (.error .overflow) h = h := rfl
@[simp] theorem safeMath_panic {α : Type} (h : M α) : safeMath (.error .panic) h = .error .panic := rfl

theorem bind_pure_pair {α β : Type} (m : M (α × β)) : (m >>= fun p => pure (p.fst, p.snd)) = m := by
  cases m <;> rfl
theorem bind_pure_triple {α β γ : Type} (m : M (α × β × γ)) :
    (m >>= fun p => pure (p.fst, p.snd.fst, p.snd.snd)) = m := by
  cases m <;> rfl

theorem wrapI64_of_fits {x : Int} (h1 : -9223372036854775808 ≤ x) (h2 : x < 9223372036854775808) : wrapI64 x = x := by
  unfold wrapI64 two63 two64; omega

theorem i64Add_of_fits {a b : Int} (h1 : -9223372036854775808 ≤ a + b) (h2 : a + b < 9223372036854775808) :
    i64Add a b = a + b := wrapI64_of_fits h1 h2
theorem i64Sub_of_fits {a b : Int} (h1 : -9223372036854775808 ≤ a - b) (h2 : a - b < 9223372036854775808) :
    i64Sub a b = a - b := wrapI64_of_fits h1 h2

theorem u64Div_pos {a b : Nat} (h : b ≠ 0) : u64Div a b = pure (a / b) := by
  unfold u64Div; rw [if_neg h]; rfl
theorem u64Mod_pos {a b : Nat} (h : b ≠ 0) : u64Mod a b = pure (a % b) := by
  unfold u64Mod; rw [if_neg h]; rfl
theorem u64Add_of_fits {a b : Nat} (h : a + b < 18446744073709551616) : u64Add a b = a + b := by
  unfold u64Add two64; exact Nat.mod_eq_of_lt h
theorem u64Sub_of_le {a b : Nat} (h : b ≤ a) (ha : a < 18446744073709551616) : u64Sub a b = a - b := by
  unfold u64Sub wrapU64 two64; omega

theorem decNew_eq_zero (i : Int) : decNew i = 0 ↔ i = 0 := Dec.ofInt_eq_zero

theorem indexI_ofNat_lt {α : Type} {xs : List α} {a : Nat} (h : a < xs.length) : indexI xs (a : Int) = .ok xs[a] := by
  unfold indexI
  have : ¬ ((a : Int) < 0) := by omega
  simp only [this, if_false, Int.toNat_natCast, List.getElem?_eq_getElem h]

theorem indexI_ofNat_ge {α : Type} {xs : List α} {a : Nat} (h : xs.length ≤ a) : indexI xs (a : Int) = .error .panic := by
  unfold indexI
  have : ¬ ((a : Int) < 0) := by omega
  simp only [this, if_false, Int.toNat_natCast, List.getElem?_eq_none h]

/-! `Agrees g m`: a returned value of `g` is the model's value, a non-overflow panic the model's `none`; an overflow-class panic
has no counterpart in a model without overflow checks.  `simp only [agrees]` computes what this asks of `m` for a straight-line
`g`, consuming each `>>=` from the left: an overflow check becomes a hypothesis (`Dec.fits x = true → …`), a division an `if` on the
divisor, every `return v` ends in `m = some v`.  The set holds the primitives that occur in the functions tied by `Agrees`.  `chkDec`, `chkInt`, `Dec.one`
stay folded: simp unfolds a tagged definition before it visits the arguments, and an `if` whose condition is rewritten afterwards carries
a `Decidable` instance that neither these lemmas nor `split` recognise. -/

def Agrees {α : Type} (g : M α) (m : Option α) : Prop :=
  match g with
  | .ok a => m = some a
  | .error .panic => m = none
  | .error .overflow => True

@[agrees] theorem agrees_pure {α : Type} (a : α) (m : Option α) : Agrees (pure a : M α) m ↔ m = some a := Iff.rfl

@[agrees] theorem agrees_ite {α : Type} (c : Prop) [Decidable c] (g1 g2 : M α) (m : Option α) :
    Agrees (if c then g1 else g2) m ↔ if c then Agrees g1 m else Agrees g2 m := by
  split <;> exact Iff.rfl

theorem agrees_guard_bind {α β : Type} (c : Prop) [Decidable c] (v : α) (f : α → M β) (m : Option β) :
    Agrees ((if c then .ok v else .error .overflow : M α) >>= f) m ↔ (c → Agrees (f v) m) := by
  split <;> rename_i h
  · exact ⟨fun k _ => k, fun k => k h⟩
  · exact ⟨fun _ k => absurd k h, fun _ => trivial⟩

@[agrees] theorem agrees_chkDec_bind {β : Type} (x : Dec) (f : Dec → M β) (m : Option β) :
    Agrees (chkDec x >>= f) m ↔ (Dec.fits x = true → Agrees (f x) m) := agrees_guard_bind _ _ _ _
@[agrees] theorem agrees_chkInt_bind {β : Type} (x : Int) (f : Int → M β) (m : Option β) :
    Agrees (chkInt x >>= f) m ↔ (Dec.fitsInt x = true → Agrees (f x) m) := agrees_guard_bind _ _ _ _
@[agrees] theorem agrees_intInt64_bind {β : Type} (x : Int) (f : Int → M β) (m : Option β) :
    Agrees (intInt64 x >>= f) m ↔ (fitsI64 x = true → Agrees (f x) m) := agrees_guard_bind _ _ _ _

@[agrees] theorem agrees_decQuo_bind {β : Type} (a b : Dec) (f : Dec → M β) (m : Option β) :
    Agrees (decQuo a b >>= f) m ↔
      if b = 0 then m = none else (Dec.fits (Dec.quo a b) = true → Agrees (f (Dec.quo a b)) m) := by
  unfold decQuo
  split
  · exact Iff.rfl
  · exact agrees_chkDec_bind _ _ _

@[agrees] theorem decOne_eq : decOne = Dec.one := rfl

attribute [agrees] decAdd decSub decMul decMulInt decTruncateInt intAdd
  decZero decNew decCeil intToDec intZero Dec.add Dec.sub

theorem agrees_guard {α : Type} (c : Prop) [Decidable c] (v : α) (m : Option α) :
    Agrees (if c then .ok v else .error .overflow : M α) m ↔ (c → m = some v) := by
  rw [← bind_pure (ite c _ _)]
  exact agrees_guard_bind c v pure m
@[agrees] theorem agrees_chkInt (x : Int) (m : Option Int) :
    Agrees (chkInt x) m ↔ (Dec.fitsInt x = true → m = some x) := agrees_guard _ _ _

theorem Agrees.decSub (a b : Dec) : Agrees (decSub a b) (some (Dec.sub a b)) := (agrees_guard _ _ _).mpr fun _ => rfl
/-- `Int64()` out of range is an overflow-class panic: no constraint on the model -/
theorem Agrees.intInt64 (a : Int) : Agrees (intInt64 a) (some a) := (agrees_guard _ _ _).mpr fun _ => rfl

theorem forIn_append_map {α β : Type} (l : List α) (g : α → β) (init : List β) :
    forIn (m := M) l init (fun i s => pure (ForInStep.yield (s ++ [g i]))) = pure (init ++ l.map g) := by
  induction l generalizing init with
  | nil => simp
  | cons a l ih =>
    simp only [List.forIn_cons, pure_bind, ih, List.map_cons, List.append_assoc, List.singleton_append]

end Comdex.GoSem
