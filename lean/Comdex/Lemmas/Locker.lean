import Comdex.Lemmas.LockerBooks
import Comdex.Lemmas.Inversion
/-! Lemmas for C13, handler by handler. `X_spec` (the ledger primitives, and the handlers whose guards or post-state another proof reads):
what an accepted call of `X` did (the guards that held, the post-state); `X_tr`: the
transition of the two books that it is (`Tr`, which keeps both invariants with the same shortfall and is delta-exact); `X_inv`: the
invariants where the step is no such transition. A look-up that must succeed is inverted by `match_ok hx : E with v at h`; it rewrites `E` in
the goal too, so a conjunct `E = some v` of a `X_spec` reads `some v = some v` afterwards and is closed by `rfl`. Core Lean only. -/
namespace Comdex.Locker
variable {D : Nat → Int}

section Primitives
variable {s s' : State} {k : Nat × Nat} {e : Lk} {id : Nat} {l : Locker}

theorem setNetFee_spec {f : Int} (h : setNetFee s k f = some s') :
    0 ≤ f ∧ s' = { s with fees := Store.put s.fees k (fee s k + f) } := by
  simp only [setNetFee, Option.ite_none_left_eq_some] at h
  refine ⟨by omega, ?_⟩
  unfold fee
  split at h <;> rename_i hg <;> cases h.2 <;> simp [hg]

theorem decNetFee_spec {x : Int} (h : decNetFee s k x = some s') :
    (Store.get s.fees k).isSome ∧ x ≤ fee s k ∧ s' = { s with fees := Store.put s.fees k (fee s k - x) } := by
  unfold decNetFee at h
  unfold fee
  match_ok hg : Store.get s.fees k with v at h
  simp only [Option.ite_none_left_eq_some, Option.some.injEq] at h
  simp only [Option.isSome_some, Option.getD_some, h.2.symm, and_true, true_and]
  omega

theorem creditCollector_spec {d : Nat} {x : Int} (h : creditCollector s d x = some s') :
    0 ≤ x ∧ ∃ b, Bank.Adds s.bank b .collector d x ∧ s' = { s with bank := b } := by
  simp only [creditCollector, Option.map_eq_some_iff] at h
  obtain ⟨b, hm, rfl⟩ := h
  exact ⟨(Bank.mint_spec hm).1, b, (Bank.mint_spec hm).2, rfl⟩

theorem creditIf_spec {d : Nat} {x : Int} (h0 : 0 ≤ x) (h : (if x > 0 then creditCollector s d x else some s) = some s') :
    ∃ b, Bank.Adds s.bank b .collector d x ∧ s' = { s with bank := b } := by
  split at h
  · exact (creditCollector_spec h).2
  · cases h
    have hx : x = 0 := by omega
    subst hx
    exact ⟨s.bank, fun _ _ => by simp, rfl⟩

theorem updateCollector_spec {t : Int} (h : updateCollector s k t = some s') : setNetFee s k t = some s' := by
  simp only [updateCollector, Option.ite_none_left_eq_some] at h
  exact h.2

theorem clearActive_spec (h : clearActive s k = some s') :
    ∃ m : AMap, s' = { s with amap := Store.put s.amap k { m with active := false } } := by
  unfold clearActive at h
  match_ok hm : Store.get s.amap k with m at h
  cases h
  exact ⟨m, rfl⟩

theorem getAmount_spec {x : Int} (h : getAmount s k x = some s') :
    0 ≤ x ∧ x < fee s k ∧ ∃ b, Bank.Sent s.bank b .collector .auction k.2 x ∧
      s' = { s with bank := b, fees := Store.put s.fees k (fee s k - x) } := by
  unfold getAmount at h
  match_ok hv : Store.get s.fees k with v at h
  simp only [Option.ite_none_left_eq_some] at h
  obtain ⟨hx, hgt, h⟩ := h
  match_ok hsend : s.bank.send .collector .auction k.2 x with b at h
  obtain ⟨_, _, rfl⟩ := decNetFee_spec h
  have hfee : fee s k = v := by simp [fee, hv]
  exact ⟨by omega, by omega, b, Bank.send_sent hsend, rfl⟩

theorem updAmount_some (δ : Int) (h : Store.get s.lookup k = some e) :
    updAmount s k δ = { s with lookup := Store.put s.lookup k { e with deposited := e.deposited + δ } } := by
  simp [updAmount, h]

theorem lockerGuards_spec {u app asset : Nat} (h : lockerGuards s u app asset id = some l) :
    Store.get s.lockers id = some l ∧ l.asset = asset ∧ l.owner = u ∧ l.app = app ∧
      (Store.get s.lookup (app, asset)).isSome := by
  simp only [lockerGuards, Option.ite_none_left_eq_some] at h
  obtain ⟨_, _, h⟩ := h
  match_ok hl0 : Store.get s.lockers id with l0 at h
  simp only [Option.ite_none_left_eq_some, Option.some.injEq, Decidable.not_not, Option.isNone_iff_eq_none,
    ← Option.isSome_iff_ne_none] at h
  obtain ⟨h1, h2, h3, h4, rfl⟩ := h
  exact ⟨rfl, h1, h2, h3, h4⟩

theorem payReward_spec {app asset : Nat} {ρ : Int} (h : payReward s id app asset ρ = some s') :
    ∃ lk l b, Store.get s.lookup (app, asset) = some lk ∧ Store.get s.lockers id = some l ∧
      ρ ≤ fee s (app, l.asset) ∧ (if ρ > 0 then s.bank.send .collector .locker asset ρ else some s.bank) = some b ∧
      s' = { s with bank := b, fees := Store.put s.fees (app, l.asset) (fee s (app, l.asset) - ρ),
                    lockers := Store.put s.lockers id { l with net := l.net + ρ, ret := l.ret + ρ },
                    lookup := Store.put s.lookup (app, asset) { lk with deposited := lk.deposited + ρ } } := by
  unfold payReward at h
  split at h
  · next lk l hlk hl =>
    match_ok hd : decNetFee s (app, l.asset) ρ with s1 at h
    cases hb : (if ρ > 0 then s1.bank.send .collector .locker asset ρ else some s1.bank) with
    | none => simp only [hb] at h; cases h
    | some b =>
      simp only [hb, Option.some.injEq] at h
      obtain ⟨_, hle, rfl⟩ := decNetFee_spec hd
      exact ⟨lk, l, b, hlk, hl, hle, hb, h.symm⟩
  · cases h

end Primitives

section Reward
variable {s s' : State} {id : Nat} {l : Locker}

theorem Rw.amount_nonneg {rw : Rw} (h : rw.ok) : 0 ≤ rw.amount := by
  cases rw <;> first | exact h | exact Int.le_refl 0

theorem reward_spec {app asset : Nat} {rw : Rw} (hl : Store.get s.lockers id = some l)
    (h : reward s id app asset rw = some s') :
    Store.get s'.lockers id = some { l with net := l.net + rw.amount, ret := l.ret + rw.amount } ∧
    ∀ k, (Store.get s'.lookup k).isSome = (Store.get s.lookup k).isSome := by
  cases rw with
  | none => cases h; exact ⟨by simpa [Rw.amount] using hl, fun _ => rfl⟩
  | fail => cases h
  | pay ρ =>
    obtain ⟨lk, l0, b, hlk, hl0, _, _, rfl⟩ := payReward_spec (show payReward s id app asset ρ = some s' from h)
    rw [hl] at hl0; cases hl0
    exact ⟨Store.get_put_self _ _ _, Store.isSome_get_put (by rw [hlk]; rfl) _⟩

theorem reward_tr {app asset : Nat} {rw : Rw} (hok : rw.ok) (hl : Store.get s.lockers id = some l) (happ : l.app = app)
    (hasset : l.asset = asset) (h : reward s id app asset rw = some s') : Tr s s' := by
  cases rw with
  | none => cases h; exact Tr.refl s
  | fail => cases h
  | pay ρ =>
    have hρ : 0 ≤ ρ := hok
    obtain ⟨lk, l0, b, hlk, hl0, hle, hb, rfl⟩ := payReward_spec (show payReward s id app asset ρ = some s' from h)
    have hS := Bank.sendPos_spec hρ hb
    rw [hl] at hl0; cases hl0
    subst happ hasset
    exact ⟨.net (l' := { l with net := l.net + ρ, ret := l.ret + ρ }) ρ hl hlk rfl rfl (fun _ => by show 0 ≤ l.net + ρ; omega)
        rfl rfl rfl (hS.at_dst nofun),
      .fee (l.app, l.asset) (-ρ) rfl (fun _ => by omega) (hS.at_src nofun)⟩

theorem reward_user {app asset : Nat} {rw : Rw} (hok : rw.ok) (h : reward s id app asset rw = some s') (u d : Nat) :
    bal s' (.user u) d = bal s (.user u) d := by
  cases rw with
  | none => cases h; rfl
  | fail => cases h
  | pay ρ =>
    obtain ⟨_, _, b, _, _, _, hb, rfl⟩ := payReward_spec (show payReward s id app asset ρ = some s' from h)
    exact (Bank.sendPos_spec hok hb).at_other (.user u) nofun nofun d

theorem reward_pay_le_fee {s1 : State} {app asset : Nat} {ρ : Int}
    (hl : Store.get s.lockers id = some l) (hasset : l.asset = asset) (h : reward s id app asset (.pay ρ) = some s1) :
    ρ ≤ fee s (app, asset) ∧ fee s1 (app, asset) = fee s (app, asset) - ρ := by
  obtain ⟨_, l0, _, _, hl0, hle, _, rfl⟩ := payReward_spec (show payReward s id app asset ρ = some s1 from h)
  rw [hl] at hl0; cases hl0
  subst hasset
  exact ⟨hle, by simp only [fee, Store.get_put_self, Option.getD_some]⟩

/-- `updAmount`, which follows in deposit, withdraw and close, silently does nothing on a missing entry: after the guards and the
reward step the entry is there. -/
theorem after_reward {s1 : State} {l1 : Locker} {u app asset : Nat} {rw : Rw}
    (hg : lockerGuards s u app asset id = some l) (hr : reward s id app asset rw = some s1)
    (hl1 : Store.get s1.lockers id = some l1) :
    l1 = { l with net := l.net + rw.amount, ret := l.ret + rw.amount } ∧ ∃ e, Store.get s1.lookup (app, asset) = some e := by
  obtain ⟨hl, _, _, _, hlk⟩ := lockerGuards_spec hg
  obtain ⟨hl1', hkeys⟩ := reward_spec hl hr
  rw [hl1'] at hl1
  exact ⟨(Option.some.inj hl1).symm, Option.isSome_iff_exists.mp (by rw [hkeys]; exact hlk)⟩

end Reward

section Messages
variable {s s' : State} {id : Nat}

theorem fund_tr {u asset : Nat} {x : Int} (h : step s (.fund u asset x) = some s') : Tr s s' := by
  simp only [step, Option.map_eq_some_iff] at h
  obtain ⟨b, hm, rfl⟩ := h
  have hA := (Bank.mint_spec hm).2
  exact Tr.frame rfl rfl rfl rfl (hA.other .locker nofun) (hA.other .collector nofun)

theorem whitelist_spec {app asset : Nat} (h : step s (.whitelist app asset) = some s') :
    app ∉ s.esmOn ∧ app ∉ s.killOn ∧ Store.get s.lookup (app, asset) = none ∧
      s' = { s with lookup := Store.put s.lookup (app, asset) { deposited := 0, ids := [] } } := by
  simp only [step, Option.ite_none_left_eq_some] at h
  obtain ⟨h1, h2, _, _, h⟩ := h
  split at h
  · cases h
  · next hnone => cases h; exact ⟨h1, h2, hnone, rfl⟩

theorem whitelist_tr {app asset : Nat} (h : step s (.whitelist app asset) = some s') : Tr s s' := by
  obtain ⟨_, _, hnone, rfl⟩ := whitelist_spec h
  exact ⟨.list hnone rfl rfl rfl fun _ => rfl, .same rfl fun _ => rfl⟩

theorem create_spec {u app asset : Nat} {amt : Int} (h : step s (.create u app asset amt) = some s') :
    ∃ lk b, 0 < amt ∧ app ∉ s.esmOn ∧ app ∉ s.killOn ∧ Store.get s.lookup (app, asset) = some lk ∧
      s.bank.send (.user u) .locker asset amt = some b ∧
      s' = { s with bank := b,
                    lockers := Store.put s.lockers (s.lastId + 1) { owner := u, app := app, asset := asset, net := amt, ret := 0 },
                    lastId := s.lastId + 1,
                    lookup := Store.put s.lookup (app, asset) { deposited := lk.deposited + amt, ids := lk.ids ++ [s.lastId + 1] } } := by
  simp only [step, Option.ite_none_left_eq_some] at h
  obtain ⟨h1, h2, h3, _, _, _, _, h⟩ := h
  match_ok hlk : Store.get s.lookup (app, asset) with lk at h
  match_ok hb : s.bank.send (.user u) .locker asset amt with b at h
  cases h
  exact ⟨lk, b, by omega, h2, h3, rfl, rfl, rfl⟩

theorem create_tr {u app asset : Nat} {amt : Int} (h : step s (.create u app asset amt) = some s') : Tr s s' := by
  obtain ⟨lk, b, hamt, _, _, hlk, hsend, rfl⟩ := create_spec h
  have hS := Bank.send_sent hsend
  exact ⟨.create (lnew := { owner := u, app := app, asset := asset, net := amt, ret := 0 }) hlk (by show 0 ≤ amt; omega)
      rfl rfl rfl (hS.at_dst nofun), .same rfl (hS.at_other .collector nofun nofun)⟩

theorem deposit_spec {u app asset : Nat} {amt : Int} {rw : Rw} (h : step s (.deposit u app asset id amt rw) = some s') :
    ∃ l s1 e b, 0 < amt ∧ app ∉ s.esmOn ∧ app ∉ s.killOn ∧ lockerGuards s u app asset id = some l ∧
      reward s id app asset rw = some s1 ∧ Store.get s1.lookup (app, asset) = some e ∧
      s1.bank.send (.user u) .locker asset amt = some b ∧
      s' = { s1 with bank := b,
                     lockers := Store.put s1.lockers id { l with net := l.net + rw.amount + amt, ret := l.ret + rw.amount },
                     lookup := Store.put s1.lookup (app, asset) { e with deposited := e.deposited + amt } } := by
  simp only [step, Option.ite_none_left_eq_some] at h
  obtain ⟨h1, h2, h3, h⟩ := h
  match_ok hg : lockerGuards s u app asset id with l at h
  match_ok hr : reward s id app asset rw with s1 at h
  match_ok hl1 : Store.get s1.lockers id with l1 at h
  match_ok hb : s1.bank.send (.user u) .locker asset amt with b at h
  cases h
  obtain ⟨rfl, e, he⟩ := after_reward hg hr hl1
  exact ⟨l, s1, e, b, by omega, h2, h3, rfl, rfl, he, hb, updAmount_some amt he⟩

theorem deposit_tr {u app asset : Nat} {amt : Int} {rw : Rw} (hok : rw.ok)
    (h : step s (.deposit u app asset id amt rw) = some s') : Tr s s' := by
  obtain ⟨l, s1, e, b, hamt, _, _, hg, hr, he, hsend, rfl⟩ := deposit_spec h
  obtain ⟨hl, rfl, _, rfl, _⟩ := lockerGuards_spec hg
  have hS := Bank.send_sent hsend
  exact (reward_tr hok hl rfl rfl hr).trans
    ⟨.net (l' := { l with net := l.net + rw.amount + amt, ret := l.ret + rw.amount }) amt (reward_spec hl hr).1 he rfl rfl
        (fun (_ : 0 ≤ l.net + rw.amount) => by show 0 ≤ l.net + rw.amount + amt; omega) rfl rfl rfl (hS.at_dst nofun),
      .same rfl (hS.at_other .collector nofun nofun)⟩

theorem withdraw_spec {u app asset : Nat} {amt : Int} {rw : Rw} (h : step s (.withdraw u app asset id amt rw) = some s') :
    ∃ l s1 e b, 0 < amt ∧ lockerGuards s u app asset id = some l ∧ amt ≤ l.net ∧ reward s id app asset rw = some s1 ∧
      Store.get s1.lookup (app, asset) = some e ∧ s1.bank.send .locker (.user u) asset amt = some b ∧
      s' = { s1 with bank := b,
                     lockers := Store.put s1.lockers id { l with net := l.net + rw.amount + -amt, ret := l.ret + rw.amount },
                     lookup := Store.put s1.lookup (app, asset) { e with deposited := e.deposited + -amt } } := by
  simp only [step, Option.ite_none_left_eq_some] at h
  obtain ⟨h1, h⟩ := h
  match_ok hg : lockerGuards s u app asset id with l at h
  simp only [Option.ite_none_left_eq_some] at h
  obtain ⟨h2, h⟩ := h
  match_ok hr : reward s id app asset rw with s1 at h
  match_ok hl1 : Store.get s1.lockers id with l1 at h
  match_ok hb : s1.bank.send .locker (.user u) asset amt with b at h
  cases h
  obtain ⟨rfl, e, he⟩ := after_reward hg hr hl1
  exact ⟨l, s1, e, b, by omega, rfl, by omega, rfl, he, hb, updAmount_some (-amt) he⟩

theorem withdraw_tr {u app asset : Nat} {amt : Int} {rw : Rw} (hok : rw.ok)
    (h : step s (.withdraw u app asset id amt rw) = some s') : Tr s s' := by
  obtain ⟨l, s1, e, b, hamt, hg, hle, hr, he, hsend, rfl⟩ := withdraw_spec h
  obtain ⟨hl, rfl, _, rfl, _⟩ := lockerGuards_spec hg
  have hS := Bank.send_sent hsend
  have := Rw.amount_nonneg hok
  exact (reward_tr hok hl rfl rfl hr).trans
    ⟨.net (l' := { l with net := l.net + rw.amount + -amt, ret := l.ret + rw.amount }) (-amt) (reward_spec hl hr).1 he rfl rfl
        (fun _ => by show 0 ≤ l.net + rw.amount + -amt; omega) rfl rfl rfl (hS.at_src nofun),
      .same rfl (hS.at_other .collector nofun nofun)⟩

theorem withdraw_pays {u app asset : Nat} {amt : Int} {rw : Rw} (hok : rw.ok)
    (h : step s (.withdraw u app asset id amt rw) = some s') :
    bal s' (.user u) asset = bal s (.user u) asset + amt ∧
    ∃ l l', Store.get s.lockers id = some l ∧ l.owner = u ∧ Store.get s'.lockers id = some l' ∧
      l'.net = l.net + rw.amount - amt := by
  obtain ⟨l, s1, e, b, hamt, hg, hle, hr, he, hsend, rfl⟩ := withdraw_spec h
  obtain ⟨hl, _, hown, _, _⟩ := lockerGuards_spec hg
  refine ⟨?_, l, _, hl, hown, Store.get_put_self _ _ _, rfl⟩
  rw [← reward_user hok hr]
  exact ((Bank.send_sent hsend).at_dst nofun asset).trans (by simp [bal])

theorem close_spec {u app asset : Nat} {rw : Rw} (h : step s (.close u app asset id rw) = some s') :
    ∃ l s1 e b, lockerGuards s u app asset id = some l ∧ reward s id app asset rw = some s1 ∧
      Store.get s1.lookup (app, asset) = some e ∧
      (if l.net + rw.amount > 0 then s1.bank.send .locker (.user u) asset (l.net + rw.amount) else some s1.bank) = some b ∧
      s' = { s1 with bank := b, lockers := Store.del s1.lockers id,
                     lookup := Store.put s1.lookup (app, asset)
                       { deposited := e.deposited + -(l.net + rw.amount), ids := e.ids.erase id } } := by
  simp only [step, Option.ite_none_left_eq_some] at h
  obtain ⟨_, h⟩ := h
  -- `split`, not `match_ok`: its `dsimp only` would unfold the `let`s of the handler's tail into `h`
  split at h; · cases h
  next l hg =>
  split at h; · cases h
  next s1 hr =>
  split at h; · cases h
  next l1 hl1 =>
  obtain ⟨rfl, e, he⟩ := after_reward hg hr hl1
  cases hb : (if l.net + rw.amount > 0 then s1.bank.send .locker (.user u) asset (l.net + rw.amount) else some s1.bank) with
  | none => simp only [hb] at h; cases h
  | some b =>
    simp only [hb, Option.some.injEq] at h
    refine ⟨l, s1, e, b, hg, hr, he, hb, ?_⟩
    rw [← h, updAmount_some (-(l.net + rw.amount))
      (show Store.get ({ s1 with bank := b } : State).lookup (app, asset) = some e from he)]
    simp only [Store.get_put_self, Store.put_put]

theorem close_tr {u app asset : Nat} {rw : Rw} (hok : rw.ok) (h : step s (.close u app asset id rw) = some s') : Tr s s' := by
  obtain ⟨l, s1, e, b, hg, hr, he, hbank, rfl⟩ := close_spec h
  obtain ⟨hl, rfl, _, rfl, _⟩ := lockerGuards_spec hg
  exact (reward_tr hok hl rfl rfl hr).trans
    ⟨.close (reward_spec hl hr).1 he rfl rfl rfl fun hnn => (Bank.sendPos_spec hnn hbank).at_src nofun,
      .same rfl fun d => by
        split at hbank
        · exact (Bank.send_sent hbank).at_other .collector nofun nofun d
        · cases hbank; rfl⟩

theorem close_pays {u app asset : Nat} {rw : Rw} (hL : LInv s) (hok : rw.ok)
    (h : step s (.close u app asset id rw) = some s') :
    ∃ l, Store.get s.lockers id = some l ∧ l.owner = u ∧
      bal s' (.user u) asset = bal s (.user u) asset + (l.net + rw.amount) := by
  obtain ⟨l, s1, e, b, hg, hr, he, hbank, rfl⟩ := close_spec h
  obtain ⟨hl, rfl, hown, rfl, _⟩ := lockerGuards_spec hg
  have hnn := ((reward_tr hok hl rfl rfl hr).l.inv hL).netNonneg _ (Store.mem_of_get (reward_spec hl hr).1)
  refine ⟨l, hl, hown, ?_⟩
  rw [← reward_user hok hr]
  exact ((Bank.sendPos_spec hnn hbank).at_dst nofun l.asset).trans (by simp [bal])

theorem rewardCalc_spec {app : Nat} {rw : Rw} (h : step s (.rewardCalc app id rw) = some s') :
    ∃ l, Store.get s.lockers id = some l ∧ l.app = app ∧ reward s id app l.asset rw = some s' := by
  simp only [step, Option.ite_none_left_eq_some] at h
  obtain ⟨_, _, h⟩ := h
  match_ok hl : Store.get s.lockers id with l at h
  simp only [Option.ite_none_left_eq_some, Decidable.not_not] at h
  exact ⟨l, rfl, h.1, h.2⟩

theorem rewardCalc_tr {app : Nat} {rw : Rw} (hok : rw.ok) (h : step s (.rewardCalc app id rw) = some s') : Tr s s' := by
  obtain ⟨l, hl, happ, hr⟩ := rewardCalc_spec h
  exact reward_tr hok hl happ rfl hr

end Messages

section Collector
variable {s s' : State} {k : Nat × Nat}

/-- the inflow shared by fee payments, penalties, returned lots and auction proceeds; `hs1` is what `creditCollector` (or its form
that acts only on a positive amount) left -/
theorem inflow_tr {s1 : State} {b : Bank} {app asset : Nat} {x : Int} (hA : Bank.Adds s.bank b .collector asset x)
    (hs1 : s1 = { s with bank := b }) (hset : setNetFee s1 (app, asset) x = some s') : Tr s s' := by
  subst hs1
  obtain ⟨hx, rfl⟩ := setNetFee_spec hset
  exact Tr.fee (app, asset) x rfl rfl rfl rfl (fun _ => by omega) hA.self (hA.other .locker nofun)

theorem creditRecord_tr {s1 : State} {app asset : Nat} {x : Int} (hc : creditCollector s asset x = some s1)
    (hset : setNetFee s1 (app, asset) x = some s') : Tr s s' := by
  obtain ⟨_, b, hA, hs1⟩ := creditCollector_spec hc
  exact inflow_tr hA hs1 hset

theorem auctionReturn_tr {app asset : Nat} {x : Int} (h : step s (.auctionReturn app asset x) = some s') : Tr s s' := by
  simp only [step, Option.bind_eq_some_iff] at h
  obtain ⟨s1, hc, hset⟩ := h
  exact creditRecord_tr hc hset

theorem feeVault_tr {app asset : Nat} {x : Int} (h : step s (.feeVault app asset x) = some s') : Tr s s' := by
  simp only [step] at h
  split at h
  · simp only [Option.bind_eq_some_iff] at h
    obtain ⟨s1, hc, hu⟩ := h
    exact creditRecord_tr hc (updateCollector_spec hu)
  · cases h; exact Tr.refl s

/-- the first- and the second-generation penalty (`Op.penalty`, `Op.v2Penalty`) are the same term -/
theorem penalty_tr {app asset : Nat} {x : Int} (h : step s (.penalty app asset x) = some s') : Tr s s' := by
  simp only [step, Option.bind_eq_some_iff] at h
  obtain ⟨s1, hc, hset⟩ := h
  obtain ⟨b, hA, hs1⟩ := creditIf_spec (setNetFee_spec hset).1 hc
  exact inflow_tr hA hs1 hset

theorem feeClose_tr {app asset : Nat} {i c : Int} (hi : 0 ≤ i) (hc : 0 ≤ c)
    (h : step s (.feeClose app asset i c) = some s') : Tr s s' := by
  simp only [step, Option.bind_eq_some_iff] at h
  obtain ⟨s1, hu, s2, h2, h3⟩ := h
  obtain ⟨_, rfl⟩ := setNetFee_spec (updateCollector_spec hu)
  obtain ⟨b2, hA2, rfl⟩ := creditIf_spec hi h2
  obtain ⟨b3, hA3, rfl⟩ := creditIf_spec hc h3
  dsimp only at hA2 hA3
  refine Tr.fee (app, asset) (i + c) rfl rfl rfl rfl (fun _ => by omega) (fun d => ?_)
    (fun d => (hA3.other .locker nofun d).trans (hA2.other .locker nofun d))
  rw [hA3.self, hA2.self]
  show _ = _ + if asset = d then i + c else 0
  split <;> omega

/-- `DecreaseNetFeeCollectedData` on its own only lowers the record (no `Delta`: the caller moves the coins). -/
theorem decreaseNetFee_inv {app asset : Nat} {x : Int} (hL : LInv s) (hC : CInvD D s) (hx : 0 ≤ x)
    (h : step s (.decreaseNetFee app asset x) = some s') : LInv s' ∧ CInvD D s' := by
  obtain ⟨_, hle, rfl⟩ := decNetFee_spec (k := (app, asset)) h
  exact ⟨hL.frame rfl rfl rfl fun _ => rfl,
    hC.move (k := (app, asset)) (δ := -x) (β := 0) rfl (by omega) (fun d => by simp) (fun a => by split <;> omega)⟩

theorem getAmount_tr {x : Int} (h : getAmount s k x = some s') : Tr s s' := by
  obtain ⟨_, hlt, b, hS, rfl⟩ := getAmount_spec h
  exact Tr.fee k (-x) rfl rfl rfl rfl (fun _ => by omega) (hS.at_src nofun) (hS.at_other .locker nofun nofun)

theorem surplusFund_tr {app asset u : Nat} {x : Int} (h : step s (.surplusFund app asset u x) = some s') : Tr s s' := by
  simp only [step] at h
  match_ok hsend : s.bank.send .collector (.user u) asset x with b at h
  obtain ⟨_, hle, rfl⟩ := decNetFee_spec h
  have hle : x ≤ fee s (app, asset) := hle
  have hS := Bank.send_sent hsend
  exact Tr.fee (app, asset) (-x) rfl rfl rfl rfl (fun _ => by omega) (hS.at_src nofun) (hS.at_other .locker nofun nofun)

end Collector

section RateChange
variable {s s' : State} {e : Lk} {id : Nat}

def HasKey (s : State) (app asset id : Nat) : Prop :=
  ∃ l, Store.get s.lockers id = some l ∧ l.app = app ∧ l.asset = asset

theorem HasKey.frame {app asset : Nat} (h : HasKey s app asset id) (h1 : s'.lockers = s.lockers) : HasKey s' app asset id := by
  obtain ⟨l, a, b, c⟩ := h; exact ⟨l, by rw [h1]; exact a, b, c⟩

/-- The `continue` after a failed transfer, with the record already lowered, cannot happen while the books are backed (`D = 0`): the
collector then holds at least the recorded net fee ≥ ρ. -/
theorem lsrIter_inv {app asset : Nat} {rw : Rw} {res : IterRes} (h : lsrIter s app asset id rw = some (s', res))
    (hL : LInv s) (hC : CInvD D s) (hok : rw.ok) (hkey : HasKey s app asset id) :
    LInv s' ∧ CInvD D s' ∧ ((∀ a, D a = 0) → Delta s s') ∧ (∀ id', HasKey s app asset id' → HasKey s' app asset id') := by
  obtain ⟨l, hl, rfl, rfl⟩ := hkey
  have same : LInv s ∧ CInvD D s ∧ ((∀ a, D a = 0) → Delta s s) ∧ (∀ id', HasKey s l.app l.asset id' → HasKey s l.app l.asset id') :=
    ⟨hL, hC, fun _ => Delta.refl _, fun _ h => h⟩
  unfold lsrIter at h
  simp only [hl] at h
  cases rw with
  | fail => cases h; exact same
  | none => cases h; exact same
  | pay ρ =>
    have hρ : 0 ≤ ρ := hok
    simp only at h
    cases hd : decNetFee s (l.app, l.asset) ρ with
    | none => simp only [hd] at h; cases h; exact same
    | some s1 =>
      simp only [hd] at h
      cases hbk : (if ρ > 0 then Bank.send s1.bank .collector .locker l.asset ρ else some s1.bank) with
      | none =>
        simp only [hbk] at h; cases h
        obtain ⟨_, hle, rfl⟩ := decNetFee_spec hd
        refine ⟨hL.frame rfl rfl rfl fun _ => rfl,
          hC.move (δ := -ρ) (β := 0) rfl (by omega) (fun d => by simp) (fun a => by split <;> omega), fun hD => ?_,
          fun id' hk => hk.frame rfl⟩
        split at hbk
        · have h1 : fee s (l.app, l.asset) ≤ feeAsset l.asset s.fees := fee_le_feeAsset hC _
          have h2 := hC.custody l.asset
          have h4 := hD l.asset
          rcases Bank.send_none hbk with h3 | h3 <;> simp only [bal] at h2 h3 <;> omega
        · cases hbk
      | some b =>
        simp only [hbk] at h
        cases hlk : Store.get s1.lookup (l.app, l.asset) with
        | none => simp only [hlk] at h; cases h
        | some lk =>
          simp only [hlk, Option.some.injEq, Prod.mk.injEq] at h
          have hlk0 : Store.get s.lookup (l.app, l.asset) = some lk := by rw [(decNetFee_spec hd).2.2] at hlk; exact hlk
          have hpay : payReward s id l.app l.asset ρ = some s' := by
            unfold payReward
            simp only [hlk0, hl, hd, hbk, h.1]
          obtain ⟨hL', hC', hΔ⟩ := (reward_tr (rw := .pay ρ) hρ hl rfl rfl hpay).keeps hL hC
          have hlockers : s'.lockers = Store.put s.lockers id { l with net := l.net + ρ, ret := l.ret + ρ } := by
            rw [← h.1, (decNetFee_spec hd).2.2]
          refine ⟨hL', hC', fun _ => hΔ, fun id' ⟨l0, h0, h1, h2⟩ => ?_⟩
          by_cases hi : id = id'
          · subst hi
            exact ⟨{ l with net := l.net + ρ, ret := l.ret + ρ }, by rw [hlockers, Store.get_put_self], rfl, rfl⟩
          · exact ⟨l0, by rw [hlockers, Store.get_put_ne _ _ hi]; exact h0, h1, h2⟩

theorem lsrLoop_inv {app asset : Nat} (ids : List Nat) :
    ∀ {s s' : State} {rws : List Rw}, LInv s → CInvD D s → (∀ rw ∈ rws, rw.ok) →
      (∀ id ∈ ids, HasKey s app asset id) → lsrLoop s app asset ids rws = some s' →
      LInv s' ∧ CInvD D s' ∧ ((∀ a, D a = 0) → Delta s s') := by
  induction ids with
  | nil => intro s s' rws hL hC _ _ h; cases h; exact ⟨hL, hC, fun _ => Delta.refl _⟩
  | cons id ids ih =>
    intro s s' rws hL hC hok hkeys h
    unfold lsrLoop at h
    have hok0 : (rws.headD .none).ok := by
      cases rws with
      | nil => trivial
      | cons r rs => exact hok r List.mem_cons_self
    split at h
    · cases h
    · next s1 _ hit =>
      obtain ⟨hL1, hC1, hD1, hk1⟩ := lsrIter_inv hit hL hC hok0 (hkeys id List.mem_cons_self)
      obtain ⟨a, b, c⟩ := ih hL1 hC1 (fun rw hrw => hok rw (List.mem_of_mem_tail hrw))
        (fun id' hid' => hk1 id' (hkeys id' (List.mem_cons_of_mem _ hid'))) h
      exact ⟨a, b, fun hD => (hD1 hD).trans (c hD)⟩
    · next s1 hit => cases h; exact (lsrIter_inv hit hL hC hok0 (hkeys id List.mem_cons_self)).imp_right (·.imp_right (·.1))

theorem LInv.hasKey {app asset : Nat} (hL : LInv s) (hlk : Store.get s.lookup (app, asset) = some e) :
    ∀ id ∈ e.ids, HasKey s app asset id := by
  intro id hid
  obtain ⟨l, hl, hk⟩ := (hL.ids _ _ hlk).2 id hid
  exact ⟨l, hl, (Prod.mk.inj hk).1, (Prod.mk.inj hk).2⟩

theorem lsrChange_inv {app asset : Nat} {rws : List Rw} (hL : LInv s) (hC : CInvD D s)
    (hok : ∀ rw ∈ rws, rw.ok) (h : step s (.lsrChange app asset rws) = some s') :
    LInv s' ∧ CInvD D s' ∧ ((∀ a, D a = 0) → Delta s s') := by
  simp only [step] at h
  split at h
  · cases h; exact ⟨hL, hC, fun _ => Delta.refl _⟩
  · next lk hlk => exact lsrLoop_inv lk.ids hL hC hok (hL.hasKey hlk) h

end RateChange

section Starts
variable {s : State}

theorem config_tr (c : Cfg) : Tr s (applyCfg s c) := by
  cases c <;> exact Tr.same ⟨rfl, rfl, rfl, rfl, rfl⟩

/-- Second generation with English auctions not activated: the kick-off fails after the lot has left and is rolled back — the first
alternative. Only the first generation consults the emergency shutdown; it looks at the kind of the entry before the threshold, the
second tests the debt threshold first. -/
theorem activateOne_spec (s : State) (gen2 : Bool) (k : Nat × Nat) :
    (activateOne s gen2 k).1 = s ∨
    (∃ m c, Store.get s.amap k = some m ∧ Store.get s.collk k = some c ∧ m.active = false ∧ k.1 ∉ s.killOn ∧
        (gen2 = false → k.1 ∉ s.esmOn) ∧
      ((m.debt = true ∧ fee s k ≤ c.debtThr - c.lot ∧ (activateOne s gen2 k).1 = setActive s k m) ∨
       (m.surplus = true ∧ c.surplusThr + c.lot ≤ fee s k ∧ ∃ s1, getAmount s k c.lot = some s1 ∧
          (activateOne s gen2 k).1 = setActive s1 k m))) := by
  -- the decision is taken apart on a name for its result, so that each case distinction meets the definition once
  generalize hr : activateOne s gen2 k = r
  unfold activateOne at hr
  split at hr
  · subst hr; exact Or.inl rfl
  next m hm =>
  by_cases hoff : (m.active || decide (k.1 ∈ s.killOn) || (!gen2 && decide (k.1 ∈ s.esmOn))) = true
  · rw [if_pos hoff] at hr; subst hr; exact Or.inl rfl
  rw [if_neg hoff] at hr
  simp only [Bool.or_eq_true, Bool.and_eq_true, decide_eq_true_eq, Bool.not_eq_true', not_or, not_and] at hoff
  obtain ⟨⟨hact, hkill⟩, hesm⟩ := hoff
  have hact' : m.active = false := by simpa using hact
  split at hr
  · next c v hc hv =>
    rw [show fee s k = v by simp [fee, hv]]
    cases gen2
    · simp only [Bool.false_eq_true, if_false] at hr
      have hesm' : k.1 ∉ s.esmOn := by simpa using hesm
      by_cases hsur : m.surplus = true
      · rw [if_pos hsur] at hr
        by_cases hthr : v ≥ c.surplusThr + c.lot
        · rw [if_pos hthr] at hr
          split at hr
          · subst hr; exact Or.inl rfl
          · next s1 hg =>
            subst hr; exact Or.inr ⟨m, c, hm, hc, hact', hkill, fun _ => hesm', Or.inr ⟨hsur, hthr, s1, hg, rfl⟩⟩
        · rw [if_neg hthr] at hr; subst hr; exact Or.inl rfl
      · rw [if_neg hsur] at hr
        by_cases hdebt : m.debt = true
        · rw [if_pos hdebt] at hr
          by_cases hthr : v ≤ c.debtThr - c.lot
          · rw [if_pos hthr] at hr; subst hr
            exact Or.inr ⟨m, c, hm, hc, hact', hkill, fun _ => hesm', Or.inl ⟨hdebt, hthr, rfl⟩⟩
          · rw [if_neg hthr] at hr; subst hr; exact Or.inl rfl
        · rw [if_neg hdebt] at hr; subst hr; exact Or.inl rfl
    · simp only [if_true] at hr
      by_cases hd : v ≤ c.debtThr - c.lot ∧ m.debt = true
      · rw [if_pos hd] at hr
        by_cases heng : k.1 ∈ s.englishOn
        · rw [if_pos heng] at hr; subst hr
          exact Or.inr ⟨m, c, hm, hc, hact', hkill, nofun, Or.inl ⟨hd.2, hd.1, rfl⟩⟩
        · rw [if_neg heng] at hr; subst hr; exact Or.inl rfl
      · rw [if_neg hd] at hr
        by_cases hsur : v ≥ c.surplusThr + c.lot ∧ m.surplus = true
        · rw [if_pos hsur] at hr
          split at hr
          · subst hr; exact Or.inl rfl
          · next s1 hg =>
            by_cases heng : k.1 ∈ s.englishOn
            · rw [if_pos heng] at hr; subst hr
              exact Or.inr ⟨m, c, hm, hc, hact', hkill, nofun, Or.inr ⟨hsur.2, hsur.1, s1, hg, rfl⟩⟩
            · rw [if_neg heng] at hr; subst hr; exact Or.inl rfl
        · rw [if_neg hsur] at hr; subst hr; exact Or.inl rfl
  · subst hr; exact Or.inl rfl

theorem activateOne_tr (gen2 : Bool) (k : Nat × Nat) : Tr s (activateOne s gen2 k).1 := by
  rcases activateOne_spec s gen2 k with h | ⟨m, c, _, _, _, _, _, ⟨_, _, h⟩ | ⟨_, _, s1, hg, h⟩⟩ <;> rw [h]
  · exact Tr.refl s
  · exact Tr.same ⟨rfl, rfl, rfl, rfl, rfl⟩
  · exact (getAmount_tr hg).trans (Tr.same ⟨rfl, rfl, rfl, rfl, rfl⟩)

theorem activate_tr (gen2 : Bool) (keys : List (Nat × Nat)) : ∀ {s : State}, Tr s (activate s gen2 keys) := by
  induction keys with
  | nil => exact Tr.refl _
  | cons k ks ih =>
    intro s
    simp only [activate]
    split
    · exact activateOne_tr gen2 k
    · exact (activateOne_tr gen2 k).trans ih

end Starts

section Gen1
variable {s s' : State} {id : Nat}

theorem closeMoves_spec {a : Auc1} {esm : Bool} (h : closeMoves s a esm = some s') :
    let back := (a.surplus = true ∧ (a.bidder = none ∨ esm = true)) ∨ (a.surplus = false ∧ a.bidder ≠ none ∧ esm = false)
    (back ∧ 0 ≤ a.lot ∧ ∃ b, Bank.Sent s.bank b .auction .collector a.asset a.lot ∧
      s' = { s with bank := b, fees := Store.put s.fees (a.app, a.asset) (fee s (a.app, a.asset) + a.lot) }) ∨
    (¬ back ∧ ∃ b, (∀ d, b.bal .locker d = s.bank.bal .locker d) ∧ (∀ d, b.bal .collector d = s.bank.bal .collector d) ∧
      s' = { s with bank := b }) := by
  have toC : ((s.bank.send .auction .collector a.asset a.lot).bind fun b => setNetFee { s with bank := b } (a.app, a.asset) a.lot)
      = some s' → 0 ≤ a.lot ∧ ∃ b, Bank.Sent s.bank b .auction .collector a.asset a.lot ∧
        s' = { s with bank := b, fees := Store.put s.fees (a.app, a.asset) (fee s (a.app, a.asset) + a.lot) } := by
    intro h
    simp only [Option.bind_eq_some_iff] at h
    obtain ⟨b, hs, hset⟩ := h
    obtain ⟨hx, rfl⟩ := setNetFee_spec hset
    exact ⟨hx, b, Bank.send_sent hs, rfl⟩
  have toU : ∀ u, ((s.bank.send .auction (.user u) a.asset a.lot).map fun b => ({ s with bank := b } : State)) = some s' →
      ∃ b, (∀ d, b.bal .locker d = s.bank.bal .locker d) ∧ (∀ d, b.bal .collector d = s.bank.bal .collector d) ∧
        s' = { s with bank := b } := by
    intro u h
    simp only [Option.map_eq_some_iff] at h
    obtain ⟨b, hs, rfl⟩ := h
    have hS := Bank.send_sent hs
    exact ⟨b, hS.at_other .locker nofun nofun, hS.at_other .collector nofun nofun, rfl⟩
  unfold closeMoves at h
  cases hsur : a.surplus <;> cases hb : a.bidder <;> cases esm <;>
    simp only [hsur, hb, Bool.false_eq_true, Bool.true_eq_false, reduceCtorEq, ne_eq, not_true_eq_false, not_false_eq_true,
      and_self, and_true, and_false, true_and, false_and, or_self, or_true, or_false, false_or] at h ⊢
  case false.none.false => cases h; exact ⟨s.bank, fun _ => rfl, fun _ => rfl, rfl⟩
  case false.none.true => cases h; exact ⟨s.bank, fun _ => rfl, fun _ => rfl, rfl⟩
  case false.some.false => exact toC h
  case false.some.true => exact toU _ h
  case true.none.false => exact toC h
  case true.none.true => exact toC h
  case true.some.false => exact toU _ h
  case true.some.true => exact toC h

theorem closeMoves_tr {a : Auc1} {esm : Bool} (h : closeMoves s a esm = some s') : Tr s s' := by
  rcases closeMoves_spec h with ⟨_, hx, b, hS, rfl⟩ | ⟨_, b, hl, hc, rfl⟩
  · exact Tr.fee (a.app, a.asset) a.lot rfl rfl rfl rfl (fun _ => by omega) (hS.at_dst nofun) (hS.at_other .locker nofun nofun)
  · exact Tr.frame rfl rfl rfl rfl hl hc

theorem closeAuc_tr {a : Auc1} {esm : Bool} (h : closeAuc s a esm = some s') : Tr s s' := by
  simp only [closeAuc, Option.bind_eq_some_iff, Option.map_eq_some_iff] at h
  obtain ⟨s1, h1, s2, hc, rfl⟩ := h
  obtain ⟨m, rfl⟩ := clearActive_spec hc
  exact (closeMoves_tr h1).trans (Tr.same ⟨rfl, rfl, rfl, rfl, rfl⟩)

theorem sweepAucs_tr (app : Nat) (surplus esm : Bool) (now : Int) (as : List Auc1) : ∀ {s s' : State},
    sweepAucs s app surplus esm now as = some s' → Tr s s' := by
  induction as with
  | nil => intro s s' h; cases h; exact Tr.refl s
  | cons a as ih =>
    intro s s' h
    simp only [sweepAucs] at h
    split at h
    · split at h
      · exact (Tr.same (s := s) (s' := restartAuc s a now) ⟨rfl, rfl, rfl, rfl, rfl⟩).trans (ih h)
      · match_ok hc : closeAuc s a esm with s1 at h
        exact (closeAuc_tr hc).trans (ih h)
    · exact ih h

theorem recordStart_tr {r : State} (k : Nat × Nat) (now : Int) : Tr r (recordStart s r k now) := by
  unfold recordStart
  split
  · split
    · exact Tr.same ⟨rfl, rfl, rfl, rfl, rfl⟩
    · exact Tr.refl r
  · exact Tr.refl r

theorem unit1_tr (active kind : Bool) (now : Int) (k : Nat × Nat) : Tr s (unit1 s active kind now k) := by
  unfold unit1
  split
  · cases ho : sweepAucs s k.1 kind (decide (k.1 ∈ s.esmOn)) now s.auctions with
    | none => exact Tr.refl s
    | some s' => exact sweepAucs_tr k.1 kind _ now s.auctions ho
  · exact (activateOne_tr false k).trans (recordStart_tr k now)

theorem begin1Entry_tr (snap : Store (Nat × Nat) AMap) (now : Int) (k : Nat × Nat) : Tr s (begin1Entry s snap now k) := by
  unfold begin1Entry
  split
  · exact Tr.refl s
  · next d _ =>
    have h1 : Tr s (if d.surplus = true then unit1 s d.active true now k else s) := by
      split
      · exact unit1_tr _ _ now k
      · exact Tr.refl s
    simp only
    split
    · exact h1.trans (unit1_tr d.active false now k)
    · exact h1

theorem begin1Loop_tr (snap : Store (Nat × Nat) AMap) (now : Int) (keys : List (Nat × Nat)) : ∀ {s : State},
    Tr s (begin1Loop s snap now keys) := by
  induction keys with
  | nil => exact Tr.refl _
  | cons k ks ih => exact (begin1Entry_tr snap now k).trans ih

theorem surplusBid_tr {app u : Nat} {amt now : Int} (h : surplusBid s app id u amt now = some s') : Tr s s' := by
  unfold surplusBid at h
  split at h; · cases h
  match_ok ha : s.auctions.find? _ with a at h
  split at h
  · cases h; exact Tr.same ⟨rfl, rfl, rfl, rfl, rfl⟩
  · cases h

theorem refundPrev_other {b b' : Bank} {a : Auc1} (h : refundPrev b a = some b') (acct : Acct) (ha : .auction ≠ acct)
    (hu : ∀ v, .user v ≠ acct) (d : Nat) : b'.bal acct d = b.bal acct d := by
  unfold refundPrev at h
  split at h
  · exact (Bank.send_sent h).at_other acct ha (hu _) d
  · cases h; rfl

theorem debtBid_tr {app u : Nat} {bid exp now : Int} (h : debtBid s app id u bid exp now = some s') : Tr s s' := by
  simp only [debtBid, Option.ite_none_left_eq_some] at h
  obtain ⟨_, h⟩ := h
  match_ok ha : s.auctions.find? _ with a at h
  simp only [Option.ite_none_left_eq_some, Option.ite_none_right_eq_some] at h
  obtain ⟨_, _, h⟩ := h
  match_ok hs1 : s.bank.send (.user u) .auction a.asset a.lot with b1 at h
  have hS1 := Bank.send_sent hs1
  match_ok hb2 : refundPrev b1 a with b2 at h
  cases h
  exact Tr.frame rfl rfl rfl rfl
    (fun d => (refundPrev_other hb2 .locker nofun nofun d).trans (hS1.at_other .locker nofun nofun d))
    (fun d => (refundPrev_other hb2 .collector nofun nofun d).trans (hS1.at_other .collector nofun nofun d))

end Gen1

section AllOps
variable {s s' : State}

/-- Every operation other than the two second-generation closes keeps both invariants; exactness fails only for a raw decrease (the
caller moves the coins) and, off backed books, for a saving-rate change (`lsrIter_inv`). -/
theorem step_inv {s s' : State} {op : Op} (hL : LInv s) (hC : CInvD D s) (hext : op.extOk) (hv2 : op.isV2Close = false)
    (h : step s op = some s') : LInv s' ∧ CInvD D s' ∧ (op.isRawDecrease = false → (∀ a, D a = 0) → Delta s s') := by
  have tr : Tr s s' → LInv s' ∧ CInvD D s' ∧ (op.isRawDecrease = false → (∀ a, D a = 0) → Delta s s') :=
    fun hT => ⟨(hT.keeps hL hC).1, (hT.keeps hL hC).2.1, fun _ _ => (hT.keeps hL hC).2.2⟩
  cases op with
  | lsrChange a b rws => have := lsrChange_inv hL hC hext h; exact ⟨this.1, this.2.1, fun _ hD => this.2.2 hD⟩
  | decreaseNetFee a b x => have := decreaseNetFee_inv hL hC hext h; exact ⟨this.1, this.2, nofun⟩
  | v2SurplusClose a b u x => cases hv2
  | v2DebtClose a b c d => cases hv2
  | fund u a x => exact tr (fund_tr h)
  | whitelist a b => exact tr (whitelist_tr h)
  | create u a b x => exact tr (create_tr h)
  | deposit u a b i x rw => exact tr (deposit_tr hext h)
  | withdraw u a b i x rw => exact tr (withdraw_tr hext h)
  | close u a b i rw => exact tr (close_tr hext h)
  | rewardCalc a i rw => exact tr (rewardCalc_tr hext h)
  | feeVault a b x => exact tr (feeVault_tr h)
  | feeClose a b i c => exact tr (feeClose_tr hext.1 hext.2 h)
  | penalty a b x => exact tr (penalty_tr h)
  | auctionReturn a b x => exact tr (auctionReturn_tr h)
  | getAmount a b x => exact tr (getAmount_tr (k := (a, b)) h)
  | surplusFund a b u x => exact tr (surplusFund_tr h)
  | v2Penalty a b c d => exact tr (penalty_tr (app := a) (asset := c) h)
  | config c => cases h; exact tr (config_tr c)
  | activate g ks => cases h; exact tr (activate_tr g ks)
  | begin1 now ks => cases h; exact tr (begin1Loop_tr s.amap now ks)
  | surplusBid a i u x n => exact tr (surplusBid_tr h)
  | debtBid a i u b e n => exact tr (debtBid_tr h)

theorem Op.dmg_nonneg (op : Op) (a : Nat) : 0 ≤ op.dmg a := by
  cases op with
  | v2SurplusClose _ b _ lot =>
    show 0 ≤ if a = b then (if 0 ≤ lot then 2 * lot else 0) else 0
    split
    · split <;> omega
    · exact Int.le_refl 0
  | v2DebtClose _ b c d =>
    show 0 ≤ if a = b then (if 0 ≤ c - d then c - d else 0) else 0
    split
    · split <;> omega
    · exact Int.le_refl 0
  | _ => exact Int.le_refl 0

theorem Op.dmg_zero {op : Op} (h : op.isV2Close = false) (a : Nat) : op.dmg a = 0 := by
  cases op with
  | v2SurplusClose => cases h
  | v2DebtClose => cases h
  | _ => rfl

theorem v2SurplusClose_inv {app asset u : Nat} {lot : Int} (hL : LInv s) (hC : CInvD D s)
    (h : step s (.v2SurplusClose app asset u lot) = some s') :
    LInv s' ∧ CInvD (fun a => D a + (Op.v2SurplusClose app asset u lot).dmg a) s' := by
  simp only [step] at h
  match_ok hs1 : s.bank.send .collector .auctionV2 asset lot with b1 at h
  match_ok hs2 : Bank.send b1 .auctionV2 (.user u) asset lot with b2 at h
  simp only [Option.bind_eq_some_iff] at h
  obtain ⟨s2, hset, hclr⟩ := h
  obtain ⟨m, rfl⟩ := clearActive_spec hclr
  obtain ⟨hx, rfl⟩ := setNetFee_spec hset
  have hS1 := Bank.send_sent hs1
  have hS2 := Bank.send_sent hs2
  exact ⟨hL.frame rfl rfl rfl fun d => (hS2.at_other .locker nofun nofun d).trans (hS1.at_other .locker nofun nofun d),
    hC.move_le (k := (app, asset)) (δ := lot) (β := -lot) rfl (by have := fee_nonneg hC (app, asset); omega)
      (fun d => (hS2.at_other .collector nofun nofun d).trans (hS1.at_src nofun d)) (by rw [if_pos hx]; omega)⟩

theorem v2DebtClose_inv {app asset : Nat} {c d : Int} (hL : LInv s) (hC : CInvD D s)
    (h : step s (.v2DebtClose app asset c d) = some s') :
    LInv s' ∧ CInvD (fun a => D a + (Op.v2DebtClose app asset c d).dmg a) s' := by
  simp only [step, Option.bind_eq_some_iff] at h
  obtain ⟨s2, ⟨s1, hc, hset⟩, hclr⟩ := h
  obtain ⟨m, rfl⟩ := clearActive_spec hclr
  obtain ⟨_, b, hA, rfl⟩ := creditCollector_spec hc
  obtain ⟨hc0, rfl⟩ := setNetFee_spec hset
  exact ⟨hL.frame rfl rfl rfl (hA.other .locker nofun),
    hC.move_le (k := (app, asset)) (δ := c) (β := d) rfl (by have := fee_nonneg hC (app, asset); omega) hA.self
      (by split <;> omega)⟩

theorem step_invD {op : Op} (hL : LInv s) (hC : CInvD D s) (hext : op.extOk)
    (h : step s op = some s') : LInv s' ∧ CInvD (fun a => D a + op.dmg a) s' := by
  by_cases hv2 : op.isV2Close = false
  · obtain ⟨a, b, _⟩ := step_inv hL hC hext hv2 h
    exact ⟨a, b.mono (fun x => by rw [Op.dmg_zero hv2]; omega)⟩
  · cases op with
    | v2SurplusClose => exact v2SurplusClose_inv hL hC h
    | v2DebtClose => exact v2DebtClose_inv hL hC h
    | _ => exact absurd rfl hv2

theorem repairedSurplusClose_tr {app asset u : Nat} {lot : Int}
    (h : stepRepaired s (.v2SurplusClose app asset u lot) = some s') : Tr s s' := by
  simp only [stepRepaired] at h
  match_ok hs1 : s.bank.send .auction .auctionV2 asset lot with b1 at h
  match_ok hs2 : Bank.send b1 .auctionV2 (.user u) asset lot with b2 at h
  obtain ⟨m, rfl⟩ := clearActive_spec h
  have hS1 := Bank.send_sent hs1
  have hS2 := Bank.send_sent hs2
  exact Tr.frame rfl rfl rfl rfl
    (fun d => (hS2.at_other .locker nofun nofun d).trans (hS1.at_other .locker nofun nofun d))
    (fun d => (hS2.at_other .collector nofun nofun d).trans (hS1.at_other .collector nofun nofun d))

theorem repairedDebtClose_tr {app asset : Nat} {c d : Int}
    (h : stepRepaired s (.v2DebtClose app asset c d) = some s') : Tr s s' := by
  simp only [stepRepaired, Option.bind_eq_some_iff] at h
  obtain ⟨s2, ⟨s1, hc, hset⟩, hclr⟩ := h
  obtain ⟨m, rfl⟩ := clearActive_spec hclr
  exact (creditRecord_tr hc hset).trans (Tr.same ⟨rfl, rfl, rfl, rfl, rfl⟩)

end AllOps

end Comdex.Locker
