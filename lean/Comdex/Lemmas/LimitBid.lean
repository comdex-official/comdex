import Comdex.Model.LimitBid
import Comdex.Lemmas.English
import Comdex.Lemmas.LockerStore
/-! The limit-bid model.  An accepted step is a step of the English engine or a `BookOp` on one record (`step_cases`).  What a book
message does to the list of deposits is `Shift` (shared with `LimitFill`), to the books and the custody `Move` (given positive records
and a user as sender), to the other records and the users `Pays` (unconditionally).  Every step keeps `Kept`: deposits positive,
BidValue = Σ deposits per market, custody covers deposits + fees + standing bids.  The keyed lists are `Locker.Store`s: their facts
come from `LockerStore` through `getK_eq` … `sumK_eq`.  Core Lean only. -/
namespace Comdex.LimitBid
open Comdex.English
open Comdex.Locker (Store)

section keyed
variable {κ : Type} [DecidableEq κ]

theorem getD0_eq (l : List (κ × Int)) (k : κ) : getD0 l k = (match getK l k with | some v => v | none => 0) := rfl

theorem getK_eq (l : List (κ × Int)) (k : κ) : getK l k = Store.get l k := by
  induction l with
  | nil => rfl
  | cons h t ih => simp only [getK, Store.get, ih]

theorem putK_eq (l : List (κ × Int)) (k : κ) (v : Int) : putK l k v = Store.put l k v := by
  induction l with
  | nil => rfl
  | cons h t ih => simp only [putK, Store.put, ih]

theorem delK_eq (l : List (κ × Int)) (k : κ) : delK l k = Store.del l k := by
  induction l with
  | nil => rfl
  | cons h t ih => simp only [delK, Store.del, ih]

omit [DecidableEq κ] in
theorem sumK_eq (p : κ → Bool) (l : List (κ × Int)) : sumK p l = Store.sumBy (fun k v => if p k then v else 0) l := by
  induction l with
  | nil => rfl
  | cons h t ih => simp only [sumK, Store.sumBy, ih]

theorem at0_eq (p : κ → Bool) (l : List (κ × Int)) (k : κ) :
    Store.at0 (fun k v => if p k then v else 0) l k = if p k then getD0 l k else 0 := by
  unfold Store.at0 getD0; rw [getK_eq]; cases Store.get l k <;> simp

theorem getK_putK (l : List (κ × Int)) (k : κ) (v : Int) (k' : κ) :
    getK (putK l k v) k' = if k = k' then some v else getK l k' := by
  rw [putK_eq, getK_eq, getK_eq, Store.get_put]

theorem getD0_putK (l : List (κ × Int)) (k : κ) (v : Int) (k' : κ) :
    getD0 (putK l k v) k' = if k = k' then v else getD0 l k' := by
  unfold getD0
  rw [getK_putK]
  by_cases e : k = k' <;> simp only [e, if_true, if_false]

theorem getK_delK_ne (l : List (κ × Int)) (k k' : κ) (h : k ≠ k') : getK (delK l k) k' = getK l k' := by
  rw [delK_eq, getK_eq, getK_eq, Store.get_del_ne _ h]

theorem getK_putK_ne (l : List (κ × Int)) (k k' : κ) (v : Int) (h : k ≠ k') : getK (putK l k v) k' = getK l k' := by
  rw [getK_putK, if_neg h]

theorem getK_mem {l : List (κ × Int)} {k : κ} {v : Int} (h : getK l k = some v) : (k, v) ∈ l :=
  Store.mem_of_get (getK_eq l k ▸ h)

theorem getD0_of_getK {l : List (κ × Int)} {k : κ} {v : Int} (h : getK l k = some v) : getD0 l k = v := by
  unfold getD0; rw [h]

theorem getD0_nonneg {l : List (κ × Int)} (h : ∀ kv ∈ l, kv.2 > 0) (k : κ) : 0 ≤ getD0 l k := by
  unfold getD0
  split
  · next hk => exact Int.le_of_lt (h _ (getK_mem hk))
  · exact Int.le_refl 0

theorem getD0_putK_add (l : List (κ × Int)) (k : κ) (x : Int) (k' : κ) :
    getD0 (putK l k (getD0 l k + x)) k' = getD0 l k' + if k = k' then x else 0 := by
  rw [getD0_putK]
  split
  · next e => rw [e]
  · omega

/-- `l'` is `l` with the record at `k` changed by `δ`.  `pos` is an implication: a deposit's new value is positive because the old one
is not negative. -/
structure Shift (l l' : List (κ × Int)) (k : κ) (δ : Int) : Prop where
  pos : (∀ kv ∈ l, kv.2 > 0) → ∀ kv ∈ l', kv.2 > 0
  sum : ∀ p, sumK p l' = sumK p l + if p k then δ else 0
  others : ∀ k', k' ≠ k → getK l' k' = getK l k'

theorem Shift.put {l : List (κ × Int)} {k : κ} {v δ : Int} (hv : (∀ kv ∈ l, kv.2 > 0) → 0 < v) (hδ : v = getD0 l k + δ) :
    Shift l (putK l k v) k δ := by
  refine ⟨fun hp => putK_eq l k v ▸ Store.forall_put hp (hv hp), fun p => ?_, fun _ hne => getK_putK_ne _ _ _ _ (Ne.symm hne)⟩
  rw [putK_eq, sumK_eq, sumK_eq, Store.sumBy_put, at0_eq]; split <;> omega

theorem Shift.del {l : List (κ × Int)} {k : κ} {δ : Int} (hδ : getD0 l k + δ = 0) : Shift l (delK l k) k δ := by
  refine ⟨fun hp => delK_eq l k ▸ Store.forall_del hp, fun p => ?_, fun _ hne => getK_delK_ne _ _ _ (Ne.symm hne)⟩
  rw [delK_eq, sumK_eq, sumK_eq, Store.sumBy_del, at0_eq]; split <;> omega

end keyed

theorem sumK_le_of_imp {κ : Type} (p q : κ → Bool) (l : List (κ × Int)) (hpq : ∀ k, p k = true → q k = true)
    (hpos : ∀ kv ∈ l, kv.2 > 0) : sumK p l ≤ sumK q l := by
  induction l with
  | nil => exact Int.le_refl _
  | cons hd t ih =>
    have hv := hpos hd List.mem_cons_self
    have := ih fun kv hkv => hpos kv (List.mem_cons_of_mem _ hkv)
    simp only [sumK]
    split
    · next hp => rw [if_pos (hpq _ hp)]; omega
    · split <;> omega

theorem deposit_spec {s s' : State} {who : Acct} {coll debt : Nat} {prem : Int} {denom : Denom} {amt : Int}
    (h : depositStep s who coll debt prem denom amt = some s') :
    amt > 0 ∧ 0 ≤ prem ∧ prem ≤ maxPremium ∧ denomOf s.assets debt = some denom ∧
    ∃ b, send s.eng.bank who s.eng.cust denom amt = some b ∧
      s' = { setBank s b with
             deps := putK s.deps ⟨debt, coll, prem, who⟩ (getD0 s.deps ⟨debt, coll, prem, who⟩ + amt),
             bv := putK s.bv (debt, coll) (getD0 s.bv (debt, coll) + amt) } := by
  simp only [depositStep, Option.ite_none_left_eq_some] at h
  obtain ⟨h0, h1, h⟩ := h
  match_ok hc : denomOf s.assets coll with _ at h
  match_ok hdd : denomOf s.assets debt with dd at h
  simp only [Option.ite_none_left_eq_some, Decidable.not_not] at h
  obtain ⟨rfl, h3, h⟩ := h
  match_ok hb : send s.eng.bank who s.eng.cust dd amt with b at h
  cases h
  exact ⟨by omega, by omega, by omega, rfl, b, rfl, rfl⟩

theorem cancelCore_spec {s s' : State} {k : Key} {rec : Int} {dd : Denom} (h : cancelCore s k rec dd = some s') :
    (rec > 0 ∧ ∃ b, send s.eng.bank s.eng.cust k.who dd (rec - fee s.closingFee rec) = some b ∧
        s' = { setBank s b with
               deps := delK s.deps k,
               bv := putK s.bv (k.debt, k.coll) (getD0 s.bv (k.debt, k.coll) - rec),
               fees := putK s.fees dd (getD0 s.fees dd + fee s.closingFee rec) }) ∨
    (rec ≤ 0 ∧ s' = { s with deps := delK s.deps k, bv := putK s.bv (k.debt, k.coll) (getD0 s.bv (k.debt, k.coll) - rec) }) := by
  unfold cancelCore at h
  split at h
  · next hr =>
    simp only at h
    split at h
    · cases h
    · next b hb => cases h; exact .inl ⟨hr, b, hb, rfl⟩
  · cases h; exact .inr ⟨by omega, rfl⟩

theorem cancel_spec {s s' : State} {who : Acct} {coll debt : Nat} {prem : Int}
    (h : cancelStep s who coll debt prem = some s') :
    ∃ rec dd, getK s.deps ⟨debt, coll, prem, who⟩ = some rec ∧ denomOf s.assets debt = some dd ∧
      cancelCore s ⟨debt, coll, prem, who⟩ rec dd = some s' := by
  simp only [cancelStep, Option.ite_none_left_eq_some] at h
  have h := h.2.2
  split at h
  · cases h
  next rec hr =>
  split at h
  · cases h
  · next dd hd => exact ⟨rec, dd, hr, hd, h⟩

theorem withdraw_spec {s s' : State} {who : Acct} {coll debt : Nat} {prem : Int} {denom : Denom} {amt : Int}
    (h : withdrawStep true s who coll debt prem denom amt = some s') :
    ∃ rec, getK s.deps ⟨debt, coll, prem, who⟩ = some rec ∧ denomOf s.assets debt = some denom ∧
      0 < amt ∧ amt ≤ rec ∧
      ((amt = rec ∧ cancelCore s ⟨debt, coll, prem, who⟩ rec denom = some s') ∨
       (amt < rec ∧ ∃ b, send s.eng.bank s.eng.cust who denom (amt - fee s.withdrawalFee amt) = some b ∧
          s' = { setBank s b with
                 deps := putK s.deps ⟨debt, coll, prem, who⟩ (rec - amt),
                 bv := putK s.bv (debt, coll) (getD0 s.bv (debt, coll) - amt),
                 fees := putK s.fees denom (getD0 s.fees denom + fee s.withdrawalFee amt) })) := by
  simp only [withdrawStep, Option.ite_none_left_eq_some] at h
  obtain ⟨h0, -, h⟩ := h
  match_ok hr : getK s.deps ⟨debt, coll, prem, who⟩ with rec at h
  match_ok hd : denomOf s.assets debt with dd at h
  simp only [Option.ite_none_left_eq_some, true_and, not_or, Decidable.not_not, Int.not_lt] at h
  obtain ⟨⟨rfl, hle⟩, h⟩ := h
  refine ⟨rec, rfl, rfl, by omega, hle, ?_⟩
  by_cases he : amt = rec
  · rw [if_pos he] at h; exact .inl ⟨he, h⟩
  rw [if_neg he, if_pos (by omega : rec > 0)] at h
  match_ok hb : send s.eng.bank s.eng.cust who denom (amt - fee s.withdrawalFee amt) with b at h
  cases h
  exact .inr ⟨by omega, b, rfl, rfl⟩

/-- what a book operation on record `k` does to everybody else: the other records stay, and the only user account that moves is
the depositor's, by `x` of `denom` -/
structure Pays (s s' : State) (k : Key) (denom : Denom) (x : Int) : Prop where
  others : ∀ k', k' ≠ k → getK s'.deps k' = getK s.deps k'
  users : ∀ y e, y ≠ s.eng.cust → bal s'.eng.bank y e = bal s.eng.bank y e + if k.who = y ∧ denom = e then x else 0

theorem cancelCore_pays {s s' : State} {k : Key} {rec : Int} {dd : Denom} (h : cancelCore s k rec dd = some s') :
    Pays s s' k dd (if rec > 0 then rec - fee s.closingFee rec else 0) := by
  rcases cancelCore_spec h with ⟨hr, b, hb, rfl⟩ | ⟨hr, rfl⟩
  · refine ⟨fun k' hne => getK_delK_ne _ _ _ (Ne.symm hne), fun y e hy => ?_⟩
    show bal b y e = _
    rw [send_bal hb, if_pos hr]
    simp [Ne.symm hy]
  · refine ⟨fun k' hne => getK_delK_ne _ _ _ (Ne.symm hne), fun y e _ => ?_⟩
    rw [if_neg (show ¬ rec > 0 by omega)]
    simp

theorem withdraw_pays {s s' : State} {who : Acct} {coll debt : Nat} {prem : Int} {denom : Denom} {amt : Int}
    (h : withdrawStep true s who coll debt prem denom amt = some s') :
    ∃ rec, getK s.deps ⟨debt, coll, prem, who⟩ = some rec ∧ denomOf s.assets debt = some denom ∧ 0 < amt ∧ amt ≤ rec ∧
      Pays s s' ⟨debt, coll, prem, who⟩ denom (amt - if amt = rec then fee s.closingFee amt else fee s.withdrawalFee amt) := by
  obtain ⟨rec, hk, hd, ha, hle, ⟨rfl, hc⟩ | ⟨hlt, b, hb, rfl⟩⟩ := withdraw_spec h
  · have p := cancelCore_pays hc
    rw [if_pos ha] at p
    exact ⟨amt, hk, hd, ha, hle, by rwa [if_pos rfl]⟩
  · refine ⟨rec, hk, hd, ha, hle, fun k' hne => getK_putK_ne _ _ _ _ (Ne.symm hne), fun y e hy => ?_⟩
    show bal b y e = _
    rw [if_neg (show ¬ amt = rec by omega), send_bal hb]
    simp [Ne.symm hy]

def Pos (s : State) : Prop := ∀ kv ∈ s.deps, kv.2 > 0

def BvInv (s : State) : Prop := ∀ debt coll, getD0 s.bv (debt, coll) = marketSum s.deps debt coll

def gapL (s : State) (d : Denom) : Int := custGap s.eng d - denomSum s d - getD0 s.fees d

def SenderOkL (s : State) (op : Op) : Prop := ∀ who, op.sender? = some who → who ≠ s.eng.cust

theorem pos_of_getK {s : State} (hp : Pos s) {k : Key} {rec : Int} (h : getK s.deps k = some rec) : rec > 0 :=
  hp (k, rec) (getK_mem h)

/-- the configuration, which no step touches -/
structure Frame (s s' : State) : Prop where
  assets : s'.assets = s.assets
  cf : s'.closingFee = s.closingFee
  wf : s'.withdrawalFee = s.withdrawalFee
  cust : s'.eng.cust = s.eng.cust
  coll : s'.eng.coll = s.eng.coll

theorem Frame.refl (s : State) : Frame s s := ⟨rfl, rfl, rfl, rfl, rfl⟩

theorem Frame.trans {s s1 s2 : State} (h1 : Frame s s1) (h2 : Frame s1 s2) : Frame s s2 :=
  ⟨h2.assets.trans h1.assets, h2.cf.trans h1.cf, h2.wf.trans h1.wf, h2.cust.trans h1.cust, h2.coll.trans h1.coll⟩

/-- what an accepted step keeps.  There is no clause about the users' net positions: `English.Keeps.net` is not carried over. -/
structure Kept (s s' : State) : Prop where
  pos : Pos s'
  bv : BvInv s'
  gap : ∀ d, gapL s' d = gapL s d
  frame : Frame s s'
  good : Good s'.eng

theorem Kept.refl {s : State} (hp : Pos s) (hb : BvInv s) (g : Good s.eng) : Kept s s :=
  ⟨hp, hb, fun _ => rfl, .refl s, g⟩

theorem Kept.trans {s s1 s2 : State} (h1 : Kept s s1) (h2 : Kept s1 s2) : Kept s s2 :=
  ⟨h2.pos, h2.bv, fun d => (h2.gap d).trans (h1.gap d), h1.frame.trans h2.frame, h2.good⟩

/-- `delta = -record` when the record goes; `retained` is the fee the module account keeps -/
structure Move (s s' : State) (k : Key) (denom : Denom) (delta retained : Int) : Prop where
  live : s'.eng.live = s.eng.live
  book : Shift s.deps s'.deps k delta
  bv : ∀ debt coll, getD0 s'.bv (debt, coll) = getD0 s.bv (debt, coll) + if inMarket debt coll k then delta else 0
  fees : ∀ d, getD0 s'.fees d = getD0 s.fees d + if denom = d then retained else 0
  custody : ∀ d, bal s'.eng.bank s.eng.cust d = bal s.eng.bank s.eng.cust d + if denom = d then delta + retained else 0

theorem Move.kept {s s' : State} {k : Key} {dd : Denom} {δ f : Int} (m : Move s s' k dd δ f) (fr : Frame s s')
    (hd : denomOf s.assets k.debt = some dd) (hp : Pos s) (hb : BvInv s) (g : Good s.eng) : Kept s s' := by
  refine ⟨m.book.pos hp, fun debt coll => ?_, fun d => ?_, fr, by rw [Good, m.live, fr.cust, fr.coll]; exact g⟩
  · rw [m.bv, marketSum, m.book.sum, hb]; rfl
  · -- in the denomination `dd` the custody moves by `δ + f`, the deposits by `δ`, the retained fees by `f`
    have hk : inDenom s.assets d k = decide (dd = d) := by simp only [inDenom, hd, Option.some.injEq]
    simp only [gapL, custGap, denomSum, fr.cust, fr.assets, m.live, m.book.sum, m.fees, m.custody, hk, decide_eq_true_eq]
    split <;> omega

theorem putK_market (bv : List ((Nat × Nat) × Int)) (k : Key) (x : Int) (debt coll : Nat) :
    getD0 (putK bv (k.debt, k.coll) (getD0 bv (k.debt, k.coll) + x)) (debt, coll) =
      getD0 bv (debt, coll) + if inMarket debt coll k then x else 0 := by
  simp only [getD0_putK_add, inMarket, Prod.mk.injEq, decide_eq_true_eq]

theorem custody_after_payout {bank b : Bank} {cust who : Acct} {dd : Denom} {x y : Int}
    (hb : send bank cust who dd x = some b) (hw : who ≠ cust) (hy : y = -x) (d : Denom) :
    bal b cust d = bal bank cust d + if dd = d then y else 0 := by
  rw [send_bal hb]; simp only [eq_false hw, false_and, true_and, ↓reduceIte]; split <;> omega

/-- `remove`: a cancel, or a withdrawal of the whole record, which takes the cancel path -/
inductive BookOp (s : State) (k : Key) (dd : Denom) : State → Prop
  | deposit {amt : Int} {b : Bank} (ha : 0 < amt) (hb : send s.eng.bank k.who s.eng.cust dd amt = some b) :
      BookOp s k dd
        { setBank s b with
          deps := putK s.deps k (getD0 s.deps k + amt),
          bv := putK s.bv (k.debt, k.coll) (getD0 s.bv (k.debt, k.coll) + amt) }
  | remove {rec : Int} {s' : State} (hk : getK s.deps k = some rec) (hc : cancelCore s k rec dd = some s') : BookOp s k dd s'
  | part {rec amt : Int} {b : Bank} (hk : getK s.deps k = some rec) (ha : 0 < amt) (hlt : amt < rec)
      (hb : send s.eng.bank s.eng.cust k.who dd (amt - fee s.withdrawalFee amt) = some b) :
      BookOp s k dd
        { setBank s b with
          deps := putK s.deps k (rec - amt),
          bv := putK s.bv (k.debt, k.coll) (getD0 s.bv (k.debt, k.coll) - amt),
          fees := putK s.fees dd (getD0 s.fees dd + fee s.withdrawalFee amt) }

theorem step_cases {s s' : State} {op : Op} (h : step s op = some s') :
    (∃ eop e, op = .eng eop ∧ English.step s.eng eop = some e ∧ s' = { s with eng := e }) ∨
    ∃ k dd, op.sender? = some k.who ∧ denomOf s.assets k.debt = some dd ∧ BookOp s k dd s' := by
  cases op with
  | eng eop =>
    simp only [step] at h
    split at h
    · cases h
    · next e he => cases h; exact .inl ⟨eop, e, rfl, he, rfl⟩
  | deposit who coll debt prem denom amt =>
    obtain ⟨ha, -, -, hd, b, hb, rfl⟩ := deposit_spec h
    exact .inr ⟨⟨debt, coll, prem, who⟩, denom, rfl, hd, .deposit ha hb⟩
  | cancel who coll debt prem =>
    obtain ⟨rec, dd, hk, hd, hc⟩ := cancel_spec h
    exact .inr ⟨⟨debt, coll, prem, who⟩, dd, rfl, hd, .remove hk hc⟩
  | withdraw who coll debt prem denom amt =>
    obtain ⟨rec, hk, hd, ha, -, ⟨-, hc⟩ | ⟨hlt, b, hb, rfl⟩⟩ := withdraw_spec h
    · exact .inr ⟨⟨debt, coll, prem, who⟩, denom, rfl, hd, .remove hk hc⟩
    · exact .inr ⟨⟨debt, coll, prem, who⟩, denom, rfl, hd, .part hk ha hlt hb⟩

theorem BookOp.frame {s s' : State} {k : Key} {dd : Denom} (o : BookOp s k dd s') : Frame s s' := by
  cases o with
  | deposit | part => exact ⟨rfl, rfl, rfl, rfl, rfl⟩
  | remove _ hc => rcases cancelCore_spec hc with ⟨-, b, -, rfl⟩ | ⟨-, rfl⟩ <;> exact ⟨rfl, rfl, rfl, rfl, rfl⟩

theorem step_frame {s s' : State} {op : Op} (h : step s op = some s') : Frame s s' := by
  rcases step_cases h with ⟨eop, e, -, he, rfl⟩ | ⟨k, dd, -, -, o⟩
  · obtain ⟨hcust, hcoll, -⟩ := step_fixed he
    exact ⟨rfl, rfl, rfl, hcust, hcoll⟩
  · exact o.frame

theorem BookOp.move {s s' : State} {k : Key} {dd : Denom} (o : BookOp s k dd s') (hp : Pos s) (hw : k.who ≠ s.eng.cust) :
    ∃ δ f, Move s s' k dd δ f := by
  cases o with
  | @deposit amt b ha hb =>
    refine ⟨amt, 0, rfl, .put (fun hp => ?_) rfl, putK_market s.bv k amt, fun d => ?_, fun d => ?_⟩
    · have := getD0_nonneg hp k
      omega
    · show getD0 s.fees d = _
      split <;> omega
    · show bal b s.eng.cust d = _
      rw [send_bal hb]; simp only [eq_false hw, false_and, true_and, ↓reduceIte]; split <;> omega
  | @remove rec _ hk hc =>
    rcases cancelCore_spec hc with ⟨-, b, hb, rfl⟩ | ⟨hle, -⟩
    · exact ⟨-rec, fee s.closingFee rec, rfl, .del (by rw [getD0_of_getK hk]; omega), putK_market s.bv k (-rec),
        getD0_putK_add s.fees dd _, custody_after_payout hb hw (by omega)⟩
    · have := pos_of_getK hp hk; omega
  | @part rec amt b hk ha hlt hb =>
    exact ⟨-amt, fee s.withdrawalFee amt, rfl, .put (fun _ => by omega) (by rw [getD0_of_getK hk]; omega),
      putK_market s.bv k (-amt), getD0_putK_add s.fees dd _, custody_after_payout hb hw (by omega)⟩

theorem step_kept {s s' : State} {op : Op} (h : step s op = some s') (g : Good s.eng) (so : SenderOkL s op)
    (hp : Pos s) (hb : BvInv s) : Kept s s' := by
  have fr := step_frame h
  rcases step_cases h with ⟨eop, e, rfl, he, rfl⟩ | ⟨k, dd, hs, hd, o⟩
  · have k := step_keeps he g so
    exact ⟨hp, hb, fun d => by simp only [gapL, denomSum, k.gap], fr, k.good⟩
  · obtain ⟨δ, f, m⟩ := o.move hp (so k.who hs)
    exact m.kept fr hd hp hb g

theorem step_inv {s s' : State} {op : Op} (h : step s op = some s') (g : Good s.eng) (so : SenderOkL s op)
    (hp : Pos s) (hb : BvInv s) :
    Pos s' ∧ BvInv s' ∧ (∀ d, gapL s' d = gapL s d) ∧ Frame s s' ∧ Good s'.eng :=
  let k := step_kept h g so hp hb
  ⟨k.pos, k.bv, k.gap, k.frame, k.good⟩

theorem fee_nonneg (r : Dec) (x : Int) (hr : 0 ≤ r) (hx : 0 ≤ x) : 0 ≤ fee r x := by
  unfold fee
  rw [Dec.mul_ofInt]; exact Dec.truncateInt_nonneg (Int.mul_nonneg hr hx)

def FeesNonneg (s : State) : Prop := ∀ d, 0 ≤ getD0 s.fees d

theorem step_fees {s s' : State} {op : Op} (h : step s op = some s') (hf : FeesNonneg s)
    (hc : 0 ≤ s.closingFee) (hw : 0 ≤ s.withdrawalFee) : FeesNonneg s' := by
  have put : ∀ (dd : Denom) {f : Int}, 0 ≤ f → ∀ d, 0 ≤ getD0 (putK s.fees dd (getD0 s.fees dd + f)) d := by
    intro dd f h0 d
    have := hf dd
    have := hf d
    rw [getD0_putK_add]; split <;> omega
  rcases step_cases h with ⟨eop, e, -, -, rfl⟩ | ⟨k, dd, -, -, o⟩
  · exact hf
  cases o with
  | deposit => exact hf
  | remove _ hcc =>
    rcases cancelCore_spec hcc with ⟨hr, b, -, rfl⟩ | ⟨-, rfl⟩
    · exact put dd (fee_nonneg _ _ hc (Int.le_of_lt hr))
    · exact hf
  | part _ ha => exact put dd (fee_nonneg _ _ hw (Int.le_of_lt ha))

def UsersOnlyL (cust : Acct) (ops : List Op) : Prop := ∀ op ∈ ops, ∀ who, op.sender? = some who → who ≠ cust

theorem apply_eq (s : State) (op : Op) : apply s op = (step s op).getD s := by
  unfold apply
  cases step s op <;> rfl

theorem apply_skips : Skips apply fun s op s' => step s op = some s' :=
  (funext fun s => funext (apply_eq s) : apply = _) ▸ skips_getD step

theorem run_kept (s : State) (ops : List Op) (g : Good s.eng) (hu : UsersOnlyL s.eng.cust ops)
    (hp : Pos s) (hb : BvInv s) : Kept s (run s ops) :=
  foldl_skips apply_skips (P := Kept s) (fun k q h => k.trans (step_kept h k.good (fun who hw => k.frame.cust ▸ q who hw) k.pos k.bv)) (.refl hp hb g) hu

theorem run_from_empty (s : State) (ops : List Op) (hd : s.deps = []) (hb : s.bv = []) (hl : s.eng.live = [])
    (hc : s.eng.cust ≠ s.eng.coll) (hu : UsersOnlyL s.eng.cust ops) : Kept s (run s ops) :=
  run_kept s ops (.of_empty hc hl) hu (by rw [Pos, hd]; exact fun _ h => nomatch h) (fun _ _ => by rw [hb, hd]; rfl)

theorem run_fees (s : State) (ops : List Op) (hf : FeesNonneg s) (hc : 0 ≤ s.closingFee) (hw : 0 ≤ s.withdrawalFee) :
    FeesNonneg (run s ops) := by
  refine (foldl_skips apply_skips (Q := fun _ => True) (P := fun t => FeesNonneg t ∧ Frame s t) ?_ ⟨hf, .refl s⟩
    fun _ _ => trivial).1
  intro t op t' ⟨i1, i2⟩ _ h
  exact ⟨step_fees h i1 (i2.cf ▸ hc) (i2.wf ▸ hw), i2.trans (step_frame h)⟩

end Comdex.LimitBid
