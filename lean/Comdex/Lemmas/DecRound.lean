import Mathlib.Tactic.Linarith
import Mathlib.Tactic.Ring
import Comdex.Lemmas.DecCore
/-!
The half-even quotient against the exact one, cross-multiplied so that the bounds chain under `linarith`.  What needs no Mathlib
(what each rounding mode is, signs, monotonicity) is in `Lemmas/DecCore.lean`.
-/
namespace Comdex.Dec

theorem chopRound_tdiv_le (n d : Int) (hn : 0 ≤ n) (hd : 0 < d) :
    2 * d * P * chopRound (n.tdiv d) ≤ 2 * n + d * P := by
  have h1 := Int.mul_le_mul_of_nonneg_right (chopRound_near (n.tdiv d)).2 (Int.le_of_lt hd)
  have h2 := tdiv_mul_le hn hd
  linarith

/-- one truncation step `d` and half a unit below; `+ 2` because `n < (⌊n/d⌋ + 1)·d` is doubled after it is made weak -/
theorem chopRound_tdiv_ge (n d : Int) (hd : 0 < d) :
    2 * n - (P + 2) * d + 2 ≤ 2 * d * P * chopRound (n.tdiv d) := by
  have h1 := Int.mul_le_mul_of_nonneg_right (chopRound_near (n.tdiv d)).1 (Int.le_of_lt hd)
  have h2 := Int.lt_tdiv_add_one_mul_self n hd
  linarith

theorem chopRound_tdiv_P_le (k d : Int) (hk : 0 ≤ k) (hd : 0 < d) :
    2 * chopRound ((k * P).tdiv d) * d ≤ 2 * k + d := by
  have h := chopRound_tdiv_le (k * P) d (Int.mul_nonneg hk (Int.le_of_lt Dec.P_pos)) hd
  refine Int.le_of_mul_le_mul_left ?_ Dec.P_pos
  linarith

theorem quo_upper (a b : Int) (ha : 0 ≤ a) (hb : 0 < b) : @LE.le Int _ (2 * Dec.quo a b * b) (2 * a * P + b) := by
  have h := chopRound_tdiv_P_le (a * P) b (Int.mul_nonneg ha (Int.le_of_lt Dec.P_pos)) hb
  rwa [Int.mul_assoc a P P, ← Int.mul_assoc 2 a P] at h

theorem quo_lower (a b : Int) (hb : 0 < b) : 2 * (a * PP) < 2 * P * Dec.quo a b * b + (P + 2) * b := by
  have := chopRound_tdiv_ge (a * PP) b hb
  unfold Dec.quo
  linarith

/-- dividing by a whole number cancels one factor `10¹⁸`: the bound is at scale 1 -/
theorem quo_ofInt_upper (a b : Int) (ha : 0 ≤ a) (hb : 0 < b) : @LE.le Int _ (2 * Dec.quo a (ofInt b) * b) (2 * a + b) := by
  rw [quo_ofInt a b]; exact chopRound_tdiv_P_le a b ha hb

/-- what a passed test `quo a b ≤ m` says of the exact quotient (`quo_le_of_ratio_le` is the converse, without slack): it is below
`m + ½ + 10⁻¹⁸` units, half a unit for the half-even rounding, `10⁻¹⁸` for the truncated big-integer division before it -/
theorem lt_of_quo_le (a b m : Int) (hb : 0 < b) (h : Dec.quo a b ≤ m) : 2 * (a * PP) < ((2 * m + 1) * P + 2) * b := by
  have h1 := quo_lower a b hb
  have h2 := Int.mul_le_mul_of_nonneg_left (Int.mul_le_mul_of_nonneg_right h (Int.le_of_lt hb))
    (Int.le_of_lt (Int.mul_pos (by decide : (0 : Int) < 2) Dec.P_pos))
  linarith

/-- dividing by an index `g ≥ 1.0` undoes multiplying by it up to one unit (`LendRates.factor2_bounds`) -/
theorem quo_mul_cancel_bounds (g F : Int) (hg : one ≤ g) (hF : 0 ≤ F) :
    F - 1 ≤ Dec.quo (Dec.mul g F) g ∧ Dec.quo (Dec.mul g F) g ≤ F + 1 := by
  have hg0 : 0 < g := lt_of_lt_of_le Dec.P_pos hg
  have m1 := mul_lower g F
  have m2 := mul_upper g F
  have hm0 : (0 : Int) ≤ Dec.mul g F := Dec.mul_nonneg g F (le_of_lt hg0) hF
  have q1 := quo_upper (Dec.mul g F) g hm0 hg0
  have q2 := quo_lower (Dec.mul g F) g hg0
  generalize Dec.quo (Dec.mul g F) g = q at *
  generalize Dec.mul g F = m at *
  simp only [PP, one, P] at *
  -- both bounds are between multiples of `g`: `(F − q)·g` resp. `(q − F)·g` against `g` and a little
  constructor
  · have : (F - q) * 1000000000000000000 * g < (1000000000000000000 + 2) * g := by linarith
    have := Int.lt_of_mul_lt_mul_right this (le_of_lt hg0)
    show @LE.le Int _ (F - 1) q
    omega
  · have : (q - F) * 2 * g ≤ 2 * g := by linarith
    have := Int.le_of_mul_le_mul_right this hg0
    show @LE.le Int _ q (F + 1)
    omega

end Comdex.Dec
