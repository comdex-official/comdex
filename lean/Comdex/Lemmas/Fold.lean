/-! Histories as folds (`List.foldl`, or a runner in `Except` that stops at the first failing step).  Core Lean only. -/
namespace Comdex

theorem foldl_induction {σ ω : Type} {f : σ → ω → σ} {P : σ → Prop} {Q : ω → Prop}
    (hstep : ∀ {s op}, P s → Q op → P (f s op)) {s : σ} {ops : List ω} (hs : P s) (hq : ∀ op ∈ ops, Q op) :
    P (ops.foldl f s) := by
  induction ops generalizing s with
  | nil => exact hs
  | cons op ops ih => exact ih (hstep hs (hq op List.mem_cons_self)) fun o ho => hq o (List.mem_cons_of_mem _ ho)

/-- `f` does with the partial step `acc` what the chain does with a message: the accepted result, or nothing. -/
def Skips {σ ω : Type} (f : σ → ω → σ) (acc : σ → ω → σ → Prop) : Prop := ∀ s o, f s o = s ∨ acc s o (f s o)

theorem skips_getD {σ ω : Type} (step : σ → ω → Option σ) :
    Skips (fun s o => (step s o).getD s) fun s o s' => step s o = some s' := by
  intro s o
  show (step s o).getD s = s ∨ step s o = some ((step s o).getD s)
  cases step s o with
  | none => exact .inl rfl
  | some s' => exact .inr rfl

/-- What accepted steps keep, histories keep.  A two-state relation with `refl` and `trans` is the case `P := R s₀`. -/
theorem foldl_skips {σ ω : Type} {f : σ → ω → σ} {acc : σ → ω → σ → Prop} (hf : Skips f acc) {P : σ → Prop} {Q : ω → Prop}
    (hstep : ∀ {s o s'}, P s → Q o → acc s o s' → P s') {s : σ} {ops : List ω} (hs : P s) (hq : ∀ o ∈ ops, Q o) :
    P (ops.foldl f s) :=
  foldl_induction (fun {s o} hp ho => by
    rcases hf s o with e | a
    · rw [e]; exact hp
    · exact hstep hp ho a) hs hq

theorem run_append_of {σ ω ε : Type} {step : σ → ω → Except ε σ} {run : σ → List ω → Except ε σ}
    (hnil : ∀ s, run s [] = .ok s) (hcons : ∀ s o os, run s (o :: os) = step s o >>= fun s' => run s' os)
    (s : σ) (l1 l2 : List ω) : run s (l1 ++ l2) = run s l1 >>= fun s' => run s' l2 := by
  induction l1 generalizing s with
  | nil => rw [hnil]; rfl
  | cons o t ih =>
    rw [List.cons_append, hcons, hcons]
    cases step s o with
    | error e => rfl
    | ok s1 => exact ih s1

end Comdex
