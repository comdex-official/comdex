import Comdex.Lemmas.DutchConv
import Comdex.Lemmas.Inversion
/-! What `plan` (the first half of `PlaceDutchAuctionBid`) decides, and the exchange against the posted price.
Facts about `Dec` values are stated at `Int` (`(0 : Int) ≤ a.price`, `@Ne Int dp 0`): `omega` ignores what is elaborated at `Dec`
(`Lemmas/DecCore.lean`, header). -/
namespace Comdex.DutchV2
open Comdex.Dec

/-- `c`, `cB`: the collateral that the bid (clipped to the remaining target) and the bonus buy at the posted price -/
inductive PlanCase (e : Env) (a : Auc) (amt0 : Int) (dp : Dec) (c cB : Int) (p : Plan) : Prop
  /-- the bid `d'` is recomputed from the collateral that is left, the reserve is asked for the rest -/
  | exhausted (d' : Int) (over : ¬ c + cB ≤ a.coll) (coll_nonneg : 0 ≤ a.coll) (decC_ne : e.decC ≠ 0) (dp_ne : @Ne Int dp 0)
      (pay_eq : d' = convVal (a.coll - cB) a.price e.decC dp e.decD) (pay_nonneg : 0 ≤ d') (pay_le : d' ≤ a.debt)
      (plan_eq : p = { close := true, clipped := true, pay := d', total := a.coll, share := 0, need := a.debt - d' })
  | full (covers : amt0 ≥ a.debt) (fits : c + cB ≤ a.coll) (total_nonneg : 0 ≤ c + cB) (debt_nonneg : 0 ≤ a.debt)
      (plan_eq : p = { close := true, clipped := false, pay := a.debt, total := c + cB, share := 0, need := 0 })
  /-- the integer quotient `amt/debt` is 0 (`bid.go:246`), so a partial bid consumes no bonus -/
  | part (below : amt0 < a.debt) (fits : c + cB ≤ a.coll) (c_nonneg : 0 ≤ c) (amt_nonneg : 0 ≤ amt0)
      (plan_eq : p = { close := false, clipped := false, pay := amt0, total := c, share := 0, need := 0 })

theorem plan_cases {e : Env} {a : Auc} {amt0 : Int} {dp : Dec} {p : Plan} (h : plan e a amt0 dp = .ok p) (hb : 0 ≤ a.bonus) :
    e.decD ≠ 0 ∧ @Ne Int a.price 0 ∧
    PlanCase e a amt0 dp (convVal (if amt0 ≥ a.debt then a.debt else amt0) dp e.decD a.price e.decC)
      (convVal a.bonus dp e.decD a.price e.decC) p := by
  unfold plan at h
  replace h := (guard_ok h).2
  generalize hf : decide (amt0 ≥ a.debt) = full at h
  simp only [] at h
  generalize hamt : (if full = true then a.debt else amt0) = amt at h
  have hamt' : amt = if amt0 ≥ a.debt then a.debt else amt0 := by
    subst hf hamt; simp only [decide_eq_true_eq]
  generalize hc : convC amt dp e.decD a.price e.decC = rc at h
  generalize hcB : convC a.bonus dp e.decD a.price e.decC = rcB at h
  obtain _ | c := rc
  · cases h
  obtain _ | cB := rcB
  · cases h
  simp only [] at h
  obtain ⟨ec, hdD, hpr⟩ := convC_ok hc
  refine ⟨hdD, hpr, ?_⟩
  rw [← hamt', ← ec, ← (convC_ok hcB).1]
  by_cases hor : full = true ∨ ¬ c + cB ≤ a.coll
  · rw [if_pos hor] at h
    by_cases hle : c + cB ≤ a.coll
    · rw [if_neg (not_not_intro hle)] at h
      obtain ⟨hneg, h⟩ := guard_ok h
      cases h
      have hfull : amt0 ≥ a.debt := by
        rcases hor with hft | hn
        · subst hf; exact of_decide_eq_true hft
        · exact absurd hle hn
      rw [if_pos hfull] at hamt'
      subst hamt'
      exact .full hfull hle (by omega) (by omega) rfl
    · rw [if_pos hle] at h
      match_ok hd' : convC (a.coll - cB) a.price e.decC dp e.decD with d' at h
      obtain ⟨ed', hdC, hdp⟩ := convC_ok hd'
      obtain ⟨hneg, h⟩ := guard_ok h
      cases h
      exact .exhausted d' hle (by omega) hdC hdp ed' (by omega) (by omega) rfl
  · rw [if_neg hor] at h
    have hlt : amt0 < a.debt := by
      subst hf; simpa using fun hft => hor (Or.inl hft)
    rw [if_neg (by omega)] at hamt'
    subst hamt'
    match_ok husd : usdValue (a.debt - amt) dp e.decD with usd at h
    obtain ⟨-, h⟩ := guard_ok h
    obtain ⟨-, h⟩ := guard_ok h
    match_ok hcS : convC _ dp e.decD a.price e.decC with cS at h
    obtain ⟨hneg, h⟩ := guard_ok h
    cases h
    have hshare : (if e.bonus0 * amt.tdiv a.debt > a.bonus then a.bonus else e.bonus0 * amt.tdiv a.debt) = 0 := by
      rw [Int.tdiv_eq_zero_of_lt (by omega) hlt, Int.mul_zero, if_neg (by omega)]
    rw [hshare] at hcS ⊢
    obtain ⟨ecS, -, -⟩ := convC_ok hcS
    rw [convVal_zero] at ecS
    subst ecS
    exact .part hlt (by omega) (by omega) (by omega) (by rw [Int.add_zero])

/-- what `apply` and the invariants need of a plan, whichever of the three cases produced it -/
structure PlanOK (a : Auc) (p : Plan) : Prop where
  pay_nonneg : 0 ≤ p.pay
  pay_le : p.pay ≤ a.debt
  pay_lt : p.close = false → p.pay < a.debt
  total_nonneg : 0 ≤ p.total
  total_le : p.total ≤ a.coll
  share_nonneg : 0 ≤ p.share
  share_le : p.share ≤ a.bonus
  clipped_close : p.clipped = true → p.close = true ∧ p.need = a.debt - p.pay ∧ p.total = a.coll
  unclipped_close : p.close = true → p.clipped = false → p.pay = a.debt
  partial_unclipped : p.close = false → p.clipped = false

theorem PlanOK.draw_add_pay {a : Auc} {p : Plan} (hp : PlanOK a p) (hcl : p.close = true) :
    (if p.clipped then p.need else 0) + p.pay = a.debt := by
  by_cases hc : p.clipped = true
  · rw [if_pos hc]; have := (hp.clipped_close hc).2.1; omega
  · rw [if_neg hc]; have := hp.unclipped_close hcl (by simpa using hc); omega

theorem plan_ok {e : Env} {a : Auc} {amt0 : Int} {dp : Dec} {p : Plan}
    (h : plan e a amt0 dp = .ok p)
    (hb : 0 ≤ a.bonus) (hdp : (0 : Int) ≤ dp) (hdD : 0 < e.decD) (hpr : (0 : Int) ≤ a.price) (hdC : 0 < e.decC) :
    PlanOK a p := by
  obtain ⟨-, hpr0, hcase⟩ := plan_cases h hb
  have hcB := convVal_nonneg a.bonus dp e.decD a.price e.decC hb hdp hdD (lt_of_le_of_ne hpr (Ne.symm hpr0)) (Int.le_of_lt hdC)
  clear h
  cases hcase with
  | exhausted d' _ hc0 _ _ _ hd0 hd1 hp =>
    subst hp
    exact { pay_nonneg := hd0, pay_le := hd1, pay_lt := nofun, total_nonneg := hc0, total_le := Int.le_refl _,
            share_nonneg := Int.le_refl 0, share_le := hb, clipped_close := fun _ => ⟨rfl, rfl, rfl⟩,
            unclipped_close := nofun, partial_unclipped := nofun }
  | full _ hle h0 hd0 hp =>
    subst hp
    exact { pay_nonneg := hd0, pay_le := Int.le_refl _, pay_lt := nofun, total_nonneg := h0, total_le := hle,
            share_nonneg := Int.le_refl 0, share_le := hb, clipped_close := nofun, unclipped_close := fun _ _ => rfl,
            partial_unclipped := nofun }
  | part hlt hle hc0 h0 hp =>
    subst hp
    exact { pay_nonneg := h0, pay_le := Int.le_of_lt hlt, pay_lt := fun _ => hlt, total_nonneg := hc0,
            total_le := Int.le_trans (Int.le_add_of_nonneg_right hcB) hle, share_nonneg := Int.le_refl 0, share_le := hb,
            clipped_close := nofun, unclipped_close := nofun, partial_unclipped := fun _ => rfl }

/-- `monPosted`, cross-multiplied (`C10.bid_at_posted_price`) -/
theorem plan_posted {e : Env} {a : Auc} {amt0 : Int} {dp : Dec} {p : Plan}
    (h : plan e a amt0 dp = .ok p)
    (hb : 0 ≤ a.bonus) (hdp : (0 : Int) ≤ dp) (hdD : 0 < e.decD) (hpr : (0 : Int) ≤ a.price) (hdC : 0 < e.decC)
    (hs : e.decC * (a.price + P) ≤ a.price * P) (hnc : p.clipped = false) :
    (p.total - 1) * (e.decD * a.price) ≤ (p.pay + a.bonus) * dp * e.decC := by
  obtain ⟨-, hpr0, hcase⟩ := plan_cases h hb
  have hprpos : (0 : Int) < a.price := lt_of_le_of_ne hpr (Ne.symm hpr0)
  cases hcase with
  | exhausted d' _ _ _ _ _ _ _ hp => subst hp; cases hnc
  | full hfull _ _ hd0 hp =>
    subst hp
    rw [if_pos hfull]
    exact two_conv_bound a.debt a.bonus dp e.decD a.price e.decC hd0 hb hdp hdD hprpos (by omega) hs
  | part hlt _ _ h0 hp =>
    subst hp
    rw [if_neg (by omega)]
    have := conv_bound amt0 dp e.decD a.price e.decC h0 hdp hdD hprpos (by omega) hs
    have hnn : 0 ≤ a.bonus * dp * e.decC := Int.mul_nonneg (Int.mul_nonneg hb hdp) (by omega)
    show (convVal amt0 dp e.decD a.price e.decC - 1) * (e.decD * a.price) ≤ (amt0 + a.bonus) * dp * e.decC
    rw [Int.add_mul, Int.add_mul]
    omega

/-- against the amount ASKED -/
theorem plan_clipped_bound {e : Env} {a : Auc} {amt0 : Int} {dp : Dec} {p : Plan}
    (h : plan e a amt0 dp = .ok p) (ha0 : 0 ≤ amt0) (hd0 : 0 ≤ a.debt)
    (hb : 0 ≤ a.bonus) (hdp : (0 : Int) ≤ dp) (hdD : 0 < e.decD) (hpr : (0 : Int) ≤ a.price) (hdC : 0 < e.decC)
    (hs : e.decC * (a.price + P) ≤ a.price * P) (hc : p.clipped = true) :
    p.total = a.coll ∧ p.total * (e.decD * a.price) ≤ ((if amt0 ≥ a.debt then a.debt else amt0) + a.bonus) * dp * e.decC := by
  obtain ⟨-, hpr0, hcase⟩ := plan_cases h hb
  have hprpos : (0 : Int) < a.price := lt_of_le_of_ne hpr (Ne.symm hpr0)
  cases hcase with
  | exhausted d' hnle _ _ _ _ _ _ hp =>
    subst hp
    refine ⟨rfl, ?_⟩
    have hamt0 : 0 ≤ (if amt0 ≥ a.debt then a.debt else amt0) := by split <;> omega
    have hb2 := two_conv_bound _ a.bonus dp e.decD a.price e.decC hamt0 hb hdp hdD hprpos (by omega) hs
    refine Int.le_trans (Int.mul_le_mul_of_nonneg_right ?_ (Int.mul_nonneg (by omega) hpr)) hb2
    show a.coll ≤ _; omega
  | full _ _ _ _ hp => subst hp; cases hc
  | part _ _ _ _ hp => subst hp; cases hc

/-- against the amount CHARGED `+ 2` (`hsb`) -/
theorem plan_clipped_posted {e : Env} {a : Auc} {amt0 : Int} {dp : Dec} {p : Plan}
    (h : plan e a amt0 dp = .ok p)
    (hb : 0 ≤ a.bonus) (hdp : (0 : Int) < dp) (hdD : 0 < e.decD) (hpr : (0 : Int) ≤ a.price) (hdC : 0 < e.decC)
    (hs : e.decC * (a.price + P) ≤ a.price * P)
    (hsb : e.decD * (dp + P) * (P + 2) ≤ dp * (P * P)) (hc : p.clipped = true) :
    (p.total - 1) * (e.decD * a.price) ≤ (p.pay + 2 + a.bonus) * dp * e.decC := by
  obtain ⟨-, hpr0, hcase⟩ := plan_cases h hb
  have hprpos : (0 : Int) < a.price := lt_of_le_of_ne hpr (Ne.symm hpr0)
  cases hcase with
  | exhausted d' _ _ _ _ ed' hd0 _ hp =>
    subst hp
    show (a.coll - 1) * (e.decD * a.price) ≤ (d' + 2 + a.bonus) * dp * e.decC
    -- the bonus alone buys at least `cB − 1`; the recomputed bid `d'` is worth at least `coll − cB` minus two debt units
    have fb := conv_bound a.bonus dp e.decD a.price e.decC hb (Int.le_of_lt hdp) hdD hprpos (by omega) hs
    generalize convVal a.bonus dp e.decD a.price e.decC = cB at fb ed'
    by_cases hX : 0 ≤ a.coll - cB
    · have lb := conv_bound_back (a.coll - cB) a.price e.decC dp e.decD hdC hdp (by omega) hsb
      rw [← ed'] at lb
      linarith only [fb, lb]
    · have h2 := Int.mul_le_mul_of_nonneg_right (by omega : a.coll - 1 ≤ cB - 1) (Int.mul_nonneg (Int.le_of_lt hdD) hpr)
      have h3 : 0 ≤ (d' + 2) * dp * e.decC := Int.mul_nonneg (Int.mul_nonneg (by omega) (Int.le_of_lt hdp)) (Int.le_of_lt hdC)
      linarith only [fb, h2, h3]
  | full _ _ _ _ hp => subst hp; cases hc
  | part _ _ _ _ hp => subst hp; cases hc

end Comdex.DutchV2
