import Comdex.Model.LiqLedger
/-!
The generic helpers of the liquidity ledger model (`Model/LiqLedger.lean`): bank algebra, `State.send` / `credit`, keyed lists
(`findBy` / `modBy`), `sumOver`, `foldOpt`; the fee split of a finished order (`settle_spec`).
-/
namespace Comdex.LiqLedger

theorem ite_eq_cases {α : Sort _} {c : Prop} [Decidable c] {x y v : α} (h : (if c then x else y) = v) : c ∧ x = v ∨ ¬ c ∧ y = v := by
  by_cases hc : c
  · rw [if_pos hc] at h; exact .inl ⟨hc, h⟩
  · rw [if_neg hc] at h; exact .inr ⟨hc, h⟩

theorem ite_add_sub (c : Prop) [Decidable c] {a b : Nat} (h : a ≤ b) :
    (if c then a else 0) + (if c then b - a else 0) = if c then b else 0 := by
  split <;> omega

theorem ite_add_ite (c : Prop) [Decidable c] (a b : Nat) :
    (if c then a else 0) + (if c then b else 0) = if c then a + b else 0 := by
  split <;> rfl

theorem Bank.get_set (b : Bank) (k k' : Key) (v : Nat) :
    (b.set k v).get k' = if k = k' then v else b.get k' := by
  induction b with
  | nil =>
    by_cases h : k = k' <;> simp [Bank.set, Bank.get, h]
  | cons e t ih =>
    obtain ⟨k0, v0⟩ := e
    by_cases h0 : k0 = k
    · subst h0
      by_cases h : k0 = k' <;> simp [Bank.set, Bank.get, h]
    · by_cases h : k = k'
      · subst h
        simp [Bank.set, Bank.get, h0, ih]
      · by_cases h1 : k0 = k'
        · subst h1; simp [Bank.set, Bank.get, h0, h]
        · simp [Bank.set, Bank.get, h0, h1, ih, h]

theorem Bank.get_add (b : Bank) (a : Acct) (d : Denom) (n : Nat) (k : Key) :
    (b.add a d n).get k = if (a, d) = k then b.get (a, d) + n else b.get k := by
  simp [Bank.add, Bank.get_set]

theorem Bank.send_isSome {b : Bank} {f t : Acct} {d : Denom} {n : Nat} (h : n ≤ b.get (f, d)) :
    ∃ b', b.send f t d n = some b' := by
  unfold Bank.send; simp [h]

theorem State.send_isSome {s : State} {f t : Acct} {d : Denom} {n : Nat} (h : n ≤ s.bal f d) :
    ∃ s', s.send f t d n = some s' := by
  obtain ⟨b', hb⟩ := Bank.send_isSome (t := t) h
  exact ⟨{ s with bank := b' }, by simp [State.send, hb]⟩

theorem State.send_eq {s s' : State} {f t : Acct} {d : Denom} {n : Nat} (h : s.send f t d n = some s') :
    ∃ b', s.bank.send f t d n = some b' ∧ s' = { s with bank := b' } := by
  unfold State.send at h
  rcases hb : s.bank.send f t d n with _ | b' <;> rw [hb] at h
  · cases h
  · exact ⟨b', rfl, (Option.some.inj h).symm⟩

structure BankOnly (s s' : State) : Prop where
  pairs : s'.pairs = s.pairs
  pools : s'.pools = s.pools
  deps : s'.deps = s.deps
  wdrs : s'.wdrs = s.wdrs
  orders : s'.orders = s.orders
  mm : s'.mm = s.mm
  farmers : s'.farmers = s.farmers
  height : s'.height = s.height
  now : s'.now = s.now

theorem BankOnly.refl (s : State) : BankOnly s s := ⟨rfl, rfl, rfl, rfl, rfl, rfl, rfl, rfl, rfl⟩

theorem BankOnly.credit (s : State) (a : Acct) (d : Denom) (n : Nat) : BankOnly s (s.credit a d n) :=
  ⟨rfl, rfl, rfl, rfl, rfl, rfl, rfl, rfl, rfl⟩

theorem BankOnly.trans {s1 s2 s3 : State} (h1 : BankOnly s1 s2) (h2 : BankOnly s2 s3) : BankOnly s1 s3 :=
  ⟨h2.pairs.trans h1.pairs, h2.pools.trans h1.pools, h2.deps.trans h1.deps, h2.wdrs.trans h1.wdrs, h2.orders.trans h1.orders,
   h2.mm.trans h1.mm, h2.farmers.trans h1.farmers, h2.height.trans h1.height, h2.now.trans h1.now⟩

theorem BankOnly.eq {s t : State} (h : BankOnly s t) : t = { s with bank := t.bank } := by
  obtain ⟨h1, h2, h3, h4, h5, h6, h7, h8, h9⟩ := h
  cases s; cases t
  simp only at h1 h2 h3 h4 h5 h6 h7 h8 h9
  subst_vars; rfl

theorem State.send_fields {s s' : State} {f t : Acct} {d : Denom} {n : Nat} (h : s.send f t d n = some s') : BankOnly s s' := by
  obtain ⟨b', -, rfl⟩ := State.send_eq h
  exact ⟨rfl, rfl, rfl, rfl, rfl, rfl, rfl, rfl, rfl⟩

theorem State.bal_credit (s : State) (a : Acct) (d : Denom) (n : Nat) (x : Acct) (d' : Denom) :
    (s.credit a d n).bal x d' = s.bal x d' + (if a = x ∧ d = d' then n else 0) := by
  simp only [State.credit, State.bal, Bank.get_add, Prod.mk.injEq]
  split
  · rename_i h; rw [h.1, h.2]
  · rfl

/-- what a send does to the balance of every account, as one additive equation (also when sender and receiver coincide); its
cases: `_in` x ≠ sender, `_out` x ≠ receiver, `_to` x = receiver ≠ sender, `_from` x = sender ≠ receiver, `send_bal_other` neither -/
theorem State.bal_send {s s' : State} {f t : Acct} {d : Denom} {n : Nat} (h : s.send f t d n = some s') (x : Acct) (d' : Denom) :
    s'.bal x d' + (if f = x ∧ d = d' then n else 0) = s.bal x d' + (if t = x ∧ d = d' then n else 0) := by
  obtain ⟨b', hb, rfl⟩ := State.send_eq h
  obtain ⟨hle, hb⟩ := Option.ite_none_right_eq_some.mp hb
  cases hb
  simp only [State.bal, Bank.get_set, Prod.mk.injEq]
  by_cases ht : t = x ∧ d = d' <;> by_cases hf : f = x ∧ d = d'
  · obtain ⟨rfl, rfl⟩ := ht; obtain ⟨rfl, -⟩ := hf
    simp only [and_self, if_true]; omega
  · obtain ⟨rfl, rfl⟩ := ht
    have hne : ¬ f = t := fun e => hf ⟨e, rfl⟩
    simp only [and_self, and_true, if_true, hne, if_false, Nat.add_zero]
  · obtain ⟨rfl, rfl⟩ := hf
    have hne : ¬ t = f := fun e => ht ⟨e, rfl⟩
    simp only [and_self, and_true, if_true, hne, if_false]; omega
  · simp only [ht, hf, if_false]

theorem State.bal_send_in {s s' : State} {f t : Acct} {d : Denom} {n : Nat} (h : s.send f t d n = some s') (x : Acct)
    (hx : x ≠ f) (d' : Denom) : s'.bal x d' = s.bal x d' + (if t = x ∧ d = d' then n else 0) := by
  have e := State.bal_send h x d'
  rwa [if_neg fun c : f = x ∧ d = d' => hx c.1.symm, Nat.add_zero] at e

theorem State.bal_send_out {s s' : State} {f t : Acct} {d : Denom} {n : Nat} (h : s.send f t d n = some s') (x : Acct)
    (hx : x ≠ t) (d' : Denom) : s'.bal x d' + (if f = x ∧ d = d' then n else 0) = s.bal x d' := by
  have e := State.bal_send h x d'
  rwa [if_neg fun c : t = x ∧ d = d' => hx c.1.symm, Nat.add_zero] at e

theorem State.send_bal_other {s s' : State} {f t : Acct} {d d' : Denom} {n : Nat} (h : s.send f t d n = some s') (x : Acct)
    (hf : x ≠ f) (ht : x ≠ t) : s'.bal x d' = s.bal x d' := by
  have e := State.bal_send_in h x hf d'
  rwa [if_neg fun c : t = x ∧ d = d' => ht c.1.symm, Nat.add_zero] at e

theorem State.bal_send_to {s s' : State} {f A : Acct} {d : Denom} {n : Nat} (h : s.send f A d n = some s') (hne : f ≠ A)
    (d' : Denom) : s'.bal A d' = s.bal A d' + (if d = d' then n else 0) := by
  have e := State.bal_send_in h A (Ne.symm hne) d'
  simpa only [true_and] using e

theorem State.bal_send_from {s s' : State} {A t : Acct} {d : Denom} {n : Nat} (h : s.send A t d n = some s') (hne : A ≠ t)
    (d' : Denom) : s'.bal A d' + (if d = d' then n else 0) = s.bal A d' := by
  have e := State.bal_send_out h A hne d'
  simpa only [true_and] using e

theorem send2_from {s s1 s2 : State} {A T1 T2 : Acct} {d1 d2 : Denom} {x1 x2 : Nat} (h1 : s.send A T1 d1 x1 = some s1)
    (h2 : s1.send A T2 d2 x2 = some s2) (n1 : A ≠ T1) (n2 : A ≠ T2) (d : Denom) :
    s2.bal A d + (if d1 = d then x1 else 0) + (if d2 = d then x2 else 0) = s.bal A d := by
  have e1 := State.bal_send_from h1 n1 d
  have e2 := State.bal_send_from h2 n2 d
  omega

theorem State.bal_mint (s : State) (a p n : Nat) (x : Acct) (d : Denom) :
    (s.mint a p n).bal x d = s.bal x d + (if x = .module ∧ .pool a p = d then n else 0) := by
  simp only [State.mint, State.bal, Bank.get_add, State.modPool, Prod.mk.injEq]
  by_cases h : x = .module ∧ .pool a p = d
  · obtain ⟨rfl, rfl⟩ := h; simp
  · have : ¬ (Acct.module = x ∧ Denom.pool a p = d) := fun hh => h ⟨hh.1.symm, hh.2⟩
    simp [h, this]

/-- how the matching books every payment: a send, and the same amount credited to a flow account -/
theorem State.bal_send_credit {s s1 : State} {f t : Acct} {d : Denom} {n : Nat} (h : s.send f t d n = some s1)
    (g x : Acct) (d' : Denom) :
    (s1.credit g d n).bal x d' + (if f = x ∧ d = d' then n else 0) =
      s.bal x d' + (if t = x ∧ d = d' then n else 0) + (if g = x ∧ d = d' then n else 0) := by
  have := State.bal_send h x d'
  rw [State.bal_credit]
  omega

theorem findBy_eq_find? (p : α → Bool) : ∀ l : List α, findBy p l = l.find? p
  | [] => rfl
  | x :: t => by rw [findBy, List.find?_cons, findBy_eq_find? p t]; cases p x <;> rfl

theorem findBy_some_prop {p : α → Bool} {l : List α} {x : α} (h : findBy p l = some x) : p x = true ∧ x ∈ l := by
  rw [findBy_eq_find?] at h
  exact ⟨List.find?_some h, List.mem_of_find?_eq_some h⟩

theorem modBy_of_none {p : α → Bool} {g : α → α} {l : List α} (h : findBy p l = none) : modBy p g l = l := by
  induction l with
  | nil => rfl
  | cons y t ih =>
    simp only [findBy] at h
    by_cases hy : p y = true
    · simp [hy] at h
    · simp [hy] at h; simp [modBy, hy, ih h]

theorem sumOver_append (F : α → Nat) (l m : List α) : sumOver F (l ++ m) = sumOver F l + sumOver F m := by
  induction l with
  | nil => simp [sumOver]
  | cons x t ih => simp [sumOver, ih]; omega

theorem sumOver_snoc (F : α → Nat) (l : List α) (x : α) : sumOver F (l ++ [x]) = sumOver F l + F x := by
  rw [sumOver_append]; exact congrArg _ (Nat.add_zero _)

theorem sumOver_modBy (F : α → Nat) {p : α → Bool} (g : α → α) {l : List α} {x : α} (h : findBy p l = some x) :
    sumOver F (modBy p g l) + F x = sumOver F l + F (g x) := by
  induction l with
  | nil => simp [findBy] at h
  | cons y t ih =>
    simp only [findBy] at h
    by_cases hy : p y = true
    · simp [hy] at h; subst h; simp [modBy, hy, sumOver]; omega
    · simp [hy] at h; have := ih h; simp [modBy, hy, sumOver]; omega

theorem sumOver_modBy_zero (F : α → Nat) {p : α → Bool} (g : α → α) {l : List α} {x : α} (h : findBy p l = some x) (hz : F x = 0) :
    sumOver F (modBy p g l) = sumOver F l + F (g x) := by
  have hs := sumOver_modBy F g h
  rwa [hz] at hs

theorem sumOver_modBy_same (F : α → Nat) {p : α → Bool} (g : α → α) (l : List α) (hg : ∀ x, F (g x) = F x) :
    sumOver F (modBy p g l) = sumOver F l := by
  induction l with
  | nil => rfl
  | cons y t ih =>
    by_cases hy : p y = true <;> simp [modBy, hy, sumOver, ih, hg]

theorem sumOver_le_of_mem (F : α → Nat) {l : List α} {x : α} (h : x ∈ l) : F x ≤ sumOver F l := by
  induction l with
  | nil => cases h
  | cons y t ih =>
    simp only [List.mem_cons] at h
    rcases h with rfl | h
    · simp [sumOver]
    · have := ih h; simp [sumOver]; omega

theorem sumOver_filter (F : α → Nat) (q : α → Bool) (l : List α) (h : ∀ x ∈ l, q x = false → F x = 0) :
    sumOver F (l.filter q) = sumOver F l := by
  induction l with
  | nil => rfl
  | cons y t ih =>
    have iht := ih (fun x hx => h x (by simp [hx]))
    by_cases hy : q y = true
    · simp [List.filter, hy, sumOver, iht]
    · have hy' : q y = false := by simpa using hy
      simp [List.filter, hy', sumOver, iht, h y (by simp) hy']

theorem sumOver_map (F : α → Nat) (g : α → α) (l : List α) (hg : ∀ x ∈ l, F (g x) = F x) :
    sumOver F (l.map g) = sumOver F l := by
  induction l with
  | nil => rfl
  | cons y t ih =>
    simp [sumOver, hg y (by simp), ih (fun x hx => hg x (by simp [hx]))]

theorem sumOver_congr (F G : α → Nat) (l : List α) (h : ∀ x ∈ l, F x = G x) : sumOver F l = sumOver G l := by
  induction l with
  | nil => rfl
  | cons y t ih => simp [sumOver, h y (by simp), ih (fun x hx => h x (by simp [hx]))]

theorem sumOver_ite_eq_nodup {α : Type} [DecidableEq α] (k : α) (c : Nat) : ∀ {l : List α}, l.Nodup →
    sumOver (fun x => if x = k then c else 0) l = if k ∈ l then c else 0
  | [], _ => rfl
  | x :: t, h => by
    obtain ⟨hx, ht⟩ := List.nodup_cons.mp h
    rw [sumOver, sumOver_ite_eq_nodup k c ht]
    by_cases e : x = k
    · rw [if_pos e, if_neg (e ▸ hx), if_pos (e ▸ List.mem_cons_self)]; rfl
    · have : ¬ k = x := fun h => e h.symm
      rw [if_neg e, Nat.zero_add]; simp only [List.mem_cons, this, false_or]

theorem sumOver_zero {α : Type} (l : List α) : sumOver (fun _ : α => 0) l = 0 := by
  induction l with
  | nil => rfl
  | cons x t ih => simp [sumOver, ih]

theorem mem_modBy {p : α → Bool} {g : α → α} {l : List α} {y : α} (h : y ∈ modBy p g l) :
    y ∈ l ∨ ∃ x, findBy p l = some x ∧ y = g x := by
  induction l with
  | nil => simp [modBy] at h
  | cons z t ih =>
    by_cases hz : p z = true
    · simp [modBy, hz] at h
      rcases h with rfl | h
      · exact Or.inr ⟨z, by simp [findBy, hz], rfl⟩
      · exact Or.inl (by simp [h])
    · simp [modBy, hz] at h
      rcases h with rfl | h
      · exact Or.inl (by simp)
      · rcases ih h with h1 | ⟨x, hx, he⟩
        · exact Or.inl (by simp [h1])
        · exact Or.inr ⟨x, by simp [findBy, hz, hx], he⟩

theorem forall_modBy {P : α → Prop} {p : α → Bool} {g : α → α} {l : List α}
    (h : ∀ x ∈ l, P x) (hg : ∀ x, findBy p l = some x → P (g x)) : ∀ y ∈ modBy p g l, P y := by
  intro y hy
  rcases mem_modBy hy with h1 | ⟨x, hx, he⟩
  · exact h y h1
  · subst he; exact hg x hx

theorem findBy_modBy_same {p : α → Bool} {g : α → α} {l : List α} (hk : ∀ x, p (g x) = p x) :
    findBy p (modBy p g l) = (findBy p l).map g := by
  induction l with
  | nil => rfl
  | cons z t ih =>
    by_cases hz : p z = true
    · simp [modBy, findBy, hz, hk]
    · simp [modBy, findBy, hz, ih]

theorem findBy_modBy_other {p q : α → Bool} {g : α → α} {l : List α} (hk : ∀ x, q (g x) = q x)
    (hd : ∀ x, p x = true → q x = false) : findBy q (modBy p g l) = findBy q l := by
  induction l with
  | nil => rfl
  | cons z t ih =>
    by_cases hz : p z = true
    · have : q z = false := hd z hz
      simp [modBy, findBy, hz, hk, this]
    · by_cases hq : q z = true <;> simp [modBy, findBy, hz, hq, ih]

theorem findBy_append {p : α → Bool} (l m : List α) :
    findBy p (l ++ m) = match findBy p l with | some x => some x | none => findBy p m := by
  induction l with
  | nil => simp [findBy]
  | cons z t ih => by_cases hz : p z = true <;> simp [findBy, hz, ih]

theorem findBy_filter_not {α : Type} (p : α → Bool) (l : List α) : findBy p (l.filter fun x => !p x) = none := by
  rw [findBy_eq_find?, List.find?_filter]
  exact List.find?_eq_none.mpr fun x _ => by cases p x <;> simp

theorem findBy_filter_other {α : Type} {p q : α → Bool} (hd : ∀ x, q x = true → p x = false) (l : List α) :
    findBy q (l.filter fun x => !p x) = findBy q l := by
  rw [findBy_eq_find?, findBy_eq_find?, List.find?_filter]
  exact congrArg (List.find? · l) (funext fun x => by cases hq : q x <;> simp [hd x, hq])

theorem foldOpt_nil_some {α : Type} {f : State → α → Option State} {s s' : State} (h : foldOpt f s [] = some s') : s' = s :=
  (Option.some.inj h).symm

theorem foldOpt_cons_some {α : Type} {f : State → α → Option State} {x : α} {t : List α} {s s' : State}
    (h : foldOpt f s (x :: t) = some s') : ∃ s1, f s x = some s1 ∧ foldOpt f s1 t = some s' := by
  simp only [foldOpt] at h
  cases hx : f s x with
  | none => simp [hx] at h
  | some s1 => simp [hx] at h; exact ⟨s1, rfl, h⟩

theorem foldOpt_sum {α : Type} {f : State → α → Option State} (m : State → Nat) (inc dec : α → Nat)
    (hf : ∀ s x s', f s x = some s' → m s' + dec x = m s + inc x) :
    ∀ (l : List α) (s s' : State), foldOpt f s l = some s' → m s' + sumOver dec l = m s + sumOver inc l
  | [], s, s', h => by rw [foldOpt_nil_some h]; rfl
  | x :: t, s, s', h => by
    obtain ⟨s1, hx, ht⟩ := foldOpt_cons_some h
    have e1 := hf s x s1 hx
    have e2 := foldOpt_sum m inc dec hf t s1 s' ht
    simp only [sumOver]; omega

theorem foldOpt_rel_mem {α : Type} {R : State → State → Prop} {f : State → α → Option State} (refl : ∀ s, R s s)
    (trans : ∀ {a b c}, R a b → R b c → R a c) : ∀ {l : List α} {s s' : State},
    (∀ s x s', x ∈ l → f s x = some s' → R s s') → foldOpt f s l = some s' → R s s'
  | [], _, _, _, h => foldOpt_nil_some h ▸ refl _
  | x :: _, _, _, hf, h => by
    obtain ⟨s1, hx, ht⟩ := foldOpt_cons_some h
    exact trans (hf _ x _ List.mem_cons_self hx) (foldOpt_rel_mem refl trans (fun s y s' hy => hf s y s' (List.mem_cons_of_mem _ hy)) ht)

theorem foldOpt_rel {α : Type} {R : State → State → Prop} {f : State → α → Option State} (refl : ∀ s, R s s)
    (trans : ∀ {a b c}, R a b → R b c → R a c) (hf : ∀ s x s', f s x = some s' → R s s') {l : List α} {s s' : State}
    (h : foldOpt f s l = some s') : R s s' :=
  foldOpt_rel_mem refl trans (fun s x s' _ => hf s x s') h

theorem foldOpt_graded {α : Type} {R : Nat → State → State → Prop} {f : State → α → Option State} {g : α → Nat} (refl : ∀ s, R 0 s s)
    (trans : ∀ {m n a b c}, R m a b → R n b c → R (m + n) a c) (hf : ∀ s x s', f s x = some s' → R (g x) s s') :
    ∀ {l : List α} {s s' : State}, foldOpt f s l = some s' → R (sumOver g l) s s'
  | [], _, _, h => foldOpt_nil_some h ▸ refl _
  | _ :: _, _, _, h => by
    obtain ⟨s1, hx, ht⟩ := foldOpt_cons_some h
    exact trans (hf _ _ _ hx) (foldOpt_graded refl trans hf ht)

theorem isO_true {k : OKey} {o : Order} (h : isO k o = true) : o.app = k.1 ∧ o.pair = k.2.1 ∧ o.id = k.2.2 := by
  simpa [isO, and_assoc] using h

theorem isO_iff (k : OKey) (x : Order) : isO k x = true ↔ x.key = k := by
  obtain ⟨a, p, i⟩ := k
  simp [isO, Order.key, and_assoc]

theorem order?_some {s : State} {k : OKey} {o : Order} (h : s.order? k = some o) :
    o ∈ s.orders ∧ o.app = k.1 ∧ o.pair = k.2.1 ∧ o.id = k.2.2 := by
  have := findBy_some_prop h
  exact ⟨this.2, isO_true this.1⟩

theorem isPair_true {a p : Nat} {x : Pair} (h : isPair a p x = true) : x.app = a ∧ x.id = p := by
  simpa [isPair] using h

theorem pair?_some {s : State} {a p : Nat} {x : Pair} (h : s.pair? a p = some x) : x ∈ s.pairs ∧ x.app = a ∧ x.id = p := by
  have := findBy_some_prop h
  exact ⟨this.2, isPair_true this.1⟩

theorem isPool_true {a p : Nat} {x : Pool} (h : isPool a p x = true) : x.app = a ∧ x.id = p := by
  simpa [isPool] using h

theorem pool?_some {s : State} {a p : Nat} {x : Pool} (h : s.pool? a p = some x) : x ∈ s.pools ∧ x.app = a ∧ x.id = p := by
  have := findBy_some_prop h
  exact ⟨this.2, isPool_true this.1⟩

theorem isDep_true {a p i : Nat} {x : DepReq} (h : isDep a p i x = true) : x.app = a ∧ x.pool = p ∧ x.id = i := by
  simpa [isDep, and_assoc] using h

theorem isWdr_true {a p i : Nat} {x : WdrReq} (h : isWdr a p i x = true) : x.app = a ∧ x.pool = p ∧ x.id = i := by
  simpa [isWdr, and_assoc] using h

theorem findBy_isDep_self {a p i : Nat} {l : List DepReq} {r : DepReq} (h : findBy (isDep a p i) l = some r) :
    findBy (isDep r.app r.pool r.id) l = some r := by
  obtain ⟨h1, h2, h3⟩ := isDep_true (findBy_some_prop h).1
  rw [h1, h2, h3]; exact h

theorem findBy_isWdr_self {a p i : Nat} {l : List WdrReq} {r : WdrReq} (h : findBy (isWdr a p i) l = some r) :
    findBy (isWdr r.app r.pool r.id) l = some r := by
  obtain ⟨h1, h2, h3⟩ := isWdr_true (findBy_some_prop h).1
  rw [h1, h2, h3]; exact h

theorem isFarmer_true {a p u : Nat} {x : Farmer} (h : isFarmer a p u x = true) : x.app = a ∧ x.pool = p ∧ x.owner = u := by
  simpa [isFarmer, and_assoc] using h

theorem modBy_modBy {p : α → Bool} {g1 g2 : α → α} (l : List α) (hk : ∀ x, p (g1 x) = p x) :
    modBy p g2 (modBy p g1 l) = modBy p (fun x => g2 (g1 x)) l := by
  induction l with
  | nil => rfl
  | cons z t ih =>
    by_cases hz : p z = true
    · simp [modBy, hz, hk]
    · simp [modBy, hz, ih]

theorem rateOf_of_app {cfg : Cfg} {a : Nat} {ac : AppCfg} (h : cfg.app? a = some ac) : rateOf cfg a = ac.feeRate := by
  simp [rateOf, h]

theorem feeOf_mono (rate : Nat) {x y : Nat} (h : x ≤ y) : feeOf rate x ≤ feeOf rate y := by
  unfold feeOf
  exact Nat.div_le_div_right (Nat.mul_le_mul_right rate h)

theorem feeOf_zero (rate : Nat) : feeOf rate 0 = 0 := by simp [feeOf]

/-- fee forwarded for the executed portion of an order -/
def fwdSpec (rate : Nat) (o : Order) : Nat := if o.typ = .mm then 0 else feeOf rate (o.offer - o.remaining)

theorem fwdSpec_le (rate : Nat) (o : Order) : fwdSpec rate o ≤ feeRes rate o := by
  unfold fwdSpec feeRes
  split
  · exact Nat.le_refl 0
  · exact feeOf_mono rate (Nat.sub_le _ _)

/-- The three branches of `FinishOrder` are one formula: refund = unspent offer + the part of the fee reserve
not attributable to the executed portion; forwarded fee = fee on the executed portion. -/
theorem settle_spec (rate : Nat) (o : Order) :
    settle rate o = (o.remaining + (feeRes rate o - fwdSpec rate o), fwdSpec rate o) := by
  unfold settle feeRes fwdSpec
  by_cases hm : o.typ = .mm
  · simp [hm]
  · simp only [hm, if_false]
    by_cases hpos : o.remaining > 0
    · simp only [hpos, if_true]
      by_cases heq : o.remaining = o.offer
      · simp [heq, feeOf_zero]
      · simp [heq]
    · have h0 : o.remaining = 0 := by omega
      simp [h0]

theorem settle_total (rate : Nat) (o : Order) : (settle rate o).1 + (settle rate o).2 = o.remaining + feeRes rate o := by
  have := fwdSpec_le rate o
  rw [settle_spec]
  show o.remaining + (feeRes rate o - fwdSpec rate o) + fwdSpec rate o = _
  omega

end Comdex.LiqLedger
