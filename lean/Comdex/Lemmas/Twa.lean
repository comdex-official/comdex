import Comdex.Model.Twa
import Comdex.Lemmas.Fold
/-! The oracle window (C17): the ring read from its cursor is a sliding window, so one step of the stored record refines one
step of the specification. -/
namespace Comdex.Twa

theorem window_push_full (vs : List Nat) (i N rate : Nat) (hN : vs.length = N) (hi : i < N) :
    (vs.set i rate).drop (wrapIdx (i+1) N) ++ (vs.set i rate).take (wrapIdx (i+1) N)
      = (vs.drop i ++ vs.take i).drop 1 ++ [rate] := by
  subst hN
  obtain ⟨A, x, B, rfl, rfl⟩ : ∃ A x B, vs = A ++ x :: B ∧ A.length = i :=
    ⟨vs.take i, vs[i], vs.drop (i+1), by rw [← List.drop_eq_getElem_cons hi]; simp, by simp; omega⟩
  cases B with
  | nil => simp [wrapIdx]
  | cons b B' =>
    have : wrapIdx (A.length + 1) (A ++ x :: b :: B').length = A.length + 1 := by simp [wrapIdx]
    rw [this]; simp [List.take_length_add_append]

theorem window_sum (vs : List Nat) (i : Nat) : (vs.drop i ++ vs.take i).sum = vs.sum := by
  rw [List.sum_append, Nat.add_comm, ← List.sum_append, List.take_append_drop]

theorem window_length (r : Rec) : r.window.length = r.values.length := by
  simp only [Rec.window, List.length_append, List.length_drop, List.length_take]; omega

theorem calcTwa_full (vs : List Nat) (N : Nat) (hN : N ≥ 1) (h : vs.length = N) :
    calcTwa vs N = .ok (vs.sum / N) := by
  unfold calcTwa
  rw [if_neg (by omega), if_neg (by omega), ← h, List.take_length]

theorem lastN_full (w : List Nat) (N rate : Nat) (hN : N ≥ 1) (h : w.length = N) :
    lastN N (w ++ [rate]) = w.drop 1 ++ [rate] := by
  unfold lastN
  rw [show (w ++ [rate]).length - N = 1 by simp; omega]
  cases w with
  | nil => simp at h; omega
  | cons a t => simp

theorem lastN_short (w : List Nat) (N rate : Nat) (h : w.length < N) :
    lastN N (w ++ [rate]) = w ++ [rate] := by
  unfold lastN
  rw [show (w ++ [rate]).length - N = 0 by simp; omega]; rfl

/-! `Wf` is a bare conjunction because it is evaluated on the stored records; its clauses by name: -/

theorem Wf.len_le {N : Nat} {r : Rec} (h : Wf N r) : r.values.length ≤ N := h.1

theorem Wf.filling {N : Nat} {r : Rec} (h : Wf N r) (hl : r.values.length < N) :
    r.idx = r.values.length ∧ r.active = false := h.2.1 hl

theorem Wf.idx_lt {N : Nat} {r : Rec} (h : Wf N r) (hl : r.values.length = N) : r.idx < N := h.2.2.1 hl

theorem Wf.twa_eq {N : Nat} {r : Rec} (h : Wf N r) (ha : r.active = true) : r.twa = r.values.sum / N := h.2.2.2.1 ha

theorem Wf.inactive {N : Nat} {r : Rec} (h : Wf N r) (hd : r.discarded ≥ 0) : r.active = false := h.2.2.2.2.1 hd

theorem Wf.discarded_ne {N : Nat} {r : Rec} (h : Wf N r) : r.discarded ≠ 0 := h.2.2.2.2.2

theorem Wf.active_full {N : Nat} {r : Rec} (h : Wf N r) (ha : r.active = true) : r.values.length = N :=
  Nat.le_antisymm h.len_le (Nat.not_lt.mp fun hl => Bool.false_ne_true ((h.filling hl).2.symm.trans ha))

theorem WfO.abs_active {N : Nat} {s : Option Rec} (h : WfO N s) (ha : (abs s).active = true) :
    (abs s).window.length = N ∧ (abs s).twa = (abs s).window.sum / N := by
  cases s with
  | none => cases ha
  | some r =>
    have h : Wf N r := h
    exact ⟨(window_length r).trans (h.active_full ha), (h.twa_eq ha).trans (by rw [abs, Rec.window, window_sum])⟩

theorem Wf.of_full {N : Nat} {r : Rec} (hl : r.values.length = N) (hi : r.idx < N)
    (ht : r.active = true → r.twa = r.values.sum / N) (hd : r.discarded ≥ 0 → r.active = false)
    (hz : r.discarded ≠ 0) : Wf N r :=
  ⟨Nat.le_of_eq hl, fun h => absurd hl (Nat.ne_of_lt h), fun _ => hi, ht, hd, hz⟩

theorem Wf.of_filling {N : Nat} {r : Rec} (hl : r.values.length < N) (hi : r.idx = r.values.length)
    (ha : r.active = false) (hz : r.discarded ≠ 0) : Wf N r :=
  ⟨Nat.le_of_lt hl, fun _ => ⟨hi, ha⟩, fun h => absurd h (Nat.ne_of_lt hl), fun h => absurd (ha.symm.trans h) Bool.false_ne_true,
   fun _ => ha, hz⟩

theorem fresh_wf (N : Nat) (hN : N ≥ 1) : Wf N fresh := .of_filling hN rfl rfl (by decide)

theorem Wf.off {N : Nat} {r : Rec} (h : Wf N r) : Wf N { r with active := false } :=
  ⟨h.len_le, fun hl => ⟨(h.filling hl).1, rfl⟩, h.idx_lt, nofun, fun _ => rfl, h.discarded_ne⟩

theorem Wf.clear {N : Nat} {r : Rec} (h : Wf N r) : Wf N { r with active := false, idx := 0, values := [] } := by
  refine ⟨Nat.zero_le N, fun _ => ⟨rfl, rfl⟩, fun hl => ?_, nofun, fun _ => rfl, h.discarded_ne⟩
  have h0 : N = 0 := hl.symm
  have := h.idx_lt (by have := h.len_le; omega)
  omega

theorem Wf.discard {N : Nat} {r : Rec} (h : Wf N r) {ht : Int} (hpos : ht > 0) :
    Wf N { r with discarded := ht, active := false } :=
  ⟨h.len_le, fun hl => ⟨(h.filling hl).1, rfl⟩, h.idx_lt, nofun, fun _ => rfl, Int.ne_of_gt hpos⟩

theorem Wf.resume {N : Nat} {r : Rec} (h : Wf N r) : Wf N { r with discarded := -1 } :=
  ⟨h.len_le, h.filling, h.idx_lt, h.twa_eq, fun hd => absurd hd (by decide : ¬ (-1 : Int) ≥ 0), (by decide : (-1 : Int) ≠ 0)⟩

structure PushSpec (N : Nat) (r r' : Rec) (rate : Nat) : Prop where
  wf        : Wf N r'
  window    : r'.window = lastN N (r.window ++ [rate])
  discarded : r'.discarded = r.discarded
  full      : r'.window.length = N → r'.active = true ∧ r'.twa = r'.window.sum / N
  notfull   : r'.window.length ≠ N → r'.active = r.active ∧ r'.twa = r.twa

theorem pushFound_spec (N : Nat) (hN : N ≥ 1) (r : Rec) (rate : Nat) (hwf : Wf N r)
    (hd : r.discarded < 0) :
    ∃ r', pushFound r rate N = .ok r' ∧ PushSpec N r r' rate := by
  have hnz := hwf.discarded_ne
  -- `discarded < 0` stays as it is, so the clause "pending discard ⇒ inactive" of the result is vacuous
  have hd' : r.discarded ≥ 0 → true = false := fun h => absurd h (Int.not_le.mpr hd)
  by_cases hlen : r.values.length = N
  · -- full ring: write at the cursor and advance; an inactive price re-activates
    have hi : r.idx < N := hwf.idx_lt hlen
    have hlen' : (r.values.set r.idx rate).length = N := by rw [List.length_set]; exact hlen
    have hset : setAt r.values r.idx rate = .ok (r.values.set r.idx rate) := by rw [setAt, if_pos (hlen ▸ hi)]
    have hwi : wrapIdx (r.idx + 1) N < N := by unfold wrapIdx; split <;> omega
    refine ⟨{ r with values := r.values.set r.idx rate, idx := wrapIdx (r.idx+1) N, active := true,
                     twa := (r.values.set r.idx rate).sum / N }, ?_,
      .of_full hlen' hwi (fun _ => rfl) hd' hnz, ?_, rfl, fun _ => ⟨rfl, by simp only [Rec.window, window_sum]⟩,
      fun h => absurd ((window_length _).trans hlen') h⟩
    · unfold pushFound
      cases ha : r.active <;>
        simp [hset, calcTwa_full _ N hN hlen', hlen, bind, Except.bind, pure, Except.pure]
    · rw [lastN_full r.window N rate hN ((window_length r).trans hlen)]
      exact window_push_full r.values r.idx N rate hlen hi
  · -- still filling: the cursor is the length, the price is inactive; the window is the list itself
    have hl : r.values.length < N := Nat.lt_of_le_of_ne hwf.len_le hlen
    obtain ⟨hidx, hact⟩ := hwf.filling hl
    have hge : ¬ r.values.length ≥ N := by omega
    have hlen' : (r.values ++ [rate]).length = r.idx + 1 := by rw [List.length_append, hidx]; rfl
    have hwin : lastN N (r.window ++ [rate]) = r.values ++ [rate] := by
      rw [lastN_short r.window N rate (by rw [window_length]; exact hl), Rec.window, hidx, List.drop_length,
        List.take_length, List.nil_append]
    by_cases hfill : r.idx + 1 ≥ N
    · have hN' : (r.values ++ [rate]).length = N := by omega
      refine ⟨{ r with values := r.values ++ [rate], idx := 0, active := true, twa := (r.values ++ [rate]).sum / N },
        by simp [pushFound, hact, hge, hfill, calcTwa_full _ N hN hN', bind, Except.bind, pure, Except.pure],
        .of_full hN' hN (fun _ => rfl) hd' hnz, hwin.symm ▸ by simp [Rec.window], rfl,
        fun _ => ⟨rfl, by simp [Rec.window]⟩, fun h => absurd ((window_length _).trans hN') h⟩
    · have hlt' : (r.values ++ [rate]).length < N := by omega
      refine ⟨{ r with values := r.values ++ [rate], idx := r.idx + 1 },
        by simp [pushFound, hact, hge, hfill, pure, Except.pure],
        .of_filling hlt' hlen'.symm hact hnz, hwin.symm ▸ ?_, rfl,
        fun h => absurd ((window_length _).symm.trans h) (Nat.ne_of_lt hlt'), fun _ => ⟨rfl, rfl⟩⟩
      rw [Rec.window, ← hlen', List.drop_length, List.take_length, List.nil_append]

theorem abs_push (N : Nat) (r r' : Rec) (rate : Nat) (hs : PushSpec N r r' rate) (known : Bool) :
    abs (some r') = Spec.push N { abs (some r) with known := known } rate := by
  simp only [abs, Spec.push, ← hs.window]
  by_cases hl : r'.window.length = N
  · obtain ⟨ha, ht⟩ := hs.full hl
    simp [hl, ha, ht, hs.discarded]
  · obtain ⟨ha, ht⟩ := hs.notfull hl
    simp [hl, ha, ht, hs.discarded]

/-- `r1` is the record the discard phase left (`fresh` when nothing is stored) -/
theorem sample_refines (N : Nat) (hN : N ≥ 1) (acc : Int) (s : Option Rec) (rate : Nat) (h : Int) (r1 : Rec) (known : Bool)
    (hr : rate > 0) (hwf1 : Wf N r1) (hd1 : r1.discarded < 0)
    (hstep : step N acc s (.sample rate h) = (pushFound r1 rate N).map some)
    (habs : { abs (some r1) with known := known } = (abs s).resume acc h) :
    ∃ s', step N acc s (.sample rate h) = .ok s' ∧ WfO N s' ∧ abs s' = (abs s).step N acc (.sample rate h) := by
  obtain ⟨r', hok, hs⟩ := pushFound_spec N hN r1 rate hwf1 hd1
  refine ⟨some r', by rw [hstep, hok]; rfl, hs.wf, ?_⟩
  simp only [Spec.step, Spec.sample, if_neg (Nat.ne_of_gt hr), ← habs]
  exact abs_push N r1 r' rate hs known

/-- Heights must be positive: a zero sample stores its height in `discarded`, where `> 0` means "discard pending since that
height", `-1` "none", and `Wf` excludes `0`. -/
theorem step_refines (N : Nat) (hN : N ≥ 1) (acc : Int) (s : Option Rec) (op : Op)
    (hwf : WfO N s) (hh : ∀ r h, op = .sample r h → h > 0) :
    ∃ s', step N acc s op = .ok s' ∧ WfO N s' ∧ abs s' = (abs s).step N acc op := by
  cases op with
  | discardAll =>
    cases s with
    | none => exact ⟨none, rfl, trivial, rfl⟩
    | some r => exact ⟨_, rfl, Wf.clear hwf, by simp [discardAll, abs, Spec.step, Rec.window]⟩
  | deactivate =>
    cases s with
    | none => exact ⟨none, rfl, trivial, rfl⟩
    | some r => exact ⟨_, rfl, Wf.off hwf, rfl⟩
  | sample rate h =>
    have hpos : h > 0 := hh rate h rfl
    cases s with
    | none =>
      by_cases hr : rate = 0
      · exact ⟨none, by simp [step, update, hr], trivial, by simp [abs, Spec.step, Spec.sample, hr, Spec.init]⟩
      · have hr' : rate > 0 := by omega
        exact sample_refines N hN acc none rate h fresh false hr' (fresh_wf N hN) (by decide) (by simp [step, update, hr'])
          (by simp [abs, Spec.init, Spec.resume, fresh, Rec.window])
    | some r =>
      have hwf : Wf N r := hwf
      by_cases hr : rate = 0
      · by_cases hd : r.discarded < 0
        · exact ⟨some { r with discarded := h, active := false }, by simp [step, update, discardPhase, hr, hd],
            hwf.discard hpos, by simp [abs, Spec.step, Spec.sample, hr, hd, Rec.window]⟩
        · exact ⟨some r, by simp [step, update, discardPhase, hr, hd], hwf, by simp [abs, Spec.step, Spec.sample, hr, hd]⟩
      · have hr' : rate > 0 := by omega
        by_cases hd : r.discarded > 0
        · by_cases hg : h - r.discarded < acc
          · exact sample_refines N hN acc _ rate h { r with discarded := -1 } true hr' hwf.resume (by decide : (-1 : Int) < 0)
              (by simp [step, update, discardPhase, hr, hr', hd, hg])
              (by simp [abs, Spec.resume, hd, hg, Rec.window])
          · exact sample_refines N hN acc _ rate h { r with values := [], discarded := -1, active := false, idx := 0 } true hr'
              (.of_filling hN rfl rfl (by decide : (-1 : Int) ≠ 0)) (by decide : (-1 : Int) < 0)
              (by simp [step, update, discardPhase, hr, hr', hd, hg])
              (by simp [abs, Spec.resume, hd, hg, Rec.window])
        · exact sample_refines N hN acc _ rate h r true hr' hwf (by have := hwf.discarded_ne; omega)
            (by simp [step, update, discardPhase, hr, hd, hr'])
            (by simp [abs, Spec.resume, hd])

theorem run_append (N : Nat) (acc : Int) (s : Option Rec) (l1 l2 : List Op) :
    run N acc s (l1 ++ l2) = (run N acc s l1 >>= fun s' => run N acc s' l2) :=
  run_append_of (step := step N acc) (fun _ => rfl) (fun _ _ _ => rfl) s l1 l2

end Comdex.Twa
