import Comdex.Lemmas.GoSem
import Comdex.Model.Pool
/-!
The monad of `Model/Pool.lean` (`Pool.M = Except Pool.Fail`) embeds into `GoSem.M`; every checked primitive of the
model is the image of the `GoSem` primitive of the same Go method.  Used by `Props/C06Pure.lean`.
-/
namespace Comdex.PurePool
open Comdex.GoSem

/-- `Pool.Fail` ↦ `GoSem.Fail`, constructor by constructor -/
def lift {α : Type} : Pool.M α → M α
  | .ok a => .ok a
  | .error .overflow => .error .overflow
  | .error .panic => .error .panic

theorem lift_bind {α β : Type} (x : Pool.M α) (f : α → Pool.M β) :
    lift (x >>= f) = lift x >>= fun a => lift (f a) := by
  cases x with
  | ok a => rfl
  | error e => cases e <;> rfl

theorem lift_pure {α : Type} (a : α) : lift (pure a : Pool.M α) = pure a := rfl
theorem lift_ite {α : Type} (c : Prop) [Decidable c] (a b : Pool.M α) :
    lift (if c then a else b) = if c then lift a else lift b := by
  split <;> rfl

theorem toDec_eq (i : Int) : Pool.toDec i = intToDec i := rfl

theorem lift_chk (x : Dec) : lift (Pool.chk x) = chkDec x := by
  unfold Pool.chk chkDec; split <;> rfl
theorem lift_chkInt (x : Int) : lift (Pool.chkInt x) = chkInt x := by
  unfold Pool.chkInt chkInt; split <;> rfl
theorem lift_add (a b : Dec) : lift (Pool.add a b) = decAdd a b := lift_chk _
theorem lift_sub (a b : Dec) : lift (Pool.sub a b) = decSub a b := lift_chk _
theorem lift_mul (a b : Dec) : lift (Pool.mul a b) = decMul a b := lift_chk _
theorem lift_mulTruncate (a b : Dec) : lift (Pool.mulTruncate a b) = decMulTruncate a b := lift_chk _
theorem lift_quo (a b : Dec) : lift (Pool.quo a b) = decQuo a b := by
  unfold Pool.quo decQuo; split
  · rfl
  · exact lift_chk _
theorem lift_quoTruncate (a b : Dec) : lift (Pool.quoTruncate a b) = decQuoTruncate a b := by
  unfold Pool.quoTruncate decQuoTruncate; split
  · rfl
  · exact lift_chk _
theorem lift_truncateInt (a : Dec) : lift (Pool.truncateInt a) = decTruncateInt a := lift_chkInt _

/-- the model's rendering of `SafeMath`: overflow ↦ the zero result, other panics ↦ `none` -/
def handle {α : Type} (c : Pool.M α) (z : α) : Option α :=
  match c with
  | .ok r => some r
  | .error .overflow => some z
  | .error .panic => none

theorem ofOption_handle {α : Type} (c : Pool.M α) (z : α) :
    ofOption (handle c z) = safeMath (lift c) (pure z) := by
  cases c with
  | ok a => rfl
  | error e => cases e <;> rfl

theorem withdraw_eq_handle (rx ry ps pc : Int) (fee : Dec) :
    Pool.withdraw rx ry ps pc fee
      = if pc = ps then some (rx, ry) else handle (Pool.withdrawCore rx ry ps pc fee) (0, 0) := by
  unfold Pool.withdraw handle
  split
  · rfl
  · cases Pool.withdrawCore rx ry ps pc fee with
    | ok a => rfl
    | error e => cases e <;> rfl

theorem deposit_eq_handle (rx ry ps x y : Int) :
    Pool.deposit rx ry ps x y = handle (Pool.depositCore rx ry ps x y) (0, 0, 0) := by
  unfold Pool.deposit handle
  cases Pool.depositCore rx ry ps x y with
  | ok a => rfl
  | error e => cases e <;> rfl

end Comdex.PurePool
