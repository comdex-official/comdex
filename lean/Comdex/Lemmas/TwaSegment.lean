import Comdex.Lemmas.Twa
/-! One window under reconfigurations of its parameters (C17): the stored window is always the run of the last segment. -/
namespace Comdex.Twa

theorem crun_append (c : CSt) (l1 l2 : List COp) :
    crun c (l1 ++ l2) = (crun c l1 >>= fun c' => crun c' l2) :=
  run_append_of (step := cstep) (fun _ => rfl) (fun _ _ _ => rfl) c l1 l2

structure SegInv (a : Seg) (c : CSt) : Prop where
  cfg : c.cfg = a.cfg
  run : run a.cfg.N a.cfg.acc a.start a.ops = .ok c.s

theorem cstep_seg (a : Seg) (c c' : CSt) (o : COp) (h : SegInv a c) (hs : cstep c o = .ok c') : SegInv (segStep a o) c' := by
  obtain ⟨hc, hr⟩ := h
  cases o with
  | reconfigure cfg' =>
    simp only [cstep] at hs; cases hs
    exact ⟨rfl, rfl⟩
  | op o =>
    simp only [cstep, Except.map] at hs
    cases hst : step c.cfg.N c.cfg.acc c.s o with
    | error e => rw [hst] at hs; cases hs
    | ok s' =>
      rw [hst] at hs; cases hs
      refine ⟨hc, ?_⟩
      simp only [segStep]
      rw [run_append, hr]
      simp only [bind, Except.bind, run]
      rw [← hc, hst]

theorem crun_seg (ops : List COp) (a : Seg) (c st : CSt) (h : SegInv a c) (hs : crun c ops = .ok st) :
    SegInv (ops.foldl segStep a) st := by
  induction ops generalizing a c with
  | nil => simp only [crun] at hs; cases hs; exact h
  | cons o t ih =>
    simp only [crun] at hs
    cases hc : cstep c o with
    | error e => rw [hc] at hs; cases hs
    | ok c1 =>
      rw [hc] at hs
      exact ih (segStep a o) c1 (cstep_seg a c c1 o h hc) hs

/-- every reconfiguration installs a window size ≥ 1 (`FetchPriceProposal.ValidateBasic`), heights are positive -/
def ValidC (ops : List COp) : Prop :=
  (∀ cfg, COp.reconfigure cfg ∈ ops → cfg.N ≥ 1) ∧ (∀ r h, COp.op (.sample r h) ∈ ops → h > 0)

theorem ValidC.size_pos {ops : List COp} (h : ValidC ops) {cfg : Cfg} (hm : COp.reconfigure cfg ∈ ops) : cfg.N ≥ 1 :=
  h.1 cfg hm

theorem ValidC.height_pos {ops : List COp} (h : ValidC ops) {r : Nat} {ht : Int} (hm : COp.op (.sample r ht) ∈ ops) :
    ht > 0 := h.2 r ht hm

theorem ValidC.tail {o : COp} {ops : List COp} (h : ValidC (o :: ops)) : ValidC ops :=
  ⟨fun _ hm => h.size_pos (List.mem_cons_of_mem _ hm), fun _ _ hm => h.height_pos (List.mem_cons_of_mem _ hm)⟩

theorem ValidC.nil : ValidC [] := ⟨fun _ hm => (nomatch hm), fun _ _ hm => (nomatch hm)⟩

theorem ValidC.append {l1 l2 : List COp} (h1 : ValidC l1) (h2 : ValidC l2) : ValidC (l1 ++ l2) :=
  ⟨fun _ hm => (List.mem_append.mp hm).elim h1.size_pos h2.size_pos,
   fun _ _ hm => (List.mem_append.mp hm).elim h1.height_pos h2.height_pos⟩

theorem crun_total (ops : List COp) (c : CSt) (hN : c.cfg.N ≥ 1) (hwf : WfO c.cfg.N c.s) (hv : ValidC ops) :
    ∃ st, crun c ops = .ok st ∧ st.cfg.N ≥ 1 ∧ WfO st.cfg.N st.s := by
  induction ops generalizing c with
  | nil => exact ⟨c, rfl, hN, hwf⟩
  | cons o t ih =>
    cases o with
    | reconfigure cfg' =>
      obtain ⟨st, h, hn, hw⟩ := ih { cfg := cfg', s := none } (hv.size_pos List.mem_cons_self) trivial hv.tail
      exact ⟨st, by simp only [crun, cstep, bind, Except.bind]; exact h, hn, hw⟩
    | op o =>
      obtain ⟨s1, hs1, hwf1, -⟩ := step_refines c.cfg.N hN c.cfg.acc c.s o hwf
        (fun r h e => hv.height_pos (by rw [e]; exact List.mem_cons_self))
      obtain ⟨st, h, hn, hw⟩ := ih { c with s := s1 } hN hwf1 hv.tail
      exact ⟨st, by simp only [crun, cstep, hs1, Except.map, bind, Except.bind]; exact h, hn, hw⟩

theorem foldl_seg_ops (ops : List COp) (a : Seg) (o : Op) (h : o ∈ (ops.foldl segStep a).ops) :
    o ∈ a.ops ∨ COp.op o ∈ ops := by
  induction ops generalizing a with
  | nil => exact Or.inl h
  | cons x t ih =>
    rcases ih (segStep a x) h with h1 | h1
    · cases x with
      | op o' =>
        simp only [segStep, List.mem_append, List.mem_singleton] at h1
        rcases h1 with h1 | h1
        · exact Or.inl h1
        · subst h1; exact Or.inr (by simp)
      | reconfigure c => simp [segStep] at h1
    · exact Or.inr (by simp [h1])

theorem foldl_seg_cases (ops : List COp) (a : Seg) :
    ((∀ c, COp.reconfigure c ∉ ops) ∧ (ops.foldl segStep a).start = a.start ∧ (ops.foldl segStep a).cfg = a.cfg) ∨
    ((ops.foldl segStep a).start = none ∧ COp.reconfigure (ops.foldl segStep a).cfg ∈ ops) := by
  induction ops generalizing a with
  | nil => exact .inl ⟨fun _ => List.not_mem_nil, rfl, rfl⟩
  | cons x t ih =>
    rcases ih (segStep a x) with ⟨h1, h2, h3⟩ | ⟨h2, h3⟩
    · cases x with
      | op o =>
        exact .inl ⟨fun c hm => by cases List.mem_cons.mp hm with | inl e => cases e | inr hm => exact h1 c hm, h2, h3⟩
      | reconfigure c => exact .inr ⟨h2, h3 ▸ List.mem_cons_self⟩
    · exact .inr ⟨h2, List.mem_cons_of_mem _ h3⟩

theorem lastSegment_reconfigured (c0 : CSt) (ops : List COp) (hr : ∃ cfg, COp.reconfigure cfg ∈ ops) :
    (lastSegment c0 ops).start = none ∧ COp.reconfigure (lastSegment c0 ops).cfg ∈ ops := by
  rcases foldl_seg_cases ops { cfg := c0.cfg, start := c0.s, ops := [] } with ⟨h, -⟩ | h
  · obtain ⟨c, hc⟩ := hr; exact absurd hc (h c)
  · exact h

end Comdex.Twa
