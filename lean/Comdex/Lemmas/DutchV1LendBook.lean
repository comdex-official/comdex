import Comdex.Model.DutchV1LendBook
import Comdex.Lemmas.Inversion
import Comdex.Lemmas.DutchBank
/-!
Lemmas for the first-generation lend auction with the lend-side book-keeping: what `closeBook` decides (interest to the reserve,
cTokens minted, the five outcomes for locked vault and borrow), the bid inverted (`bidE_ok`) and the three transfers between pool and
reserve that a closing bid adds to `DutchV1Lend.apply` (`reserve_sends`).
-/
namespace Comdex.DutchV1LendBook
open Comdex.DutchV2 (Acct Denom Bank sendPos sendPos_of_nonneg xfer)
open Comdex.DutchV1Lend (Env Auc Plan plan apply)

theorem riOf_nonneg (k : Book) : 0 ≤ riOf k := by unfold riOf; split <;> omega
theorem mintOf_nonneg (k : Book) : 0 ≤ mintOf k := by unfold mintOf; split <;> omega

theorem reliq_nonneg {e : Env} {r : Rates} {x : Ext} {amtIn updOut : Int} {q : Reliq}
    (h : reliq e r x amtIn updOut = .ok (some q)) : 0 ≤ q.toAuction ∧ 0 ≤ q.toReserve ∧ 0 ≤ q.deduction := by
  -- every path but the last returns an error or `none`; the last has passed the `sdk.NewCoin` guard
  unfold reliq at h
  split at h
  · cases h
  · cases h
  · split at h
    · simp only [] at h
      split at h
      · cases h
      · split at h
        · cases h
        · rename_i hneg
          cases h
          simp only
          omega
    · cases h

inductive Outcome (e : Env) (k : Book) (lv0 : LV) (cp : ClosePlan) : Prop
  /-- the debt is repaid in full: records deleted, the borrower's collateral cTokens returned -/
  | repaid : max0 (lv0.amtOut - e.target) = 0 → cp.k.lv = none → cp.k.borrow = none →
      cp.k.cOwnerColl = k.cOwnerColl + lv0.amtIn → cp.k.cPoolColl = k.cPoolColl - lv0.amtIn → cp.redep = 0 → cp.pen2 = 0 →
      Outcome e k lv0 cp
  /-- no collateral left: records deleted -/
  | exhausted : max0 (lv0.amtOut - e.target) ≠ 0 → lv0.amtIn = 0 → cp.k.lv = none → cp.k.borrow = none →
      cp.k.cOwnerColl = k.cOwnerColl → cp.k.cPoolColl = k.cPoolColl → cp.redep = 0 → cp.pen2 = 0 → Outcome e k lv0 cp
  /-- healthy again: the borrow is restored with the locked vault's amounts -/
  | restored : max0 (lv0.amtOut - e.target) ≠ 0 → cp.k.lv = none →
      cp.k.borrow = some (lv0.amtIn, max0 (lv0.amtOut - e.target)) → cp.k.liquidated = false →
      cp.k.cOwnerColl = k.cOwnerColl → cp.k.cPoolColl = k.cPoolColl → cp.redep = 0 → cp.pen2 = 0 → Outcome e k lv0 cp
  /-- still unhealthy: liquidated again — fresh collateral to the auction module, penalty to the reserve, cTokens burned -/
  | reliquidated (ded : Int) : max0 (lv0.amtOut - e.target) ≠ 0 → 0 ≤ ded →
      cp.k.lv = some { amtIn := if ded ≥ lv0.amtIn then 0 else lv0.amtIn - ded, amtOut := max0 (lv0.amtOut - e.target),
                       updOut := max0 (lv0.updOut - e.target) } →
      cp.k.cPoolColl = k.cPoolColl - ded → cp.k.cOwnerColl = k.cOwnerColl → Outcome e k lv0 cp
  /-- the re-liquidation could not value the position (a price went inactive between two reads): nothing moves -/
  | stuck : max0 (lv0.amtOut - e.target) ≠ 0 →
      cp.k.lv = some { amtIn := lv0.amtIn, amtOut := max0 (lv0.amtOut - e.target), updOut := max0 (lv0.updOut - e.target) } →
      cp.k.cPoolColl = k.cPoolColl → cp.k.cOwnerColl = k.cOwnerColl → cp.redep = 0 → cp.pen2 = 0 → Outcome e k lv0 cp

theorem closeBook_ok {e : Env} {r : Rates} {k : Book} {x : Ext} {cp : ClosePlan} (h : closeBook e r k x = .ok cp) :
    ∃ lv0, k.lv = some lv0 ∧ cp.ri = riOf k ∧ 0 ≤ cp.redep ∧ 0 ≤ cp.pen2 ∧
      cp.k.cPoolDebt = k.cPoolDebt + mintOf k ∧ cp.k.minted = k.minted + mintOf k ∧ cp.k.toRes = k.toRes + riOf k ∧
      cp.k.redep = k.redep + cp.redep ∧ cp.k.pen2 = k.pen2 + cp.pen2 ∧ cp.k.fromRes = k.fromRes ∧
      Outcome e k lv0 cp := by
  unfold closeBook at h
  generalize hlv : k.lv = olv at h
  obtain _ | lv0 := olv
  · cases h
  refine ⟨lv0, rfl, ?_⟩
  simp only [] at h
  have ok0 : ∀ {cp : ClosePlan}, cp.ri = riOf k → cp.redep = 0 → cp.pen2 = 0 → cp.k.cPoolDebt = k.cPoolDebt + mintOf k →
      cp.k.minted = k.minted + mintOf k → cp.k.toRes = k.toRes + riOf k → cp.k.redep = k.redep → cp.k.pen2 = k.pen2 →
      cp.k.fromRes = k.fromRes → Outcome e k lv0 cp →
      cp.ri = riOf k ∧ 0 ≤ cp.redep ∧ 0 ≤ cp.pen2 ∧ cp.k.cPoolDebt = k.cPoolDebt + mintOf k ∧
        cp.k.minted = k.minted + mintOf k ∧ cp.k.toRes = k.toRes + riOf k ∧ cp.k.redep = k.redep + cp.redep ∧
        cp.k.pen2 = k.pen2 + cp.pen2 ∧ cp.k.fromRes = k.fromRes ∧ Outcome e k lv0 cp :=
    fun h1 h2 h3 h4 h5 h6 h7 h8 h9 ho =>
      ⟨h1, h2 ▸ Int.le_refl 0, h3 ▸ Int.le_refl 0, h4, h5, h6, by rw [h7, h2, Int.add_zero], by rw [h8, h3, Int.add_zero], h9, ho⟩
  by_cases hz : max0 (lv0.amtOut - e.target) = 0
  · rw [if_pos hz] at h
    obtain ⟨-, h⟩ := guard_ok h
    cases h
    exact ok0 rfl rfl rfl rfl rfl rfl rfl rfl rfl (Outcome.repaid hz rfl rfl rfl rfl rfl rfl)
  rw [if_neg hz] at h
  by_cases hin : lv0.amtIn = 0
  · rw [if_pos hin] at h
    cases h
    exact ok0 rfl rfl rfl rfl rfl rfl rfl rfl rfl (Outcome.exhausted hz hin rfl rfl rfl rfl rfl rfl)
  rw [if_neg hin] at h
  match_ok hcr : calcCR e x lv0.amtIn (max0 (lv0.updOut - e.target)) with cr at h
  by_cases hgt : crVal cr > r.thr
  · rw [if_pos hgt] at h
    generalize hq : reliq e r x lv0.amtIn (max0 (lv0.updOut - e.target)) = orq at h
    obtain _ | _ | q := orq
    · cases h
    · cases h
      exact ok0 rfl rfl rfl rfl rfl rfl rfl rfl rfl (Outcome.stuck hz rfl rfl rfl rfl rfl)
    · simp only [] at h
      obtain ⟨-, h⟩ := guard_ok h
      cases h
      obtain ⟨q1, q2, q3⟩ := reliq_nonneg hq
      exact ⟨rfl, q1, q2, rfl, rfl, rfl, rfl, rfl, rfl, Outcome.reliquidated q.deduction hz q3 rfl rfl rfl⟩
  · rw [if_neg hgt] at h
    cases h
    exact ok0 rfl rfl rfl rfl rfl rfl rfl rfl rfl (Outcome.restored hz rfl rfl rfl rfl rfl rfl rfl)

theorem reserve_sends {b b1 b2 b3 : Bank} {req ri pen2 : Int}
    (h1 : sendPos b .lendres .pool .debt req = .ok b1) (h2 : sendPos b1 .pool .lendres .debt ri = .ok b2)
    (h3 : sendPos b2 .pool .lendres .coll pen2 = .ok b3) (hreq : 0 ≤ req) (hri : 0 ≤ ri) (hpen : 0 ≤ pen2) :
    ∀ x d, b3.get x d = b.get x d + xfer .lendres .pool .debt req x d + xfer .pool .lendres .debt ri x d
      + xfer .pool .lendres .coll pen2 x d := by
  have d1 := sendPos_of_nonneg h1 hreq
  have d2 := sendPos_of_nonneg h2 hri
  have d3 := sendPos_of_nonneg h3 hpen
  exact fun x d => by rw [d3, d2, d1]

/-- `req`: what the reserve pays when the collateral was sold out below the target -/
theorem bidE_ok {e : Env} {r : Rates} {s s' : BSt} {who : Nat} {slice : Int} {x : Ext} (h : bidE e r s who slice x = .ok s') :
    ∃ a p, s.s.auc = some a ∧ plan e a slice = .ok p ∧
      (((a.inCur + p.inAmt ≥ e.target ∨ a.outCur - p.slice = 0) ∧
        ∃ cp s1 req b1 b2 b3, closeBook e r s.k x = .ok cp ∧
          apply e s.s a who p cp.redep (s.s.bank.get .lendres .debt) = .ok s1 ∧
          req = (if a.inCur + p.inAmt ≥ e.target then 0 else e.target - (a.inCur + p.inAmt)) ∧
          sendPos s1.bank .lendres .pool .debt req = .ok b1 ∧ sendPos b1 .pool .lendres .debt cp.ri = .ok b2 ∧
          sendPos b2 .pool .lendres .coll cp.pen2 = .ok b3 ∧
          s' = { s := { s1 with bank := b3 }, k := { cp.k with fromRes := cp.k.fromRes + req } }) ∨
       (¬ (a.inCur + p.inAmt ≥ e.target ∨ a.outCur - p.slice = 0) ∧
        ∃ s1, apply e s.s a who p 0 (s.s.bank.get .lendres .debt) = .ok s1 ∧ s' = { s with s := s1 })) := by
  unfold bidE at h
  match_ok ha : s.s.auc with a at h
  match_ok hp : plan e a slice with p at h
  by_cases hcl : a.inCur + p.inAmt ≥ e.target ∨ a.outCur - p.slice = 0
  · rw [if_pos hcl] at h
    match_ok hcp : closeBook e r s.k x with cp at h
    match_ok hs1 : apply e s.s a who p cp.redep (s.s.bank.get .lendres .debt) with s1 at h
    match_ok hb1 : sendPos s1.bank .lendres .pool .debt _ with b1 at h
    match_ok hb2 : sendPos b1 .pool .lendres .debt cp.ri with b2 at h
    match_ok hb3 : sendPos b2 .pool .lendres .coll cp.pen2 with b3 at h
    -- `match_ok` has replaced `s.s.auc` and `closeBook …` (no bound variable in them) in the goal as well: hence `rfl`
    exact ⟨a, p, rfl, hp, Or.inl ⟨hcl, cp, s1, _, b1, b2, b3, rfl, hs1, rfl, hb1, hb2, hb3, (Except.ok.inj h).symm⟩⟩
  · rw [if_neg hcl] at h
    match_ok hs1 : apply e s.s a who p 0 (s.s.bank.get .lendres .debt) with s1 at h
    exact ⟨a, p, rfl, hp, Or.inr ⟨hcl, s1, hs1, (Except.ok.inj h).symm⟩⟩

end Comdex.DutchV1LendBook
