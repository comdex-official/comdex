import Comdex.Model.VaultAccrual
import Comdex.Lemmas.Accrual
/-! C18: what an active `CalculateVaultInterest` of `Model/VaultAccrual.lean` returns and books. -/
namespace Comdex.VaultAccrual
open Comdex.Accrual

theorem calcInterest_active (s : St) (ctx : Ctx) (debt bh bt : Int) (pw : Option Int) (s' : St) (ha : Active s)
    (h : calcInterest s ctx debt bh bt pw = .ok s') :
    ∃ x, calcRewards debt s.pair.fee (ctx.now - since s.pair.bt bh bt) pw = .ok x ∧
      s' = { s with vault := (book s.vault s.tracker x ctx.height ctx.now).1,
                    tracker := some (book s.vault s.tracker x ctx.height ctx.now).2 } := by
  obtain ⟨a1, a2, a3⟩ := ha
  unfold calcInterest at h
  simp only [a1, a3, Bool.not_true, Bool.false_eq_true, if_false, Bool.or_false, decide_eq_true_eq, a2] at h
  split at h
  · rename_i x hx
    injection h with h
    exact ⟨x, hx, by rw [← h, a1]⟩
  · cases h
  · cases h

structure Books (ops : FloatOps) (s : St) (ctx : Ctx) (debt bh bt : Int) (s' : St) : Prop where
  span : 0 ≤ ctx.now - since s.pair.bt bh bt
  booked : booked s' = booked s + interest ops debt s.pair.fee (ctx.now - since s.pair.bt bh bt)
  bh : s'.vault.bh = ctx.height
  bt : s'.vault.bt = ctx.now
  pair : s'.pair = s.pair
  appWl : s'.appWl = s.appWl
  amountOut : s'.vault.amountOut = s.vault.amountOut
  ia : s.vault.ia ≤ s'.vault.ia
  tr0 : 0 ≤ s'.tracker.getD 0
  tr1 : s'.tracker.getD 0 < Dec.one

theorem calcWith_books (ops : FloatOps) (s : St) (ctx : Ctx) (debt bh bt : Int) (s' : St)
    (ha : Active s) (hf : 0 ≤ s.pair.fee) (hd : 0 ≤ debt) (htr : 0 ≤ s.tracker.getD 0)
    (h : calcWith ops s ctx debt bh bt = .ok s') : Books ops s ctx debt bh bt s' := by
  obtain ⟨x, hx, hs'⟩ := calcInterest_active s ctx debt bh bt _ s' ha h
  obtain ⟨hsec, p0, t0, t1, sum⟩ := calc_into_tracker ops debt s.pair.fee _ x _ hd hf htr hx
  subst hs'
  refine ⟨hsec, ?_, rfl, rfl, rfl, rfl, rfl, Int.le_add_of_nonneg_right p0, t0, t1⟩
  show (s.vault.ia + (trackerStep (s.tracker.getD 0) x).1) * Dec.P + (trackerStep (s.tracker.getD 0) x).2
    = s.vault.ia * Dec.P + s.tracker.getD 0 + _
  rw [Int.add_mul]; omega

theorem Books.next (ops : FloatOps) {s : St} {ctx : Ctx} {debt bh bt : Int} {s' : St} (b : Books ops s ctx debt bh bt s')
    (ha : Active s) (hh : ctx.height ≠ 0) : since s'.pair.bt s'.vault.bh s'.vault.bt = ctx.now ∧ Active s' := by
  refine ⟨?_, by rw [Active, b.appWl, b.pair]; exact ha⟩
  unfold since; rw [b.bh, b.bt, if_neg hh]

end Comdex.VaultAccrual
