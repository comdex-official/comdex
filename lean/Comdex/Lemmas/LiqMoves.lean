import Comdex.Lemmas.LiqAtom
/-!
Every atom, hence every operation and every history of the liquidity ledger model is a bank movement of `Moves` (`LiqFrame`), so no
ordinary coin is ever minted or burnt (per coin denom the sum over all real accounts is constant) and the bank keeps one entry per
(account, denom); and what applying a match result does to every account outside the order side (`applyMatch_bal`: flow accounts,
dust collector, pool reserves).
-/
namespace Comdex.LiqLedger

theorem Moves.toAny {A : Acct → Bool} {b b' : Bank} (h : Moves A b b') : Moves Acct.any b b' := h.mono fun _ _ => rfl

theorem mv_fillOrder {cfg : Cfg} {p : Pair} {s s' : State} {f : Fill} (h : fillOrder cfg p s f = some s') :
    Moves Acct.any s.bank s'.bank := by
  obtain ⟨o, s1, -, -, -, -, rfl, hfin⟩ := fillOrder_eff h
  have c : Moves Acct.any s.bank ((s.modO (p.app, p.id, f.id) (·.filled f)).credit (.mIn p.app p.id) (sideIn p f.buy) f.paid).bank :=
    .credit _ _ _ _ rfl rfl
  rcases hfin with rfl | hf
  · exact c
  · exact c.trans (finishOrder_orderStep hf).bank.toAny

theorem Atom.moves {cfg : Cfg} {k : Kind} {s s' : State} (h : Atom cfg k s s') : Moves Acct.any s.bank s'.bank := by
  cases k with
  | order => exact h.orderStep.bank.toAny
  | pool | exec | create => exact (h.poolStep trivial).bank.toAny
  | prune => cases h; exact .refl _
  | migrate => cases h with | migrate h => obtain ⟨-, rfl⟩ := migrate_eff h; exact .refl _
  | batch =>
    cases h with
    | poolPayIn h => exact (poolPayIn_moves h).toAny
    | fill h => exact mv_fillOrder h
    | payOut ht h => exact (payOut_moves ht h).toAny

theorem mv_runT {cfg : Cfg} (ops : List Op) (s : State) : Moves Acct.any s.bank (runT cfg s ops).bank :=
  runT_keeps (P := fun s' => Moves Acct.any s.bank s'.bank) (fun a hp => hp.trans a.moves) (.refl _)

def bankSum (w : Key → Bool) (b : Bank) : Nat := sumOver (fun e => if w e.1 then e.2 else 0) b

theorem bankSum_set (w : Key → Bool) (b : Bank) (k : Key) (v : Nat) :
    bankSum w (b.set k v) + (if w k then b.get k else 0) = bankSum w b + (if w k then v else 0) := by
  unfold bankSum
  induction b with
  | nil => simp [Bank.set, Bank.get, sumOver]
  | cons e t ih =>
    obtain ⟨k0, v0⟩ := e
    by_cases h0 : k0 = k
    · subst h0; simp [Bank.set, Bank.get, sumOver]; omega
    · simp only [Bank.set, Bank.get, h0, if_false, sumOver]; omega

/-- per ordinary coin denom: the sum over all real (non-ghost) accounts -/
def coinTotal (n : Nat) (b : Bank) : Nat := bankSum (fun k => !k.1.ghost && decide (k.2 = Denom.coin n)) b

theorem coinTotal_set (n : Nat) (b : Bank) (k : Key) (v : Nat) :
    coinTotal n (b.set k v) + (if (!k.1.ghost && decide (k.2 = Denom.coin n)) = true then b.get k else 0) =
      coinTotal n b + (if (!k.1.ghost && decide (k.2 = Denom.coin n)) = true then v else 0) :=
  bankSum_set _ b k v

theorem coinTotal_moves {A : Acct → Bool} {b b' : Bank} (h : Moves A b b') (n : Nat) : coinTotal n b' = coinTotal n b := by
  induction h with
  | refl _ => rfl
  | trans _ _ ih1 ih2 => rw [ih2, ih1]
  | @send b b' f t d m hok hs =>
    obtain ⟨-, -, hf, ht, hne⟩ := sendOk_spec hok
    unfold Bank.send at hs
    split at hs
    · rename_i hle
      simp only [Option.some.injEq] at hs
      subst hs
      have e1 := coinTotal_set n b (f, d) (b.get (f, d) - m)
      have e2 := coinTotal_set n (b.set (f, d) (b.get (f, d) - m)) (t, d) ((b.set (f, d) (b.get (f, d) - m)).get (t, d) + m)
      simp only [hf, ht, Bool.not_false, Bool.true_and] at e1 e2
      by_cases hd : d = Denom.coin n
      · subst hd; simp at e1 e2; omega
      · simp [hd] at e1 e2; omega
    · cases hs
  | mint b a p m _ =>
    unfold Bank.add
    have notCoin : Denom.pool a p ≠ Denom.coin n := nofun
    have e := coinTotal_set n b (.module, .pool a p) (b.get (.module, .pool a p) + m)
    simp [notCoin] at e; exact e
  | burn b a p m _ =>
    have notCoin : Denom.pool a p ≠ Denom.coin n := nofun
    have e := coinTotal_set n b (.module, .pool a p) (b.get (.module, .pool a p) - m)
    simp [notCoin] at e; exact e
  | credit b g d m _ hg =>
    unfold Bank.add
    have e := coinTotal_set n b (g, d) (b.get (g, d) + m)
    simp [hg] at e; exact e

/-- one entry per (account, denom) -/
def KeysNodup (b : Bank) : Prop := (b.map (·.1)).Nodup

theorem keys_set_mem (b : Bank) (k : Key) (v : Nat) (hk : k ∈ b.map (·.1)) : (b.set k v).map (·.1) = b.map (·.1) := by
  induction b with
  | nil => simp at hk
  | cons e t ih =>
    obtain ⟨k0, v0⟩ := e
    by_cases h0 : k0 = k
    · subst h0; simp [Bank.set]
    · have hne : ¬ k = k0 := fun e => h0 e.symm
      simp only [List.map_cons, List.mem_cons, hne, false_or] at hk
      simp [Bank.set, h0, ih hk]

theorem keys_set_not_mem (b : Bank) (k : Key) (v : Nat) (hk : k ∉ b.map (·.1)) : (b.set k v).map (·.1) = b.map (·.1) ++ [k] := by
  induction b with
  | nil => simp [Bank.set]
  | cons e t ih =>
    obtain ⟨k0, v0⟩ := e
    simp only [List.map_cons, List.mem_cons, not_or] at hk
    have h0 : ¬ k0 = k := fun e => hk.1 e.symm
    simp [Bank.set, h0, ih hk.2]

theorem keysNodup_set {b : Bank} (h : KeysNodup b) (k : Key) (v : Nat) : KeysNodup (b.set k v) := by
  unfold KeysNodup at *
  by_cases hk : k ∈ b.map (·.1)
  · rw [keys_set_mem b k v hk]; exact h
  · rw [keys_set_not_mem b k v hk, List.nodup_append]
    refine ⟨h, by simp, ?_⟩
    intro x hx y hy
    simp only [List.mem_singleton] at hy
    subst hy
    intro e; subst e; exact hk hx

theorem keysNodup_moves {A : Acct → Bool} {b b' : Bank} (h : Moves A b b') (hb : KeysNodup b) : KeysNodup b' := by
  induction h with
  | refl _ => exact hb
  | trans _ _ ih1 ih2 => exact ih2 (ih1 hb)
  | @send b b' f t d m _ hs =>
    unfold Bank.send at hs
    split at hs
    · simp only [Option.some.injEq] at hs; subst hs
      exact keysNodup_set (keysNodup_set hb _ _) _ _
    · cases hs
  | mint b a p m _ => exact keysNodup_set hb _ _
  | burn b a p m _ => exact keysNodup_set hb _ _
  | credit b g d m _ _ => exact keysNodup_set hb _ _

theorem keysNodup_genesis (funds : List (Nat × Nat × Nat)) : KeysNodup (genesis funds).bank := by
  unfold genesis
  have : ∀ (b : Bank), KeysNodup b → KeysNodup (funds.foldl (fun b f => b.add (.user f.1) (.coin f.2.1) f.2.2) b) := by
    induction funds with
    | nil => intro b hb; exact hb
    | cons f t ih => intro b hb; exact ih _ (keysNodup_set hb _ _)
  exact this [] (by simp [KeysNodup])

/-- the flow accounts, the dust collector and the pool reserves: in by the credits and receipts, out (reserves) by what the pool
orders paid -/
theorem applyMatch_bal {cfg : Cfg} {s s' : State} {p : Pair} {m : MatchIn} (h : applyMatch cfg s p m = some s') {x : Acct}
    (hx : x.orderSide = false) (d : Denom) :
    s'.bal x d + sumOver (fun f : PoolFlow => if Acct.reserve p.app f.pool = x ∧ sideIn p f.buy = d then f.paid else 0) m.pools =
    s.bal x d + sumOver (fun f : PoolFlow => if Acct.mIn p.app p.id = x ∧ sideIn p f.buy = d then f.paid else 0) m.pools +
      sumOver (fun f : Fill => if Acct.mIn p.app p.id = x ∧ sideIn p f.buy = d then f.paid else 0) m.fills +
      sumOver (fun f : Fill => if Acct.mOut p.app p.id = x ∧ sideOut p f.buy = d then f.recv else 0) m.fills +
      sumOver (fun f : PoolFlow => (if Acct.reserve p.app f.pool = x ∧ sideOut p f.buy = d then f.recv else 0) +
        (if Acct.mOut p.app p.id = x ∧ sideOut p f.buy = d then f.recv else 0)) m.pools +
      ((if Acct.dust p.app = x ∧ p.quote = d then m.dust else 0) + (if Acct.mOut p.app p.id = x ∧ p.quote = d then m.dust else 0)) := by
  obtain ⟨s1, s2, s3, s4, s5, h1, h2, h3, h4, h5, rfl⟩ := applyMatch_eff h
  have nE : ∀ (c : Prop) [Decidable c] (n : Nat), (if Acct.pairEscrow p.app p.id = x ∧ c then n else 0) = 0 :=
    fun c _ n => if_neg fun e => by rw [← e.1] at hx; cases hx
  have nU : ∀ (u : Nat) (c : Prop) [Decidable c] (n : Nat), (if Acct.user u = x ∧ c then n else 0) = 0 :=
    fun u c _ n => if_neg fun e => by rw [← e.1] at hx; cases hx
  have e1 := foldOpt_sum (fun s => s.bal x d) _ _ (fun s f s' hh => by
    obtain ⟨t, ht, rfl⟩ := poolPayIn_eff hh
    have e := State.bal_send_credit ht (.mIn p.app p.id) x d
    rw [nE, Nat.add_zero] at e; exact e) _ _ _ h1
  have e2 := foldOpt_sum (fun s => s.bal x d) _ (fun _ => 0) (fun s f s' hh => by
    obtain ⟨o, t, -, -, -, -, ht, hfin⟩ := fillOrder_eff hh
    have c : t.bal x d = s.bal x d + (if Acct.mIn p.app p.id = x ∧ sideIn p f.buy = d then f.paid else 0) := by
      rw [ht]; exact State.bal_credit _ _ _ _ x d
    rcases hfin with rfl | hf
    · exact c
    · exact ((finishOrder_orderStep hf).bal hx d).trans c) _ _ _ h2
  have e3 := foldOpt_sum (fun s => s.bal x d) _ (fun _ => 0) (fun s f s' hh => by
    obtain ⟨o, t, -, ht, rfl⟩ := fillPayOut_eff hh
    have e := State.bal_send_credit ht (.mOut p.app p.id) x d
    rw [nE, nU, Nat.add_zero, Nat.add_zero] at e; exact e) _ _ _ h3
  have e4 := foldOpt_sum (fun s => s.bal x d) _ (fun _ => 0) (fun s f s' hh => by
    obtain ⟨t, ht, rfl⟩ := poolPayOut_eff hh
    have e := State.bal_send_credit ht (.mOut p.app p.id) x d
    rw [nE, Nat.add_zero, Nat.add_assoc] at e; exact e) _ _ _ h4
  have e5 := State.bal_send_credit h5 (.mOut p.app p.id) x d
  rw [nE, Nat.add_zero] at e5
  simp only [sumOver_zero, Nat.add_zero] at e2 e3 e4
  omega

end Comdex.LiqLedger
