import Comdex.Model.DutchV2
import Comdex.Lemmas.DecRound
/-! The price conversion of every bid (`GetAmountOfOtherToken`) against the exact quotient `amt·r1·d2/(d1·r2)`. -/
namespace Comdex.DutchV2
open Comdex.Dec

/-- the amount `GetAmountOfOtherToken` returns, without its guards -/
def convVal (amt r1 d1 r2 d2 : Int) : Int :=
  Dec.truncateInt (Dec.mul (Dec.quo (Dec.quo (Dec.mul (Dec.ofInt amt) r1) (Dec.ofInt d1)) r2) (Dec.ofInt d2))

theorem conv_ok {amt r1 d1 r2 d2 : Int} {t : Dec} {c : Int} (h : conv amt r1 d1 r2 d2 = .ok (t, c)) :
    c = convVal amt r1 d1 r2 d2 ∧ d1 ≠ 0 ∧ r2 ≠ 0 := by
  unfold conv at h
  split at h
  · cases h
  · rename_i hz
    cases h
    exact ⟨rfl, fun e => hz (Or.inl e), fun e => hz (Or.inr e)⟩

theorem convC_ok {amt r1 d1 r2 d2 c : Int} (h : convC amt r1 d1 r2 d2 = .ok c) :
    c = convVal amt r1 d1 r2 d2 ∧ d1 ≠ 0 ∧ r2 ≠ 0 := by
  unfold convC at h
  split at h
  · rename_i hc; cases h; exact conv_ok hc
  · cases h

theorem convVal_zero (r1 d1 r2 d2 : Int) : convVal 0 r1 d1 r2 d2 = 0 := by
  simp [convVal, Dec.ofInt, Dec.mul, Dec.quo, Dec.truncateInt, chopRound_zero]

theorem convVal_nonneg (amt r1 d1 r2 d2 : Int) (ha : 0 ≤ amt) (hr1 : 0 ≤ r1) (hd1 : 0 < d1) (hr2 : 0 < r2) (hd2 : 0 ≤ d2) :
    0 ≤ convVal amt r1 d1 r2 d2 := by
  unfold convVal
  rw [ofInt_mul, mul_ofInt]
  exact truncateInt_nonneg (Int.mul_nonneg (quo_nonneg _ _ (quo_nonneg _ _ (Int.mul_nonneg ha hr1) (ofInt_pos hd1)) hr2) hd2)

/-- `c ≤ amt·r1·d2/(d1·r2) + d2/(2·r2) + d2/(2·10^18)`, cross-multiplied.  With `t1 = Quo(amt·r1, d1)`, `na = Quo(t1, r2)`,
`c = ⌊na·d2/10¹⁸⌋`: the three one-step bounds, each multiplied by what the other two leave out. -/
theorem convVal_upper (amt r1 d1 r2 d2 : Int) (ha : 0 ≤ amt) (hr1 : 0 ≤ r1) (hd1 : 0 < d1) (hr2 : 0 < r2) (hd2 : 0 ≤ d2) :
    2 * convVal amt r1 d1 r2 d2 * P * r2 * d1 ≤ 2 * (amt * r1) * d2 * P + d1 * d2 * P + d1 * d2 * r2 := by
  unfold convVal
  rw [ofInt_mul, mul_ofInt]
  have hd1P : 0 < Dec.ofInt d1 := Dec.ofInt_pos hd1
  have ht1 := quo_nonneg _ _ (Int.mul_nonneg ha hr1) hd1P
  have h1 := quo_upper _ _ (Int.mul_nonneg ha hr1) hd1P
  generalize Dec.quo (amt * r1) (Dec.ofInt d1) = t1 at h1 ht1 ⊢
  have h2 := quo_upper t1 r2 ht1 hr2
  have h3 := truncateInt_mul_le (Int.mul_nonneg (quo_nonneg t1 r2 ht1 hr2) hd2)
  generalize Dec.quo t1 r2 = na at h2 h3 ⊢
  generalize Dec.truncateInt (na * d2) = c at h3 ⊢
  generalize amt * r1 = A at h1 ⊢
  have s1 := Int.mul_le_mul_of_nonneg_right h3 (Int.mul_nonneg (Int.le_of_lt hr2) (Int.le_of_lt hd1))
  have s2 := Int.mul_le_mul_of_nonneg_right h2 (Int.mul_nonneg hd2 (Int.le_of_lt hd1))
  have s3 := Int.mul_le_mul_of_nonneg_right h1 hd2
  unfold Dec.ofInt at s3
  linarith

/-- truncation loses less than one unit, the two half-even roundings at most `(d2/2)(1/r2 + 10⁻¹⁸)(1 + 2·10⁻¹⁸)`;
cross-multiplied by `10³⁶` -/
theorem convVal_lower (amt r1 d1 r2 d2 : Int) (hd1 : 0 < d1) (hr2 : 0 < r2) (hd2 : 0 ≤ d2) :
    2 * (amt * r1) * d2 * (P * P) ≤
      2 * (P * P) * r2 * d1 * (convVal amt r1 d1 r2 d2 + 1) + d1 * d2 * (P * r2 + 2 * r2) + (P * P) * d1 * d2 + 2 * P * d1 * d2 := by
  unfold convVal
  rw [ofInt_mul, mul_ofInt]
  have hP := Int.le_of_lt Dec.P_pos
  have h1 := quo_lower (amt * r1) (Dec.ofInt d1) (Dec.ofInt_pos hd1)
  generalize Dec.quo (amt * r1) (Dec.ofInt d1) = t1 at h1 ⊢
  have h2 := quo_lower t1 r2 hr2
  generalize Dec.quo t1 r2 = na at h2 ⊢
  have h3 := lt_truncateInt_succ (na * d2)
  generalize Dec.truncateInt (na * d2) = c at h3 ⊢
  generalize amt * r1 = A at h1 ⊢
  have s1 := Int.mul_le_mul_of_nonneg_right (Int.le_of_lt h1) hd2
  have s2 := Int.mul_le_mul_of_nonneg_right (Int.le_of_lt h2) (Int.mul_nonneg hd2 (Int.le_of_lt hd1))
  have s3 := Int.mul_le_mul_of_nonneg_right (Int.le_of_lt h3) (Int.mul_nonneg (Int.mul_nonneg hP (Int.le_of_lt hr2)) (Int.le_of_lt hd1))
  unfold Dec.ofInt PP at s1
  unfold PP at s2
  linarith

/-- `hs` is `roundingSmall`: the two half-even roundings together cost less than one unit -/
theorem two_conv_bound (amt1 amt2 r1 d1 r2 d2 : Int) (h1 : 0 ≤ amt1) (h2 : 0 ≤ amt2) (hr1 : 0 ≤ r1) (hd1 : 0 < d1)
    (hr2 : 0 < r2) (hd2 : 0 ≤ d2) (hs : d2 * (r2 + P) ≤ r2 * P) :
    (convVal amt1 r1 d1 r2 d2 + convVal amt2 r1 d1 r2 d2 - 1) * (d1 * r2) ≤ (amt1 + amt2) * r1 * d2 := by
  have u1 := convVal_upper amt1 r1 d1 r2 d2 h1 hr1 hd1 hr2 hd2
  have u2 := convVal_upper amt2 r1 d1 r2 d2 h2 hr1 hd1 hr2 hd2
  generalize convVal amt1 r1 d1 r2 d2 = c1 at u1 ⊢
  generalize convVal amt2 r1 d1 r2 d2 = c2 at u2 ⊢
  have hs' := Int.mul_le_mul_of_nonneg_left hs (Int.le_of_lt hd1)
  refine Int.le_of_mul_le_mul_left (a := 2 * P) ?_ (by decide)
  linarith

/-- one conversion: less than one unit above the exact quotient -/
theorem conv_bound (amt r1 d1 r2 d2 : Int) (h : 0 ≤ amt) (hr1 : 0 ≤ r1) (hd1 : 0 < d1) (hr2 : 0 < r2) (hd2 : 0 ≤ d2)
    (hs : d2 * (r2 + P) ≤ r2 * P) : (convVal amt r1 d1 r2 d2 - 1) * (d1 * r2) ≤ amt * r1 * d2 := by
  have := two_conv_bound amt 0 r1 d1 r2 d2 h (Int.le_refl 0) hr1 hd1 hr2 hd2 hs
  rwa [convVal_zero, Int.add_zero, Int.add_zero] at this

/-- `hs` is `roundingSmallBack`; two units: one for the truncation, one for the half-even roundings -/
theorem conv_bound_back (amt r1 d1 r2 d2 : Int) (hd1 : 0 < d1) (hr2 : 0 < r2) (hd2 : 0 ≤ d2)
    (hs : d2 * (r2 + P) * (P + 2) ≤ r2 * (P * P)) :
    amt * r1 * d2 ≤ (convVal amt r1 d1 r2 d2 + 2) * (d1 * r2) := by
  have h := convVal_lower amt r1 d1 r2 d2 hd1 hr2 hd2
  generalize convVal amt r1 d1 r2 d2 = c at h ⊢
  have h2 := Int.mul_le_mul_of_nonneg_left hs (Int.le_of_lt hd1)
  have hpos : 0 ≤ P * P * (d1 * r2) := Int.mul_nonneg (by decide) (Int.mul_nonneg (Int.le_of_lt hd1) (Int.le_of_lt hr2))
  refine Int.le_of_mul_le_mul_left (a := 2 * (P * P)) ?_ (by decide)
  linarith only [h, h2, hpos]

theorem roundingSmall_iff {r : Dec} {d : Int} :
    roundingSmall r d = true ↔ (0 : Int) < r ∧ 0 < d ∧ d * (r + P) ≤ r * P := by
  simp only [roundingSmall, Bool.and_eq_true, decide_eq_true_eq, and_assoc]

theorem roundingSmallBack_iff {r : Dec} {d : Int} :
    roundingSmallBack r d = true ↔ (0 : Int) < r ∧ d * (r + P) * (P + 2) ≤ r * (P * P) := by
  simp only [roundingSmallBack, Bool.and_eq_true, decide_eq_true_eq]

theorem monPosted_iff {recv paid bonus : Int} {pDebt : Dec} {decD : Int} {pColl : Dec} {decC : Int} :
    monPosted recv paid bonus pDebt decD pColl decC = true ↔ (recv - 1) * (decD * pColl) ≤ (paid + bonus) * pDebt * decC := by
  simp only [monPosted, decide_eq_true_eq]

end Comdex.DutchV2
