import Comdex.Lemmas.LockerStore
/-! The two books of C13 and what a step may do to them; no handler is unfolded. The predicates on operations that C13's statements are
written in are here too: `Op.extOk`, `Op.dmg`, `Op.isV2Close`, `Op.isRawDecrease`, `OpT.extOk`, `OpT.dmg`. The locker book (`LInv`) reads lockers, lookup, lastId
and the custody of `.locker`; the collector book (`CInvD`, `Delta`) reads fees and the custody of `.collector`. They share no field, so
an accepted operation is a pair of independent transitions, `LTr` and `CTr` (`Tr` = both): each lists the few elementary moves, is
closed under composition, and keeps its invariant, proved once per move. Core Lean only. -/
namespace Comdex.Locker

/-- every id listed under a key is a live locker of that key; no id is listed twice -/
def IdsInvS (ls : Store Nat Locker) (lk : Store (Nat × Nat) Lk) : Prop :=
  ∀ k e, Store.get lk k = some e →
    e.ids.Nodup ∧ ∀ id ∈ e.ids, ∃ l, Store.get ls id = some l ∧ (l.app, l.asset) = k

/-- collector books: no record is negative; per asset the records sum to at most the custody balance plus `D`, the
shortfall caused so far by the defective second-generation auction closes (`D = 0` without them). -/
structure CInvD (D : Nat → Int) (s : State) : Prop where
  nonneg : ∀ p ∈ s.fees, 0 ≤ p.2
  custody : ∀ a, feeAsset a s.fees ≤ bal s .collector a + D a

/-- `depEq` and `custody` are the clauses of the property; `idsLe` makes the id `lastId + 1` fresh, `netNonneg` and `depNonneg` bound one
summand by its sum, `ids` says which lockers a saving-rate change iterates over. -/
structure LInv (s : State) : Prop where
  idsLe : ∀ p ∈ s.lockers, p.1 ≤ s.lastId
  netNonneg : ∀ p ∈ s.lockers, 0 ≤ p.2.net
  depEq : ∀ k, dep s k = lockSum k s.lockers
  custody : ∀ a, depAsset a s.lookup ≤ bal s .locker a
  ids : IdsInvS s.lockers s.lookup
  depNonneg : ∀ p ∈ s.lookup, 0 ≤ p.2.deposited

def Rw.ok : Rw → Prop
  | .pay ρ => 0 ≤ ρ
  | _ => True

def Rw.amount : Rw → Int
  | .pay ρ => ρ
  | _ => 0

/-- the recorded net fees of every asset moved by exactly what the collector's custody balance moved. -/
def Delta (s s' : State) : Prop :=
  ∀ a, feeAsset a s'.fees - bal s' .collector a = feeAsset a s.fees - bal s .collector a

/-- side conditions on the external inputs (checked by the driver on every trace line). -/
def Op.extOk : Op → Prop
  | .deposit _ _ _ _ _ rw => rw.ok
  | .withdraw _ _ _ _ _ rw => rw.ok
  | .close _ _ _ _ rw => rw.ok
  | .rewardCalc _ _ rw => rw.ok
  | .lsrChange _ _ rws => ∀ rw ∈ rws, rw.ok
  | .decreaseNetFee _ _ x => 0 ≤ x
  | .feeClose _ _ i c => 0 ≤ i ∧ 0 ≤ c
  | _ => True

def Op.isV2Close : Op → Bool
  | .v2SurplusClose .. => true
  | .v2DebtClose .. => true
  | _ => false

/-- `DecreaseNetFeeCollectedData` called on its own (the coins are moved by its caller, outside this op). -/
def Op.isRawDecrease : Op → Bool
  | .decreaseNetFee .. => true
  | _ => false

/-- the custody shortfall an operation can add, per asset: a second-generation surplus close takes the lot out of the collector a
second time and books it as income (2·lot); a second-generation debt close books `c` while `d` arrives. Positive part only: a
history counts a rejected operation in its bound as well. -/
def Op.dmg : Op → Nat → Int
  | .v2SurplusClose _ b _ lot => fun a => if a = b then (if 0 ≤ lot then 2 * lot else 0) else 0
  | .v2DebtClose _ b c d => fun a => if a = b then (if 0 ≤ c - d then c - d else 0) else 0
  | _ => fun _ => 0

def OpT.extOk : OpT → Prop
  | .plain op => op.extOk
  | _ => True

def OpT.dmg : OpT → Nat → Int
  | .plain op => op.dmg
  | _ => fun _ => 0

variable {D : Nat → Int}

theorem feeAsset_put (s : State) (a : Nat) (k : Nat × Nat) (v : Int) :
    feeAsset a (Store.put s.fees k v) = feeAsset a s.fees + if k.2 = a then v - fee s k else 0 := by
  unfold feeAsset fee
  rw [Store.sumBy_put]
  cases h : Store.get s.fees k <;> simp [Store.at0, h] <;> split <;> omega

theorem depAsset_put (s : State) (a : Nat) (k : Nat × Nat) (e : Lk) :
    depAsset a (Store.put s.lookup k e) = depAsset a s.lookup + if k.2 = a then e.deposited - dep s k else 0 := by
  unfold depAsset dep
  rw [Store.sumBy_put]
  cases h : Store.get s.lookup k <;> simp [Store.at0, h] <;> split <;> omega

/-- what a locker (or none) contributes to `lockSum k` -/
def netAt (k : Nat × Nat) : Option Locker → Int
  | some l => if (l.app, l.asset) = k then l.net else 0
  | none => 0

theorem lockSum_put (k : Nat × Nat) (ls : Store Nat Locker) (id : Nat) (l' : Locker) :
    lockSum k (Store.put ls id l') = lockSum k ls - netAt k (Store.get ls id) + netAt k (some l') := by
  unfold lockSum
  rw [Store.sumBy_put]
  cases h : Store.get ls id <;> simp [Store.at0, h, netAt]

theorem lockSum_del (k : Nat × Nat) (ls : Store Nat Locker) (id : Nat) :
    lockSum k (Store.del ls id) = lockSum k ls - netAt k (Store.get ls id) := by
  unfold lockSum
  rw [Store.sumBy_del]
  cases h : Store.get ls id <;> simp [Store.at0, h, netAt]

theorem dep_of_get {s : State} {k : Nat × Nat} {e : Lk} (h : Store.get s.lookup k = some e) : dep s k = e.deposited := by
  simp [dep, h]

section IdLists
variable {ls : Store Nat Locker} {lk : Store (Nat × Nat) Lk} {k : Nat × Nat} {e : Lk} {id : Nat} {l : Locker}

theorem IdsInvS.putLocker {l' : Locker} (h : IdsInvS ls lk) (hl : Store.get ls id = some l)
    (hk : (l'.app, l'.asset) = (l.app, l.asset)) : IdsInvS (Store.put ls id l') lk := by
  intro k e he
  refine ⟨(h k e he).1, fun id' hid' => ?_⟩
  obtain ⟨l0, hl0, hk0⟩ := (h k e he).2 id' hid'
  by_cases hi : id = id'
  · subst hi
    rw [hl] at hl0; cases hl0
    exact ⟨l', Store.get_put_self _ _ _, hk.trans hk0⟩
  · exact ⟨l0, by rw [Store.get_put_ne _ _ hi]; exact hl0, hk0⟩

theorem IdsInvS.putLookup {e' : Lk} (h : IdsInvS ls lk)
    (he' : e'.ids.Nodup ∧ ∀ id ∈ e'.ids, ∃ l, Store.get ls id = some l ∧ (l.app, l.asset) = k) :
    IdsInvS ls (Store.put lk k e') := by
  intro k' e0 he0
  rw [Store.get_put] at he0
  split at he0
  · next hk => cases he0; subst hk; exact he'
  · exact h k' e0 he0

theorem IdsInvS.create {lnew : Locker} {d : Int} (h : IdsInvS ls lk) (he : Store.get lk k = some e)
    (hfresh : Store.get ls id = none) (hkey : (lnew.app, lnew.asset) = k) :
    IdsInvS (Store.put ls id lnew) (Store.put lk k { deposited := d, ids := e.ids ++ [id] }) := by
  have hold : ∀ k0 e0, Store.get lk k0 = some e0 → ∀ id' ∈ e0.ids, id' ≠ id ∧
      ∃ l, Store.get (Store.put ls id lnew) id' = some l ∧ (l.app, l.asset) = k0 := by
    intro k0 e0 he0 id' hid'
    obtain ⟨l0, hl0, hk0⟩ := (h k0 e0 he0).2 id' hid'
    have hne : id ≠ id' := by intro e1; subst e1; rw [hfresh] at hl0; cases hl0
    exact ⟨fun e1 => hne e1.symm, l0, by rw [Store.get_put_ne _ _ hne]; exact hl0, hk0⟩
  refine IdsInvS.putLookup (fun k' e0 he0 => ⟨(h k' e0 he0).1, fun id' hid' => (hold k' e0 he0 id' hid').2⟩) ⟨?_, ?_⟩
  · rw [List.nodup_append]
    refine ⟨(h k e he).1, by simp, ?_⟩
    intro a ha b hb
    simp at hb; subst hb
    exact (hold k e he a ha).1
  · intro id' hid'
    simp at hid'
    rcases hid' with hid' | hid'
    · exact (hold k e he id' hid').2
    · subst hid'; exact ⟨lnew, Store.get_put_self _ _ _, hkey⟩

theorem IdsInvS.close {d : Int} (h : IdsInvS ls lk) (he : Store.get lk k = some e) (hl : Store.get ls id = some l)
    (hkey : (l.app, l.asset) = k) :
    IdsInvS (Store.del ls id) (Store.put lk k { deposited := d, ids := e.ids.erase id }) := by
  intro k' e0 he0
  rw [Store.get_put] at he0
  by_cases hk : k = k'
  · subst hk
    simp at he0; subst he0
    obtain ⟨hnd, hmem⟩ := h k e he
    refine ⟨hnd.erase id, ?_⟩
    intro id' hid'
    rw [hnd.mem_erase_iff] at hid'
    obtain ⟨l0, hl0, hk0⟩ := hmem id' hid'.2
    exact ⟨l0, by rw [Store.get_del_ne _ (fun e1 => hid'.1 e1.symm)]; exact hl0, hk0⟩
  · simp [hk] at he0
    obtain ⟨hnd, hmem⟩ := h k' e0 he0
    refine ⟨hnd, ?_⟩
    intro id' hid'
    obtain ⟨l0, hl0, hk0⟩ := hmem id' hid'
    have hne : id ≠ id' := by
      intro e1; subst e1
      rw [hl] at hl0; cases hl0
      exact hk (hkey.symm.trans hk0)
    exact ⟨l0, by rw [Store.get_del_ne _ hne]; exact hl0, hk0⟩

end IdLists

section Invariants
variable {id : Nat} {l : Locker}

theorem Delta.refl (s : State) : Delta s s := fun _ => rfl
theorem Delta.trans {s s1 s2 : State} (h1 : Delta s s1) (h2 : Delta s1 s2) : Delta s s2 :=
  fun a => (h2 a).trans (h1 a)
theorem Delta.of_eq {s s' : State} (hf : s'.fees = s.fees) (hb : ∀ d, s'.bank.bal .collector d = s.bank.bal .collector d) :
    Delta s s' := by
  intro a; unfold bal; rw [hf, hb]
theorem Delta.frame {s s1 s' : State} (h : Delta s s1) (h1 : s'.fees = s1.fees) (h2 : s'.bank = s1.bank) : Delta s s' := by
  intro a; have := h a; unfold bal at this ⊢; rw [h1, h2]; exact this

theorem acct_ne_simp1 (a : Nat) (b : Nat) : ((Acct.collector, a) = (Acct.locker, b)) = False := by simp
theorem acct_ne_simp2 (a : Nat) (b : Nat) : ((Acct.locker, a) = (Acct.collector, b)) = False := by simp

theorem fee_nonneg {s : State} (h : CInvD D s) (k : Nat × Nat) : 0 ≤ fee s k := by
  unfold fee
  cases hg : Store.get s.fees k with
  | none => exact Int.le_refl 0
  | some v => exact h.nonneg _ (Store.mem_of_get hg)

theorem fee_le_feeAsset {s : State} (hC : CInvD D s) (k : Nat × Nat) : fee s k ≤ feeAsset k.2 s.fees := by
  have h := (Store.at0_le_sumBy (fun (k' : Nat × Nat) (v : Int) => if k'.2 = k.2 then v else 0) s.fees k
    (by intro p hp; have := hC.nonneg p hp; split <;> omega)).1
  unfold Store.at0 at h
  unfold fee feeAsset
  cases hg : Store.get s.fees k <;> simpa [hg] using h

theorem dep_le_depAsset {s : State} (hL : LInv s) (k : Nat × Nat) : dep s k ≤ depAsset k.2 s.lookup := by
  have h := (Store.at0_le_sumBy (fun (k' : Nat × Nat) (e : Lk) => if k'.2 = k.2 then e.deposited else 0) s.lookup k
    (by intro p hp; have := hL.depNonneg p hp; split <;> omega)).1
  unfold Store.at0 at h
  unfold dep depAsset
  cases hg : Store.get s.lookup k <;> simpa [hg] using h

theorem net_le_dep {s : State} (hL : LInv s) (hl : Store.get s.lockers id = some l) : l.net ≤ dep s (l.app, l.asset) := by
  have h := (Store.at0_le_sumBy (fun (_ : Nat) (l' : Locker) => if (l'.app, l'.asset) = (l.app, l.asset) then l'.net else 0)
    s.lockers id (by intro p hp; have := hL.netNonneg p hp; split <;> omega)).1
  rw [hL.depEq]
  simpa [Store.at0, hl, lockSum] using h

end Invariants

/-! Where a move needs a sign (`0 ≤ net`, `0 ≤ fee`) it asks for it as the premise of an implication, and `LTr.inv` / `CTr.keeps` supply
it from the invariant of the state before: so the lemma `X_tr` of an operation mentions no invariant. -/
section Transitions
variable {k : Nat × Nat}

theorem LInv.frame {s s' : State} (h : LInv s) (h1 : s'.lockers = s.lockers) (h2 : s'.lookup = s.lookup)
    (h3 : s'.lastId = s.lastId) (h4 : ∀ d, s'.bank.bal .locker d = s.bank.bal .locker d) : LInv s' := by
  refine ⟨?_, ?_, ?_, ?_, ?_, ?_⟩
  · rw [h1, h3]; exact h.idsLe
  · rw [h1]; exact h.netNonneg
  · intro k; have := h.depEq k; unfold dep at this ⊢; rw [h1, h2]; exact this
  · intro a; have := h.custody a; unfold bal at this ⊢; rw [h2, h4]; exact this
  · rw [h1, h2]; exact h.ids
  · rw [h2]; exact h.depNonneg

theorem CInvD.frame {s s' : State} (h : CInvD D s) (h1 : s'.fees = s.fees)
    (h2 : ∀ d, s'.bank.bal .collector d = s.bank.bal .collector d) : CInvD D s' := by
  refine ⟨?_, ?_⟩
  · rw [h1]; exact h.nonneg
  · intro a; have := h.custody a; unfold bal at this ⊢; rw [h1, h2]; exact this

theorem CInvD.mono {D D' : Nat → Int} {s : State} (h : CInvD D s) (hle : ∀ a, D a ≤ D' a) : CInvD D' s :=
  ⟨h.nonneg, fun a => by have := h.custody a; have := hle a; omega⟩

structure SameBooks (s s' : State) : Prop where
  lockers : s'.lockers = s.lockers
  lookup : s'.lookup = s.lookup
  lastId : s'.lastId = s.lastId
  fees : s'.fees = s.fees
  bank : s'.bank = s.bank

theorem LInv.amounts {s s' : State} (hL : LInv s) {e' : Lk} {δ : Int}
    (hlookup : s'.lookup = Store.put s.lookup k e') (hdep : e'.deposited = dep s k + δ) (h0 : 0 ≤ e'.deposited)
    (hsum : ∀ k', lockSum k' s'.lockers = lockSum k' s.lockers + if k = k' then δ else 0)
    (hbal : ∀ d, s'.bank.bal .locker d = s.bank.bal .locker d + if k.2 = d then δ else 0) :
    (∀ k', dep s' k' = lockSum k' s'.lockers) ∧ (∀ a, depAsset a s'.lookup ≤ bal s' .locker a) ∧
      ∀ p ∈ s'.lookup, 0 ≤ p.2.deposited := by
  refine ⟨fun k' => ?_, fun a => ?_, ?_⟩
  · have h := hL.depEq k'
    rw [hsum, ← h]
    unfold dep
    rw [hlookup, Store.get_put]
    split
    · next hk => subst hk; simpa [dep] using hdep
    · simp
  · have h := hL.custody a
    unfold bal at h ⊢
    rw [hlookup, depAsset_put, hbal, hdep]
    split <;> omega
  · rw [hlookup]; exact Store.forall_put hL.depNonneg h0

theorem CInvD.move {D' : Nat → Int} {s s' : State} (hC : CInvD D s) {δ β : Int}
    (hfees : s'.fees = Store.put s.fees k (fee s k + δ)) (hnn : 0 ≤ fee s k + δ)
    (hbal : ∀ d, s'.bank.bal .collector d = s.bank.bal .collector d + if k.2 = d then β else 0)
    (hD : ∀ a, D a + (if k.2 = a then δ - β else 0) ≤ D' a) : CInvD D' s' := by
  refine ⟨?_, fun a => ?_⟩
  · rw [hfees]; exact Store.forall_put hC.nonneg hnn
  · have h0 := hC.custody a
    have h1 := hD a
    unfold bal at h0 ⊢
    rw [hfees, feeAsset_put, hbal]
    split at h1 <;> omega

theorem CInvD.move_le {s s' : State} (hC : CInvD D s) {δ β γ : Int}
    (hfees : s'.fees = Store.put s.fees k (fee s k + δ)) (hnn : 0 ≤ fee s k + δ)
    (hbal : ∀ d, s'.bank.bal .collector d = s.bank.bal .collector d + if k.2 = d then β else 0)
    (hγ : δ - β ≤ γ) : CInvD (fun a => D a + if a = k.2 then γ else 0) s' :=
  hC.move hfees hnn hbal fun a => by
    by_cases ha : a = k.2
    · subst ha; simp only [if_true]; omega
    · simp only [if_neg ha, if_neg (Ne.symm ha)]; omega

theorem Delta.move {s s' : State} {δ : Int} (hfees : s'.fees = Store.put s.fees k (fee s k + δ))
    (hbal : ∀ d, s'.bank.bal .collector d = s.bank.bal .collector d + if k.2 = d then δ else 0) : Delta s s' := by
  intro a
  unfold bal
  rw [hfees, feeAsset_put, hbal]
  split <;> omega

/-- `CInvD.custody` bounds, per asset, recorded net fees − collector custody, and `Delta` says that this difference did not move: an
exact step keeps the custody clause whatever it did. -/
theorem CInvD.of_delta {s s' : State} (hC : CInvD D s) (hd : Delta s s') (hnn : ∀ p ∈ s'.fees, 0 ≤ p.2) : CInvD D s' :=
  ⟨hnn, fun a => by have := hC.custody a; have := hd a; omega⟩

inductive LTr : State → State → Prop
  | same {s s'} (h1 : s'.lockers = s.lockers) (h2 : s'.lookup = s.lookup) (h3 : s'.lastId = s.lastId)
      (hb : ∀ d, s'.bank.bal .locker d = s.bank.bal .locker d) : LTr s s'
  | net {s s'} {id : Nat} {l l' : Locker} {e : Lk} (δ : Int)
      (hl : Store.get s.lockers id = some l) (he : Store.get s.lookup (l.app, l.asset) = some e)
      (hk : (l'.app, l'.asset) = (l.app, l.asset)) (hδ : l'.net = l.net + δ) (hnn : 0 ≤ l.net → 0 ≤ l'.net)
      (h1 : s'.lockers = Store.put s.lockers id l')
      (h2 : s'.lookup = Store.put s.lookup (l.app, l.asset) { e with deposited := e.deposited + δ })
      (h3 : s'.lastId = s.lastId)
      (hb : ∀ d, s'.bank.bal .locker d = s.bank.bal .locker d + if l.asset = d then δ else 0) : LTr s s'
  | create {s s'} {lnew : Locker} {e : Lk} (he : Store.get s.lookup (lnew.app, lnew.asset) = some e) (hnn : 0 ≤ lnew.net)
      (h1 : s'.lockers = Store.put s.lockers (s.lastId + 1) lnew)
      (h2 : s'.lookup = Store.put s.lookup (lnew.app, lnew.asset)
        { deposited := e.deposited + lnew.net, ids := e.ids ++ [s.lastId + 1] })
      (h3 : s'.lastId = s.lastId + 1)
      (hb : ∀ d, s'.bank.bal .locker d = s.bank.bal .locker d + if lnew.asset = d then lnew.net else 0) : LTr s s'
  /-- the whole balance leaves; a close sends nothing when the balance is not positive, hence the premise of `hb` -/
  | close {s s'} {id : Nat} {l : Locker} {e : Lk}
      (hl : Store.get s.lockers id = some l) (he : Store.get s.lookup (l.app, l.asset) = some e)
      (h1 : s'.lockers = Store.del s.lockers id)
      (h2 : s'.lookup = Store.put s.lookup (l.app, l.asset) { deposited := e.deposited + -l.net, ids := e.ids.erase id })
      (h3 : s'.lastId = s.lastId)
      (hb : 0 ≤ l.net → ∀ d, s'.bank.bal .locker d = s.bank.bal .locker d + if l.asset = d then -l.net else 0) : LTr s s'
  /-- `AddWhiteListedAsset`: an empty entry appears under a key that had none -/
  | list {s s'} {k : Nat × Nat} (hk : Store.get s.lookup k = none) (h1 : s'.lockers = s.lockers)
      (h2 : s'.lookup = Store.put s.lookup k { deposited := 0, ids := [] }) (h3 : s'.lastId = s.lastId)
      (hb : ∀ d, s'.bank.bal .locker d = s.bank.bal .locker d) : LTr s s'
  | trans {s s1 s2} : LTr s s1 → LTr s1 s2 → LTr s s2

theorem LTr.inv {s s' : State} (h : LTr s s') : LInv s → LInv s' := by
  induction h with
  | same h1 h2 h3 hb => exact (·.frame h1 h2 h3 hb)
  | @net s s' id l l' e δ hl he hk hδ hnn h1 h2 h3 hb =>
    intro hL
    have hle := net_le_dep hL hl
    rw [dep_of_get he] at hle
    have h0 := hnn (hL.netNonneg _ (Store.mem_of_get hl))
    obtain ⟨a1, a2, a3⟩ := hL.amounts h2 (by rw [dep_of_get he]) (by show 0 ≤ e.deposited + δ; omega)
      (fun k' => by rw [h1, lockSum_put, hl]; simp only [netAt, hk, hδ]; split <;> omega) hb
    refine ⟨?_, ?_, a1, a2, ?_, a3⟩
    · rw [h1, h3]; exact Store.forall_put hL.idsLe (hL.idsLe (id, l) (Store.mem_of_get hl))
    · rw [h1]; exact Store.forall_put hL.netNonneg h0
    · rw [h1, h2]
      exact (hL.ids.putLocker hl hk).putLookup ((hL.ids.putLocker hl hk) _ e he)
  | @create s s' lnew e he hnn h1 h2 h3 hb =>
    intro hL
    have hfresh : Store.get s.lockers (s.lastId + 1) = none :=
      Store.get_none_of_keys fun p hp => by have := hL.idsLe p hp; omega
    have h0 : 0 ≤ e.deposited := hL.depNonneg _ (Store.mem_of_get he)
    obtain ⟨a1, a2, a3⟩ := hL.amounts h2 (by rw [dep_of_get he]) (by show 0 ≤ e.deposited + lnew.net; omega)
      (fun k' => by rw [h1, lockSum_put, hfresh]; simp only [netAt]; split <;> omega) hb
    refine ⟨?_, ?_, a1, a2, ?_, a3⟩
    · rw [h1, h3]
      exact Store.forall_put (fun p hp => Nat.le_succ_of_le (hL.idsLe p hp)) (Nat.le_refl _)
    · rw [h1]; exact Store.forall_put hL.netNonneg hnn
    · rw [h1, h2]; exact hL.ids.create he hfresh rfl
  | @close s s' id l e hl he h1 h2 h3 hb =>
    intro hL
    have hle := net_le_dep hL hl
    rw [dep_of_get he] at hle
    obtain ⟨a1, a2, a3⟩ := hL.amounts h2 (by rw [dep_of_get he]) (by show 0 ≤ e.deposited + -l.net; omega)
      (fun k' => by rw [h1, lockSum_del, hl]; simp only [netAt]; split <;> omega)
      (hb (hL.netNonneg _ (Store.mem_of_get hl)))
    refine ⟨?_, ?_, a1, a2, ?_, a3⟩
    · rw [h1, h3]; exact Store.forall_del hL.idsLe
    · rw [h1]; exact Store.forall_del hL.netNonneg
    · rw [h1, h2]; exact hL.ids.close he hl rfl
  | list hk h1 h2 h3 hb =>
    intro hL
    obtain ⟨a1, a2, a3⟩ := hL.amounts (δ := 0) h2 (by simp [dep, hk]) (Int.le_refl 0) (fun k' => by simp [h1])
      (fun d => by simp [hb])
    refine ⟨by rw [h1, h3]; exact hL.idsLe, by rw [h1]; exact hL.netNonneg, a1, a2, ?_, a3⟩
    rw [h1, h2]; exact hL.ids.putLookup ⟨List.nodup_nil, nofun⟩
  | trans _ _ ih1 ih2 => exact ih2 ∘ ih1

/-- Only exact moves: a record lowered with the coins moved by someone else (`decreaseNetFee_inv`, the `continue` of `lsrIter_inv`)
goes through `CInvD.move`, the two second-generation closes, which open a shortfall, through `CInvD.move_le`. -/
inductive CTr : State → State → Prop
  | same {s s'} (hf : s'.fees = s.fees) (hb : ∀ d, s'.bank.bal .collector d = s.bank.bal .collector d) : CTr s s'
  | fee {s s'} (k : Nat × Nat) (δ : Int) (hf : s'.fees = Store.put s.fees k (fee s k + δ)) (hnn : 0 ≤ fee s k → 0 ≤ fee s k + δ)
      (hb : ∀ d, s'.bank.bal .collector d = s.bank.bal .collector d + if k.2 = d then δ else 0) : CTr s s'
  | trans {s s1 s2} : CTr s s1 → CTr s1 s2 → CTr s s2

theorem CTr.keeps {s s' : State} (h : CTr s s') : CInvD D s → CInvD D s' ∧ Delta s s' := by
  induction h with
  | same hf hb => exact fun hC => ⟨hC.frame hf hb, Delta.of_eq hf hb⟩
  | fee k δ hf hnn hb =>
    exact fun hC => ⟨hC.of_delta (Delta.move hf hb) (hf ▸ Store.forall_put hC.nonneg (hnn (fee_nonneg hC k))), Delta.move hf hb⟩
  | trans _ _ ih1 ih2 => exact fun hC => ⟨(ih2 (ih1 hC).1).1, (ih1 hC).2.trans (ih2 (ih1 hC).1).2⟩

structure Tr (s s' : State) : Prop where
  l : LTr s s'
  c : CTr s s'

theorem Tr.refl (s : State) : Tr s s := ⟨.same rfl rfl rfl fun _ => rfl, .same rfl fun _ => rfl⟩

theorem Tr.trans {s s1 s2 : State} (h1 : Tr s s1) (h2 : Tr s1 s2) : Tr s s2 := ⟨h1.l.trans h2.l, h1.c.trans h2.c⟩

theorem Tr.keeps {s s' : State} (h : Tr s s') (hL : LInv s) (hC : CInvD D s) : LInv s' ∧ CInvD D s' ∧ Delta s s' :=
  ⟨h.l.inv hL, h.c.keeps hC⟩

theorem Tr.inv {s s' : State} (h : Tr s s') (hL : LInv s) (hC : CInvD D s) : LInv s' ∧ CInvD D s' :=
  ⟨h.l.inv hL, (h.c.keeps hC).1⟩

theorem Tr.frame {s s' : State} (h1 : s'.lockers = s.lockers) (h2 : s'.lookup = s.lookup) (h3 : s'.lastId = s.lastId)
    (h4 : s'.fees = s.fees) (h5 : ∀ d, s'.bank.bal .locker d = s.bank.bal .locker d)
    (h6 : ∀ d, s'.bank.bal .collector d = s.bank.bal .collector d) : Tr s s' :=
  ⟨.same h1 h2 h3 h5, .same h4 h6⟩

theorem Tr.same {s s' : State} (e : SameBooks s s') : Tr s s' :=
  Tr.frame e.lockers e.lookup e.lastId e.fees (fun _ => by rw [e.bank]) fun _ => by rw [e.bank]

theorem Tr.fee {s s' : State} (k : Nat × Nat) (δ : Int) (h1 : s'.lockers = s.lockers) (h2 : s'.lookup = s.lookup)
    (h3 : s'.lastId = s.lastId) (hf : s'.fees = Store.put s.fees k (fee s k + δ)) (hnn : 0 ≤ fee s k → 0 ≤ fee s k + δ)
    (hbc : ∀ d, s'.bank.bal .collector d = s.bank.bal .collector d + if k.2 = d then δ else 0)
    (hbl : ∀ d, s'.bank.bal .locker d = s.bank.bal .locker d) : Tr s s' :=
  ⟨.same h1 h2 h3 hbl, .fee k δ hf hnn hbc⟩

end Transitions

end Comdex.Locker
