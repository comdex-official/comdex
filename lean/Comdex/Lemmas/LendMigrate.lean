import Comdex.Lemmas.LendIds
import Comdex.Lemmas.LendReserve
/-!
The store migration 2 → 3 of x/lend as a configuration change: every book invariant survives it, because the invariants read the
configuration only through a pair's out pool / out asset and the reserve account, which the migration keeps.
-/
namespace Comdex.Lend

theorem find_migratePairs (c : Bool) (ps : List PairCfg) (id : Nat) :
    ((migratePairs c ps).find? (fun a => a.id == id)).map (fun p => (p.outPool, p.assetOut)) =
      (ps.find? (fun a => a.id == id)).map (fun p => (p.outPool, p.assetOut)) := by
  induction ps generalizing c with
  | nil => rfl
  | cons p ps ih =>
    simp only [migratePairs, List.find?_cons]
    cases h : p.id == id
    · simpa using ih _
    · simp

theorem migrate_pairOut (cfg : Cfg) (id : Nat) : (migrateCfg cfg).pairOut id = cfg.pairOut id := by
  have h := find_migratePairs false cfg.pairs id
  unfold Cfg.pairOut Cfg.pair? migrateCfg
  simp only
  cases h1 : (migratePairs false cfg.pairs).find? (fun a => a.id == id) <;> cases h2 : cfg.pairs.find? (fun a => a.id == id) <;>
    simp [h1, h2] at h ⊢
  exact h

theorem migrate_pair_assetOut {cfg : Cfg} {id : Nat} {p' : PairCfg} (h : (migrateCfg cfg).pair? id = some p') :
    ∃ p, cfg.pair? id = some p ∧ p'.assetOut = p.assetOut := by
  have hf := find_migratePairs false cfg.pairs id
  unfold Cfg.pair? migrateCfg at h
  simp only at h
  rw [h] at hf
  unfold Cfg.pair?
  cases h2 : cfg.pairs.find? (fun a => a.id == id) with
  | none => simp [h2] at hf
  | some p => simp [h2] at hf; exact ⟨p, rfl, hf.2⟩

theorem mem_migratePairs {c : Bool} {ps : List PairCfg} {p : PairCfg} (h : p ∈ migratePairs c ps) : p.eMode = false := by
  induction ps generalizing c with
  | nil => cases h
  | cons q ps ih =>
    simp only [migratePairs, List.mem_cons] at h
    rcases h with rfl | h
    · rfl
    · exact ih h

theorem mem_migrateRates {c : Bool} {rs : List RatesCfg} {r : RatesCfg} (h : r ∈ migrateRates c rs) :
    r.isolated = false ∧ r.eLtv = 0 ∧ r.eLiqPenalty = 0 := by
  induction rs generalizing c with
  | nil => cases h
  | cons q rs ih =>
    simp only [migrateRates, List.mem_cons] at h
    rcases h with rfl | h
    · exact ⟨rfl, rfl, rfl⟩
    · exact ih h

theorem migrate_borrowedSum (cfg : Cfg) (bs : List Borrow) (p a : Nat) (st : Bool) :
    borrowedSum (migrateCfg cfg) bs p a st = borrowedSum cfg bs p a st := by
  unfold borrowedSum
  apply sumBy_congr
  intro b _
  rw [migrate_pairOut]

theorem migrate_borrowIdsOf (cfg : Cfg) (bs : List Borrow) (p a : Nat) : borrowIdsOf (migrateCfg cfg) bs p a = borrowIdsOf cfg bs p a := by
  unfold borrowIdsOf
  congr 1
  apply List.filter_congr
  intro b _
  rw [migrate_pairOut]

theorem migrate_core {cfg : Cfg} {s : State} (c : CoreS cfg s) : CoreS (migrateCfg cfg) s :=
  { c with borrowed := fun sf st hst => by rw [migrate_borrowedSum]; exact c.borrowed sf st hst }

theorem migrate_ids {cfg : Cfg} {s : State} (i : IdsS cfg s) : IdsS (migrateCfg cfg) s :=
  { i with
    lists := fun st hst => by rw [migrate_borrowIdsOf]; exact i.lists st hst
    borrowRec := fun b hb => by obtain ⟨p, a, e, r⟩ := i.borrowRec b hb; exact ⟨p, a, by rw [migrate_pairOut]; exact e, r⟩ }

theorem migrate_own {cfg : Cfg} {s : State} (o : OwnS cfg s) : OwnS (migrateCfg cfg) s :=
  { lends := o.lends, locked := o.locked
    denoms := fun b hb pair hp => by
      obtain ⟨p, hp0, e⟩ := migrate_pair_assetOut hp
      rw [e]; exact o.denoms b hb p hp0 }

theorem migrate_cfgOk {cfg : Cfg} (ok : CfgOk cfg) : CfgOk (migrateCfg cfg) := ⟨ok.pools, ok.auction⟩

/-- `ResLedger` reads the configuration only through the reserve account -/
theorem migrate_ledger {cfg : Cfg} {bank0 : Bank} {s : State} (l : ResLedger cfg bank0 s) : ResLedger (migrateCfg cfg) bank0 s := l

end Comdex.Lend
