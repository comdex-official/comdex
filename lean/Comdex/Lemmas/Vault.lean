import Comdex.Model.Vault
import Comdex.Lemmas.DecCore
import Comdex.Lemmas.ListSum
import Comdex.Lemmas.KeyedRecs
/-! Net effect of bank calls, sums over keyed record lists, fee arithmetic and the admissible configurations (`ProductOk`, `CfgOk`) for the
vault ledger proofs (C01/C02/C03). A bank run is described per account (`dAcct`, `netAcct`, `Moves`: the form for a further lemma);
`dVm`, `netVm`, `BankEffect` read it at the vault module account, for the fixed statements. Core Lean only: C01, C02 build without Mathlib. -/
namespace Comdex.Vault

def BankOp.dVm : BankOp → Nat → Int
  | .send a b d0 x, d => if d = d0 then (if b = vm then x else 0) - (if a = vm then x else 0) else 0
  | .sendPos a b d0 x, d => if x > 0 ∧ d = d0 then (if b = vm then x else 0) - (if a = vm then x else 0) else 0
  | .mint d0 x, d => if d = d0 then x else 0
  | .burn d0 x, d => if d = d0 then -x else 0
  | .burnPos d0 x, d => if x > 0 ∧ d = d0 then -x else 0

def BankOp.dSup : BankOp → Nat → Int
  | .mint d0 x, d => if d = d0 then x else 0
  | .burn d0 x, d => if d = d0 then -x else 0
  | .burnPos d0 x, d => if x > 0 ∧ d = d0 then -x else 0
  | .send .., _ => 0
  | .sendPos .., _ => 0

def BankOp.dAcct (a : Nat) : BankOp → Nat → Int
  | .send src dst d0 x, d => if d = d0 then (if dst = a then x else 0) - (if src = a then x else 0) else 0
  | .sendPos src dst d0 x, d => if x > 0 ∧ d = d0 then (if dst = a then x else 0) - (if src = a then x else 0) else 0
  | .mint d0 x, d => if d = d0 ∧ a = vm then x else 0
  | .burn d0 x, d => if d = d0 ∧ a = vm then -x else 0
  | .burnPos d0 x, d => if x > 0 ∧ d = d0 ∧ a = vm then -x else 0

def netVm (ops : List BankOp) (d : Nat) : Int := (ops.map (fun o => o.dVm d)).sum
def netSup (ops : List BankOp) (d : Nat) : Int := (ops.map (fun o => o.dSup d)).sum
def netAcct (a : Nat) (ops : List BankOp) (d : Nat) : Int := (ops.map (fun o => o.dAcct a d)).sum

structure SameRecords (s s' : State) : Prop where
  vaults : s'.vaults = s.vaults
  stables : s'.stables = s.stables
  locked : s'.locked = s.locked
  coll : s'.coll = s.coll
  minted : s'.minted = s.minted
  vaultIds : s'.vaultIds = s.vaultIds
  nextVault : s'.nextVault = s.nextVault
  nextStable : s'.nextStable = s.nextStable
  length : s'.length = s.length
  unsolicited : s'.unsolicited = s.unsolicited
  extSupply : s'.extSupply = s.extSupply
  redeem : s'.redeem = s.redeem

theorem SameRecords.refl (s : State) : SameRecords s s := ⟨rfl, rfl, rfl, rfl, rfl, rfl, rfl, rfl, rfl, rfl, rfl, rfl⟩

theorem SameRecords.trans {a b c : State} (h1 : SameRecords a b) (h2 : SameRecords b c) : SameRecords a c :=
  ⟨h2.vaults.trans h1.vaults, h2.stables.trans h1.stables, h2.locked.trans h1.locked, h2.coll.trans h1.coll,
   h2.minted.trans h1.minted, h2.vaultIds.trans h1.vaultIds, h2.nextVault.trans h1.nextVault,
   h2.nextStable.trans h1.nextStable, h2.length.trans h1.length, h2.unsolicited.trans h1.unsolicited,
   h2.extSupply.trans h1.extSupply, h2.redeem.trans h1.redeem⟩

theorem SameRecords.set (s : State) (b : Nat → Nat → Int) (sup : Nat → Int) :
    SameRecords s { s with bal := b, supply := sup } := ⟨rfl, rfl, rfl, rfl, rfl, rfl, rfl, rfl, rfl, rfl, rfl, rfl⟩

structure BankEffect (s s' : State) (dv ds : Nat → Int) : Prop where
  same : SameRecords s s'
  vmBal : ∀ d, s'.bal vm d = s.bal vm d + dv d
  supply : ∀ d, s'.supply d = s.supply d + ds d

structure Moves (s s' : State) (da : Nat → Nat → Int) (ds : Nat → Int) : Prop where
  same : SameRecords s s'
  bal : ∀ a d, s'.bal a d = s.bal a d + da a d
  supply : ∀ d, s'.supply d = s.supply d + ds d

/-- "unchanged" as a change by `0`, the form the lemmas about changes expect -/
theorem ite_add_zero (a : Int) (c : Prop) [Decidable c] : a = a + if c then 0 else 0 := by split <;> omega

theorem upd1_self (f : Nat → Int) (k : Nat) (y : Int) : upd1 f k y k = y := if_pos rfl

theorem upd2_self (f : Nat → Nat → Int) (a d : Nat) (y : Int) : upd2 f a d y a d = y := if_pos ⟨rfl, rfl⟩

theorem upd1_add (f : Nat → Int) (k0 : Nat) (x : Int) (k : Nat) :
    upd1 f k0 (f k0 + x) k = f k + if k = k0 then x else 0 := by
  unfold upd1; split
  · next h => rw [h]
  · omega

theorem upd1_sub (f : Nat → Int) (k0 : Nat) (x : Int) (k : Nat) :
    upd1 f k0 (f k0 - x) k = f k + if k = k0 then -x else 0 := upd1_add f k0 (-x) k

theorem upd1_sub_sub (f : Nat → Int) (k : Nat) (a b : Int) :
    upd1 (upd1 f k (f k - a)) k (upd1 f k (f k - a) k - (b - a)) = upd1 f k (f k - b) := by
  funext k'; simp only [upd1]; split <;> simp only [if_true] <;> omega

theorem upd2_add (f : Nat → Nat → Int) (a0 d0 : Nat) (x : Int) (a d : Nat) :
    upd2 f a0 d0 (f a0 d0 + x) a d = f a d + if a = a0 ∧ d = d0 then x else 0 := by
  unfold upd2; split
  · next h => rw [h.1, h.2]
  · omega

theorem upd2_sub (f : Nat → Nat → Int) (a0 d0 : Nat) (x : Int) (a d : Nat) :
    upd2 f a0 d0 (f a0 d0 - x) a d = f a d + if a = a0 ∧ d = d0 then -x else 0 := upd2_add f a0 d0 (-x) a d

theorem sendRaw_moves {s s' : State} {src dst d0 : Nat} {x : Int} (h : sendRaw s src dst d0 x = some s') :
    Moves s s' (fun a => BankOp.dAcct a (.send src dst d0 x)) (BankOp.dSup (.send src dst d0 x)) := by
  simp only [sendRaw, Option.ite_none_left_eq_some, Option.some.injEq] at h
  obtain ⟨-, -, rfl⟩ := h
  refine ⟨SameRecords.set s _ s.supply, fun a d => ?_, fun _ => (Int.add_zero _).symm⟩
  show upd2 _ _ _ _ a d = _
  rw [upd2_add, upd2_sub]; simp only [BankOp.dAcct, @eq_comm _ dst, @eq_comm _ src]
  by_cases hd : d = d0
  · simp only [hd, and_true, if_true]; split <;> split <;> omega
  · simp only [hd, and_false, if_false]; omega

theorem mintRaw_moves {s s' : State} {d0 : Nat} {x : Int} (h : mintRaw s d0 x = some s') :
    Moves s s' (fun a => BankOp.dAcct a (.mint d0 x)) (BankOp.dSup (.mint d0 x)) := by
  simp only [mintRaw, Option.ite_none_left_eq_some, Option.some.injEq] at h
  obtain ⟨-, rfl⟩ := h
  exact ⟨SameRecords.set s _ _, fun a d => (upd2_add ..).trans (by simp only [BankOp.dAcct, and_comm]), fun d => upd1_add ..⟩

theorem burnRaw_moves {s s' : State} {d0 : Nat} {x : Int} (h : burnRaw s d0 x = some s') :
    Moves s s' (fun a => BankOp.dAcct a (.burn d0 x)) (BankOp.dSup (.burn d0 x)) := by
  simp only [burnRaw, Option.ite_none_left_eq_some, Option.some.injEq] at h
  obtain ⟨-, -, rfl⟩ := h
  exact ⟨SameRecords.set s _ _, fun a d => (upd2_sub ..).trans (by simp only [BankOp.dAcct, and_comm]), fun d => upd1_sub ..⟩

theorem Moves.refl (s : State) : Moves s s (fun _ _ => 0) (fun _ => 0) :=
  ⟨SameRecords.refl s, fun _ _ => (Int.add_zero _).symm, fun _ => (Int.add_zero _).symm⟩

theorem Moves.congr {s s' : State} {da da' : Nat → Nat → Int} {ds ds' : Nat → Int} (h : Moves s s' da ds)
    (ha : ∀ a d, da a d = da' a d) (hs : ∀ d, ds d = ds' d) : Moves s s' da' ds' :=
  ⟨h.same, fun a d => ha a d ▸ h.bal a d, fun d => hs d ▸ h.supply d⟩

theorem BankOp.moves {s s' : State} {op : BankOp} (h : op.run s = some s') : Moves s s' (fun a => op.dAcct a) op.dSup := by
  cases op with
  | send a b d x => exact sendRaw_moves h
  | mint d x => exact mintRaw_moves h
  | burn d x => exact burnRaw_moves h
  | sendPos a b d x =>
    simp only [BankOp.run] at h
    split at h
    next hx => exact (sendRaw_moves h).congr (fun _ _ => by simp only [BankOp.dAcct, hx, true_and]) fun _ => rfl
    next hx => cases h; exact (Moves.refl s).congr (fun _ _ => by simp only [BankOp.dAcct, hx, false_and, if_false]) fun _ => rfl
  | burnPos d x =>
    simp only [BankOp.run] at h
    split at h
    next hx => exact (burnRaw_moves h).congr (fun _ _ => by simp only [BankOp.dAcct, hx, true_and])
                 fun _ => by simp only [BankOp.dSup, hx, true_and]
    next hx => cases h; exact (Moves.refl s).congr (fun _ _ => by simp only [BankOp.dAcct, hx, false_and, if_false])
                 fun _ => by simp only [BankOp.dSup, hx, false_and, if_false]

theorem runBank_cons {s s' : State} {op : BankOp} {ops : List BankOp} (h : runBank s (op :: ops) = some s') :
    ∃ s1, op.run s = some s1 ∧ runBank s1 ops = some s' := by
  simp only [runBank] at h
  cases hop : op.run s with
  | none => rw [hop] at h; cases h
  | some s1 => rw [hop] at h; exact ⟨s1, rfl, h⟩

theorem runBank_moves {ops : List BankOp} {s s' : State} (h : runBank s ops = some s') :
    Moves s s' (fun a => netAcct a ops) (netSup ops) := by
  induction ops generalizing s with
  | nil => cases h; exact Moves.refl _
  | cons op ops ih =>
    obtain ⟨s1, h1, h2⟩ := runBank_cons h
    obtain ⟨a1, b1, c1⟩ := BankOp.moves h1
    obtain ⟨a2, b2, c2⟩ := ih h2
    refine ⟨a1.trans a2, fun a d => ?_, fun d => ?_⟩
    · rw [b2, b1]; simp only [netAcct, List.map_cons, List.sum_cons]; omega
    · rw [c2, c1]; simp only [netSup, List.map_cons, List.sum_cons]; omega

theorem BankOp.dVm_eq (op : BankOp) (d : Nat) : op.dVm d = op.dAcct vm d := by
  cases op <;> simp only [BankOp.dAcct, BankOp.dVm, and_true]

theorem netVm_eq (ops : List BankOp) (d : Nat) : netVm ops d = netAcct vm ops d := by
  simp only [netAcct, netVm, BankOp.dVm_eq]

theorem runBank_effect (ops : List BankOp) (s s' : State) (h : runBank s ops = some s') :
    BankEffect s s' (netVm ops) (netSup ops) :=
  let ⟨a, b, c⟩ := runBank_moves h
  ⟨a, fun d => (b vm d).trans (by rw [netVm_eq]), c⟩

theorem netVm_cons (op : BankOp) (ops : List BankOp) (d : Nat) : netVm (op :: ops) d = op.dVm d + netVm ops d := by
  simp [netVm]
theorem netSup_cons (op : BankOp) (ops : List BankOp) (d : Nat) : netSup (op :: ops) d = op.dSup d + netSup ops d := by
  simp [netSup]
theorem netAcct_cons (a : Nat) (op : BankOp) (ops : List BankOp) (d : Nat) :
    netAcct a (op :: ops) d = op.dAcct a d + netAcct a ops d := by
  simp [netAcct]

theorem netVm_nil (d : Nat) : netVm [] d = 0 := rfl
theorem netSup_nil (d : Nat) : netSup [] d = 0 := rfl
theorem netAcct_nil (a d : Nat) : netAcct a [] d = 0 := rfl

theorem sumBy_snoc {α : Type} (f : α → Int) (l : List α) (a : α) : sumBy f (l ++ [a]) = sumBy f l + f a :=
  ListSum.sum_map_snoc f l a

theorem sumBy_congr {α : Type} (f g : α → Int) (l : List α) (h : ∀ a ∈ l, f a = g a) : sumBy f l = sumBy g l :=
  ListSum.sum_map_congr f g l h

theorem sumBy_erase {α : Type} [DecidableEq α] (f : α → Int) (l : List α) (a : α) (h : a ∈ l) :
    sumBy f (l.erase a) = sumBy f l - f a := by
  obtain ⟨l₁, l₂, hn, rfl, e⟩ := List.exists_erase_eq h
  rw [e]; simp only [sumBy, List.map_append, List.map_cons, List.sum_append_int, List.sum_cons]; omega

theorem sumBy_setBy {α : Type} (idf : α → Nat) (f : α → Int) (l : List α) (v0 v : α)
    (hnd : (l.map idf).Nodup) (hm : v0 ∈ l) (hid : idf v = idf v0) :
    sumBy f (setBy idf l v) = sumBy f l - f v0 + f v := KeyedRecs.sum_put idf f l v0 v hnd hm hid

theorem sumBy_delBy {α : Type} (idf : α → Nat) (f : α → Int) (l : List α) (v0 : α)
    (hnd : (l.map idf).Nodup) (hm : v0 ∈ l) :
    sumBy f (delBy idf l (idf v0)) = sumBy f l - f v0 := KeyedRecs.sum_del idf f l v0 hnd hm

theorem length_delBy {α : Type} (idf : α → Nat) (l : List α) (v0 : α) (hnd : (l.map idf).Nodup) (hm : v0 ∈ l) :
    ((delBy idf l (idf v0)).length : Int) = l.length - 1 := by
  obtain ⟨l₁, l₂, rfl, h1, h2⟩ := KeyedRecs.split idf hnd hm
  have e : delBy idf (l₁ ++ v0 :: l₂) (idf v0) = l₁ ++ l₂ := KeyedRecs.del_split idf h1 h2
  rw [e]; simp only [List.length_append, List.length_cons]; omega

theorem length_setBy {α : Type} (idf : α → Nat) (l : List α) (v : α) : (setBy idf l v).length = l.length :=
  List.length_map _

theorem mem_setVault {l : List VaultRec} {v0 v : VaultRec} (hm : v0 ∈ l) (hid : v.id = v0.id) : v ∈ setVault l v :=
  List.mem_map.mpr ⟨v0, hm, if_pos hid.symm⟩

/-- Enforced when an extended pair vault is registered
(x/asset/keeper/pairs_vault.go:153-165); the update path `WasmUpdatePairsVault` checks nothing, so the history theorems
assume it of every configuration in force (`CfgOk`). -/
def ProductOk (p : Product) : Prop :=
  0 ≤ p.drawDownFee ∧ p.drawDownFee < Dec.P ∧ 0 ≤ p.closingFee ∧ 0 ≤ p.debtFloor ∧ 0 < p.decIn ∧ 0 < p.decOut ∧
  0 ≤ p.debtCeiling

def CfgOk (cfg : Nat → Option Product) : Prop := ∀ pr p, cfg pr = some p → p.id = pr ∧ ProductOk p

section
variable {p : Product} (hp : ProductOk p)
include hp
theorem ProductOk.drawDownFee_nonneg : 0 ≤ p.drawDownFee := hp.1
theorem ProductOk.drawDownFee_lt : p.drawDownFee < Dec.P := hp.2.1
theorem ProductOk.closingFee_nonneg : 0 ≤ p.closingFee := hp.2.2.1
theorem ProductOk.debtFloor_nonneg : 0 ≤ p.debtFloor := hp.2.2.2.1
theorem ProductOk.decIn_pos : 0 < p.decIn := hp.2.2.2.2.1
theorem ProductOk.decOut_pos : 0 < p.decOut := hp.2.2.2.2.2.1
theorem ProductOk.debtCeiling_nonneg : 0 ≤ p.debtCeiling := hp.2.2.2.2.2.2
end

theorem CfgOk.ok {cfg : Nat → Option Product} (hc : CfgOk cfg) {pr : Nat} {p : Product} (h : cfg pr = some p) : ProductOk p :=
  (hc pr p h).2

theorem feeOf_eq (amt rate : Int) (ha : 0 ≤ amt) (hr : 0 ≤ rate) : feeOf amt rate = (amt * rate) / Dec.P := by
  unfold feeOf
  rw [Dec.ofInt_mul]; exact Dec.truncateInt_eq (Int.mul_nonneg ha hr)

theorem feeOf_nonneg (amt rate : Int) (ha : 0 ≤ amt) (hr : 0 ≤ rate) : 0 ≤ feeOf amt rate := by
  rw [feeOf_eq amt rate ha hr]
  exact Int.ediv_nonneg (Int.mul_nonneg ha hr) (Int.le_of_lt Dec.P_pos)

theorem feeOf_le (amt rate : Int) (ha : 0 ≤ amt) (hr : 0 ≤ rate) (hr1 : rate ≤ Dec.P) : feeOf amt rate ≤ amt := by
  rw [feeOf_eq amt rate ha hr]
  exact Int.ediv_le_of_le_mul Dec.P_pos (Int.mul_le_mul_of_nonneg_left hr1 ha)

theorem feeOf_lt (amt rate : Int) (ha : 0 < amt) (hr : 0 ≤ rate) (hr1 : rate < Dec.P) : feeOf amt rate < amt := by
  rw [feeOf_eq amt rate (Int.le_of_lt ha) hr]
  exact Int.ediv_lt_of_lt_mul Dec.P_pos (Int.mul_lt_mul_of_pos_left hr1 ha)

theorem ProductOk.fee {p : Product} (hp : ProductOk p) {amt : Int} (ha : 0 < amt) :
    0 ≤ feeOf amt p.drawDownFee ∧ feeOf amt p.drawDownFee < amt :=
  ⟨feeOf_nonneg _ _ (Int.le_of_lt ha) hp.drawDownFee_nonneg, feeOf_lt _ _ ha hp.drawDownFee_nonneg hp.drawDownFee_lt⟩

theorem otherToken_nonneg (amt dec1 dec2 : Int) (ha : 0 ≤ amt) (h1 : 0 < dec1) (h2 : 0 < dec2) :
    0 ≤ otherToken amt dec1 dec2 := by
  have hP := Int.le_of_lt Dec.P_pos
  have e := Dec.quo_nonneg _ Dec.one (Dec.quo_nonneg _ (Dec.ofInt dec1)
    (Dec.mul_nonneg (Dec.ofInt amt) Dec.one (Int.mul_nonneg ha hP) hP) (Dec.ofInt_pos h1)) Dec.P_pos
  exact Dec.truncateInt_nonneg (Dec.mul_nonneg _ (Dec.ofInt dec2) e (Int.mul_nonneg (Int.le_of_lt h2) hP))

structure VaultRec.Nonneg (v : VaultRec) : Prop where
  amountIn : 0 ≤ v.amountIn
  amountOut : 0 ≤ v.amountOut
  interest : 0 ≤ v.interest
  closingFee : 0 ≤ v.closingFee

variable {p : Product} {f a src dst d0 d : Nat} {x : Int}

theorem cm_ne_vm : cm ≠ vm := by decide

theorem dAcct_sendPos (hx : 0 ≤ x) : (BankOp.sendPos src dst d0 x).dAcct a d = (BankOp.send src dst d0 x).dAcct a d := by
  rcases Int.lt_or_eq_of_le hx with h | rfl
  · simp only [BankOp.dAcct, gt_iff_lt, h, true_and]
  · simp [BankOp.dAcct]

theorem dAcct_burnPos (hx : 0 ≤ x) : (BankOp.burnPos d0 x).dAcct a d = (BankOp.burn d0 x).dAcct a d := by
  rcases Int.lt_or_eq_of_le hx with h | rfl
  · simp only [BankOp.dAcct, gt_iff_lt, h, true_and]
  · simp [BankOp.dAcct]

theorem dSup_burnPos (hx : 0 ≤ x) : (BankOp.burnPos d0 x).dSup d = (BankOp.burn d0 x).dSup d := by
  rcases Int.lt_or_eq_of_le hx with h | rfl
  · simp only [BankOp.dSup, gt_iff_lt, h, true_and]
  · simp [BankOp.dSup]

theorem dVm_sendPos (hx : 0 ≤ x) : (BankOp.sendPos src dst d0 x).dVm d = (BankOp.send src dst d0 x).dVm d := by
  rw [BankOp.dVm_eq, BankOp.dVm_eq, dAcct_sendPos hx]

theorem dVm_burnPos (hx : 0 ≤ x) : (BankOp.burnPos d0 x).dVm d = (BankOp.burn d0 x).dVm d := by
  rw [BankOp.dVm_eq, BankOp.dVm_eq, dAcct_burnPos hx]

theorem dVm_send_in (ha : a ≠ vm) : (BankOp.send a vm d0 x).dVm d = if d = d0 then x else 0 := by
  simp only [BankOp.dVm, ha, if_true, if_false, Int.sub_zero]

theorem dVm_send_out (ha : a ≠ vm) : (BankOp.send vm a d0 x).dVm d = if d = d0 then -x else 0 := by
  simp only [BankOp.dVm, ha, if_true, if_false, Int.zero_sub]

theorem dVm_burn : (BankOp.burn d0 x).dVm d = if d = d0 then -x else 0 := rfl

theorem dSup_mint : (BankOp.mint d0 x).dSup d = if d = d0 then x else 0 := rfl
theorem dSup_burn : (BankOp.burn d0 x).dSup d = if d = d0 then -x else 0 := rfl
theorem dSup_send : (BankOp.send src dst d0 x).dSup d = 0 := rfl
theorem dSup_sendPos : (BankOp.sendPos src dst d0 x).dSup d = 0 := rfl

theorem netVm_in (ha : a ≠ vm) (hx : 0 ≤ x) : netVm [.sendPos a vm d0 x] d = if d = d0 then x else 0 := by
  rw [netVm_cons, netVm_nil, dVm_sendPos hx, dVm_send_in ha, Int.add_zero]

theorem netVm_out (ha : a ≠ vm) (hx : 0 ≤ x) : netVm [.sendPos vm a d0 x] d = if d = d0 then -x else 0 := by
  rw [netVm_cons, netVm_nil, dVm_sendPos hx, dVm_send_out ha, Int.add_zero]

theorem netVm_out' (ha : a ≠ vm) : netVm [.sendPos vm a d0 x] d = if d = d0 then -(if x > 0 then x else 0) else 0 := by
  simp only [netVm_cons, netVm_nil, BankOp.dVm, ha, if_true, if_false, Int.zero_sub, Int.add_zero]
  by_cases hd : d = d0 <;> simp only [hd, and_true, and_false, if_true, if_false]
  split <;> rfl

theorem netSup_sendPos : netSup [.sendPos src dst d0 x] d = 0 := rfl

theorem netAcct_mint_payout (d0 u c : Nat) (m f : Int) (a d : Nat) :
    netAcct a [.mint d0 m, .send vm c d0 f, .send vm u d0 (m - f)] d =
      if d = d0 then (if a = u then m - f else 0) + (if a = c then f else 0) else 0 := by
  simp only [netAcct_cons, netAcct_nil, BankOp.dAcct, @eq_comm _ u, @eq_comm _ c, @eq_comm _ vm]
  by_cases hd : d = d0 <;> simp only [hd, true_and, false_and, if_true, if_false]
  · by_cases h1 : a = vm <;> simp only [h1, if_true, if_false] <;> omega
  · omega

theorem netAcct_mintAndSplit (p : Product) {user : Nat} {amt : Int} (hp : ProductOk p) (ha : 0 < amt) (a d : Nat) :
    netAcct a (mintAndSplit p user amt) d =
      if d = p.denomOut then (if a = user then amt - feeOf amt p.drawDownFee else 0) + (if a = cm then feeOf amt p.drawDownFee else 0)
      else 0 := by
  obtain ⟨h0, h1⟩ := hp.fee ha
  rw [← netAcct_mint_payout]
  unfold mintAndSplit
  split
  · next h =>
    have hz : feeOf amt p.drawDownFee = 0 := by rw [h.1, feeOf_eq amt 0 (Int.le_of_lt ha) (Int.le_refl 0)]; simp
    simp only [netAcct_cons, netAcct_nil, hz, Int.sub_zero, BankOp.dAcct, Int.sub_self, ite_self, Int.zero_add]
  · simp only [netAcct_cons, dAcct_sendPos h0, dAcct_sendPos (Int.le_of_lt (Int.sub_pos_of_lt h1))]

theorem netVm_mintAndSplit (p : Product) (user : Nat) (amt : Int) (hu : user ≠ vm) (hp : ProductOk p)
    (ha : 0 < amt) (d : Nat) : netVm (mintAndSplit p user amt) d = 0 := by
  rw [netVm_eq, netAcct_mintAndSplit p hp ha, if_neg hu.symm, if_neg cm_ne_vm.symm]; split <;> rfl

theorem netSup_mintAndSplit (p : Product) (user : Nat) (amt : Int) (d : Nat) :
    netSup (mintAndSplit p user amt) d = if d = p.denomOut then amt else 0 := by
  unfold mintAndSplit
  split <;> simp only [netSup_cons, netSup_nil, dSup_mint, dSup_send, dSup_sendPos, Int.add_zero]

theorem mintAndSplit_pos {s s' : State} {p : Product} {u : Nat} {x : Int}
    (h : runBank s (mintAndSplit p u x) = some s') : 0 < x := by
  obtain ⟨s1, h1, -⟩ := runBank_cons h
  simp only [BankOp.run, mintRaw, Option.ite_none_left_eq_some] at h1
  omega

theorem stableMintOps_pos {s s' : State} {o : Int} (h : runBank s (stableMintOps p f x o) = some s') : 0 < o :=
  let ⟨_, _, h2⟩ := runBank_cons h
  mintAndSplit_pos h2

theorem netVm_createOps {i o : Int} (hu : f ≠ vm) (hp : ProductOk p) (hi : 0 ≤ i) (ho : 0 < o) :
    netVm (createOps p f i o) d = if d = p.denomIn then i else 0 := by
  rw [netVm_cons, netVm_mintAndSplit p f o hu hp ho, dVm_sendPos hi, dVm_send_in hu, Int.add_zero]

theorem netSup_createOps {i o : Int} : netSup (createOps p f i o) d = if d = p.denomOut then o else 0 := by
  rw [netSup_cons, netSup_mintAndSplit]; exact Int.zero_add _

theorem netVm_stableMintOps {o : Int} (hu : f ≠ vm) (hp : ProductOk p) (ho : 0 < o) :
    netVm (stableMintOps p f x o) d = if d = p.denomIn then x else 0 := by
  rw [netVm_cons, netVm_mintAndSplit p f o hu hp ho, dVm_send_in hu, Int.add_zero]

theorem netSup_stableMintOps {o : Int} : netSup (stableMintOps p f x o) d = if d = p.denomOut then o else 0 := by
  rw [netSup_cons, netSup_mintAndSplit]; exact Int.zero_add _

theorem netVm_repayInterestOps (hu : f ≠ vm) : netVm (repayInterestOps p f x) d = 0 := by
  simp only [netVm_cons, netVm_nil, dVm_send_in hu, dVm_send_out cm_ne_vm]; split <;> omega

theorem netVm_repayPrincipalOps {v : VaultRec} (hu : f ≠ vm) (hi : 0 ≤ v.interest) (hx : v.interest < x) :
    netVm (repayPrincipalOps p f v x) d = 0 := by
  have h : 0 ≤ x - v.interest := by omega
  simp only [netVm_cons, netVm_nil, dVm_sendPos hi, dVm_burnPos h, dVm_send_in hu, dVm_send_out cm_ne_vm, dVm_burn]
  split <;> omega

theorem netSup_repayPrincipalOps {v : VaultRec} (hx : v.interest < x) :
    netSup (repayPrincipalOps p f v x) d = if d = p.denomOut then -(x - v.interest) else 0 := by
  have h : 0 ≤ x - v.interest := by omega
  simp only [netSup_cons, netSup_nil, dSup_burnPos h, dSup_burn, dSup_send, dSup_sendPos, Int.add_zero, Int.zero_add]

theorem netVm_closeOps {v : VaultRec} (hu : f ≠ vm) (h : v.Nonneg) :
    netVm (closeOps p f v) d = if d = p.denomIn then -v.amountIn else 0 := by
  obtain ⟨h1, h2, h3, h4⟩ := h
  have hT : 0 ≤ v.amountOut + v.interest + v.closingFee := by omega
  simp only [netVm_cons, netVm_nil, dVm_sendPos, dVm_burnPos, h1, h2, h3, h4, hT, dVm_send_in hu, dVm_send_out hu,
    dVm_send_out cm_ne_vm, dVm_burn]
  by_cases hd : d = p.denomOut <;> simp only [hd, if_true, if_false] <;> omega

theorem netSup_closeOps {v : VaultRec} (h : 0 ≤ v.amountOut) :
    netSup (closeOps p f v) d = if d = p.denomOut then -v.amountOut else 0 := by
  simp only [netSup_cons, netSup_nil, dSup_burnPos h, dSup_burn, dSup_sendPos, Int.add_zero, Int.zero_add]

theorem stableWithdrawAmounts_fst (hp : ProductOk p) (hx : 0 < x) :
    0 < (stableWithdrawAmounts p x).1 ∧ (stableWithdrawAmounts p x).1 = x - if p.drawDownFee = 0 then 0 else feeOf x p.drawDownFee := by
  obtain ⟨h0, h1⟩ := hp.fee hx
  unfold stableWithdrawAmounts
  split
  · exact ⟨hx, (Int.sub_zero x).symm⟩
  · have : x - feeOf x p.drawDownFee > 0 := by omega
    simp only [this, if_true, and_self]

theorem netVm_stableWithdrawOps (hu : f ≠ vm) (hp : ProductOk p) (hx : 0 < x) :
    netVm (stableWithdrawOps p f x) d = if d = p.denomIn then -(stableWithdrawAmounts p x).2 else 0 := by
  obtain ⟨h0, h1⟩ := hp.fee hx
  have hupd : x - feeOf x p.drawDownFee > 0 := by omega
  have hb := fun a (ha : 0 ≤ a) => otherToken_nonneg a p.decOut p.decIn ha hp.decOut_pos hp.decIn_pos
  unfold stableWithdrawOps stableWithdrawAmounts
  split
  · simp only [netVm_cons, netVm_nil, dVm_sendPos (hb x (Int.le_of_lt hx)), dVm_send_in hu, dVm_send_out hu, dVm_burn]
    by_cases hd : d = p.denomOut <;> simp only [hd, if_true, if_false] <;> omega
  · simp only [hupd, if_true, List.cons_append, List.nil_append, netVm_cons, netVm_nil, dVm_sendPos h0,
      dVm_sendPos (hb _ (Int.le_of_lt hupd)), dVm_send_in hu, dVm_send_out hu, dVm_send_out cm_ne_vm, dVm_burn]
    by_cases hd : d = p.denomOut <;> simp only [hd, if_true, if_false] <;> omega

theorem netSup_stableWithdrawOps (hp : ProductOk p) (hx : 0 < x) :
    netSup (stableWithdrawOps p f x) d = if d = p.denomOut then -(stableWithdrawAmounts p x).1 else 0 := by
  have hupd : x - feeOf x p.drawDownFee > 0 := by have := hp.fee hx; omega
  unfold stableWithdrawOps stableWithdrawAmounts
  split
  · simp only [netSup_cons, netSup_nil, dSup_burn, dSup_send, dSup_sendPos, Int.add_zero, Int.zero_add]
  · simp only [hupd, if_true, List.cons_append, List.nil_append, netSup_cons, netSup_nil, dSup_burn, dSup_send, dSup_sendPos,
      Int.add_zero, Int.zero_add]

theorem dAcct_pays (hu : f ≠ vm) (huc : f ≠ cm) :
    (BankOp.send f vm d0 x).dAcct f d = (if d = d0 then -x else 0) ∧ (BankOp.send f vm d0 x).dAcct cm d = 0 := by
  simp only [BankOp.dAcct, hu.symm, huc, cm_ne_vm.symm, if_true, if_false, Int.zero_sub, Int.sub_zero, ite_self, and_self]

theorem mintAndSplit_delivers (p : Product) (user : Nat) (amt : Int) (huc : user ≠ cm) (hp : ProductOk p) (ha : 0 < amt) :
    netAcct user (mintAndSplit p user amt) p.denomOut = amt - feeOf amt p.drawDownFee ∧
    netAcct cm (mintAndSplit p user amt) p.denomOut = feeOf amt p.drawDownFee := by
  rw [netAcct_mintAndSplit p hp ha, netAcct_mintAndSplit p hp ha]
  simp only [if_true, huc, huc.symm, if_false, Int.add_zero, Int.zero_add, and_self]

theorem stableMintOps_delivers {s s1 : State} {out : Int} (hpo : ProductOk p) (hu : f ≠ vm)
    (huc : f ≠ cm) (hdd : p.denomOut ≠ p.denomIn) (hb : runBank s (stableMintOps p f x out) = some s1) :
    s1.bal f p.denomOut = s.bal f p.denomOut + (out - feeOf out p.drawDownFee) ∧
    s1.bal cm p.denomOut = s.bal cm p.denomOut + feeOf out p.drawDownFee := by
  obtain ⟨hd1, hd2⟩ := mintAndSplit_delivers p f out huc hpo (stableMintOps_pos hb)
  obtain ⟨hp1, hp2⟩ := dAcct_pays (d0 := p.denomIn) (d := p.denomOut) (x := x) hu huc
  exact ⟨by rw [(runBank_moves hb).bal, netAcct_cons, hd1, hp1, if_neg hdd, Int.zero_add],
    by rw [(runBank_moves hb).bal, netAcct_cons, hd2, hp2, Int.zero_add]⟩

end Comdex.Vault
