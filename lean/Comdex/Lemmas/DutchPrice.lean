import Comdex.Model.DutchPrice
import Comdex.Lemmas.DecRound
import Comdex.Lemmas.Inversion
/-!
Arithmetic of the Dutch-auction price functions: the closed form of the linear decrease, the bounds on the truncated time-to-zero
`tau`, and the guarded functions of the model inverted to these guard-free values.
-/
namespace Comdex.DutchPrice
open Comdex.Dec

theorem linearVal_eq (top tau dur : Int) :
    linearVal top tau dur = chopRound ((top * (tau - dur) * P).tdiv tau) := by
  unfold linearVal
  rw [mul_ofInt, quo_ofInt]

theorem linearVal_antitone (top tau d1 d2 : Int) (htop : 0 ≤ top) (ht : 0 < tau) (h : d1 ≤ d2) :
    linearVal top tau d2 ≤ linearVal top tau d1 := by
  rw [linearVal_eq, linearVal_eq]
  apply chopRound_mono
  apply Int.tdiv_le_tdiv ht
  exact Int.mul_le_mul_of_nonneg_right (Int.mul_le_mul_of_nonneg_left (by omega) htop) (Int.le_of_lt Dec.P_pos)

theorem linearVal_zero (top tau : Int) (ht : tau ≠ 0) : linearVal top tau 0 = top := by
  rw [linearVal_eq, Int.sub_zero, Int.mul_right_comm, Int.mul_tdiv_cancel _ ht, chopRound_exact]

theorem linearVal_le_top (top tau dur : Int) (htop : 0 ≤ top) (ht : 0 < tau) (hd : 0 ≤ dur) :
    linearVal top tau dur ≤ top := by
  have := linearVal_antitone top tau 0 dur htop ht hd
  rwa [linearVal_zero top tau (by omega)] at this

theorem linearVal_nonneg (top tau dur : Int) (htop : 0 ≤ top) (ht : 0 < tau) (hd : dur ≤ tau) :
    0 ≤ linearVal top tau dur := by
  rw [linearVal_eq]
  exact chopRound_tdiv_nonneg (Int.mul_nonneg (Int.mul_nonneg htop (by omega)) (Int.le_of_lt Dec.P_pos)) ht

theorem tauVal_zero (top endP : Int) : tauVal top endP 0 = 0 := by
  unfold tauVal
  rw [mul_ofInt, Int.mul_zero, quo_zero]
  exact Int.zero_tdiv _

/-- truncation loses less than one second of time-to-zero (the half-even rounding inside `Quo` cannot push it over) -/
theorem tauVal_lt (top endP T : Int) (hD : 0 < top - endP) :
    top * T < (tauVal top endP T + 1) * (top - endP) := by
  unfold tauVal
  rw [mul_ofInt]
  have hq := quo_lower (top * T) (Dec.sub top endP) hD
  have ht := lt_truncateInt_succ (Dec.quo (top * T) (Dec.sub top endP))
  generalize Dec.quo (top * T) (Dec.sub top endP) = q at hq ht ⊢
  generalize Dec.truncateInt q = t at ht ⊢
  -- 2·top·T·10³⁶ < 2·10¹⁸·q·D + (10¹⁸+2)·D  and  q + 1 ≤ (t+1)·10¹⁸
  have h := Int.mul_le_mul_of_nonneg_right (Int.add_one_le_of_lt ht) (Int.le_of_lt hD)
  simp only [P, PP, Dec.sub] at hq h
  linarith

theorem tauVal_ge_T (top endP T : Int) (he : 0 ≤ endP) (hD : 0 < top - endP) (hT : 0 ≤ T) :
    T ≤ tauVal top endP T := by
  unfold tauVal
  rw [mul_ofInt]
  have hn : 0 ≤ top * T := Int.mul_nonneg (by omega) hT
  -- `T·10¹⁸ ≤ Quo(top·T, D)` because `D ≤ top`; the truncation keeps the whole number
  refine (le_truncateInt_iff (quo_nonneg _ _ hn hD)).2 (quo_ge_of_ratio_ge _ _ _ hn hD ?_)
  rw [Int.mul_assoc top, Int.mul_comm top]
  exact Int.mul_le_mul_of_nonneg_left (Int.sub_le_self top he) (Int.mul_nonneg hT (Int.le_of_lt Dec.P_pos))

/-- `price ≥ end − (top − end)/tau − 1 ulp` inside the window, cross-multiplied by `tau` -/
theorem linearVal_ge_end_slack (top endP T dur : Int) (he : 0 ≤ endP) (hD : 0 < top - endP)
    (hT : 0 < T) (hdT : dur ≤ T) :
    endP * tauVal top endP T - (top - endP) ≤ (linearVal top (tauVal top endP T) dur + 1) * tauVal top endP T := by
  have htop : 0 ≤ top := by omega
  have hTt := tauVal_ge_T top endP T he hD (by omega)
  have hlt := tauVal_lt top endP T hD
  generalize tauVal top endP T = t at hTt hlt ⊢
  have ht : 0 < t := by omega
  rw [linearVal_eq]
  have hp := chopRound_tdiv_ge (top * (t - dur) * P) t ht
  generalize chopRound ((top * (t - dur) * P).tdiv t) = p at hp ⊢
  -- top·(t − dur) ≥ top·t − top·T > top·t − (t+1)·D = t·end − D
  have h1 : top * dur ≤ top * T := Int.mul_le_mul_of_nonneg_left hdT htop
  simp only [P] at hp
  linarith

theorem chk_ok {x y : Dec} (h : chk x = .ok y) : y = x := by
  unfold chk at h
  cases (ensure_ok h).2
  rfl

/-- exact: the oracle price is an integer, so `premium.Mul(NewDec(twa))` rounds nothing -/
theorem startPrice_ok {twa : Int} {premium p : Dec} (h : startPrice twa premium = .ok p) : p = premium * twa := by
  unfold startPrice at h
  rw [chk_ok (ensure_ok h).2, mul_ofInt]

theorem endPrice_ok {top cusp e : Dec} (h : endPrice top cusp = .ok e) : e = Dec.mul top cusp := chk_ok h

theorem linear_ok {top : Dec} {tau dur : Int} {p : Dec} (h : linear top tau dur = .ok p) :
    p = linearVal top tau dur ∧ tau ≠ 0 := by
  unfold linear at h
  obtain ⟨-, h⟩ := guard_ok h
  obtain ⟨ht, h⟩ := guard_ok h
  obtain ⟨n, hn, h⟩ := bind_ok h
  cases chk_ok hn
  exact ⟨chk_ok h, ht⟩

theorem tau_ok {top endP : Dec} {T t : Int} (h : tau top endP T = .ok t) :
    t = tauVal top endP T ∧ Dec.sub top endP ≠ 0 := by
  unfold tau at h
  obtain ⟨hd, h⟩ := guard_ok h
  obtain ⟨n, hn, h⟩ := bind_ok h
  obtain ⟨q, hq, h⟩ := bind_ok h
  cases chk_ok hn
  cases chk_ok hq
  cases (ensure_ok h).2
  exact ⟨rfl, hd⟩

theorem priceV1_ok {top endP : Dec} {T dur : Int} {p : Dec} (h : priceV1 top endP T dur = .ok p) :
    p = linearVal top (tauVal top endP T) dur ∧ tauVal top endP T ≠ 0 ∧ Dec.sub top endP ≠ 0 := by
  obtain ⟨t, ht, h⟩ := bind_ok h
  obtain ⟨rfl, hd⟩ := tau_ok ht
  exact ⟨(linear_ok h).1, (linear_ok h).2, hd⟩

theorem priceV2_priceV1 {top disc : Dec} {T dur : Int} {p : Dec} (h : priceV2 top disc T dur = .ok p) :
    priceV1 top (Dec.mul top disc) T dur = .ok p := by
  obtain ⟨e, he, h⟩ := bind_ok h
  cases endPrice_ok he
  exact h

end Comdex.DutchPrice
