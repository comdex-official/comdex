import Comdex.Model.Liquidation
/-! Index arithmetic of the liquidation sweep: the slice bounds on naturals and on Go `int`s, and the liveness of the abstract
sweep `Sw`. No `World` here. `9223372036854775808 = 2^63` throughout; `wrapInt` is what `Base/GoSem.lean` calls `wrapI64`.
Core Lean only. -/
namespace Comdex.Liquidation

theorem toGoInt_small (x : Nat) (h : x < 2 ^ 63) : toGoInt x = (x : Int) := if_pos h

theorem wrapInt_eq {x : Int} (h1 : -9223372036854775808 ≤ x) (h2 : x < 9223372036854775808) : wrapInt x = x := by
  unfold wrapInt; omega

theorem sliceBoundsI_nowrap (len off batch : Int) (hw : off + batch < 9223372036854775808) :
    sliceBoundsI len off batch =
      if off ≥ len ∨ off < 0 ∨ batch < 0 then (len, len)
      else if off + batch ≥ len then (off, len) else (off, off + batch) := by
  unfold sliceBoundsI
  split
  · rfl
  · rw [wrapInt_eq (by omega) hw]

theorem sliceBoundsI_bounds (len off batch : Int) (hl : 0 ≤ len) (hw : off + batch < 9223372036854775808) :
    0 ≤ (sliceBoundsI len off batch).1 ∧ (sliceBoundsI len off batch).1 ≤ (sliceBoundsI len off batch).2 ∧
    (sliceBoundsI len off batch).2 ≤ len := by
  rw [sliceBoundsI_nowrap len off batch hw]
  split
  · omega
  · split <;> omega

theorem sweepBoundsI_bounds (cnt off batch : Int) (hl : 0 ≤ cnt) (hb : batch < 9223372036854775808)
    (hw : off + batch < 9223372036854775808) :
    0 ≤ (sweepBoundsI cnt off batch).1 ∧ (sweepBoundsI cnt off batch).1 ≤ (sweepBoundsI cnt off batch).2 ∧
    (sweepBoundsI cnt off batch).2 ≤ cnt := by
  unfold sweepBoundsI
  simp only
  split
  · exact sliceBoundsI_bounds cnt 0 batch hl (by omega)
  · exact sliceBoundsI_bounds cnt off batch hl hw

theorem sliceBounds_eq (len off batch : Nat) :
    sliceBounds len off batch = if off < len then (off, min (off + batch) len) else (len, len) := by
  unfold sliceBounds
  by_cases h : off < len
  · rw [if_neg (Nat.not_le.2 h), if_pos h]
    split <;> (congr 1; omega)
  · rw [if_pos (Nat.not_lt.1 h), if_neg h]

theorem sweepBounds_eq (n off batch : Nat) :
    sweepBounds n off batch = if off < n ∧ 0 < batch then (off, min (off + batch) n) else (0, min batch n) := by
  -- the second call is made iff the first range is empty, i.e. iff `off ≥ n` or `batch = 0`
  have h0 : sliceBounds n 0 batch = (0, min batch n) := by
    rw [sliceBounds_eq, Nat.zero_add]
    split
    · rfl
    · next hn => rw [Nat.eq_zero_of_not_pos hn, Nat.min_zero]
  unfold sweepBounds
  simp only
  rw [h0, sliceBounds_eq]
  by_cases h : off < n ∧ 0 < batch
  · have hne : ¬ off = min (off + batch) n := by omega
    rw [if_pos h, if_pos h.1]
    exact if_neg hne
  · rw [if_neg h]
    by_cases h1 : off < n
    · have he : min (off + batch) n = off := by omega
      rw [if_pos h1, he]
      exact if_pos rfl
    · rw [if_neg h1]
      exact if_pos rfl

theorem sweepBounds_bounds (cnt off batch : Nat) :
    (sweepBounds cnt off batch).1 ≤ (sweepBounds cnt off batch).2 ∧ (sweepBounds cnt off batch).2 ≤ cnt := by
  rw [sweepBounds_eq]
  split <;> omega

theorem sliceBounds_cast (len off batch : Nat) (hw : (off : Int) + batch < 9223372036854775808) :
    sliceBoundsI len off batch = (((sliceBounds len off batch).1 : Int), ((sliceBounds len off batch).2 : Int)) := by
  rw [sliceBoundsI_nowrap _ _ _ hw]
  unfold sliceBounds
  by_cases h1 : off ≥ len
  · rw [if_pos (by omega), if_pos h1]
  · rw [if_neg (by omega), if_neg h1]
    by_cases h2 : off + batch ≥ len
    · rw [if_pos (by omega), if_pos h2]
    · rw [if_neg (by omega), if_neg h2]; rfl

/-- on naturals whose sum does not wrap the Go function is the one on `Nat`: what is known of `sweepBounds` carries over -/
theorem sweepBounds_cast (cnt off batch : Nat) (hw : (off : Int) + batch < 9223372036854775808) :
    sweepBoundsI cnt off batch = (((sweepBounds cnt off batch).1 : Int), ((sweepBounds cnt off batch).2 : Int)) := by
  unfold sweepBoundsI sweepBounds
  simp only
  rw [sliceBounds_cast _ _ _ hw, show (0 : Int) = ((0 : Nat) : Int) from rfl, sliceBounds_cast _ 0 _ (by omega)]
  by_cases h : (sliceBounds cnt off batch).1 = (sliceBounds cnt off batch).2
  · rw [if_pos (congrArg _ h), if_pos h]
  · rw [if_neg (fun hc => h (Int.ofNat_inj.1 hc)), if_neg h]

theorem sweepBoundsI_end (cnt off batch : Int) (hc : 0 ≤ cnt) (ho : 0 ≤ off) (hb : 0 < batch)
    (hw : off + batch < 9223372036854775808) :
    (sweepBoundsI cnt off batch).2 = if off < cnt then min (off + batch) cnt else min batch cnt := by
  obtain ⟨n, rfl⟩ := Int.eq_ofNat_of_zero_le hc
  obtain ⟨o, rfl⟩ := Int.eq_ofNat_of_zero_le ho
  obtain ⟨b, rfl⟩ := Int.eq_ofNat_of_zero_le (Int.le_of_lt hb)
  rw [sweepBounds_cast _ _ _ hw, sweepBounds_eq]
  by_cases h : o < n
  · rw [if_pos ⟨h, by omega⟩, if_pos (by omega)]; simp only; omega
  · rw [if_neg (fun hc => h hc.1), if_neg (by omega)]; simp only; omega

theorem goSlice_sub {α} (l sl : List α) (s e : Int) (h : goSlice l s e = some sl) : ∀ x, x ∈ sl → x ∈ l := by
  unfold goSlice at h
  obtain ⟨_, h⟩ := Option.ite_none_right_eq_some.1 h
  cases h
  exact fun x hx => List.mem_of_mem_drop (List.mem_of_mem_take hx)

theorem sweepBoundsI_neg (cnt off batch : Int) (hc : cnt < 0) : sweepBoundsI cnt off batch = (cnt, cnt) := by
  have h1 : ∀ o, sliceBoundsI cnt o batch = (cnt, cnt) := fun o => if_pos (by omega)
  unfold sweepBoundsI
  simp only [h1, if_true]

/-- `0 ≤ start ≤ end ≤ n` is Go's rule for `l[start:end]` on a list of `n` entries -/
theorem sweepBoundsI_legal_iff (n cnt off batch : Int) (hb : batch < 9223372036854775808)
    (hw : off + batch < 9223372036854775808) :
    (0 ≤ (sweepBoundsI cnt off batch).1 ∧ (sweepBoundsI cnt off batch).1 ≤ (sweepBoundsI cnt off batch).2 ∧
      (sweepBoundsI cnt off batch).2 ≤ n) ↔ 0 ≤ cnt ∧ (sweepBoundsI cnt off batch).2 ≤ n := by
  by_cases hc : 0 ≤ cnt
  · have := sweepBoundsI_bounds cnt off batch hc hb hw
    omega
  · rw [sweepBoundsI_neg cnt off batch (by omega)]
    omega

theorem goSlice_sweep_none_iff {α} (l : List α) (cnt off batch : Int) (hb : batch < 9223372036854775808)
    (hw : off + batch < 9223372036854775808) :
    goSlice l (sweepBoundsI cnt off batch).1 (sweepBoundsI cnt off batch).2 = none ↔
      cnt < 0 ∨ (l.length : Int) < (sweepBoundsI cnt off batch).2 := by
  have := sweepBoundsI_legal_iff l.length cnt off batch hb hw
  unfold goSlice
  split <;> simp only [reduceCtorEq, false_iff, true_iff] <;> omega

/-- offsets evolve as the code stores them: the next block's offset is this block's range end -/
def Evolves (batch : Nat) (r : Nat → Sw) : Prop :=
  ∀ k, (r (k+1)).off = (sweepBounds (r k).l.length (r k).off batch).2

/-- the same, block `k` running with batch size `bt k` -/
def EvolvesV (bt : Nat → Nat) (r : Nat → Sw) : Prop :=
  ∀ k, (r (k+1)).off = (sweepBounds (r k).l.length (r k).off (bt k)).2

theorem evolvesV_const {batch : Nat} {r : Nat → Sw} : EvolvesV (fun _ => batch) r ↔ Evolves batch r := Iff.rfl

theorem Sw.run_head (batch : Nat) (isUnsafe : Nat → Bool) (sched : List (List Nat × List Nat)) (s : Sw) :
    (Sw.run batch isUnsafe sched s).getD 0 default = s := by
  cases sched <;> rfl

theorem Sw.run_evolves (batch : Nat) (isUnsafe : Nat → Bool) (sched : List (List Nat × List Nat)) (s : Sw) (k : Nat)
    (hk : k < sched.length) :
    ((Sw.run batch isUnsafe sched s).getD (k+1) default).off =
      (sweepBounds ((Sw.run batch isUnsafe sched s).getD k default).l.length
        ((Sw.run batch isUnsafe sched s).getD k default).off batch).2 := by
  induction sched generalizing s k with
  | nil => cases hk
  | cons da rest ih =>
    cases k with
    | zero =>
      show ((Sw.run batch isUnsafe rest _).getD 0 default).off = _
      rw [Sw.run_head]
      rfl
    | succ k => exact ih (s.step batch isUnsafe da.1 da.2) k (Nat.lt_of_succ_lt_succ hk)

/-- number of positions covered by the first `k` blocks of the sweep that starts at block `t` -/
def covered (bt : Nat → Nat) (t : Nat) : Nat → Nat
  | 0 => 0
  | k+1 => covered bt t k + bt (t+k)

theorem covered_const (b t k : Nat) : covered (fun _ => b) t k = k * b := by
  induction k with
  | zero => exact (Nat.zero_mul b).symm
  | succ k ih => rw [Nat.succ_mul, ← ih]; rfl

theorem covered_const_div (b t i : Nat) (hb : 0 < b) :
    covered (fun _ => b) t (i / b) ≤ i ∧ i < covered (fun _ => b) t (i / b + 1) := by
  rw [covered_const, covered_const, Nat.mul_comm (i / b + 1)]
  exact ⟨Nat.div_mul_le_self i b, Nat.lt_mul_div_succ i hb⟩

theorem covered_mono (bt : Nat → Nat) (t : Nat) {a b : Nat} (h : a ≤ b) : covered bt t a ≤ covered bt t b := by
  induction h with
  | refl => exact Nat.le_refl _
  | step _ ih => exact Nat.le_trans ih (Nat.le_add_right _ _)

theorem covered_ge (bt : Nat → Nat) (hb : ∀ k, 0 < bt k) (t k : Nat) : k ≤ covered bt t k := by
  induction k with
  | zero => exact Nat.le_refl _
  | succ k ih =>
    show k + 1 ≤ covered bt t k + bt (t+k)
    have := hb (t+k)
    omega

theorem covered_block_exists (bt : Nat → Nat) (hb : ∀ k, 0 < bt k) (t i : Nat) :
    ∃ K, K ≤ i ∧ covered bt t K ≤ i ∧ i < covered bt t (K+1) := by
  have key : ∀ m, i < covered bt t m → ∃ K, K < m ∧ covered bt t K ≤ i ∧ i < covered bt t (K+1) := by
    intro m
    induction m with
    | zero => intro h; exact absurd h (by show ¬ (i < 0); omega)
    | succ m ih =>
      intro h
      by_cases hm : covered bt t m ≤ i
      · exact ⟨m, by omega, hm, h⟩
      · obtain ⟨K, hK, h1, h2⟩ := ih (by omega)
        exact ⟨K, by omega, h1, h2⟩
  obtain ⟨K, hK, h1, h2⟩ := key (i+1) (by have := covered_ge bt hb t (i+1); omega)
  exact ⟨K, by omega, h1, h2⟩

theorem starts_bounds {batch : Nat} {s : Sw} (h : s.starts batch = true) :
    sweepBounds s.l.length s.off batch = (0, min batch s.l.length) := by
  unfold Sw.starts at h
  rw [sweepBounds_eq] at h ⊢
  split at h
  · next hc =>
    have h0 : s.off = 0 := eq_of_beq h
    rw [if_pos hc, h0, Nat.zero_add]
  · next hc => rw [if_neg hc]

/-- `i` only witnesses that every list is longer than `covered K`: the stored offset then stays inside and no new sweep starts -/
theorem sweep_range (bt : Nat → Nat) (hb : ∀ k, 0 < bt k) (r : Nat → Sw) (hev : EvolvesV bt r) (t i : Nat)
    (hstart : (r t).starts (bt t) = true) (K : Nat) (hK : covered bt t K ≤ i)
    (hlen : ∀ k, k ≤ K → i < (r (t+k)).l.length) :
    ∀ k, k ≤ K → sweepBounds (r (t+k)).l.length (r (t+k)).off (bt (t+k))
        = (covered bt t k, min (covered bt t k + bt (t+k)) (r (t+k)).l.length) := by
  intro k
  induction k with
  | zero =>
    intro _
    show sweepBounds (r t).l.length (r t).off (bt t) = (0, min (0 + bt t) (r t).l.length)
    rw [starts_bounds hstart, Nat.zero_add]
  | succ k ih =>
    intro hk
    have h1 : covered bt t (k+1) ≤ covered bt t K := covered_mono bt t hk
    have h2 := hlen k (by omega)
    have h3 := hlen (k+1) hk
    have hoff : (r (t + (k+1))).off = covered bt t (k+1) := by
      have := hev (t+k)
      rw [ih (by omega)] at this
      show (r (t + k + 1)).off = covered bt t k + bt (t+k)
      rw [this]
      show min _ _ = _
      have : covered bt t (k+1) = covered bt t k + bt (t+k) := rfl
      omega
    rw [sweepBounds_eq, hoff, if_pos ⟨by omega, hb _⟩]

theorem mem_slice {α} (l : List α) (s e i : Nat) (p : α) (hi : l[i]? = some p) (hs : s ≤ i) (he : i < e) :
    p ∈ (l.drop s).take (e - s) := by
  have : ((l.drop s).take (e - s))[i - s]? = some p := by
    rw [List.getElem?_take]
    have : i - s < e - s := by omega
    simp only [this, if_true]
    rw [List.getElem?_drop]
    have : s + (i - s) = i := by omega
    rw [this]; exact hi
  exact List.mem_of_getElem? this

/-- **Liveness of the sweep**, the batch size changing between blocks: a position that stays at index `i` — no position BEFORE it
is deleted, neither closed by its owner nor seized — is handed to the step in the block of the sweep that covers `i`. -/
theorem sweep_live_varbatch (bt : Nat → Nat) (hb : ∀ k, 0 < bt k) (r : Nat → Sw) (hev : EvolvesV bt r)
    (t i p K : Nat) (hstart : (r t).starts (bt t) = true)
    (hK1 : covered bt t K ≤ i) (hK2 : i < covered bt t (K+1))
    (hpos : ∀ k, k ≤ K → (r (t+k)).l[i]? = some p) :
    p ∈ (r (t + K)).processed (bt (t+K)) := by
  have hlen : ∀ k, k ≤ K → i < (r (t+k)).l.length := fun k hk => (List.getElem?_eq_some_iff.mp (hpos k hk)).1
  unfold Sw.processed
  simp only
  rw [sweep_range bt hb r hev t i hstart K hK1 hlen K (Nat.le_refl _)]
  apply mem_slice _ _ _ i p (hpos _ (Nat.le_refl _)) hK1
  have := hlen K (Nat.le_refl _)
  have h2 : covered bt t (K+1) = covered bt t K + bt (t+K) := rfl
  omega

theorem idx_stable (idx : Nat → Nat) (d T w : Nat) (hshift : ∀ k, k < T → k ≠ d → idx (k+1) = idx k)
    (n : Nat) (hT : w + n ≤ T) (hd : ∀ k, k < n → w + k ≠ d) : ∀ k, k ≤ n → idx (w + k) = idx w := by
  intro k
  induction k with
  | zero => intro _; rfl
  | succ k ih =>
    intro hk
    have := hshift (w + k) (by omega) (hd k (by omega))
    rw [← ih (by omega), ← this, Nat.add_assoc]

/-- `idx k` is the index of the persisting position `p` before block `k`; `d` is the only block (up to the horizon `T`) in which it
changes: `p` is reached by the sweep started at `w1` or by the one started at `w2`. -/
theorem two_sweeps_varbatch (bt : Nat → Nat) (hb : ∀ k, 0 < bt k) (r : Nat → Sw) (hev : EvolvesV bt r)
    (p : Nat) (idx : Nat → Nat) (T : Nat) (hidx : ∀ k, k ≤ T → (r k).l[idx k]? = some p)
    (d : Nat) (hshift : ∀ k, k < T → k ≠ d → idx (k+1) = idx k)
    (w1 w2 : Nat) (h12 : w1 < w2) (hs1 : (r w1).starts (bt w1) = true) (hs2 : (r w2).starts (bt w2) = true) (K1 K2 : Nat)
    (hK1 : covered bt w1 K1 ≤ idx w1 ∧ idx w1 < covered bt w1 (K1+1)) (hK2 : covered bt w2 K2 ≤ idx w2 ∧ idx w2 < covered bt w2 (K2+1))
    (hT1 : w1 + K1 ≤ T) (hT2 : w2 + K2 ≤ T) :
    p ∈ (r (w1 + K1)).processed (bt (w1 + K1)) ∨ p ∈ (r (w2 + K2)).processed (bt (w2 + K2)) := by
  -- the sweep started at `w` reaches `p` if the index does not move during its first `K` blocks
  have reach : ∀ w K, (r w).starts (bt w) = true → covered bt w K ≤ idx w ∧ idx w < covered bt w (K+1) → w + K ≤ T →
      (∀ k, k < K → w + k ≠ d) → p ∈ (r (w + K)).processed (bt (w + K)) := by
    intro w K hs hK hT hd
    have hst := idx_stable idx d T w hshift K hT hd
    exact sweep_live_varbatch bt hb r hev w (idx w) p K hs hK.1 hK.2 fun k hk => hst k hk ▸ hidx (w + k) (by omega)
  by_cases hA : ∀ k, k < K1 → w1 + k ≠ d
  · exact Or.inl (reach w1 K1 hs1 hK1 hT1 hA)
  · right
    obtain ⟨k0, hk0, hk0d⟩ : ∃ k0, k0 < K1 ∧ w1 + k0 = d :=
      Classical.byContradiction fun hne => hA fun k hk hkd => hne ⟨k, hk, hkd⟩
    -- the index is stable up to block d, so the sweep started at w1 keeps its ranges (`sweep_range`) and there is no start in (w1, d]
    have hst := idx_stable idx d T w1 hshift k0 (by omega) (by intro k hk; omega)
    have hlen : ∀ k, k ≤ k0 → idx w1 < (r (w1+k)).l.length := fun k hk =>
      (List.getElem?_eq_some_iff.mp (hst k hk ▸ hidx (w1 + k) (by omega))).1
    have hm := sweep_range bt hb r hev w1 (idx w1) hs1 k0 (Nat.le_trans (covered_mono bt w1 (Nat.le_of_lt hk0)) hK1.1) hlen
    have hw2 : d < w2 := by
      apply Classical.byContradiction
      intro hle
      have hb2 := hm (w2 - w1) (by omega)
      rw [show w1 + (w2 - w1) = w2 by omega] at hb2
      unfold Sw.starts at hs2
      rw [hb2] at hs2
      have := covered_ge bt hb w1 (w2 - w1)
      have := eq_of_beq hs2
      omega
    exact reach w2 K2 hs2 hK2 hT2 (by intro k hk; omega)

end Comdex.Liquidation
