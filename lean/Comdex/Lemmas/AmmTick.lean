import Comdex.Model.AmmTick
import Comdex.Lemmas.SortSearch
import Mathlib.Tactic.Linarith
import Mathlib.Tactic.Ring
/-!
`sort.Search` on a monotone predicate, decimal digits, then the tick grid (`Model/AmmTick.lean`) on natural numbers: `TickFromIndex` is
the strictly increasing sequence `T`; `idx` (`TickToIndex` of the down-tick) and `ceilIdx` are its two adjoints (`T k ≤ x ↔ k ≤ idx x`,
`x ≤ T k ↔ ceilIdx x ≤ k`, read off the cell `[T k, T (k+1))` a price lies in); `PriceToDownTick` is `T ∘ idx`, `PriceToUpTick` is
`T ∘ ceilIdx`, and `UpTick`, `RoundPrice`, `LowestTick`, `HighestTick` on `Int` raws are read through them.
-/
namespace Comdex.Amm

theorem search_spec (n : Nat) (f : Nat → Bool) :
    search n f ≤ n ∧ (search n f < n → f (search n f) = true) ∧ (0 < search n f → f (search n f - 1) = false) := by
  unfold search
  rw [searchLoop_eq]
  obtain ⟨_, a2, a3, a4⟩ := Lend.sortSearch_any f (n + 1) 0 n (Nat.zero_le _) (by omega)
  exact ⟨a2, a3, a4⟩

/-- on a predicate that stays true once it is true, `sort.Search` returns the first true index: it is true there, and no true index
lies before it -/
theorem search_first (n : Nat) (f : Nat → Bool) (hmono : ∀ a b, a ≤ b → b < n → f a = true → f b = true)
    (t : Nat) (htn : t < n) (ht : f t = true) : search n f ≤ t ∧ f (search n f) = true := by
  obtain ⟨a1, a2, a3⟩ := search_spec n f
  have hle : search n f ≤ t := by
    by_contra h
    have ht' := hmono t (search n f - 1) (by omega) (by omega) ht
    rw [a3 (by omega)] at ht'
    cases ht'
  exact ⟨hle, a2 (by omega)⟩

theorem ndigitsAux_spec (f n : Nat) (hn : 0 < n) (hf : n ≤ f) :
    1 ≤ ndigitsAux f n ∧ 10 ^ (ndigitsAux f n - 1) ≤ n ∧ n < 10 ^ (ndigitsAux f n) := by
  induction f generalizing n with
  | zero => omega
  | succ f ih =>
    unfold ndigitsAux
    by_cases h : n < 10
    · simp only [h, if_true]; omega
    · simp only [h, if_false]
      have hq : 0 < n / 10 := by omega
      obtain ⟨a1, a2, a3⟩ := ih (n / 10) hq (by omega)
      refine ⟨by omega, ?_, ?_⟩
      · have : ndigitsAux f (n / 10) + 1 - 1 = (ndigitsAux f (n / 10) - 1) + 1 := by omega
        rw [this, Nat.pow_succ]
        omega
      · rw [Nat.pow_succ]; omega

theorem ndigits_spec (n : Nat) (hn : 0 < n) :
    1 ≤ ndigits n ∧ 10 ^ (ndigits n - 1) ≤ n ∧ n < 10 ^ (ndigits n) :=
  ndigitsAux_spec n n hn (Nat.le_refl _)

theorem ndigits_eq (n k : Nat) (h1 : 10 ^ k ≤ n) (h2 : n < 10 ^ (k + 1)) : ndigits n = k + 1 := by
  have hn : 0 < n := Nat.lt_of_lt_of_le (Nat.pow_pos (by omega)) h1
  obtain ⟨a1, a2, a3⟩ := ndigits_spec n hn
  have h3 : 10 ^ k < 10 ^ ndigits n := Nat.lt_of_le_of_lt h1 a3
  have h4 : 10 ^ (ndigits n - 1) < 10 ^ (k + 1) := Nat.lt_of_le_of_lt a2 h2
  have h5 := (Nat.pow_lt_pow_iff_right (by omega : 1 < 10)).mp h3
  have h6 := (Nat.pow_lt_pow_iff_right (by omega : 1 < 10)).mp h4
  omega

/-! ## the tick grid on natural numbers -/

/-- the tick of index `i` at precision `prec`: mantissa `10^prec + i mod 9·10^prec`, exponent `i div 9·10^prec` -/
def T (prec i : Nat) : Nat := (10 ^ prec + i % (9 * 10 ^ prec)) * 10 ^ (i / (9 * 10 ^ prec))

/-- the grid lemmas know `T` through this and `T_mk_succ` only -/
theorem T_mk (prec d r : Nat) (hr : r < 9 * 10 ^ prec) : T prec (d * (9 * 10 ^ prec) + r) = (10 ^ prec + r) * 10 ^ d := by
  unfold T
  rw [Nat.add_comm (d * _) r, Nat.add_mul_mod_self_right, Nat.mod_eq_of_lt hr, Nat.add_mul_div_right _ _ (by omega),
    Nat.div_eq_of_lt hr, Nat.zero_add]

theorem T_mk_succ (prec d r : Nat) (hr : r < 9 * 10 ^ prec) :
    T prec (d * (9 * 10 ^ prec) + r + 1) = (10 ^ prec + r + 1) * 10 ^ d := by
  by_cases h : r + 1 < 9 * 10 ^ prec
  · rw [Nat.add_assoc, T_mk _ _ _ h, Nat.add_assoc]
  · -- the mantissa wraps: `10^prec + r + 1 = 10·10^prec`, the exponent goes up
    have e : d * (9 * 10 ^ prec) + r + 1 = (d + 1) * (9 * 10 ^ prec) + 0 := by rw [Nat.add_mul]; omega
    have e2 : 10 ^ prec + r + 1 = 10 * 10 ^ prec := by omega
    rw [e, T_mk _ _ _ (by omega), e2, Nat.pow_succ]; ring

theorem T_succ (prec i : Nat) : T prec (i + 1) = T prec i + 10 ^ (i / (9 * 10 ^ prec)) := by
  have hp : 0 < 9 * 10 ^ prec := by have := Nat.pow_pos (n := prec) (by omega : 0 < 10); omega
  have hr := Nat.mod_lt i hp
  have h1 := T_mk_succ prec (i / (9 * 10 ^ prec)) _ hr
  have h2 := T_mk prec (i / (9 * 10 ^ prec)) _ hr
  rw [Nat.div_add_mod'] at h1 h2
  rw [h1, h2]; ring

theorem T_lt_succ (prec i : Nat) : T prec i < T prec (i + 1) := by
  rw [T_succ]; have := Nat.pow_pos (n := i / (9 * 10 ^ prec)) (by omega : 0 < 10); omega

theorem T_strictMono (prec : Nat) {i j : Nat} (h : i < j) : T prec i < T prec j :=
  strictMono_nat_of_lt_succ (T_lt_succ prec) h

theorem T_mono (prec : Nat) {i j : Nat} (h : i ≤ j) : T prec i ≤ T prec j :=
  (strictMono_nat_of_lt_succ (T_lt_succ prec)).monotone h

theorem T_le_iff (prec : Nat) {i j : Nat} : T prec i ≤ T prec j ↔ i ≤ j :=
  (strictMono_nat_of_lt_succ (T_lt_succ prec)).le_iff_le

theorem T_zero (prec : Nat) : T prec 0 = 10 ^ prec := by
  have := T_mk prec 0 0 (Nat.mul_pos (by omega) (Nat.pow_pos (by omega)))
  simpa using this

theorem pow_le_T (prec i : Nat) : 10 ^ prec ≤ T prec i := by
  rw [← T_zero]; exact T_mono prec (by omega)

theorem zero_lt_T (prec i : Nat) : 0 < T prec i := Nat.lt_of_lt_of_le (Nat.pow_pos (by omega)) (pow_le_T prec i)

/-- `PriceToDownTick` on naturals -/
def floorTick (prec x : Nat) : Nat := x / 10 ^ (ndigits x - 1 - prec) * 10 ^ (ndigits x - 1 - prec)
/-- `TickToIndex` of a down-tick on naturals -/
def idx (prec x : Nat) : Nat :=
  (ndigits x - 1 - prec) * (9 * 10 ^ prec) + (x / 10 ^ (ndigits x - 1 - prec) - 10 ^ prec)

/-- the cell of `x`: the tick below it, and what the digits of `x` say about it (for the bridges to the model's `Int` functions) -/
structure GridCell (prec x : Nat) : Prop where
  down : floorTick prec x = T prec (idx prec x)
  le : T prec (idx prec x) ≤ x
  lt : x < T prec (idx prec x + 1)
  digits : ndigits (floorTick prec x) = ndigits x
  prec_le : prec ≤ ndigits x - 1
  mant_ge : 10 ^ prec ≤ x / 10 ^ (ndigits x - 1 - prec)
  mant_lt : x / 10 ^ (ndigits x - 1 - prec) < 10 ^ (prec + 1)

theorem grid_cell (prec x : Nat) (hx : 10 ^ prec ≤ x) : GridCell prec x := by
  have hx0 : 0 < x := Nat.lt_of_lt_of_le (Nat.pow_pos (by omega)) hx
  obtain ⟨a1, a2, a3⟩ := ndigits_spec x hx0
  have hL : prec ≤ ndigits x - 1 := by
    have := (Nat.pow_lt_pow_iff_right (by omega : 1 < 10)).mp (Nat.lt_of_le_of_lt hx a3)
    omega
  -- `x` has `prec + 1 + d` digits; its mantissa `10^prec + r` is the leading `prec + 1` of them
  obtain ⟨d, hd⟩ : ∃ d, ndigits x - 1 - prec = d := ⟨_, rfl⟩
  have hn : ndigits x = prec + d + 1 := by omega
  rw [hn] at a2 a3
  have hpd : 0 < 10 ^ d := Nat.pow_pos (by omega)
  have e1 : 10 ^ (prec + d + 1 - 1) = 10 ^ prec * 10 ^ d := by rw [← Nat.pow_add]; rfl
  have e2 : 10 ^ (prec + d + 1) = 10 ^ (prec + 1) * 10 ^ d := by rw [← Nat.pow_add]; congr 1; omega
  have hm1 : 10 ^ prec ≤ x / 10 ^ d := by rw [Nat.le_div_iff_mul_le hpd, ← e1]; exact a2
  have hm2 : x / 10 ^ d < 10 ^ (prec + 1) := by rw [Nat.div_lt_iff_lt_mul hpd, ← e2]; exact a3
  have hdm := Nat.div_add_mod x (10 ^ d)
  have hmod : x % 10 ^ d < 10 ^ d := Nat.mod_lt _ hpd
  obtain ⟨r, hr⟩ : ∃ r, x / 10 ^ d = 10 ^ prec + r := ⟨x / 10 ^ d - 10 ^ prec, by omega⟩
  have h9 : r < 9 * 10 ^ prec := by rw [Nat.pow_succ] at hm2; omega
  have hD : floorTick prec x = (10 ^ prec + r) * 10 ^ d := by unfold floorTick; rw [hd, hr]
  have hidx : idx prec x = d * (9 * 10 ^ prec) + r := by unfold idx; rw [hd, hr]; omega
  rw [hr, Nat.mul_comm] at hdm
  exact {
    down := by rw [hD, hidx, T_mk _ _ _ h9]
    le := by rw [hidx, T_mk _ _ _ h9]; omega
    lt := by rw [hidx, T_mk_succ _ _ _ h9, Nat.add_mul, Nat.one_mul]; omega
    digits := by
      rw [hD, hn]
      exact ndigits_eq _ _ (by rw [Nat.pow_add]; exact Nat.mul_le_mul_right _ (by omega)) (by omega)
    prec_le := hL
    mant_ge := by rw [hd]; exact hm1
    mant_lt := by rw [hd]; exact hm2 }

/-! ### `idx` is the lower adjoint of `T` on `[10^prec, ∞)` -/

theorem T_le_iff_le_idx (prec : Nat) {x : Nat} (hx : 10 ^ prec ≤ x) (k : Nat) : T prec k ≤ x ↔ k ≤ idx prec x := by
  have c := grid_cell prec x hx
  constructor
  · intro h
    by_contra hc
    have := T_mono prec (by omega : idx prec x + 1 ≤ k)
    have := c.lt
    omega
  · intro h; exact Nat.le_trans (T_mono prec h) c.le

theorem lt_T_iff_idx_lt (prec : Nat) {x : Nat} (hx : 10 ^ prec ≤ x) (k : Nat) : x < T prec k ↔ idx prec x < k := by
  have := T_le_iff_le_idx prec hx k
  omega

theorem idx_T (prec k : Nat) : idx prec (T prec k) = k := by
  have h1 := (T_le_iff_le_idx prec (pow_le_T prec k) k).mp (Nat.le_refl _)
  have h2 := (T_le_iff_le_idx prec (pow_le_T prec k) (idx prec (T prec k))).mpr (Nat.le_refl _)
  have := (T_le_iff prec).mp h2
  omega

theorem floorTick_T (prec k : Nat) : floorTick prec (T prec k) = T prec k := by
  rw [(grid_cell prec _ (pow_le_T prec k)).down, idx_T]

/-- the least index whose tick is not below `x`: `x ≤ T k ↔ ceilIdx x ≤ k` (`le_T_iff`); `PriceToUpTick` is `T ∘ ceilIdx` -/
def ceilIdx (prec x : Nat) : Nat := if floorTick prec x = x then idx prec x else idx prec x + 1

theorem le_T_iff (prec : Nat) {x : Nat} (hx : 10 ^ prec ≤ x) (k : Nat) : x ≤ T prec k ↔ ceilIdx prec x ≤ k := by
  have c := grid_cell prec x hx
  have h := lt_T_iff_idx_lt prec hx k
  unfold ceilIdx
  split
  · rename_i he
    rw [c.down] at he
    have := T_le_iff prec (i := idx prec x) (j := k)
    rwa [he] at this
  · rename_i he
    rw [c.down] at he
    constructor
    · intro hle
      rcases Nat.lt_or_eq_of_le hle with hl | hl
      · exact h.mp hl
      · exact absurd (by rw [hl, idx_T]) he
    · intro hk; exact Nat.le_of_lt (h.mpr hk)

/-- the `if` is `RoundPrice` on naturals: the price itself if on the grid, else the tick of the even-rounded index of its cell -/
theorem round_between (prec a b x : Nat) (h1 : T prec a ≤ x) (h2 : x ≤ T prec b) :
    ∃ k, a ≤ k ∧ k ≤ b ∧
      (if x = floorTick prec x then x else T prec ((idx prec x + 1) / 2 * 2)) = T prec k := by
  have hx := Nat.le_trans (pow_le_T prec a) h1
  have c1 := (grid_cell prec x hx).down
  have hak := (T_le_iff_le_idx prec hx a).mp h1
  split
  · rename_i he
    exact ⟨idx prec x, hak, (T_le_iff prec).mp (by rw [← c1, ← he]; exact h2), by rw [← c1]; exact he⟩
  · rename_i he
    -- not a tick, so strictly below `T b`
    have hlt : idx prec x < b := (lt_T_iff_idx_lt prec hx b).mp (by
      rcases Nat.lt_or_eq_of_le h2 with h | h
      · exact h
      · exact absurd (by rw [h, floorTick_T]) he)
    exact ⟨(idx prec x + 1) / 2 * 2, by omega, by omega, rfl⟩

/-- `char (T k) − prec`, the exponent of the tick of index `k` -/
theorem ndigits_T (prec k : Nat) : ndigits (T prec k) - 1 - prec = k / (9 * 10 ^ prec) := by
  have hm1 := (grid_cell prec (T prec k) (pow_le_T prec k)).mant_ge
  have hm2 := (grid_cell prec (T prec k) (pow_le_T prec k)).mant_lt
  have hi := idx_T prec k
  unfold idx at hi
  generalize ndigits (T prec k) - 1 - prec = L at *
  generalize T prec k / 10 ^ L = m at *
  have h9 : m - 10 ^ prec < 9 * 10 ^ prec := by rw [Nat.pow_succ] at hm2; omega
  have hp : 0 < 9 * 10 ^ prec := by have := Nat.pow_pos (n := prec) (by omega : 0 < 10); omega
  rw [← hi, Nat.add_comm, Nat.add_mul_div_right _ _ hp, Nat.div_eq_of_lt h9]
  omega

/-! ## the model's functions (on `Int` raws) are the natural-number grid -/

theorem tickFromIndex_nat (prec i : Nat) : tickFromIndex (i : Int) prec = ((T prec i : Nat) : Int) := by
  unfold tickFromIndex T
  simp only
  have hq : (i : Int).tdiv (9 * 10 ^ prec) = ((i / (9 * 10 ^ prec) : Nat) : Int) := by
    rw [Int.tdiv_eq_ediv_of_nonneg (by omega)]; push_cast; rfl
  have hr : (i : Int).tmod (10 ^ prec * 9) = ((i % (9 * 10 ^ prec) : Nat) : Int) := by
    rw [Int.tmod_eq_emod_of_nonneg (by omega), Int.mul_comm]; push_cast; rfl
  rw [hq, hr]
  by_cases h : i / (9 * 10 ^ prec) = 0
  · rw [h]; simp
  · have hpos : 0 < i / (9 * 10 ^ prec) := Nat.pos_of_ne_zero h
    clear hq hr
    have : ((i / (9 * 10 ^ prec) : Nat) : Int) + (prec : Int) > (prec : Int) := by omega
    rw [if_pos this]
    have : (((i / (9 * 10 ^ prec) : Nat) : Int) + (prec : Int) - (prec : Int)).toNat = i / (9 * 10 ^ prec) := by
      omega
    rw [this]; push_cast; ring

theorem tickFromIndex_neg_one (prec : Nat) : tickFromIndex (-1) prec = 10 ^ prec - 1 := by
  unfold tickFromIndex
  simp only
  have hp : (1 : Int) ≤ 10 ^ prec := by
    have : (0 : Int) < 10 ^ prec := by positivity
    omega
  have h1 : (-1 : Int).tdiv (9 * 10 ^ prec) = 0 := by
    rw [Int.neg_tdiv, Int.tdiv_eq_ediv_of_nonneg (by omega), Int.ediv_eq_zero_of_lt (by omega) (by omega)]; rfl
  have h2 : (-1 : Int).tmod (10 ^ prec * 9) = -1 := by
    rw [Int.tmod_def, Int.mul_comm (10 ^ prec) 9, h1]; simp
  rw [h1, h2]; simp; ring

theorem priceToDownTick_nat (prec x : Nat) (hx : 10 ^ prec ≤ x) :
    priceToDownTick (x : Int) prec = ((floorTick prec x : Nat) : Int) := by
  have hL := (grid_cell prec x hx).prec_le
  have hn1 := (ndigits_spec x (Nat.lt_of_lt_of_le (Nat.pow_pos (by omega)) hx)).1
  unfold priceToDownTick floorTick char
  simp only [Int.toNat_natCast]
  have e : ((ndigits x : Int) - 1 - (prec : Int)) = ((ndigits x - 1 - prec : Nat) : Int) := by omega
  rw [e, Int.toNat_natCast]
  by_cases h : ndigits x - 1 - prec = 0
  · rw [h]; simp
  · have : ((ndigits x - 1 - prec : Nat) : Int) > 0 := by omega
    rw [if_pos this, Int.tdiv_eq_ediv_of_nonneg (by omega)]
    push_cast; rfl

theorem tickToIndex_nat (prec x : Nat) (hx : 10 ^ prec ≤ x) :
    tickToIndex ((floorTick prec x : Nat) : Int) prec = ((idx prec x : Nat) : Int) := by
  have hnd := (grid_cell prec x hx).digits
  have hL := (grid_cell prec x hx).prec_le
  have hm1 := (grid_cell prec x hx).mant_ge
  have hn1 := (ndigits_spec x (Nat.lt_of_lt_of_le (Nat.pow_pos (by omega)) hx)).1
  unfold tickToIndex char
  simp only [Int.toNat_natCast]
  rw [hnd]
  have e : ((ndigits x : Int) - 1 - (prec : Int)) = ((ndigits x - 1 - prec : Nat) : Int) := by omega
  rw [e, Int.toNat_natCast]
  have hpd : 0 < 10 ^ (ndigits x - 1 - prec) := Nat.pow_pos (by omega)
  have hb : floorTick prec x / 10 ^ (ndigits x - 1 - prec) = x / 10 ^ (ndigits x - 1 - prec) := by
    unfold floorTick; exact Nat.mul_div_cancel _ hpd
  have hbi : (if ((ndigits x - 1 - prec : Nat) : Int) > 0 then ((floorTick prec x : Nat) : Int).tdiv (10 ^ (ndigits x - 1 - prec))
      else ((floorTick prec x : Nat) : Int)) = ((x / 10 ^ (ndigits x - 1 - prec) : Nat) : Int) := by
    by_cases h : ndigits x - 1 - prec = 0
    · rw [h]; simp; unfold floorTick; rw [h]; simp
    · have : ((ndigits x - 1 - prec : Nat) : Int) > 0 := by omega
      rw [if_pos this, Int.tdiv_eq_ediv_of_nonneg (by omega), ← hb]
      push_cast; rfl
  rw [hbi]
  unfold idx
  push_cast [Nat.cast_sub hm1]
  ring

theorem roundTickIndex_nat (k : Nat) : roundTickIndex (k : Int) = (((k + 1) / 2 * 2 : Nat) : Int) := by
  unfold roundTickIndex
  rw [Int.tdiv_eq_ediv_of_nonneg (by omega)]
  push_cast; rfl

theorem roundPrice_between (prec a b x : Nat) (h1 : T prec a ≤ x) (h2 : x ≤ T prec b) :
    ∃ k, a ≤ k ∧ k ≤ b ∧ roundPrice (x : Int) prec = ((T prec k : Nat) : Int) := by
  have hx : 10 ^ prec ≤ x := Nat.le_trans (pow_le_T prec a) h1
  obtain ⟨k, hk1, hk2, hk3⟩ := round_between prec a b x h1 h2
  refine ⟨k, hk1, hk2, ?_⟩
  unfold roundPrice
  simp only
  rw [priceToDownTick_nat prec x hx, tickToIndex_nat prec x hx, roundTickIndex_nat, tickFromIndex_nat]
  by_cases he : x = floorTick prec x
  · rw [if_pos he] at hk3
    rw [if_pos (by exact_mod_cast he)]; exact_mod_cast hk3
  · rw [if_neg he] at hk3
    rw [if_neg (by exact_mod_cast he)]; exact_mod_cast hk3

theorem isTick_T (prec k : Nat) : isTick ((T prec k : Nat) : Int) prec = true := by
  unfold isTick
  rw [priceToDownTick_nat prec _ (pow_le_T prec k), floorTick_T]
  simp

/-- from index `-1` on: the downward walk of `FindMatchPrice` looks at `i - 1` -/
theorem tickFromIndex_cmp (prec k : Nat) {x : Int} (hx : -1 ≤ x) :
    (((T prec k : Nat) : Int) ≤ tickFromIndex x prec ↔ (k : Int) ≤ x) ∧
    (tickFromIndex x prec ≤ ((T prec k : Nat) : Int) ↔ x ≤ (k : Int)) := by
  obtain ⟨i, rfl⟩ | rfl : (∃ i : Nat, x = i) ∨ x = -1 := by
    rcases Int.lt_or_le x 0 with h | h
    · exact Or.inr (by omega)
    · exact Or.inl ⟨x.toNat, by omega⟩
  · rw [tickFromIndex_nat]
    exact ⟨by exact_mod_cast T_le_iff prec, by exact_mod_cast T_le_iff prec⟩
  · rw [tickFromIndex_neg_one]
    have : ((10 ^ prec : Nat) : Int) ≤ ((T prec k : Nat) : Int) := by exact_mod_cast pow_le_T prec k
    push_cast at this
    constructor <;> constructor <;> intro <;> omega

theorem tickFromIndex_mono (prec : Nat) {x y : Int} (hx : -1 ≤ x) (hxy : x ≤ y) : tickFromIndex x prec ≤ tickFromIndex y prec := by
  rcases Int.lt_or_le y 0 with h | h
  · rw [show x = y by omega]
  · obtain ⟨k, rfl⟩ : ∃ k : Nat, y = k := ⟨y.toNat, by omega⟩
    rw [tickFromIndex_nat prec k]; exact (tickFromIndex_cmp prec k hx).2.mpr hxy

/-- `HighestTick` (tick.go) is the raw value `2^300 − 1` fitted down to the grid: `highestTick_eq` -/
def hiIdx (prec : Nat) : Nat := idx prec (2 ^ 300 - 1)

/-- a tick of precision `prec`, not above the highest tick (`SInv.grid`, `PlaceOk`, `GridPrice`, `C05.OnGrid` spell it out) -/
def GridTick (prec : Nat) (p : Int) : Prop := ∃ k, k ≤ hiIdx prec ∧ p = ((T prec k : Nat) : Int)

theorem tickToIndex_lowest (prec : Nat) : tickToIndex (lowestTick prec) prec = 0 := by
  have e : lowestTick prec = ((floorTick prec (T prec 0) : Nat) : Int) := by
    rw [floorTick_T, T_zero]; unfold lowestTick; push_cast; rfl
  rw [e, tickToIndex_nat prec _ (pow_le_T prec 0), idx_T]; rfl

theorem highestTick_eq (prec : Nat) (hprec : 10 ^ prec < 2 ^ 300 - 1) :
    highestTick prec = ((T prec (hiIdx prec) : Nat) : Int) := by
  have eN : (2037035976334486086268445688409378161051468393665936250636140449354381299763336706183397375 : Nat) = 2 ^ 300 - 1 := by decide +kernel
  have e : (2037035976334486086268445688409378161051468393665936250636140449354381299763336706183397375 : Int) = (((2 ^ 300 - 1 : Nat)) : Int) := by rw [← eN]; rfl
  unfold highestTick hiIdx
  rw [e, priceToDownTick_nat prec _ (by omega), (grid_cell prec (2 ^ 300 - 1) (by omega)).down]

theorem tickToIndex_highest (prec : Nat) (hprec : 10 ^ prec < 2 ^ 300 - 1) :
    tickToIndex (highestTick prec) prec = ((hiIdx prec : Nat) : Int) ∧ 1 ≤ hiIdx prec := by
  constructor
  · rw [highestTick_eq prec hprec, ← floorTick_T prec (hiIdx prec), tickToIndex_nat prec _ (pow_le_T prec _), idx_T]
  · refine (T_le_iff_le_idx prec (by omega) 1).mp ?_
    rw [T_succ, T_zero, Nat.zero_div, Nat.pow_zero]
    omega

theorem upTick_T (prec k : Nat) : upTick ((T prec k : Nat) : Int) prec = ((T prec (k + 1) : Nat) : Int) := by
  unfold upTick
  simp only
  rw [priceToDownTick_nat prec _ (pow_le_T prec k), floorTick_T]
  simp only [if_true]
  have hpos := zero_lt_T prec k
  have hn1 := (ndigits_spec (T prec k) hpos).1
  have hL := (grid_cell prec (T prec k) (pow_le_T prec k)).prec_le
  unfold pow10 char
  simp only [Int.toNat_natCast]
  have e : ((ndigits (T prec k) : Int) - 1 - (prec : Int)) = ((ndigits (T prec k) - 1 - prec : Nat) : Int) := by omega
  rw [e, Int.toNat_natCast, ndigits_T, T_succ]
  push_cast
  rfl

theorem priceToUpTick_nat (prec x : Nat) (hx : 10 ^ prec ≤ x) :
    priceToUpTick (x : Int) prec = ((T prec (ceilIdx prec x) : Nat) : Int) := by
  have c1 := (grid_cell prec x hx).down
  unfold priceToUpTick ceilIdx
  simp only
  rw [priceToDownTick_nat prec x hx]
  by_cases h : floorTick prec x = x
  · rw [if_pos h, ← c1, h]; simp
  · rw [if_neg h]
    have hne : ((floorTick prec x : Nat) : Int) ≠ (x : Int) := by exact_mod_cast h
    rw [if_pos hne, c1, upTick_T]

theorem GridTick.pos {prec : Nat} {p : Int} (h : GridTick prec p) : 0 < p := by
  obtain ⟨k, _, rfl⟩ := h
  exact_mod_cast zero_lt_T prec k

/-- what `ValidateMsgLimitOrder` relies on: a price between the lowest and the highest tick is fitted to a tick of the grid,
downwards (`idx`) and upwards (`ceilIdx`) -/
theorem gridTick_fitted (prec x : Nat) (h1 : 10 ^ prec ≤ x) (h2 : x ≤ T prec (hiIdx prec)) :
    GridTick prec (priceToDownTick (x : Int) prec) ∧ GridTick prec (priceToUpTick (x : Int) prec) := by
  have c := grid_cell prec x h1
  exact ⟨⟨idx prec x, (T_le_iff prec).mp (Nat.le_trans c.le h2), by rw [priceToDownTick_nat prec x h1, c.down]⟩,
    ⟨ceilIdx prec x, (le_T_iff prec h1 _).mp h2, priceToUpTick_nat prec x h1⟩⟩

theorem fitted_price_within_limit (prec x : Nat) (hx : 10 ^ prec ≤ x) :
    priceToDownTick (x : Int) prec ≤ (x : Int) ∧ (x : Int) ≤ priceToUpTick (x : Int) prec := by
  have c := grid_cell prec x hx
  constructor
  · rw [priceToDownTick_nat prec x hx, c.down]; exact_mod_cast c.le
  · rw [priceToUpTick_nat prec x hx]; exact_mod_cast (le_T_iff prec hx _).mpr (Nat.le_refl _)

end Comdex.Amm
