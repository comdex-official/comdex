import Comdex.Lemmas.LiqEffect
/-!
What a handler of the liquidity ledger model cannot touch.  The module has two sides: the order side (orders, pairs, market-making
indexes; pair escrows, swap-fee collectors) and the pool side (pools, requests, farmers; global escrow, module account, reserves).
They share the users and the creation-fee collector and nothing else.  `OrderStep` / `PoolStep` say that a transition stayed on its
side, `Moves A` that the bank changed only between accounts of class `A`; the frame facts of the invariants are projections of
these.  The payments of a batch work on both sides (`BankOnly`, `PoolSame`).
-/
namespace Comdex.LiqLedger

def Acct.ghost : Acct → Bool
  | .mIn _ _ | .mOut _ _ => true
  | _ => false

/-- (the creation-fee collector is paid by `MsgCreatePair`, hence on both sides) -/
def Acct.orderSide : Acct → Bool
  | .user _ | .pairEscrow _ _ | .swapFee _ _ | .feeColl _ => true
  | _ => false

def Acct.poolSide : Acct → Bool
  | .user _ | .gEscrow | .module | .reserve _ _ | .feeColl _ => true
  | _ => false

/-- who the payments of a batch touch: orderers, pair escrows and their flow accounts, pool reserves, the dust collector -/
def Acct.batchSide : Acct → Bool
  | .gEscrow | .module | .feeColl _ | .swapFee _ _ => false
  | _ => true

def Acct.any (_ : Acct) : Bool := true

/-- the model only ever sends between accounts of different kinds; the kinds are compared by constructor index so that the
condition evaluates by `rfl` on accounts with variables inside (`.user u` against `.pairEscrow a p`), which `f ≠ t` would not -/
def sendOk (A : Acct → Bool) (f t : Acct) : Bool := A f && A t && !f.ghost && !t.ghost && f.ctorIdx != t.ctorIdx

theorem sendOk_spec {A : Acct → Bool} {f t : Acct} (h : sendOk A f t = true) :
    A f = true ∧ A t = true ∧ f.ghost = false ∧ t.ghost = false ∧ f ≠ t := by
  simp only [sendOk, Bool.and_eq_true, Bool.not_eq_true', bne_iff_ne] at h
  exact ⟨h.1.1.1.1, h.1.1.1.2, h.1.1.2, h.1.2, fun e => h.2 (e ▸ rfl)⟩

/-- who a pair escrow pays in a batch: orderers, pool reserves, the dust collector -/
def Acct.payee : Acct → Bool
  | .user _ | .reserve _ _ | .dust _ => true
  | _ => false

inductive Moves (A : Acct → Bool) : Bank → Bank → Prop
  | refl (b : Bank) : Moves A b b
  | trans {a b c : Bank} : Moves A a b → Moves A b c → Moves A a c
  | send {b b' : Bank} (f t : Acct) (d : Denom) (n : Nat) : sendOk A f t = true → b.send f t d n = some b' → Moves A b b'
  | mint (b : Bank) (a p n : Nat) : A .module = true → Moves A b (b.add .module (.pool a p) n)
  | burn (b : Bank) (a p n : Nat) : A .module = true → Moves A b (b.set (.module, .pool a p) (b.get (.module, .pool a p) - n))
  | credit (b : Bank) (g : Acct) (d : Denom) (n : Nat) : A g = true → g.ghost = true → Moves A b (b.add g d n)

theorem Moves.mono {A B : Acct → Bool} (hAB : ∀ x, A x = true → B x = true) {b b' : Bank} (h : Moves A b b') : Moves B b b' := by
  induction h with
  | refl _ => exact .refl _
  | trans _ _ ih1 ih2 => exact ih1.trans ih2
  | send f t d n hok hs =>
    obtain ⟨h1, h2, h3, h4, h5⟩ := sendOk_spec hok
    refine .send f t d n ?_ hs
    simp only [sendOk, hAB f h1, hAB t h2, h3, h4, Bool.not_false, Bool.and_self, Bool.true_and, bne_iff_ne]
    exact fun e => by
      simp only [sendOk, Bool.and_eq_true, bne_iff_ne] at hok
      exact hok.2 e
  | mint b a p n hm => exact .mint b a p n (hAB _ hm)
  | burn b a p n hm => exact .burn b a p n (hAB _ hm)
  | credit b g d n hg hgh => exact .credit b g d n (hAB _ hg) hgh

theorem Moves.get_of_not {A : Acct → Bool} {b b' : Bank} (h : Moves A b b') {x : Acct} (hx : A x = false) (d : Denom) :
    b'.get (x, d) = b.get (x, d) := by
  have ne : ∀ {y : Acct} {d' : Denom}, A y = true → ¬ (y, d') = (x, d) := fun hy e => by
    rw [(Prod.mk.inj e).1, hx] at hy; cases hy
  induction h with
  | refl _ => rfl
  | trans _ _ ih1 ih2 => rw [ih2, ih1]
  | @send b b' f t d' n hok hs =>
    obtain ⟨h1, h2, -⟩ := sendOk_spec hok
    obtain ⟨-, hs⟩ := Option.ite_none_right_eq_some.mp hs
    cases hs
    simp only [Bank.get_set, ne h1, ne h2, if_false]
  | mint b a p n hm => simp only [Bank.get_add, ne hm, if_false]
  | burn b a p n hm => simp only [Bank.get_set, ne hm, if_false]
  | credit b g d' n hg _ => simp only [Bank.get_add, ne hg, if_false]

theorem Moves.of_send {A : Acct → Bool} {s s' : State} {f t : Acct} {d : Denom} {n : Nat} (hok : sendOk A f t = true)
    (h : s.send f t d n = some s') : Moves A s.bank s'.bank := by
  obtain ⟨b', hb, rfl⟩ := State.send_eq h
  exact .send f t d n hok hb

theorem Moves.of_burn {A : Acct → Bool} (hm : A .module = true) {s s' : State} {a p n : Nat} (h : s.burn a p n = some s') :
    Moves A s.bank s'.bank := by
  obtain ⟨q, -, -, -, rfl⟩ := burn_eff h
  exact .burn _ a p _ hm

structure OrdSame (s s' : State) : Prop where
  orders : s'.orders = s.orders
  pairs : s'.pairs = s.pairs
  mm : s'.mm = s.mm

structure PoolSame (s s' : State) : Prop where
  pools : s'.pools = s.pools
  deps : s'.deps = s.deps
  wdrs : s'.wdrs = s.wdrs
  farmers : s'.farmers = s.farmers

structure OrderStep (s s' : State) : Prop where
  bank : Moves Acct.orderSide s.bank s'.bank
  pool : PoolSame s s'

structure PoolStep (s s' : State) : Prop where
  bank : Moves Acct.poolSide s.bank s'.bank
  ord : OrdSame s s'

theorem PoolSame.refl (s : State) : PoolSame s s := ⟨rfl, rfl, rfl, rfl⟩

theorem PoolSame.trans {s1 s2 s3 : State} (h1 : PoolSame s1 s2) (h2 : PoolSame s2 s3) : PoolSame s1 s3 :=
  ⟨h2.pools.trans h1.pools, h2.deps.trans h1.deps, h2.wdrs.trans h1.wdrs, h2.farmers.trans h1.farmers⟩

theorem OrdSame.refl (s : State) : OrdSame s s := ⟨rfl, rfl, rfl⟩

theorem OrdSame.trans {s1 s2 s3 : State} (h1 : OrdSame s1 s2) (h2 : OrdSame s2 s3) : OrdSame s1 s3 :=
  ⟨h2.orders.trans h1.orders, h2.pairs.trans h1.pairs, h2.mm.trans h1.mm⟩

theorem OrdSame.of_send {s s' : State} {f t : Acct} {d : Denom} {n : Nat} (h : s.send f t d n = some s') : OrdSame s s' :=
  ⟨(State.send_fields h).orders, (State.send_fields h).pairs, (State.send_fields h).mm⟩

theorem OrderStep.refl (s : State) : OrderStep s s := ⟨.refl _, .refl _⟩

theorem OrderStep.trans {s1 s2 s3 : State} (h1 : OrderStep s1 s2) (h2 : OrderStep s2 s3) : OrderStep s1 s3 :=
  ⟨h1.bank.trans h2.bank, h1.pool.trans h2.pool⟩

theorem OrderStep.of_eq {s s' : State} (hb : s'.bank = s.bank) (hp : s'.pools = s.pools) (hd : s'.deps = s.deps)
    (hw : s'.wdrs = s.wdrs) (hf : s'.farmers = s.farmers) : OrderStep s s' :=
  ⟨hb ▸ .refl _, ⟨hp, hd, hw, hf⟩⟩

theorem OrderStep.of_bank {s t s' : State} (h : OrderStep s t) (hb : s'.bank = t.bank) (hp : s'.pools = s.pools) (hd : s'.deps = s.deps)
    (hw : s'.wdrs = s.wdrs) (hf : s'.farmers = s.farmers) : OrderStep s s' :=
  ⟨hb ▸ h.bank, ⟨hp, hd, hw, hf⟩⟩

theorem OrderStep.of_send {s s' : State} {f t : Acct} {d : Denom} {n : Nat} (hok : sendOk Acct.orderSide f t = true)
    (h : s.send f t d n = some s') : OrderStep s s' := by
  have f := State.send_fields h
  exact ⟨.of_send hok h, ⟨f.pools, f.deps, f.wdrs, f.farmers⟩⟩

theorem OrderStep.bal {s s' : State} (h : OrderStep s s') {x : Acct} (hx : x.orderSide = false) (d : Denom) :
    s'.bal x d = s.bal x d := h.bank.get_of_not hx d

theorem PoolStep.refl (s : State) : PoolStep s s := ⟨.refl _, .refl _⟩

theorem PoolStep.trans {s1 s2 s3 : State} (h1 : PoolStep s1 s2) (h2 : PoolStep s2 s3) : PoolStep s1 s3 :=
  ⟨h1.bank.trans h2.bank, h1.ord.trans h2.ord⟩

theorem PoolStep.of_eq {s s' : State} (hb : s'.bank = s.bank) (ho : s'.orders = s.orders) (hp : s'.pairs = s.pairs)
    (hm : s'.mm = s.mm) : PoolStep s s' :=
  ⟨hb ▸ .refl _, ho, hp, hm⟩

theorem PoolStep.of_bank {s t s' : State} (h : PoolStep s t) (hb : s'.bank = t.bank) (ho : s'.orders = s.orders) (hp : s'.pairs = s.pairs)
    (hm : s'.mm = s.mm) : PoolStep s s' :=
  ⟨hb ▸ h.bank, ho, hp, hm⟩

theorem PoolStep.of_send {s s' : State} {f t : Acct} {d : Denom} {n : Nat} (hok : sendOk Acct.poolSide f t = true)
    (h : s.send f t d n = some s') : PoolStep s s' :=
  ⟨.of_send hok h, .of_send h⟩

theorem PoolStep.bal {s s' : State} (h : PoolStep s s') {x : Acct} (hx : x.poolSide = false) (d : Denom) :
    s'.bal x d = s.bal x d := h.bank.get_of_not hx d

theorem finishOrder_orderStep {cfg : Cfg} {s s' : State} {k : OKey} {st : OStatus} (h : finishOrder cfg s k st = some s') :
    OrderStep s s' := by
  obtain ⟨o, -, ⟨-, rfl⟩ | ⟨-, ac, s1, s2, -, h1, h2, rfl⟩⟩ := finishOrder_eff h
  · exact .refl _
  · exact ((OrderStep.of_send rfl h1).trans (.of_send rfl h2)).of_bank rfl rfl rfl rfl rfl

/-- zero or more `FinishOrder`s with an ending status: what cancellation, expiry and the too-small sweep do -/
inductive Ended (cfg : Cfg) : State → State → Prop
  | refl (s : State) : Ended cfg s s
  | step {s s1 s' : State} {k : OKey} {st : OStatus} : st.live = false → finishOrder cfg s k st = some s1 → Ended cfg s1 s' →
      Ended cfg s s'

theorem Ended.trans {cfg : Cfg} {s1 s2 s3 : State} (h1 : Ended cfg s1 s2) (h2 : Ended cfg s2 s3) : Ended cfg s1 s3 := by
  induction h1 with
  | refl _ => exact h2
  | step hst hf _ ih => exact .step hst hf (ih h2)

theorem Ended.one {cfg : Cfg} {s s' : State} {k : OKey} {st : OStatus} (hst : st.live = false)
    (h : s' = s ∨ finishOrder cfg s k st = some s') : Ended cfg s s' := by
  rcases h with rfl | h
  · exact .refl _
  · exact .step hst h (.refl _)

theorem Ended.rel {cfg : Cfg} {R : State → State → Prop} (refl : ∀ s, R s s) (trans : ∀ {a b c}, R a b → R b c → R a c)
    (fin : ∀ {s s' k st}, st.live = false → finishOrder cfg s k st = some s' → R s s') {s s' : State}
    (h : Ended cfg s s') : R s s' := by
  induction h with
  | refl _ => exact refl _
  | step hst hf _ ih => exact trans (fin hst hf) ih

theorem Ended.orderStep {cfg : Cfg} {s s' : State} (h : Ended cfg s s') : OrderStep s s' :=
  h.rel OrderStep.refl OrderStep.trans fun _ hf => finishOrder_orderStep hf

theorem cancelOrder_ended {cfg : Cfg} {s s' : State} {app user pair id : Nat} (h : cancelOrder cfg s app user pair id = some s') :
    Ended cfg s s' := by
  exact .one rfl (.inr (cancelOrder_eff h))

theorem cancelAllFold_ended {cfg : Cfg} {app user : Nat} {pairs : List Nat} {ks : List OKey} {s s' : State}
    (h : foldOpt (cancelAllStep cfg app user pairs) s ks = some s') : Ended cfg s s' :=
  foldOpt_rel Ended.refl Ended.trans (fun _ _ _ hs => .one rfl ((cancelAllStep_eff hs).imp And.left And.left)) h

theorem cancelAll_ended {cfg : Cfg} {s s' : State} {app user : Nat} {pairs : List Nat} (h : cancelAll cfg s app user pairs = some s') :
    Ended cfg s s' :=
  cancelAllFold_ended (cancelAll_eff h)

theorem cancelMMFold_ended {cfg : Cfg} {app : Nat} {p : Pair} {ids : List Nat} {s s' : State}
    (h : foldOpt (cancelMMStep cfg app p) s ids = some s') : Ended cfg s s' :=
  foldOpt_rel Ended.refl Ended.trans (fun _ _ _ hs => .one rfl ((cancelMMStep_eff hs).imp_left And.left)) h

theorem sweepFold_ended {cfg : Cfg} {ks : List OKey} {s s' : State} (h : foldOpt (sweep cfg) s ks = some s') : Ended cfg s s' :=
  foldOpt_rel Ended.refl Ended.trans (fun _ _ _ hs => .one rfl (sweep_eff hs)) h

theorem cancelMMCore_ended {cfg : Cfg} {s s' : State} {app user : Nat} {p : Pair} {skip : Bool}
    (h : cancelMMCore cfg s app user p skip = some s') :
    ∃ s1, Ended cfg s s1 ∧ s' = { s1 with mm := s'.mm } := by
  obtain ⟨idx, s1, -, h1, rfl⟩ | ⟨-, rfl⟩ := cancelMMCore_eff h
  · exact ⟨s1, cancelMMFold_ended h1, rfl⟩
  · exact ⟨_, .refl _, rfl⟩

theorem cancelMMCore_orderStep {cfg : Cfg} {s s' : State} {app user : Nat} {p : Pair} {skip : Bool}
    (h : cancelMMCore cfg s app user p skip = some s') : OrderStep s s' := by
  obtain ⟨s1, he, hs⟩ := cancelMMCore_ended h
  rw [hs]
  exact he.orderStep.trans (.of_eq rfl rfl rfl rfl rfl)

theorem poolPayIn_bankOnly {p : Pair} {s s' : State} {f : PoolFlow} (h : poolPayIn p s f = some s') : BankOnly s s' := by
  obtain ⟨s1, h1, rfl⟩ := poolPayIn_eff h; exact (State.send_fields h1).trans (.credit ..)

theorem poolPayIn_moves {p : Pair} {s s' : State} {f : PoolFlow} (h : poolPayIn p s f = some s') :
    Moves Acct.batchSide s.bank s'.bank := by
  obtain ⟨s1, h1, rfl⟩ := poolPayIn_eff h; exact (Moves.of_send rfl h1).trans (.credit _ _ _ _ rfl rfl)

theorem payOut_moves {s s1 : State} {a p : Nat} {t : Acct} {d : Denom} {n : Nat} (ht : t.payee = true)
    (h : s.send (.pairEscrow a p) t d n = some s1) : Moves Acct.batchSide s.bank (s1.credit (.mOut a p) d n).bank :=
  (Moves.of_send (by
    cases t with
    | user | reserve | dust => rfl
    | _ => cases ht) h).trans (.credit _ _ _ _ rfl rfl)

theorem BankOnly.ordSame {s s' : State} (h : BankOnly s s') : OrdSame s s' := ⟨h.orders, h.pairs, h.mm⟩

theorem BankOnly.poolSame {s s' : State} (h : BankOnly s s') : PoolSame s s' := ⟨h.pools, h.deps, h.wdrs, h.farmers⟩

theorem fillOrder_poolSame {cfg : Cfg} {p : Pair} {s s' : State} {f : Fill} (h : fillOrder cfg p s f = some s') : PoolSame s s' := by
  obtain ⟨o, s1, -, -, -, -, rfl, rfl | hf⟩ := fillOrder_eff h
  · exact ⟨rfl, rfl, rfl, rfl⟩
  · have g := (finishOrder_orderStep hf).pool  -- from the state with the fill booked, whose pool-side fields are those of `s`
    exact ⟨g.pools, g.deps, g.wdrs, g.farmers⟩

theorem failDep_poolStep {s s' : State} {r : DepReq} (h : failDep s r = some s') : PoolStep s s' := by
  obtain ⟨s1, s2, h1, h2, rfl⟩ := failDep_eff h
  exact ((PoolStep.of_send rfl h1).trans (.of_send rfl h2)).of_bank rfl rfl rfl rfl

theorem failWdr_poolStep {s s' : State} {r : WdrReq} (h : failWdr s r = some s') : PoolStep s s' := by
  obtain ⟨s1, h1, rfl⟩ := failWdr_eff h
  exact (PoolStep.of_send rfl h1).of_bank rfl rfl rfl rfl

end Comdex.LiqLedger
