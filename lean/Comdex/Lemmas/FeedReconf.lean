import Comdex.Lemmas.Feed
import Comdex.Lemmas.TwaSegment
/-! The chain under governance (C17): a chain history seen from one asset is a history of that asset's window with
reconfigurations, each of which finds the store emptied by the delete loop of `AddFetchPriceRecords`. -/
namespace Comdex.Feed
open Comdex.Twa

theorem mem_deleteKeys (keys : List Nat) (bk : Books) (x : Nat × Rec) :
    x ∈ deleteKeys keys bk ↔ x ∈ bk ∧ x.1 ∉ keys := by
  induction keys generalizing bk with
  | nil => simp [deleteKeys]
  | cons k t ih =>
    simp only [deleteKeys, List.foldl_cons] at ih ⊢
    rw [ih]
    simp only [Books.erase, List.mem_filter, decide_eq_true_eq, List.mem_cons, not_or]
    constructor
    · rintro ⟨⟨h1, h2⟩, h3⟩; exact ⟨h1, h2, h3⟩
    · rintro ⟨h1, h2, h3⟩; exact ⟨⟨h1, h2⟩, h3⟩

theorem deleteAllWindows_nil (bk : Books) : deleteAllWindows bk = [] := by
  apply List.eq_nil_iff_forall_not_mem.mpr
  intro x hx
  have := (mem_deleteKeys _ bk x).mp hx
  exact this.2 (List.mem_map.mpr ⟨x, this.1, rfl⟩)

theorem chainStep_configure (c : Chain) (cfg : Cfg) (h : Int) :
    chainStep c (.configure cfg h) = .ok { cfg := cfg, b := c.b.configure h, bk := [] } := by
  rw [chainStep, deleteAllWindows_nil]

theorem mem_deleteByScript (script : Nat) (bk : Books) (x : Nat × Rec) :
    x ∈ deleteByScript script bk ↔ x ∈ bk ∧ x.1 ≠ script := by
  unfold deleteByScript
  rw [mem_deleteKeys]
  constructor
  · rintro ⟨h1, h2⟩
    refine ⟨h1, fun e => h2 ?_⟩
    exact List.mem_map.mpr ⟨x, h1, e.symm⟩
  · rintro ⟨h1, h2⟩
    refine ⟨h1, fun hm => ?_⟩
    obtain ⟨_, -, e⟩ := List.mem_map.mp hm
    exact h2 e.symm

theorem erase_not_mem (bk : Books) (k : Nat) (h : k ∉ bk.map (·.1)) : bk.erase k = bk := by
  unfold Books.erase
  apply List.filter_eq_self.mpr
  intro x hx
  simp only [decide_eq_true_eq]
  intro e; exact h (List.mem_map.mpr ⟨x, hx, e⟩)

theorem deleteKeys_keeps (keys : List Nat) (bk : Books) (h : ∀ k ∈ keys, k ∉ bk.map (·.1)) : deleteKeys keys bk = bk := by
  unfold deleteKeys
  induction keys with
  | nil => rfl
  | cons k t ih =>
    simp only [List.foldl_cons]
    rw [erase_not_mem bk k (h k (by simp))]
    exact ih (fun k' hk' => h k' (by simp [hk']))

theorem deleteByScript_keeps (script : Nat) (bk : Books) (h : script ∉ bk.map (·.1)) : deleteByScript script bk = bk := by
  apply deleteKeys_keeps
  intro k hk
  obtain ⟨_, -, e⟩ := List.mem_map.mp hk
  subst e; exact h

/-- before the first proposal the feed is not validated; afterwards the window size is ≥ 1 and every stored window is
well-formed FOR THE SIZE IN FORCE -/
structure ChainInv (c : Chain) : Prop where
  unconfigured : c.b.lastBlock = 0 → c.b.validation = false
  configured : c.b.lastBlock ≠ 0 → c.cfg.N ≥ 1 ∧ BooksWf c.cfg.N c.bk

theorem genesis_inv (flag : Bool) (bk : Books) : ChainInv (Chain.genesis flag bk) :=
  ⟨fun _ => rfl, fun h => absurd rfl h⟩

abbrev Chain.window (c : Chain) (id : Nat) : CSt := { cfg := c.cfg, s := c.bk.get id }

/-- proposals carry a window size ≥ 1 (`ValidateBasic`), heights are positive, asset ids are distinct -/
def ValidOp : ChainOp → Prop
  | .configure cfg h => cfg.N ≥ 1 ∧ h > 0
  | .market h assets => h > 0 ∧ (assets.map (·.1)).Nodup
  | _ => True

instance : DecidablePred ValidOp := fun o => by cases o <;> unfold ValidOp <;> infer_instance

theorem bandBegin_lastBlock (b : Band) (h acc : Int) : (bandBegin b h acc).lastBlock = b.lastBlock := by
  -- no arm writes `lastBlock`
  unfold bandBegin
  split
  · rfl
  · split
    · rfl
    · dsimp only; split
      · rfl
      · split
        · split <;> rfl
        · rfl

theorem assetChange_lastBlock (b : Band) (q : Bool) : (b.assetChange q).lastBlock = b.lastBlock := by
  unfold Band.assetChange; split <;> rfl

theorem assetChange_validation (b : Band) (q : Bool) : (b.assetChange q).validation = b.validation := by
  unfold Band.assetChange; split <;> rfl

theorem bandBegin_unconfigured (b : Band) (h acc : Int) (h0 : b.lastBlock = 0) : bandBegin b h acc = b := by
  simp [bandBegin, sampling, h0]

theorem sampling_configured (b : Band) (h : Int) (hs : sampling b h = true) : b.lastBlock ≠ 0 := by
  intro h0; simp [sampling, h0] at hs

theorem crun_ops (c : CSt) (ops : List Op) :
    crun c (ops.map COp.op) = (run c.cfg.N c.cfg.acc c.s ops).map (fun s' => { c with s := s' }) := by
  induction ops generalizing c with
  | nil => rfl
  | cons o t ih =>
    simp only [List.map_cons, crun, cstep, run]
    cases h : step c.cfg.N c.cfg.acc c.s o with
    | error e => rfl
    | ok s1 =>
      simp only [Except.map, bind, Except.bind]
      exact ih { c with s := s1 }

theorem marketOps_height (b : Band) (h : Int) (assets : List (Nat × Bool)) (id : Nat) (r : Nat) (h' : Int)
    (hm : Op.sample r h' ∈ marketOps b h assets id) : h' = h := by
  -- the only `sample` `marketOps` emits is `Op.sample rate h` (the `fedWith` arm)
  unfold marketOps at hm
  split at hm
  · split at hm
    · rcases List.mem_append.mp hm with hm | hm
      · split at hm <;> simp at hm
      · split at hm
        · split at hm
          · simp at hm; exact hm.2
          · simp at hm
        · simp at hm
    · simp at hm
  · split at hm <;> simp at hm

def ChainOp.bandSide : ChainOp → Bool
  | .configure .. | .market .. => false
  | _ => true

theorem chainStep_bandSide (c : Chain) (o : ChainOp) (ho : o.bandSide = true) :
    ∃ b', chainStep c o = .ok { c with b := b' } ∧ b'.lastBlock = c.b.lastBlock ∧
      (c.b.lastBlock = 0 → b'.validation = c.b.validation) ∧ ∀ id, projectOp id c o = [] := by
  cases o with
  | configure | market => cases ho
  | ack i => exact ⟨_, rfl, rfl, fun _ => rfl, fun _ => rfl⟩
  | response i r => exact ⟨_, rfl, rfl, fun _ => rfl, fun _ => rfl⟩
  | assetChange q => exact ⟨_, rfl, assetChange_lastBlock c.b q, fun _ => assetChange_validation c.b q, fun _ => rfl⟩
  | band h =>
    exact ⟨_, rfl, bandBegin_lastBlock c.b h c.cfg.acc, fun e => congrArg Band.validation (bandBegin_unconfigured c.b h c.cfg.acc e),
      fun _ => rfl⟩

/-- **One chain op**: never panics from a state satisfying the invariant, keeps the invariant, and moves the window of
every asset exactly by the single-window history `projectOp` -/
theorem chainStep_spec (c : Chain) (o : ChainOp) (hinv : ChainInv c) (hv : ValidOp o) :
    ∃ c', chainStep c o = .ok c' ∧ ChainInv c' ∧
      ∀ id, crun (c.window id) (projectOp id c o) = .ok (c'.window id) := by
  obtain ⟨h0, h1⟩ := hinv
  by_cases hb : o.bandSide = true
  · obtain ⟨b', e, hl, hval, hp⟩ := chainStep_bandSide c o hb
    exact ⟨_, e, ⟨fun k => (hval (hl ▸ k)).trans (h0 (hl ▸ k)), fun k => h1 (hl ▸ k)⟩, fun id => by rw [hp]; rfl⟩
  cases o with
  | configure cfg h =>
    obtain ⟨hN, hh⟩ := hv
    refine ⟨_, chainStep_configure c cfg h, ⟨?_, ?_⟩, fun id => rfl⟩
    · intro e; simp only [Band.configure] at e; omega
    · intro _; exact ⟨hN, fun _ hx => nomatch hx⟩
  | market h assets =>
    obtain ⟨hh, hnd⟩ := hv
    by_cases hl : c.b.lastBlock = 0
    · have hval := h0 hl
      obtain ⟨hm, hw⟩ := marketBegin_unvalidated c.b c.cfg.N c.cfg.acc h assets c.bk hval
      refine ⟨{ c with b := c.b, bk := switchOff assets c.bk }, by simp only [chainStep, hm, Except.map], ⟨h0, fun e => absurd hl e⟩, fun id => ?_⟩
      simp only [projectOp, crun_ops, hw id, Except.map]
    · obtain ⟨hN, hwf⟩ := h1 hl
      obtain ⟨b', bk', hm, hwf', hlb, hvb, hw⟩ := marketBegin_window c.b c.cfg.N hN c.cfg.acc h hh assets hnd c.bk hwf
      refine ⟨{ c with b := b', bk := bk' }, by simp only [chainStep, hm, Except.map], ⟨?_, ?_⟩, fun id => ?_⟩
      · intro e; exact absurd (hlb ▸ e) hl
      · intro _; exact ⟨hN, hwf'⟩
      · simp only [projectOp, crun_ops, hw id, Except.map]
  | _ => exact absurd rfl hb

theorem chainRun_spec (ops : List ChainOp) (c : Chain) (hinv : ChainInv c) (hv : ∀ o ∈ ops, ValidOp o) :
    ∃ c', chainRun c ops = .ok c' ∧ ChainInv c' ∧
      ∀ id, crun (c.window id) (projectRun id c ops) = .ok (c'.window id) := by
  induction ops generalizing c with
  | nil => exact ⟨c, rfl, hinv, fun id => rfl⟩
  | cons o t ih =>
    obtain ⟨c1, hs, hinv1, hp1⟩ := chainStep_spec c o hinv (hv o (by simp))
    obtain ⟨c2, hr, hinv2, hp2⟩ := ih c1 hinv1 (fun o' ho' => hv o' (by simp [ho']))
    refine ⟨c2, by simp only [chainRun, hs, bind, Except.bind]; exact hr, hinv2, fun id => ?_⟩
    simp only [projectRun, hs]
    rw [crun_append, hp1 id]
    exact hp2 id

theorem projectOp_valid (id : Nat) (c : Chain) {o : ChainOp} (hv : ValidOp o) : ValidC (projectOp id c o) := by
  cases o with
  | configure cfg h =>
    exact ⟨fun c' hm => (by cases List.mem_singleton.mp hm; exact hv.1), fun _ _ hm => (nomatch List.mem_singleton.mp hm)⟩
  | market h assets =>
    refine ⟨fun c' hm => ?_, fun r h' hm => ?_⟩
    · obtain ⟨_, -, e⟩ := List.mem_map.mp hm; cases e
    · obtain ⟨x, hx, e⟩ := List.mem_map.mp hm
      cases e; rw [marketOps_height _ _ _ _ _ _ hx]; exact hv.1
  | _ => exact .nil

theorem projectRun_valid (id : Nat) (ops : List ChainOp) (c : Chain) (hv : ∀ o ∈ ops, ValidOp o) :
    ValidC (projectRun id c ops) := by
  induction ops generalizing c with
  | nil => exact .nil
  | cons o t ih =>
    refine (projectOp_valid id c (hv o List.mem_cons_self)).append ?_
    split
    · exact ih _ fun o' ho' => hv o' (List.mem_cons_of_mem _ ho')
    · exact .nil

theorem configure_projects (id : Nat) (ops : List ChainOp) (c c' : Chain) (cfg : Cfg) (h : Int)
    (hm : ChainOp.configure cfg h ∈ ops) (hr : chainRun c ops = .ok c') : COp.reconfigure cfg ∈ projectRun id c ops := by
  induction ops generalizing c with
  | nil => cases hm
  | cons o t ih =>
    simp only [chainRun] at hr
    cases hs : chainStep c o with
    | error e => rw [hs] at hr; cases hr
    | ok c1 =>
      rw [hs] at hr
      simp only [projectRun, hs, List.mem_append]
      rcases List.mem_cons.mp hm with h1 | h1
      · subst h1; exact Or.inl (by simp [projectOp])
      · exact Or.inr (ih c1 h1 hr)

end Comdex.Feed
