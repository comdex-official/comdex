import Comdex.Lemmas.DutchV2
/-!
The part of the debt ledger that holds for EVERY history, also with several limit bids at one premium (`InvW`; `W`: the weaker
ledger, the weaker well-formedness `WfOpW`).  `LimitOrderBid` passes the auction value it read BEFORE its loop to every
`PlaceDutchAuctionBid` (D7); every write of the record is `value passed in − own fill`, and a value passed in, stale or not,
satisfies `paid so far + a.debt ≥ target` (`Stale.cover`) because `paid` only grows.  After a close the remainder
`paid + need − target ≥ 0` (`need`: what closing bids asked from the app reserve, `short` of it silently not delivered, D23) stays in
the module account: it is what D7 collects twice, and 0 under `Inv`.  The collateral side has no such invariant (with D7 the module
hands out other positions' collateral: `C10.bidders_receive_le_collateral_counterexample`).
-/
namespace Comdex.DutchV2

/-- what must be true of an auction VALUE handed to `PlaceDutchAuctionBid`, be it the stored record or a stale copy of it -/
structure Stale (e : Env) (s : St) (a : Auc) : Prop where
  cover : e.target ≤ s.paid + a.debt
  debt_nonneg : 0 ≤ a.debt
  bonus : 0 ≤ a.bonus
  price : (0 : Int) ≤ a.price
  init : (0 : Int) ≤ a.init
  window : a.end_ = a.start + e.T

structure InvW (e : Env) (s : St) : Prop where
  paid_nonneg : 0 ≤ s.paid
  short_nonneg : 0 ≤ s.short
  short_le : s.short ≤ s.need
  booked_nonneg : 0 ≤ s.booked
  esm_nonneg : 0 ≤ s.esmOut
  open_ : ∀ a, s.auc = some a → s.need = 0 ∧ Stale e s a ∧
      s.bank.get .auction .debt + s.short + s.esmOut = s.otherD + s.booked + s.paid
  closed : s.auc = none → e.target ≤ s.paid + s.need ∧
      s.bank.get .auction .debt + s.short + s.esmOut + e.target = s.otherD + s.booked + s.paid + s.need

theorem InvW.stale {e : Env} {s : St} {a : Auc} (hi : InvW e s) (ha : s.auc = some a) : Stale e s a := (hi.open_ a ha).2.1

theorem Stale.mono {e : Env} {s s' : St} {a : Auc} (h : Stale e s a) (hp : s.paid ≤ s'.paid) : Stale e s' a :=
  ⟨by have := h.cover; omega, h.debt_nonneg, h.bonus, h.price, h.init, h.window⟩

theorem apply_w {e : Env} {s s' : St} {a : Auc} {who : Nat} {p : Plan} {auto : Bool}
    (hi : InvW e s) (hst : Stale e s a) (hp : PlanOK a p) (h : apply e s a who p auto = .ok s') :
    InvW e s' ∧ s'.paid = s.paid + p.pay ∧ s'.otherD = (if auto then s.otherD - p.pay else s.otherD) ∧
    s'.esmOut = s.esmOut := by
  -- `apply` only checks that there IS a record: the ledger facts come from it, the plan from the (possibly stale) value `a`
  obtain ⟨a0, ha0⟩ := Option.isSome_iff_exists.mp (apply_shape h).1
  obtain ⟨on, -, oled⟩ := hi.open_ a0 ha0
  obtain ⟨b2, r, g, hg0, hgN, hb2, s2, rfl, hcl⟩ := apply_ok hp h
  have hd2 : b2.get .auction .debt = s.bank.get .auction .debt + g + (if auto then 0 else p.pay) := by simp [hb2, xfer]
  have hod := otherD_auto auto s.otherD p.pay
  have h1 := hi.paid_nonneg; have h2 := hi.short_nonneg; have h3 := hi.short_le; have h4 := hst.cover
  have h5 := hp.pay_nonneg
  clear hb2 h ha0
  rcases hcl with ⟨hc, s3, b4, hd, d4, rfl⟩ | ⟨hc, rfl⟩
  · obtain ⟨-, hbk, -, hdebt⟩ := distribute_frame hd
    simp only [] at hbk hdebt
    have e2 : b4.get .auction .debt = s3.bank.get .auction .debt := by simp [d4, xfer]
    have hN := hp.draw_add_pay hc
    have h6 := hi.booked_nonneg
    clear d4 hd
    refine ⟨?_, rfl, rfl, rfl⟩
    generalize (if p.clipped then p.need else 0) = N at *
    generalize (if auto then s.otherD - p.pay else s.otherD) = od at *
    generalize (if auto then 0 else p.pay) = pay' at *
    refine ⟨Int.add_nonneg h1 h5, ?_, ?_, ?_, hi.esm_nonneg, fun a' ha' => (by cases ha'), fun _ => ⟨?_, ?_⟩⟩
    · show 0 ≤ s.short + (N - g); clear * - h2 hgN; omega
    · show s.short + (N - g) ≤ s.need + N; clear * - h3 hg0; omega
    · show 0 ≤ s3.booked; clear * - h6 hbk; omega
    · show e.target ≤ s.paid + p.pay + (s.need + N); clear * - h4 hN on; omega
    · show b4.get .auction .debt + (s.short + (N - g)) + s.esmOut + e.target = od + s3.booked + (s.paid + p.pay) + (s.need + N)
      clear * - e2 hdebt hd2 hod oled on hN; omega
  · have hlt := hp.pay_lt hc
    have h7 := hp.share_le
    refine ⟨?_, rfl, rfl, rfl⟩
    rw [hp.partial_unclipped hc] at hgN ⊢
    simp only [Bool.false_eq_true, if_false] at hgN ⊢
    generalize (if auto then s.otherD - p.pay else s.otherD) = od at *
    generalize (if auto then 0 else p.pay) = pay' at *
    refine ⟨Int.add_nonneg h1 h5, ?_, ?_, hi.booked_nonneg, hi.esm_nonneg, fun a' ha' => ?_, fun hn => (by cases hn)⟩
    · show 0 ≤ s.short + (0 - g); clear * - h2 hgN hg0; omega
    · show s.short + (0 - g) ≤ s.need + 0; clear * - h3 hg0; omega
    · cases ha'
      refine ⟨?_, ⟨?_, ?_, ?_, hst.price, hst.init, hst.window⟩, ?_⟩
      · show s.need + 0 = 0; clear * - on; omega
      · show e.target ≤ s.paid + p.pay + (a.debt - p.pay); clear * - h4; omega
      · show 0 ≤ a.debt - p.pay; clear * - hlt; omega
      · show 0 ≤ a.bonus - p.share; clear * - h7; omega
      · show b2.get .auction .debt + (s.short + (0 - g)) + s.esmOut = od + s.booked + (s.paid + p.pay)
        clear * - hd2 hod oled hg0 hgN; omega

theorem placeBid_w {e : Env} {s s' : St} {a : Auc} {who : Nat} {amt dt : Int} {auto : Bool}
    (hw : WfEnv e) (hi : InvW e s) (hst : Stale e s a) (hdt : 0 ≤ dt)
    (h : placeBid e s a who amt dt auto = .ok s') :
    InvW e s' ∧ s.paid ≤ s'.paid ∧ s'.paid ≤ s.paid + a.debt ∧
    s'.otherD = (if auto then s.otherD - (s'.paid - s.paid) else s.otherD) := by
  obtain ⟨p, hp, h⟩ := placeBid_ok h
  have hpo := plan_ok hp hst.bonus (debtPrice_nonneg e dt hdt) hw.decD_pos hst.price hw.decC_pos
  obtain ⟨i, e1, e2, -⟩ := apply_w hi hst hpo h
  have h1 := hpo.pay_nonneg; have h2 := hpo.pay_le
  refine ⟨i, by omega, by omega, ?_⟩
  rw [e2, e1, show s.paid + p.pay - s.paid = p.pay by omega]

theorem fillLoop_w {e : Env} {a : Auc} {dt : Int} (hw : WfEnv e) (hdt : 0 ≤ dt) :
    ∀ (l : List LBid) (s s' : St), InvW e s → Stale e s a → fillLoop e a dt s l = .ok s' → InvW e s' ∧ s.paid ≤ s'.paid := by
  intro l
  induction l with
  | nil => intro s s' hi _ h; rw [fillLoop_nil h]; exact ⟨hi, Int.le_refl _⟩
  | cons hd tl ih =>
    intro s s' hi hst h
    obtain ⟨pr, who, amt⟩ := hd
    obtain ⟨s1, hs1, h⟩ := fillLoop_cons h
    obtain ⟨i1, m1, -, -⟩ := placeBid_w hw hi hst hdt hs1
    rcases h with rfl | h
    · exact ⟨i1, m1⟩
    · obtain ⟨i2, m2⟩ := ih s1 s' i1 (hst.mono m1) h
      exact ⟨i2, Int.le_trans m1 m2⟩

/-- well-formed operation WITHOUT the "one limit bid per premium" clause -/
def WfOpW (_e : Env) : Op → Prop
  | .bid _ _ dt => 0 ≤ dt
  | .tick _ twaC _ twaD _ _ => 0 ≤ twaC ∧ 0 ≤ twaD
  | .tickEsm _ twaC _ twaD _ _ => 0 ≤ twaC ∧ 0 ≤ twaD
  | .reserve _ _ => True
  | .limit _ _ _ => True

theorem triggerEsm_w {e : Env} {s s' : St} {a : Auc} (hi : InvW e s) (ha : s.auc = some a) (h : triggerEsm e s a = .ok s') :
    InvW e s' := by
  obtain ⟨b, toBurn, fee, h0, h1, hsum, hb, rfl⟩ := triggerEsm_ok h
  obtain ⟨on, ost, oled⟩ := hi.open_ a ha
  have hd : b.get .auction .debt = s.bank.get .auction .debt - toBurn - fee := by simp [hb, xfer]; omega
  have h2 := hi.esm_nonneg
  refine ⟨hi.paid_nonneg, hi.short_nonneg, hi.short_le, hi.booked_nonneg, ?_, fun a' ha' => ?_, fun hn => ?_⟩
  · show 0 ≤ s.esmOut + toBurn + fee; clear * - h0 h1 h2; omega
  · cases ha.symm.trans ha'
    refine ⟨on, ost.mono (Int.le_refl _), ?_⟩
    show b.get .auction .debt + s.short + (s.esmOut + toBurn + fee) = s.otherD + s.booked + s.paid
    clear * - hd oled; omega
  · cases ha.symm.trans hn

theorem InvW.deposit {e : Env} {s : St} {b : Bank} {r : Option Int} {k : Int} (hi : InvW e s)
    (hd : b.get .auction .debt = s.bank.get .auction .debt + k) :
    InvW e { s with bank := b, reserve := r, otherD := s.otherD + k } := by
  refine ⟨hi.paid_nonneg, hi.short_nonneg, hi.short_le, hi.booked_nonneg, hi.esm_nonneg, fun a ha => ?_, fun hn => ?_⟩
  · obtain ⟨on, ost, oled⟩ := hi.open_ a ha
    exact ⟨on, ost.mono (Int.le_refl _),
      by show b.get _ _ + s.short + s.esmOut = s.otherD + k + s.booked + s.paid; omega⟩
  · obtain ⟨c1, c2⟩ := hi.closed hn
    exact ⟨c1, by show b.get _ _ + s.short + s.esmOut + e.target = s.otherD + k + s.booked + s.paid + s.need; omega⟩

theorem did_w {e : Env} {s s' : St} {op : Op} (hw : WfEnv e) (hop : WfOpW e op) (h : Did e op s s') (hi : InvW e s) : InvW e s' := by
  have upd {a a' : Auc} {now twaC twaD : Int} {actC actD : Bool} (ha : s.auc = some a) (hit : iterate e a now twaC actC twaD actD = .ok a')
      (htw : 0 ≤ twaC) : InvW e { s with auc := some a' } := by
    obtain ⟨on, ost, oled⟩ := hi.open_ _ ha
    obtain ⟨-, i2, i3, i4, i5, i6⟩ := iterate_ok hw hit htw ost.init ost.window
    refine ⟨hi.paid_nonneg, hi.short_nonneg, hi.short_le, hi.booked_nonneg, hi.esm_nonneg, fun a'' h'' => ?_, fun hn => by cases hn⟩
    cases h''
    exact ⟨on, ⟨i2 ▸ ost.cover, i2 ▸ ost.debt_nonneg, i3 ▸ ost.bonus, i4, i5, i6⟩, oled⟩
  cases h with
  | skip => exact hi
  | bid ha h => exact (placeBid_w hw hi (hi.stale ha) hop h).1
  | update ha hit | updateEsm ha hit => exact upd ha hit hop.1
  | esm ha _ ht => exact triggerEsm_w hi ha ht
  | fill ha h | fillEsm ha h => exact (fillLoop_w hw hop.2 _ _ _ hi (hi.stale ha) h).1
  | deposit dst r k hb hk =>
    refine hi.deposit ?_
    rcases hk with ⟨rfl, rfl⟩ | ⟨rfl, rfl⟩ <;> simp [hb, xfer]

theorem step_w {e : Env} {s : St} {op : Op} (hw : WfEnv e) (hi : InvW e s) (hop : WfOpW e op) : InvW e (step e s op) :=
  have ⟨_, h1, h2⟩ := step_did e s op
  did_w hw hop h2 (did_w hw hop h1 hi)

theorem run_w {e : Env} (hw : WfEnv e) (ops : List Op) (s : St) (hi : InvW e s) (hops : ∀ op ∈ ops, WfOpW e op) :
    InvW e (run e s ops) :=
  foldl_induction (f := step e) (step_w hw) hi hops

/-- where both ledgers hold the remainder `paid + need − target` of the all-history ledger is 0 -/
theorem Inv.remainder_zero {e : Env} {s : St} (hi : Inv e s) (hw : InvW e s) (hc : s.auc = none) (he : s.esmOut = 0) :
    s.paid + s.need = e.target := by
  obtain ⟨_, _, _, c4⟩ := hi.closed hc
  obtain ⟨_, w2⟩ := hw.closed hc
  omega

end Comdex.DutchV2
