import Comdex.Lemmas.LiqBasic
import Comdex.Lemmas.Inversion
import Comdex.Lemmas.KeyedRecs
/-!
What each handler of the liquidity ledger model does when it accepts: the values it read, the sends, and the returned state written
over the tables of the state before (a send changes the bank only, `BankOnly.eq`), so that a table the handler leaves alone is the
same term on both sides.  Of the conditions under which it accepts, a statement keeps those that some proof reads (which branch was
taken, lookups, the bounds the ledger arithmetic needs).
Each proof inverts the nested `if` / `match` guard by guard (`match_ok` of `Lemmas/Inversion.lean` for a look-up or send that must not
fail, `Option.ite_none_left_eq_some` for a guard):
`split at h` on these bodies is far slower to check.
-/
namespace Comdex.LiqLedger

theorem finishOrder_eff {cfg : Cfg} {s s' : State} {k : OKey} {st : OStatus} (h : finishOrder cfg s k st = some s') :
    ∃ o, s.order? k = some o ∧
      (o.status.live = false ∧ s' = s ∨
       o.status.live = true ∧ ∃ ac s1 s2, cfg.app? o.app = some ac ∧
        s.send (.pairEscrow o.app o.pair) (.user o.owner) o.od (settle ac.feeRate o).1 = some s1 ∧
        s1.send (.pairEscrow o.app o.pair) (.swapFee o.app o.pair) o.od (settle ac.feeRate o).2 = some s2 ∧
        s' = { s with
          bank := s2.bank,
          orders := modBy (isO k)
            (fun o' => { o' with status := st, refunded := (settle ac.feeRate o).1, feeFwd := (settle ac.feeRate o).2 }) s.orders }) := by
  unfold finishOrder at h
  match_ok ho : s.order? k with o at h
  refine ⟨o, rfl, ?_⟩
  cases hl : o.status.live <;> simp only [hl, Bool.not_true, Bool.not_false, if_true, Bool.false_eq_true, if_false] at h
  · exact Or.inl ⟨rfl, (Option.some.inj h).symm⟩
  match_ok hac : cfg.app? o.app with ac at h
  match_ok h1 : s.send _ _ _ _ with s1 at h
  match_ok h2 : s1.send _ _ _ _ with s2 at h
  refine Or.inr ⟨rfl, ac, s1, s2, rfl, h1, h2, ?_⟩
  rw [← Option.some.inj h, ((State.send_fields h1).trans (State.send_fields h2)).eq]; rfl

theorem placeOrder_eff {cfg : Cfg} {s s' : State} {app user pair : Nat} {typ : OType} {buy : Bool}
    {msgOffer msgPrice price amount : Nat} {lifespan : Int} {ext : Bool}
    (h : placeOrder cfg s app user pair typ buy msgOffer msgPrice price amount lifespan ext = some s') :
    ∃ ac p s1, typ ≠ .mm ∧ ext = true ∧ cfg.app? app = some ac ∧ s.pair? app pair = some p ∧
      s.send (.user user) (.pairEscrow app pair) (sideIn p buy)
        (offerAmt buy price amount + feeOf ac.feeRate (offerAmt buy price amount)) = some s1 ∧
      s' = { s with
        bank := s1.bank, pairs := modBy (isPair app pair) (fun q => { q with lastOrderId := p.lastOrderId + 1 }) s.pairs,
        orders := s.orders ++ [newOrder p (p.lastOrderId + 1) user typ buy price amount (offerAmt buy price amount)
          (offerAmt buy price amount + feeOf ac.feeRate (offerAmt buy price amount)) (s.now + lifespan)] } := by
  unfold placeOrder at h
  obtain ⟨hty, h⟩ := Option.ite_none_left_eq_some.mp h
  obtain ⟨-, h⟩ := Option.ite_none_left_eq_some.mp h
  obtain ⟨-, h⟩ := Option.ite_none_left_eq_some.mp h
  match_ok hac : cfg.app? app with ac at h
  match_ok hp : s.pair? app pair with p at h
  obtain ⟨-, h⟩ := Option.ite_none_left_eq_some.mp h
  obtain ⟨-, h⟩ := Option.ite_none_left_eq_some.mp h
  obtain ⟨hext, h⟩ := Option.ite_none_left_eq_some.mp h
  obtain ⟨-, h⟩ := Option.ite_none_left_eq_some.mp h
  obtain ⟨-, h⟩ := Option.ite_none_left_eq_some.mp h
  match_ok h1 : s.send _ _ _ _ with s1 at h
  refine ⟨ac, p, s1, hty, by simpa using hext, rfl, rfl, h1, ?_⟩
  rw [← Option.some.inj h, (State.send_fields h1).eq]; rfl

theorem placeOrderMsg_eff {cfg : Cfg} {s s' : State} {app user pair : Nat} {typ : OType} {buy : Bool} {od dd : Denom}
    {msgOffer msgPrice amount : Nat} {lifespan : Int}
    (h : placeOrderMsg cfg s app user pair typ buy od dd msgOffer msgPrice amount lifespan = some s') :
    ∃ ac p price, cfg.app? app = some ac ∧ s.pair? app pair = some p ∧ orderPrice ac p typ buy msgPrice = some price ∧
      placeOrder cfg s app user pair typ buy msgOffer msgPrice price amount lifespan
        (decide (od = sideIn p buy ∧ dd = sideOut p buy ∧ od ≠ dd)) = some s' := by
  unfold placeOrderMsg at h
  match_ok hac : cfg.app? app with ac at h
  match_ok hp : s.pair? app pair with p at h
  match_ok hpr : orderPrice ac p typ buy msgPrice with price at h
  exact ⟨ac, p, price, rfl, rfl, hpr, h⟩

theorem cancelOrder_eff {cfg : Cfg} {s s' : State} {app user pair id : Nat} (h : cancelOrder cfg s app user pair id = some s') :
    finishOrder cfg s (app, pair, id) .canceled = some s' := by
  unfold cancelOrder at h
  obtain ⟨-, h⟩ := Option.ite_none_left_eq_some.mp h
  match_ok hac : cfg.app? app with ac at h
  match_ok ho : s.order? (app, pair, id) with o at h
  obtain ⟨-, h⟩ := Option.ite_none_left_eq_some.mp h
  obtain ⟨-, h⟩ := Option.ite_none_left_eq_some.mp h
  match_ok hp : s.pair? app pair with p at h
  exact (Option.ite_none_left_eq_some.mp h).2

theorem cancelAllStep_eff {cfg : Cfg} {app user : Nat} {pairs : List Nat} {s s' : State} {k : OKey}
    (h : cancelAllStep cfg app user pairs s k = some s') :
    (s' = s ∧ ∀ o p, s.order? k = some o → o.app = app ∧ o.owner = user ∧ (pairs = [] ∨ o.pair ∈ pairs) →
      s.pair? app o.pair = some p → ¬ (o.status ≠ .canceled ∧ o.batch < p.curBatch)) ∨
    (finishOrder cfg s k .canceled = some s' ∧ ∃ o p, s.order? k = some o ∧ s.pair? app o.pair = some p ∧ o.batch < p.curBatch) := by
  unfold cancelAllStep at h
  generalize ho : s.order? k = r at h
  rcases r with _ | o
  · exact Or.inl ⟨(Option.some.inj h).symm, fun _ _ e => nomatch e⟩
  obtain ⟨ha, h⟩ | ⟨ha, h⟩ := ite_eq_cases h
  · generalize hp : s.pair? app o.pair = r at h
    rcases r with _ | p
    · refine Or.inl ⟨(Option.some.inj h).symm, fun _ _ e _ hp' => ?_⟩
      cases e; rw [hp] at hp'; cases hp'
    obtain ⟨hc, h⟩ | ⟨hc, h⟩ := ite_eq_cases h
    · exact Or.inr ⟨h, o, p, rfl, hp, hc.2⟩
    · refine Or.inl ⟨(Option.some.inj h).symm, fun _ _ e _ hp' => ?_⟩
      cases e; rw [hp] at hp'; cases hp'; exact hc
  · refine Or.inl ⟨(Option.some.inj h).symm, fun _ _ e ha' _ => ?_⟩
    cases e; exact absurd ha' ha

theorem cancelAll_eff {cfg : Cfg} {s s' : State} {app user : Nat} {pairs : List Nat} (h : cancelAll cfg s app user pairs = some s') :
    foldOpt (cancelAllStep cfg app user pairs) s (s.orders.map (·.key)) = some s' := by
  unfold cancelAll at h
  obtain ⟨-, h⟩ := Option.ite_none_left_eq_some.mp h
  match_ok hac : cfg.app? app with ac at h
  exact (Option.ite_none_left_eq_some.mp h).2

theorem cancelMMStep_eff {cfg : Cfg} {app : Nat} {p : Pair} {s s' : State} {id : Nat} (h : cancelMMStep cfg app p s id = some s') :
    (s' = s ∧ ∀ o, s.order? (mmKey cfg app p.id id) = some o → o.status.live = false) ∨
    finishOrder cfg s (mmKey cfg app p.id id) .canceled = some s' := by
  unfold cancelMMStep at h
  generalize s.order? (mmKey cfg app p.id id) = r at h
  rcases r with _ | o
  · exact Or.inl ⟨(Option.some.inj h).symm, fun _ e => nomatch e⟩
  obtain ⟨-, h⟩ := Option.ite_none_left_eq_some.mp h
  obtain ⟨-, h⟩ | ⟨hl, h⟩ := ite_eq_cases h
  · exact Or.inr h
  · exact Or.inl ⟨(Option.some.inj h).symm, fun _ e => Option.some.inj e ▸ (Bool.not_eq_true _).mp hl⟩

theorem cancelMMCore_eff {cfg : Cfg} {s s' : State} {app user : Nat} {p : Pair} {skip : Bool}
    (h : cancelMMCore cfg s app user p skip = some s') :
    (∃ idx s1, findBy (isMM app p.id user) s.mm = some idx ∧ foldOpt (cancelMMStep cfg app p) s idx.ids = some s1 ∧
      s' = { s1 with mm := s1.mm.filter fun x => !isMM app p.id user x }) ∨
    (findBy (isMM app p.id user) s.mm = none ∧ s' = s) := by
  unfold cancelMMCore at h
  generalize findBy (isMM app p.id user) s.mm = r at h
  rcases r with _ | idx
  · cases skip
    · cases h
    · exact Or.inr ⟨rfl, (Option.some.inj h).symm⟩
  · dsimp only at h
    match_ok h1 : foldOpt (cancelMMStep cfg app p) s idx.ids with s1 at h
    · exact Or.inl ⟨idx, s1, rfl, h1, (Option.some.inj h).symm⟩

theorem cancelMM_eff {cfg : Cfg} {s s' : State} {app user pair : Nat} (h : cancelMM cfg s app user pair = some s') :
    ∃ p, s.pair? app pair = some p ∧ cancelMMCore cfg s app user p false = some s' := by
  unfold cancelMM at h
  obtain ⟨-, h⟩ := Option.ite_none_left_eq_some.mp h
  match_ok hp : s.pair? app pair with p at h
  exact ⟨p, rfl, h⟩

def mmOrders (p : Pair) (owner : Nat) (expireAt : Int) (buys sells : List Tick) : List Order :=
  mkMMOrders p owner true expireAt p.lastOrderId buys ++ mkMMOrders p owner false expireAt (p.lastOrderId + buys.length) sells

theorem mkMM_spec (p : Pair) (owner : Nat) (buy : Bool) (e : Int) : ∀ (ts : List Tick) (last : Nat),
    (∀ o ∈ mkMMOrders p owner buy e last ts, o.app = p.app ∧ o.pair = p.id ∧ last < o.id ∧ o.id ≤ last + ts.length ∧
      o.typ = .mm ∧ o.owner = owner ∧ o.status = .notExecuted) ∧
    ((mkMMOrders p owner buy e last ts).map Order.key).Nodup := by
  intro ts
  induction ts with
  | nil => intro last; simp [mkMMOrders]
  | cons t ts ih =>
    intro last
    obtain ⟨m, nd⟩ := ih (last + 1)
    refine ⟨?_, ?_⟩
    · intro o ho
      simp only [mkMMOrders, List.mem_cons] at ho
      rcases ho with rfl | ho
      · simp [newOrder]
      · obtain ⟨a, b, c, d, e', f⟩ := m o ho
        refine ⟨a, b, by omega, by simp only [List.length_cons]; omega, e', f⟩
    · simp only [mkMMOrders, List.map_cons, List.nodup_cons]
      refine ⟨?_, nd⟩
      intro hmem
      obtain ⟨o, ho, hk⟩ := List.mem_map.mp hmem
      obtain ⟨-, -, c, -⟩ := m o ho
      simp only [Order.key, newOrder, Prod.mk.injEq] at hk
      omega

theorem mmOrders_spec (p : Pair) (owner : Nat) (e : Int) (buys sells : List Tick) :
    (∀ o ∈ mmOrders p owner e buys sells, o.app = p.app ∧ o.pair = p.id ∧ p.lastOrderId < o.id ∧
      o.id ≤ p.lastOrderId + buys.length + sells.length ∧ o.typ = .mm ∧ o.owner = owner ∧ o.status = .notExecuted) ∧
    ((mmOrders p owner e buys sells).map Order.key).Nodup := by
  obtain ⟨mb, ndb⟩ := mkMM_spec p owner true e buys p.lastOrderId
  obtain ⟨ms, nds⟩ := mkMM_spec p owner false e sells (p.lastOrderId + buys.length)
  unfold mmOrders
  refine ⟨fun o ho => ?_, ?_⟩
  · rcases List.mem_append.mp ho with ho | ho
    · obtain ⟨a, b, c, d, r⟩ := mb o ho
      exact ⟨a, b, c, by omega, r⟩
    · obtain ⟨a, b, c, d, r⟩ := ms o ho
      exact ⟨a, b, by omega, d, r⟩
  · refine KeyedRecs.nodup_append ndb nds fun o ho n hn he => ?_
    obtain ⟨-, -, -, d, -⟩ := mb o ho
    obtain ⟨-, -, c, -⟩ := ms n hn
    simp only [Order.key, Prod.mk.injEq] at he
    omega

theorem mmOrder_eff {cfg : Cfg} {s s' : State} {app user pair : Nat} {buys sells : List Tick} {lifespan : Int} {ext : Bool}
    (h : mmOrder cfg s app user pair buys sells lifespan ext = some s') :
    ∃ p s1 s2 s3, s.pair? app pair = some p ∧ cancelMMCore cfg s app user p true = some s1 ∧
      s1.send (.user user) (.pairEscrow app pair) p.base (sumOffers sells) = some s2 ∧
      s2.send (.user user) (.pairEscrow app pair) p.quote (sumOffers buys) = some s3 ∧
      s' = { s1 with
        bank := s3.bank,
        pairs := modBy (isPair app pair) (fun q => { q with lastOrderId := p.lastOrderId + buys.length + sells.length }) s1.pairs,
        orders := s1.orders ++ mmOrders p user (s.now + lifespan) buys sells,
        mm := (s1.mm.filter fun x => !isMM app pair user x) ++
          [{ app := app, pair := pair, owner := user, ids := (mmOrders p user (s.now + lifespan) buys sells).map (·.id) }] } := by
  unfold mmOrder at h
  obtain ⟨-, h⟩ := Option.ite_none_left_eq_some.mp h
  match_ok hac : cfg.app? app with ac at h
  obtain ⟨-, h⟩ := Option.ite_none_left_eq_some.mp h
  match_ok hp : s.pair? app pair with p at h
  obtain ⟨-, h⟩ := Option.ite_none_left_eq_some.mp h
  obtain ⟨-, h⟩ := Option.ite_none_left_eq_some.mp h
  obtain ⟨-, h⟩ := Option.ite_none_left_eq_some.mp h
  match_ok hc : cancelMMCore cfg s app user p true with s1 at h
  match_ok h2 : s1.send _ _ _ _ with s2 at h
  match_ok h3 : s2.send _ _ _ _ with s3 at h
  refine ⟨p, s1, s2, s3, rfl, hc, h2, h3, ?_⟩
  rw [← Option.some.inj h, ((State.send_fields h2).trans (State.send_fields h3)).eq]; rfl

theorem mmOrderMsg_eff {cfg : Cfg} {s s' : State} {app user pair : Nat} {maxSell minSell sellAmt maxBuy minBuy buyAmt : Nat}
    {lifespan : Int} (h : mmOrderMsg cfg s app user pair maxSell minSell sellAmt maxBuy minBuy buyAmt lifespan = some s') :
    ∃ ac, cfg.app? app = some ac ∧
      mmOrder cfg s app user pair (if buyAmt ≠ 0 then mmTicks true ac.tickPrec ac.maxMMTicks minBuy maxBuy buyAmt else [])
        (if sellAmt ≠ 0 then mmTicks false ac.tickPrec ac.maxMMTicks minSell maxSell sellAmt else []) lifespan true = some s' := by
  unfold mmOrderMsg at h
  obtain ⟨-, h⟩ := Option.ite_none_left_eq_some.mp h
  obtain ⟨-, h⟩ := Option.ite_none_left_eq_some.mp h
  obtain ⟨-, h⟩ := Option.ite_none_left_eq_some.mp h
  match_ok hac : cfg.app? app with ac at h
  obtain ⟨-, h⟩ := Option.ite_none_left_eq_some.mp h
  obtain ⟨-, h⟩ := Option.ite_none_left_eq_some.mp h
  match_ok hp : s.pair? app pair with p at h
  obtain ⟨-, h⟩ := Option.ite_none_left_eq_some.mp h
  obtain ⟨-, h⟩ := Option.ite_none_left_eq_some.mp h
  obtain ⟨-, h⟩ := Option.ite_none_left_eq_some.mp h
  exact ⟨ac, rfl, h⟩

theorem createPair_eff {cfg : Cfg} {s s' : State} {app creator : Nat} {base quote : Denom} {ext : Bool}
    (h : createPair cfg s app creator base quote ext = some s') :
    ∃ (ac : AppCfg) (s1 : State), s.send (.user creator) (.feeColl app) (.coin 0) ac.pairFee = some s1 ∧
      s' = { s with bank := s1.bank, pairs := s.pairs ++
        [{ app := app, id := (s.pairs.filter (·.app == app)).length + 1, base := base, quote := quote, lastOrderId := 0, curBatch := 1 }] } := by
  unfold createPair at h
  obtain ⟨-, h⟩ := Option.ite_none_left_eq_some.mp h
  match_ok hac : cfg.app? app with ac at h
  obtain ⟨-, h⟩ := Option.ite_none_left_eq_some.mp h
  obtain ⟨-, h⟩ := Option.ite_none_left_eq_some.mp h
  match_ok h1 : s.send _ _ _ _ with s1 at h
  refine ⟨ac, s1, h1, ?_⟩
  rw [← Option.some.inj h, (State.send_fields h1).eq]

theorem createPool_eff {cfg : Cfg} {s s' : State} {app creator pair : Nat} {ranged : Bool} {dx dy ammPs : Nat} {ext : Bool}
    (h : createPool cfg s app creator pair ranged dx dy ammPs ext = some s') :
    ∃ ac p s1 s2 s3 s4 q, cfg.app? app = some ac ∧ s.pair? app pair = some p ∧
      q = { app := app, id := (s.pools.filter (·.app == app)).length + 1, pair := pair, ranged := ranged, disabled := false,
            ps := max ammPs ac.minInitSupply, lastDep := 0, lastWdr := 0 } ∧
      s.send (.user creator) (.reserve app q.id) p.quote dx = some s1 ∧
      s1.send (.user creator) (.reserve app q.id) p.base dy = some s2 ∧
      s2.send (.user creator) (.feeColl app) (.coin 0) ac.poolFee = some s3 ∧
      (s3.credit .module (.pool app q.id) q.ps).send .module (.user creator) (.pool app q.id) q.ps = some s4 ∧
      s' = { s with bank := s4.bank, pools := s.pools ++ [q] } := by
  unfold createPool at h
  obtain ⟨-, h⟩ := Option.ite_none_left_eq_some.mp h
  match_ok hac : cfg.app? app with ac at h
  match_ok hp : s.pair? app pair with p at h
  obtain ⟨-, h⟩ := Option.ite_none_left_eq_some.mp h
  obtain ⟨-, h⟩ := Option.ite_none_left_eq_some.mp h
  obtain ⟨-, h⟩ := Option.ite_none_left_eq_some.mp h
  obtain ⟨-, h⟩ := Option.ite_none_left_eq_some.mp h
  obtain ⟨-, h⟩ := Option.ite_none_left_eq_some.mp h
  match_ok h1 : s.send _ _ _ _ with s1 at h
  match_ok h2 : s1.send _ _ _ _ with s2 at h
  match_ok h3 : s2.send _ _ _ _ with s3 at h
  obtain ⟨b4, hb, rfl⟩ := State.send_eq h
  refine ⟨ac, p, s1, s2, s3, { s3 with bank := b4 }, _, rfl, rfl, rfl, h1, h2, h3, congrArg (Option.map _) hb, ?_⟩
  rw [((State.send_fields h1).trans ((State.send_fields h2).trans (State.send_fields h3))).eq]

theorem depositReq_eff {cfg : Cfg} {s s' : State} {app user pool dx dy : Nat} {ext : Bool} {id : Nat}
    (h : depositReq cfg s app user pool dx dy ext = some (s', id)) :
    ∃ q p s1 s2, s.pool? app pool = some q ∧ s.pair? app q.pair = some p ∧
      s.send (.user user) .gEscrow p.quote dx = some s1 ∧ s1.send (.user user) .gEscrow p.base dy = some s2 ∧
      s' = { s with
        bank := s2.bank, pools := modBy (isPool app pool) (fun q => { q with lastDep := id }) s.pools,
        deps := s.deps ++ [{ app := app, pool := pool, id := id, owner := user, qd := p.quote, bd := p.base,
                             dx := dx, dy := dy, status := .pending }] } := by
  unfold depositReq at h
  obtain ⟨-, h⟩ := Option.ite_none_left_eq_some.mp h
  match_ok hac : cfg.app? app with ac at h
  match_ok hq : s.pool? app pool with q at h
  obtain ⟨-, h⟩ := Option.ite_none_left_eq_some.mp h
  match_ok hp : s.pair? app q.pair with p at h
  obtain ⟨-, h⟩ := Option.ite_none_left_eq_some.mp h
  match_ok h1 : s.send _ _ _ _ with s1 at h
  match_ok h2 : s1.send _ _ _ _ with s2 at h
  obtain ⟨rfl, rfl⟩ := Prod.mk.inj (Option.some.inj h)
  refine ⟨q, p, s1, s2, rfl, hp, h1, h2, ?_⟩
  rw [((State.send_fields h1).trans (State.send_fields h2)).eq]; rfl

theorem withdrawReq_eff {cfg : Cfg} {s s' : State} {app user pool pc : Nat} {ext : Bool} {id : Nat}
    (h : withdrawReq cfg s app user pool pc ext = some (s', id)) :
    ∃ q s1, s.pool? app pool = some q ∧
      s.send (.user user) .gEscrow (.pool app pool) pc = some s1 ∧
      s' = { s with
        bank := s1.bank, pools := modBy (isPool app pool) (fun q => { q with lastWdr := id }) s.pools,
        wdrs := s.wdrs ++ [{ app := app, pool := pool, id := id, owner := user, pc := pc, status := .pending }] } := by
  unfold withdrawReq at h
  obtain ⟨-, h⟩ := Option.ite_none_left_eq_some.mp h
  match_ok hac : cfg.app? app with ac at h
  match_ok hq : s.pool? app pool with q at h
  obtain ⟨-, h⟩ := Option.ite_none_left_eq_some.mp h
  obtain ⟨-, h⟩ := Option.ite_none_left_eq_some.mp h
  match_ok h1 : s.send _ _ _ _ with s1 at h
  obtain ⟨rfl, rfl⟩ := Prod.mk.inj (Option.some.inj h)
  refine ⟨q, s1, rfl, rfl, ?_⟩
  rw [(State.send_fields h1).eq]; rfl

theorem failDep_eff {s s' : State} {r : DepReq} (h : failDep s r = some s') :
    ∃ s1 s2, s.send .gEscrow (.user r.owner) r.qd r.dx = some s1 ∧ s1.send .gEscrow (.user r.owner) r.bd r.dy = some s2 ∧
      s' = { s with bank := s2.bank, deps := modBy (isDep r.app r.pool r.id) (fun r => { r with status := .failed }) s.deps } := by
  unfold failDep at h
  match_ok h1 : s.send _ _ _ _ with s1 at h
  match_ok h2 : s1.send _ _ _ _ with s2 at h
  refine ⟨s1, s2, rfl, h2, ?_⟩
  rw [← Option.some.inj h, ((State.send_fields h1).trans (State.send_fields h2)).eq]; rfl

/-- **A deposit request that fails is refunded in full**, whatever made it fail: every refunding outcome of `Exec` is this call
on a state with the bank and the requests of the state before. -/
theorem failDep_refunds {s s' : State} {r : DepReq} (hr : findBy (isDep r.app r.pool r.id) s.deps = some r) (hne : r.qd ≠ r.bd)
    (h : failDep s r = some s') :
    s'.bal (.user r.owner) r.qd = s.bal (.user r.owner) r.qd + r.dx ∧
    s'.bal (.user r.owner) r.bd = s.bal (.user r.owner) r.bd + r.dy ∧
    (findBy (isDep r.app r.pool r.id) s'.deps).map (·.status) = some .failed ∧ s'.pools = s.pools := by
  obtain ⟨s1, s2, h1, h2, rfl⟩ := failDep_eff h
  have b1 := State.bal_send_to h1 nofun
  have b2 := State.bal_send_to h2 nofun
  refine ⟨?_, ?_, ?_, rfl⟩
  · show s2.bal _ _ = _
    rw [b2, b1, if_pos rfl, if_neg fun e => hne e.symm, Nat.add_zero]
  · show s2.bal _ _ = _
    rw [b2, b1, if_pos rfl, if_neg hne, Nat.add_zero]
  · show (findBy _ (modBy _ _ s.deps)).map _ = _
    rw [findBy_modBy_same (g := fun r : DepReq => { r with status := RStatus.failed }) (fun _ => rfl), hr]; rfl

/-- what executing the queued request `r` against pool `(a, pl)` can do: leave a request that is no longer pending alone; refund
it (`fail`) on the state as it is (pool disabled, or nothing to hand out) or with the pool just disabled (pool depleted); carry
it out (`ok`) -/
inductive Exec {ρ : Type} (fail : State → ρ → Option State) (ok : ρ → Pool → Pair → Prop) (pending : Prop) (s s' : State)
    (a pl : Nat) (r : ρ) : Prop
  | skip (hp : ¬ pending) (e : s' = s)
  | refund (hp : pending) {q : Pool} (hq : s.pool? a pl = some q) {t : State}
      (ht : t = s ∨ q.disabled = false ∧ t = s.modPool a pl fun q => { q with disabled := true }) (hf : fail t r = some s')
  | ok (hp : pending) {q : Pool} {p : Pair} (hq : s.pool? a pl = some q) (hd : q.disabled = false)
      (hpair : s.pair? a q.pair = some p) (h : ok r q p)

theorem Exec.rel {ρ : Type} {fail : State → ρ → Option State} {ok : ρ → Pool → Pair → Prop} {pending : Prop} {s s' : State}
    {a pl : Nat} {r : ρ} {R : State → State → Prop} (h : Exec fail ok pending s s' a pl r) (refl : R s s)
    (trans : ∀ {t}, R s t → R t s' → R s s')
    (hdis : R s (s.modPool a pl fun q => { q with disabled := true })) (hfail : ∀ {t}, fail t r = some s' → R t s')
    (hok : ∀ {q p}, s.pool? a pl = some q → ok r q p → R s s') : R s s' := by
  cases h with
  | skip _ e => exact e ▸ refl
  | refund _ _ ht hf =>
    rcases ht with rfl | ⟨-, rfl⟩
    · exact hfail hf
    · exact trans hdis (hfail hf)
  | ok _ hq _ _ h => exact hok hq h

theorem Exec.of_disabled {ρ : Type} {fail : State → ρ → Option State} {ok : ρ → Pool → Pair → Prop} {pending : Prop} {s s' : State}
    {a pl : Nat} {r : ρ} {q : Pool} (h : Exec fail ok pending s s' a pl r) (hp : pending) (hq : s.pool? a pl = some q)
    (hd : q.disabled = true) : fail s r = some s' := by
  cases h with
  | skip hnp _ => exact absurd hp hnp
  | refund _ hq' ht hf =>
    cases hq.symm.trans hq'
    rcases ht with rfl | ⟨hd', -⟩
    · exact hf
    · rw [hd] at hd'; cases hd'
  | ok _ hq' hd' _ _ => cases hq.symm.trans hq'; rw [hd] at hd'; cases hd'

/-- the `ok` case of `Exec` for a deposit: the sends in code order and the returned state -/
def DepOk (s s' : State) (a pl i ax ay pc : Nat) (r : DepReq) : Prop :=
  pc ≠ 0 ∧ ax ≤ r.dx ∧ ay ≤ r.dy ∧ ∃ s2 s3 s4 s5 s6,
    (s.mint a pl pc).send .gEscrow (.reserve a pl) r.qd ax = some s2 ∧
    s2.send .gEscrow (.reserve a pl) r.bd ay = some s3 ∧
    s3.send .module (.user r.owner) (.pool a pl) pc = some s4 ∧
    s4.send .gEscrow (.user r.owner) r.qd (r.dx - ax) = some s5 ∧
    s5.send .gEscrow (.user r.owner) r.bd (r.dy - ay) = some s6 ∧
    s' = { s with
      bank := s6.bank, pools := modBy (isPool a pl) (fun q => { q with ps := q.ps + pc }) s.pools,
      deps := modBy (isDep a pl i) (fun r => { r with status := .succeeded, ax := ax, ay := ay, minted := pc }) s.deps }

theorem execDeposit_exec {s s' : State} {a pl i ax ay pc : Nat} (h : execDeposit s a pl i ax ay pc = some s') :
    ∃ r, findBy (isDep a pl i) s.deps = some r ∧
      Exec failDep (fun r _ _ => DepOk s s' a pl i ax ay pc r) (r.status = .pending) s s' a pl r := by
  unfold execDeposit at h
  match_ok hr : findBy (isDep a pl i) s.deps with r at h
  refine ⟨r, rfl, ?_⟩
  by_cases hpend : r.status ≠ .pending
  · rw [if_pos hpend] at h; exact .skip hpend (Option.some.inj h).symm
  rw [if_neg hpend] at h
  have hpend := Classical.not_not.mp hpend
  match_ok hq : s.pool? a pl with q at h
  obtain ⟨hd, h⟩ | ⟨hd, h⟩ := ite_eq_cases h
  · exact .refund hpend hq (.inl rfl) h
  have hd := (Bool.not_eq_true _).mp hd
  match_ok hpair : s.pair? a q.pair with p at h
  obtain ⟨-, h⟩ | ⟨-, h⟩ := ite_eq_cases h
  · exact .refund hpend hq (.inr ⟨hd, rfl⟩) h
  obtain ⟨-, h⟩ | ⟨hpc, h⟩ := ite_eq_cases h
  · exact .refund hpend hq (.inl rfl) h
  obtain ⟨hle, h⟩ := Option.ite_none_left_eq_some.mp h
  match_ok h2 : (s.mint a pl pc).send _ _ _ _ with s2 at h
  match_ok h3 : s2.send _ _ _ _ with s3 at h
  match_ok h4 : s3.send _ _ _ _ with s4 at h
  match_ok h5 : s4.send _ _ _ _ with s5 at h
  match_ok h6 : s5.send _ _ _ _ with s6 at h
  refine .ok hpend hq hd hpair ⟨hpc, by omega, by omega, s2, s3, s4, s5, s6, h2, h3, h4, h5, h6, ?_⟩
  rw [← Option.some.inj h, ((State.send_fields h2).trans ((State.send_fields h3).trans ((State.send_fields h4).trans
    ((State.send_fields h5).trans (State.send_fields h6))))).eq]
  rfl

theorem failWdr_eff {s s' : State} {r : WdrReq} (h : failWdr s r = some s') :
    ∃ s1, s.send .gEscrow (.user r.owner) (.pool r.app r.pool) r.pc = some s1 ∧
      s' = { s with bank := s1.bank, wdrs := modBy (isWdr r.app r.pool r.id) (fun r => { r with status := .failed }) s.wdrs } := by
  unfold failWdr at h
  match_ok h1 : s.send _ _ _ _ with s1 at h
  refine ⟨s1, rfl, ?_⟩
  rw [← Option.some.inj h, (State.send_fields h1).eq]; rfl

/-- **A withdrawal request that fails gets its pool coins back**, whatever made it fail. -/
theorem failWdr_refunds {s s' : State} {r : WdrReq} (hr : findBy (isWdr r.app r.pool r.id) s.wdrs = some r)
    (h : failWdr s r = some s') :
    s'.bal (.user r.owner) (.pool r.app r.pool) = s.bal (.user r.owner) (.pool r.app r.pool) + r.pc ∧
    (findBy (isWdr r.app r.pool r.id) s'.wdrs).map (·.status) = some .failed ∧ s'.pools = s.pools := by
  obtain ⟨s1, h1, rfl⟩ := failWdr_eff h
  refine ⟨?_, ?_, rfl⟩
  · show s1.bal _ _ = _
    rw [State.bal_send_to h1 nofun, if_pos rfl]
  · show (findBy _ (modBy _ _ s.wdrs)).map _ = _
    rw [findBy_modBy_same (g := fun r : WdrReq => { r with status := RStatus.failed }) (fun _ => rfl), hr]; rfl

theorem burn_eff {s s' : State} {a p n : Nat} (h : s.burn a p n = some s') :
    ∃ q, s.pool? a p = some q ∧ n ≤ s.bal .module (.pool a p) ∧ n ≤ q.ps ∧
      s' = { (s.modPool a p fun q => { q with ps := q.ps - n }) with
        bank := s.bank.set (.module, .pool a p) (s.bal .module (.pool a p) - n) } := by
  unfold State.burn at h
  obtain ⟨h1, h⟩ := Option.ite_none_right_eq_some.mp h
  match_ok hq : s.pool? a p with q at h
  obtain ⟨h2, h⟩ := Option.ite_none_right_eq_some.mp h
  exact ⟨q, rfl, h1, h2, (Option.some.inj h).symm⟩

theorem State.bal_burn {s s' : State} {a p n : Nat} (h : s.burn a p n = some s') (x : Acct) (d : Denom) :
    s'.bal x d + (if x = .module ∧ .pool a p = d then n else 0) = s.bal x d := by
  obtain ⟨q, -, hle, -, rfl⟩ := burn_eff h
  simp only [State.bal, Bank.get_set, Prod.mk.injEq] at hle ⊢
  by_cases hc : x = .module ∧ .pool a p = d
  · obtain ⟨rfl, rfl⟩ := hc; simp; omega
  · have : ¬ (Acct.module = x ∧ Denom.pool a p = d) := fun hh => hc ⟨hh.1.symm, hh.2⟩
    simp [hc, this]

/-- the same for a withdrawal (that `burn` found the pool `q` of the state before is settled here) -/
def WdrOk (s s' : State) (a pl i x y : Nat) (r : WdrReq) (q : Pool) (p : Pair) : Prop :=
  ∃ s1 s2 s3 s4,
    s.send .gEscrow .module (.pool a pl) r.pc = some s1 ∧
    s1.send (.reserve a pl) (.user r.owner) p.quote x = some s2 ∧
    s2.send (.reserve a pl) (.user r.owner) p.base y = some s3 ∧
    s3.burn a pl r.pc = some s4 ∧ r.pc ≤ q.ps ∧
    s' = { s with
      bank := s4.bank,
      pools := if r.pc = q.ps then modBy (isPool a pl) (fun q => { q with disabled := true })
          (modBy (isPool a pl) (fun q => { q with ps := q.ps - r.pc }) s.pools)
        else modBy (isPool a pl) (fun q => { q with ps := q.ps - r.pc }) s.pools,
      wdrs := modBy (isWdr a pl i) (fun r => { r with status := .succeeded, wx := x, wy := y }) s.wdrs }

theorem execWithdraw_exec {s s' : State} {a pl i x y : Nat} (h : execWithdraw s a pl i x y = some s') :
    ∃ r, findBy (isWdr a pl i) s.wdrs = some r ∧ Exec failWdr (WdrOk s s' a pl i x y) (r.status = .pending) s s' a pl r := by
  unfold execWithdraw at h
  match_ok hr : findBy (isWdr a pl i) s.wdrs with r at h
  refine ⟨r, rfl, ?_⟩
  by_cases hpend : r.status ≠ .pending
  · rw [if_pos hpend] at h; exact .skip hpend (Option.some.inj h).symm
  rw [if_neg hpend] at h
  have hpend := Classical.not_not.mp hpend
  match_ok hq : s.pool? a pl with q at h
  obtain ⟨hd, h⟩ | ⟨hd, h⟩ := ite_eq_cases h
  · exact .refund hpend hq (.inl rfl) h
  have hd := (Bool.not_eq_true _).mp hd
  match_ok hpair : s.pair? a q.pair with p at h
  obtain ⟨-, h⟩ | ⟨-, h⟩ := ite_eq_cases h
  · exact .refund hpend hq (.inr ⟨hd, rfl⟩) h
  obtain ⟨-, h⟩ | ⟨-, h⟩ := ite_eq_cases h
  · exact .refund hpend hq (.inl rfl) h
  match_ok h1 : s.send _ _ _ _ with s1 at h
  match_ok h2 : s1.send _ _ _ _ with s2 at h
  match_ok h3 : s2.send _ _ _ _ with s3 at h
  match_ok h4 : s3.burn a pl r.pc with s4 at h
  obtain ⟨q3, hq3, -, hps, e4⟩ := burn_eff h4
  have e3 := ((State.send_fields h1).trans ((State.send_fields h2).trans (State.send_fields h3))).eq
  rw [e3] at hq3
  cases hq.symm.trans hq3
  refine .ok hpend hq hd hpair ⟨s1, s2, s3, s4, h1, h2, h3, h4, hps, ?_⟩
  rw [← Option.some.inj h, e4, e3]
  by_cases hc : r.pc = q.ps <;> simp only [hc, if_true, if_false] <;> rfl

theorem farm_eff {cfg : Cfg} {s s' : State} {app user pool amt : Nat} {ext : Bool} (h : farm cfg s app user pool amt ext = some s') :
    ∃ s1, 0 < amt ∧ s.send (.user user) .module (.pool app pool) amt = some s1 ∧
      s' = { s with bank := s1.bank, farmers := match findBy (isFarmer app pool user) s.farmers with
        | some _ => modBy (isFarmer app pool user) (fun f => { f with queued := f.queued ++ [(amt, s.now)] }) s.farmers
        | none => s.farmers ++ [{ app := app, pool := pool, owner := user, queued := [(amt, s.now)], active := 0 }] } := by
  unfold farm at h
  obtain ⟨hv, h⟩ := Option.ite_none_left_eq_some.mp h
  match_ok hac : cfg.app? app with ac at h
  match_ok hq : s.pool? app pool with q at h
  obtain ⟨-, h⟩ := Option.ite_none_left_eq_some.mp h
  match_ok h1 : s.send _ _ _ _ with s1 at h
  obtain ⟨b1, -, rfl⟩ := State.send_eq h1
  refine ⟨_, by omega, rfl, ?_⟩
  generalize findBy (isFarmer app pool user) s.farmers = r at h ⊢
  rcases r with _ | f <;> exact (Option.some.inj h).symm

theorem unfarm_eff {cfg : Cfg} {s s' : State} {app user pool amt : Nat} {ext : Bool} (h : unfarm cfg s app user pool amt ext = some s') :
    ∃ f s1, findBy (isFarmer app pool user) s.farmers = some f ∧ amt ≤ qTotal f.queued + f.active ∧
      (deduct f.queued amt).2 ≤ f.active ∧ s.send .module (.user user) (.pool app pool) amt = some s1 ∧
      s' = { s with
        bank := s1.bank,
        farmers := modBy (isFarmer app pool user)
          (fun f' => { f' with queued := keepNonzero (deduct f.queued amt).1, active := f'.active - (deduct f.queued amt).2 }) s.farmers } := by
  unfold unfarm at h
  obtain ⟨-, h⟩ := Option.ite_none_left_eq_some.mp h
  match_ok hac : cfg.app? app with ac at h
  match_ok hq : s.pool? app pool with q at h
  obtain ⟨-, h⟩ := Option.ite_none_left_eq_some.mp h
  match_ok hf : findBy (isFarmer app pool user) s.farmers with f at h
  obtain ⟨h1, h⟩ := Option.ite_none_left_eq_some.mp h
  obtain ⟨h2, h⟩ := Option.ite_none_left_eq_some.mp h
  match_ok h3 : s.send _ _ _ _ with s1 at h
  refine ⟨f, s1, rfl, by omega, by omega, rfl, ?_⟩
  rw [← Option.some.inj h, (State.send_fields h3).eq]

theorem depositAndFarm_eff {cfg : Cfg} {s s' : State} {app user pool dx dy ax ay pc : Nat} {ext : Bool}
    (h : depositAndFarm cfg s app user pool dx dy ax ay pc ext = some s') :
    ∃ s1 id s2, depositReq cfg s app user pool dx dy ext = some (s1, id) ∧ execDeposit s1 app pool id ax ay pc = some s2 ∧
      farm cfg s2 app user pool pc true = some s' := by
  unfold depositAndFarm at h
  match_ok h1 : depositReq cfg s app user pool dx dy ext with ⟨s1, id⟩ at h
  match_ok h2 : execDeposit s1 app pool id ax ay pc with s2 at h
  match_ok hr : findBy (isDep app pool id) s2.deps with r at h
  exact ⟨s1, id, s2, rfl, h2, (Option.ite_none_left_eq_some.mp h).2⟩

theorem unfarmAndWithdraw_eff {cfg : Cfg} {s s' : State} {app user pool amt x y : Nat} {ext : Bool}
    (h : unfarmAndWithdraw cfg s app user pool amt x y ext = some s') :
    ∃ s1 s2 id, unfarm cfg s app user pool amt ext = some s1 ∧ withdrawReq cfg s1 app user pool amt true = some (s2, id) ∧
      execWithdraw s2 app pool id x y = some s' := by
  unfold unfarmAndWithdraw at h
  match_ok h1 : unfarm cfg s app user pool amt ext with s1 at h
  match_ok h2 : withdrawReq cfg s1 app user pool amt true with ⟨s2, id⟩ at h
  exact ⟨s1, s2, id, rfl, h2, h⟩

theorem prePass_eff {cfg : Cfg} {s s' : State} {k : OKey} (h : prePass cfg s k = some s') :
    ∃ o, s.order? k = some o ∧
      (o.status = .notExecuted ∧ s' = s.modO k (fun o => { o with status := .notMatched }) ∨
       (o.status = .canceled ∨ ¬ o.expireAt ≤ s.now) ∧ s' = s ∨
       o.expireAt ≤ s.now ∧ finishOrder cfg s k .expired = some s') := by
  unfold prePass at h
  match_ok ho : s.order? k with o at h
  refine ⟨o, rfl, ?_⟩
  have live : (if o.expireAt ≤ s.now then finishOrder cfg s k .expired else some s) = some s' →
      ¬ o.expireAt ≤ s.now ∧ s' = s ∨ o.expireAt ≤ s.now ∧ finishOrder cfg s k .expired = some s' :=
    fun h => by
      obtain ⟨he, h⟩ | ⟨he, h⟩ := ite_eq_cases h
      · exact .inr ⟨he, h⟩
      · exact .inl ⟨he, (Option.some.inj h).symm⟩
  rcases hst : o.status <;> rw [hst] at h
  · exact .inl ⟨rfl, (Option.some.inj h).symm⟩
  · exact .inr ((live h).imp_left fun ⟨a, b⟩ => ⟨.inr a, b⟩)
  · exact .inr ((live h).imp_left fun ⟨a, b⟩ => ⟨.inr a, b⟩)
  · cases h
  · exact .inr (.inl ⟨.inl rfl, (Option.some.inj h).symm⟩)
  · cases h

theorem sweep_eff {cfg : Cfg} {s s' : State} {k : OKey} (h : sweep cfg s k = some s') :
    s' = s ∨ finishOrder cfg s k .expired = some s' := by
  unfold sweep at h
  match_ok ho : s.order? k with o at h
  obtain ⟨-, h⟩ | ⟨-, h⟩ := ite_eq_cases h
  · exact Or.inr h
  obtain ⟨-, h⟩ | ⟨-, h⟩ := ite_eq_cases h
  · exact Or.inr h
  · exact Or.inl (Option.some.inj h).symm

theorem poolPayIn_eff {p : Pair} {s s' : State} {f : PoolFlow} (h : poolPayIn p s f = some s') :
    ∃ s1, s.send (.reserve p.app f.pool) (.pairEscrow p.app p.id) (sideIn p f.buy) f.paid = some s1 ∧
      s' = s1.credit (.mIn p.app p.id) (sideIn p f.buy) f.paid := by
  unfold poolPayIn at h
  dsimp only at h
  match_ok hs1 : s.send _ _ _ _ with s1 at h
  exact ⟨s1, rfl, (Option.some.inj h).symm⟩

theorem poolPayOut_eff {p : Pair} {s s' : State} {f : PoolFlow} (h : poolPayOut p s f = some s') :
    ∃ s1, s.send (.pairEscrow p.app p.id) (.reserve p.app f.pool) (sideOut p f.buy) f.recv = some s1 ∧
      s' = s1.credit (.mOut p.app p.id) (sideOut p f.buy) f.recv := by
  unfold poolPayOut at h
  dsimp only at h
  match_ok hs1 : s.send _ _ _ _ with s1 at h
  exact ⟨s1, rfl, (Option.some.inj h).symm⟩

theorem fillPayOut_eff {p : Pair} {s s' : State} {f : Fill} (h : fillPayOut p s f = some s') :
    ∃ o s1, s.order? (p.app, p.id, f.id) = some o ∧
      s.send (.pairEscrow p.app p.id) (.user o.owner) (sideOut p f.buy) f.recv = some s1 ∧
      s' = s1.credit (.mOut p.app p.id) (sideOut p f.buy) f.recv := by
  unfold fillPayOut at h
  dsimp only at h
  match_ok ho : s.order? (p.app, p.id, f.id) with o at h
  match_ok h1 : s.send _ _ _ _ with s1 at h
  exact ⟨o, s1, rfl, h1, (Option.some.inj h).symm⟩

def Order.filled (o : Order) (f : Fill) : Order :=
  { o with openAmt := o.openAmt - f.matched, remaining := o.remaining - f.paid, received := o.received + f.recv, status := .partially }

theorem fillOrder_eff {cfg : Cfg} {p : Pair} {s s' : State} {f : Fill} (h : fillOrder cfg p s f = some s') :
    ∃ o s1, s.order? (p.app, p.id, f.id) = some o ∧ o.status.live = true ∧ o.od = sideIn p f.buy ∧ f.paid ≤ o.remaining ∧
      s1 = (s.modO (p.app, p.id, f.id) (·.filled f)).credit (.mIn p.app p.id) (sideIn p f.buy) f.paid ∧
      (s' = s1 ∨ finishOrder cfg s1 (p.app, p.id, f.id) .completed = some s') := by
  unfold fillOrder at h
  dsimp only at h
  match_ok ho : s.order? (p.app, p.id, f.id) with o at h
  obtain ⟨hg, h⟩ := Option.ite_none_left_eq_some.mp h
  refine ⟨o, _, rfl, ?_, ?_, ?_, rfl, ?_⟩
  · cases hl : o.status.live
    · exact absurd (Or.inl (by simp [hl])) hg
    · rfl
  · exact Classical.not_not.mp fun hh => hg (Or.inr (Or.inl hh))
  · exact Nat.le_of_not_lt fun hh => hg (Or.inr (Or.inr (Or.inl hh)))
  · obtain ⟨-, h⟩ | ⟨-, h⟩ := ite_eq_cases h
    · exact Or.inr h
    · exact Or.inl (Option.some.inj h).symm

theorem applyMatch_eff {cfg : Cfg} {s s' : State} {p : Pair} {m : MatchIn} (h : applyMatch cfg s p m = some s') :
    ∃ s1 s2 s3 s4 s5, foldOpt (poolPayIn p) s m.pools = some s1 ∧ foldOpt (fillOrder cfg p) s1 m.fills = some s2 ∧
      foldOpt (fillPayOut p) s2 m.fills = some s3 ∧ foldOpt (poolPayOut p) s3 m.pools = some s4 ∧
      s4.send (.pairEscrow p.app p.id) (.dust p.app) p.quote m.dust = some s5 ∧
      s' = s5.credit (.mOut p.app p.id) p.quote m.dust := by
  unfold applyMatch at h
  match_ok h1 : foldOpt (poolPayIn p) s m.pools with s1 at h
  match_ok h2 : foldOpt (fillOrder cfg p) s1 m.fills with s2 at h
  match_ok h3 : foldOpt (fillPayOut p) s2 m.fills with s3 at h
  match_ok h4 : foldOpt (poolPayOut p) s3 m.pools with s4 at h
  match_ok h5 : s4.send _ _ _ _ with s5 at h
  exact ⟨s1, s2, s3, s4, s5, rfl, h2, h3, h4, h5, (Option.some.inj h).symm⟩

theorem execMatching_eff {cfg : Cfg} {ms : List MatchIn} {s s' : State} {pk : Nat × Nat} (h : execMatching cfg ms s pk = some s') :
    ∃ p s1 s3, s.pair? pk.1 pk.2 = some p ∧
      foldOpt (prePass cfg) s ((s.orders.filter fun o => o.app == p.app && o.pair == p.id).map (·.key)) = some s1 ∧
      applyMatch cfg (markDepleted s1 p) p ((ms.find? (·.pair == p.id)).getD (emptyMatch p.id)) = some s3 ∧
      s' = s3.modPair p.app p.id fun q => { q with curBatch := q.curBatch + 1, lastPrice :=
        match ((ms.find? (·.pair == p.id)).getD (emptyMatch p.id)).last with | some x => some x | none => q.lastPrice } := by
  unfold execMatching at h
  match_ok hp : s.pair? pk.1 pk.2 with p at h
  match_ok h1 : foldOpt (prePass cfg) s ((s.orders.filter fun o => o.app == p.app && o.pair == p.id).map (·.key)) with s1 at h
  match_ok h3 : applyMatch cfg (markDepleted s1 p) p ((ms.find? (·.pair == p.id)).getD (emptyMatch p.id)) with s3 at h
  exact ⟨p, s1, s3, rfl, h1, h3, (Option.some.inj h).symm⟩

theorem endBlock_eff {cfg : Cfg} {s s' : State} {app : Nat} {ms : List MatchIn} {dins : List DepIn} {wins : List WdrIn}
    (h : endBlock cfg s app ms dins wins = some s') :
    s' = s ∨ ∃ s1 s2 s3 s4,
      foldOpt (execMatching cfg ms) s (dedupKeys ((s.pairs.filter (·.app == app)).map fun p => (p.app, p.id))) = some s1 ∧
      foldOpt (sweep cfg) s1 ((s1.orders.filter (·.app == app)).map (·.key)) = some s2 ∧
      foldOpt (execDepStep dins) s2 ((s2.deps.filter (·.app == app)).map fun r => (r.app, r.pool, r.id)) = some s3 ∧
      foldOpt (execWdrStep wins) s3 ((s3.wdrs.filter (·.app == app)).map fun r => (r.app, r.pool, r.id)) = some s4 ∧
      s' = processQueued cfg s4 app := by
  unfold endBlock at h
  match_ok hac : cfg.app? app with ac at h
  obtain ⟨-, h⟩ | ⟨-, h⟩ := ite_eq_cases h
  · exact Or.inl (Option.some.inj h).symm
  match_ok h1 : foldOpt (execMatching cfg ms) s (dedupKeys ((s.pairs.filter (·.app == app)).map fun p => (p.app, p.id))) with s1 at h
  match_ok h2 : foldOpt (sweep cfg) s1 ((s1.orders.filter (·.app == app)).map (·.key)) with s2 at h
  match_ok h3 : foldOpt (execDepStep dins) s2 ((s2.deps.filter (·.app == app)).map fun r => (r.app, r.pool, r.id)) with s3 at h
  match_ok h4 : foldOpt (execWdrStep wins) s3 ((s3.wdrs.filter (·.app == app)).map fun r => (r.app, r.pool, r.id)) with s4 at h
  exact Or.inr ⟨s1, s2, s3, s4, rfl, h2, h3, h4, (Option.some.inj h).symm⟩

theorem migrate_eff {cfg : Cfg} {s s' : State} (h : migrate cfg s = some s') :
    (∀ o ∈ s.orders, o.typ ≠ .mm) ∧ s' = { s with
      orders := s.orders.map fun o => if (cfg.app? o.app).isSome then { o with typ := .limit } else o,
      pools := s.pools.map fun q => if (cfg.app? q.app).isSome then { q with ranged := false } else q } := by
  unfold migrate at h
  obtain ⟨hv, h⟩ := Option.ite_none_right_eq_some.mp h
  exact ⟨hv.1, (Option.some.inj h).symm⟩

end Comdex.LiqLedger
