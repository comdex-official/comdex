import Comdex.Lemmas.LiqLedger
/-!
Order-level facts used by C07: what `FinishOrder` moves, that cancellation succeeds, that
cancel-all reaches every old order it addresses, and that cancelling market-making orders reaches every indexed order (repaired
lookup).
-/
namespace Comdex.LiqLedger

theorem isO_mod (k : OKey) (st : OStatus) (r f : Nat) (x : Order) :
    isO k { x with status := st, refunded := r, feeFwd := f } = isO k x := rfl

theorem isO_disjoint {k k' : OKey} (hne : k ≠ k') (x : Order) (h : isO k x = true) : isO k' x = false :=
  Bool.eq_false_iff.mpr fun h' => hne ((isO_iff k x).mp h ▸ (isO_iff k' x).mp h')

theorem finishOrder_orders {cfg : Cfg} {s s' : State} {k : OKey} {st : OStatus} (h : finishOrder cfg s k st = some s') :
    ∃ o, s.order? k = some o ∧
      ((o.status.live = false ∧ s' = s) ∨
       (o.status.live = true ∧ ∃ r f,
          s'.orders = modBy (isO k) (fun o' => { o' with status := st, refunded := r, feeFwd := f }) s.orders)) := by
  obtain ⟨o, ho, hc | ⟨hl, ac, s1, s2, -, -, -, rfl⟩⟩ := finishOrder_eff h
  · exact ⟨o, ho, .inl hc⟩
  · exact ⟨o, ho, .inr ⟨hl, _, _, rfl⟩⟩

theorem pairs_finishOrder {cfg : Cfg} {s s' : State} {k : OKey} {st : OStatus} (h : finishOrder cfg s k st = some s') :
    s'.pairs = s.pairs := by
  obtain ⟨o, -, ⟨-, rfl⟩ | ⟨-, ac, s1, s2, -, -, -, rfl⟩⟩ := finishOrder_eff h <;> rfl

theorem mm_finishOrder {cfg : Cfg} {s s' : State} {k : OKey} {st : OStatus} (h : finishOrder cfg s k st = some s') :
    s'.mm = s.mm := by
  obtain ⟨o, -, ⟨-, rfl⟩ | ⟨-, ac, s1, s2, -, -, -, rfl⟩⟩ := finishOrder_eff h <;> rfl

theorem Ended.pairs {cfg : Cfg} {s s' : State} (h : Ended cfg s s') : s'.pairs = s.pairs :=
  h.rel (R := fun s s' => s'.pairs = s.pairs) (fun _ => rfl) (fun h1 h2 => h2.trans h1) fun _ hf => pairs_finishOrder hf

theorem Ended.mm {cfg : Cfg} {s s' : State} (h : Ended cfg s s') : s'.mm = s.mm :=
  h.rel (R := fun s s' => s'.mm = s.mm) (fun _ => rfl) (fun h1 h2 => h2.trans h1) fun _ hf => mm_finishOrder hf

theorem finishOrder_status {cfg : Cfg} {s s' : State} {k : OKey} {st : OStatus} {o : Order} (ho : s.order? k = some o)
    (hl : o.status.live = true) (h : finishOrder cfg s k st = some s') : ∀ o', s'.order? k = some o' → o'.status = st := by
  obtain ⟨o2, ho2, ⟨hl', -⟩ | ⟨-, r, f, he⟩⟩ := finishOrder_orders h
  · rw [ho] at ho2; cases ho2; rw [hl] at hl'; cases hl'
  · intro o' ho'
    simp only [State.order?, he] at ho'
    rw [findBy_modBy_same (fun x => isO_mod k st r f x), show findBy (isO k) s.orders = some o from ho] at ho'
    cases ho'; rfl

theorem finishOrder_lookup {cfg : Cfg} {s s' : State} {k : OKey} {st : OStatus} (hst : st.live = false)
    (h : finishOrder cfg s k st = some s') :
    (∀ o', s'.order? k = some o' → o'.status.live = false) ∧
    (∀ k', k' ≠ k → s'.order? k' = s.order? k') := by
  obtain ⟨o, ho, hc⟩ := finishOrder_orders h
  rcases hc with ⟨hl, he⟩ | ⟨hl, r, f, he⟩
  · subst he
    exact ⟨fun o' ho' => by rw [ho] at ho'; cases ho'; exact hl, fun _ _ => rfl⟩
  · refine ⟨fun o' ho' => finishOrder_status ho hl h o' ho' ▸ hst, fun k' hne => ?_⟩
    simp only [State.order?, he]
    exact findBy_modBy_other (fun x => isO_mod k' st r f x) (fun x hx => isO_disjoint (Ne.symm hne) x hx)

theorem finishOrder_mono {cfg : Cfg} {s s' : State} {k k' : OKey} {st : OStatus} (hst : st.live = false)
    (h : finishOrder cfg s k st = some s') (hk : ∀ o, s.order? k' = some o → o.status.live = false) :
    ∀ o, s'.order? k' = some o → o.status.live = false := by
  obtain ⟨h1, h2⟩ := finishOrder_lookup hst h
  by_cases he : k' = k
  · subst he; exact h1
  · rw [h2 k' he]; exact hk

/-- an ended order stays ended -/
theorem Ended.mono {cfg : Cfg} {s s' : State} (h : Ended cfg s s') {k : OKey} (hk : ∀ o, s.order? k = some o → o.status.live = false) :
    ∀ o, s'.order? k = some o → o.status.live = false :=
  h.rel (R := fun s s' => (∀ o, s.order? k = some o → o.status.live = false) → ∀ o, s'.order? k = some o → o.status.live = false)
    (fun _ h => h) (fun h1 h2 h => h2 (h1 h)) (fun hst hf => finishOrder_mono hst hf) hk

theorem finishOrder_moves {cfg : Cfg} {s s' : State} {k : OKey} {st : OStatus} {o : Order}
    (ho : s.order? k = some o) (hl : o.status.live = true) (h : finishOrder cfg s k st = some s') :
    let r := rateOf cfg o.app
    s'.bal (.user o.owner) o.od = s.bal (.user o.owner) o.od + (o.remaining + (feeRes r o - fwdSpec r o)) ∧
    s'.bal (.swapFee o.app o.pair) o.od = s.bal (.swapFee o.app o.pair) o.od + fwdSpec r o ∧
    s'.bal (.pairEscrow o.app o.pair) o.od + (o.remaining + feeRes r o) = s.bal (.pairEscrow o.app o.pair) o.od := by
  obtain ⟨o', ho', ⟨hl', -⟩ | ⟨-, ac, s1, s2, hac, h1, h2, rfl⟩⟩ := finishOrder_eff h
  · rw [ho] at ho'; cases ho'; rw [hl] at hl'; cases hl'
  rw [ho] at ho'; cases ho'
  have hsp := settle_spec ac.feeRate o
  have htot := settle_total ac.feeRate o
  have eu := State.bal_send_to h1 nofun o.od
  have ef := State.bal_send_to h2 nofun o.od
  have ee := send2_from h1 h2 nofun nofun o.od
  rw [hsp] at eu ef
  simp only [if_true] at eu ef ee
  simp only [rateOf_of_app hac]
  refine ⟨?_, ?_, ?_⟩
  · show s2.bal _ _ = _
    rw [State.send_bal_other h2 (.user o.owner) nofun nofun, eu]
  · show s2.bal _ _ = _
    rw [ef, State.send_bal_other h1 (.swapFee o.app o.pair) nofun nofun]
  · show s2.bal _ _ + _ = _
    rw [← htot, ← Nat.add_assoc]; exact ee

theorem liveTerm_le_liveSum {cfg : Cfg} {s : State} {k : OKey} {o : Order} (ho : s.order? k = some o) (hl : o.status.live = true) :
    o.remaining + feeRes (rateOf cfg o.app) o ≤ liveSum cfg o.app o.pair o.od s.orders := by
  have hm := (order?_some ho).1
  have := sumOver_le_of_mem (liveTerm cfg o.app o.pair o.od) hm
  unfold liveSum
  simpa [liveTerm, hl] using this

theorem finishOrder_succeeds {cfg : Cfg} {s : State} {k : OKey} {o : Order} {ac : AppCfg} (st : OStatus)
    (hi : Inv cfg s) (hs : s.bal (.mOut o.app o.pair) o.od ≤ s.bal (.mIn o.app o.pair) o.od)
    (ho : s.order? k = some o) (hl : o.status.live = true) (hac : cfg.app? o.app = some ac) :
    ∃ s', finishOrder cfg s k st = some s' := by
  have hge : liveSum cfg o.app o.pair o.od s.orders ≤ s.bal (.pairEscrow o.app o.pair) o.od := by
    have := hi.pairEsc o.app o.pair o.od
    omega
  have hterm := liveTerm_le_liveSum (cfg := cfg) ho hl
  have htot := settle_total ac.feeRate o
  rw [rateOf_of_app hac] at hterm
  unfold finishOrder
  rw [ho]
  simp only [hl, Bool.not_true, Bool.false_eq_true, if_false, hac]
  have le1 : (settle ac.feeRate o).1 ≤ s.bal (.pairEscrow o.app o.pair) o.od := by omega
  obtain ⟨s1, h1⟩ := State.send_isSome (t := .user o.owner) le1
  have x1 := State.bal_send_from h1 nofun o.od
  rw [if_pos rfl] at x1
  have le2 : (settle ac.feeRate o).2 ≤ s1.bal (.pairEscrow o.app o.pair) o.od := by omega
  obtain ⟨s2, h2⟩ := State.send_isSome (t := .swapFee o.app o.pair) le2
  simp only [h1, h2]
  exact ⟨_, rfl⟩

/-- An order that is not in its placement batch can be cancelled by its owner (given solvent matching flows). -/
theorem cancelOrder_succeeds {cfg : Cfg} {s : State} {a u p i : Nat} {o : Order} {pp : Pair} {ac : AppCfg}
    (hi : Inv cfg s) (hs : ∀ d, s.bal (.mOut a p) d ≤ s.bal (.mIn a p) d) (hp0 : p ≠ 0) (hi0 : i ≠ 0) (hac : cfg.app? a = some ac)
    (ho : s.order? (a, p, i) = some o) (hown : o.owner = u) (hl : o.status.live = true)
    (hpp : s.pair? a p = some pp) (hb : o.batch ≠ pp.curBatch) :
    ∃ s', cancelOrder cfg s a u p i = some s' ∧
      (∀ o', s'.order? (a, p, i) = some o' → o'.status = .canceled) ∧
      s'.bal (.user u) o.od = s.bal (.user u) o.od + (o.remaining + (feeRes ac.feeRate o - fwdSpec ac.feeRate o)) := by
  obtain ⟨-, hoa, hop, -⟩ := order?_some ho
  simp only at hoa hop
  have hac' : cfg.app? o.app = some ac := by rw [hoa]; exact hac
  obtain ⟨s', hf⟩ := finishOrder_succeeds .canceled hi (by rw [hoa, hop]; exact hs o.od) ho hl hac'
  have hnc : o.status ≠ .canceled := by intro e; rw [e] at hl; simp [OStatus.live] at hl
  refine ⟨s', ?_, finishOrder_status ho hl hf, ?_⟩
  · unfold cancelOrder
    simp [hp0, hi0, hac, ho, hown, hnc, hpp, hb, hf]
  · have := (finishOrder_moves ho hl hf).1
    simp only [rateOf_of_app hac'] at this
    rw [← hown]; exact this

/-- the orders `MsgCancelAllOrders(app, user, pairs)` addresses -/
def addressed (app user : Nat) (pairs : List Nat) (o : Order) : Prop :=
  o.app = app ∧ o.owner = user ∧ (pairs = [] ∨ o.pair ∈ pairs)

theorem cancelAllStep_spec {cfg : Cfg} {app user : Nat} {pairs : List Nat} {s s' : State} {k : OKey}
    (h : cancelAllStep cfg app user pairs s k = some s') :
    s'.pairs = s.pairs ∧ (∀ k', k' ≠ k → s'.order? k' = s.order? k') ∧
    (∀ o pp, s.order? k = some o → addressed app user pairs o → s.pair? app o.pair = some pp → o.status.live = true →
      o.batch < pp.curBatch → ∀ o', s'.order? k = some o' → o'.status.live = false) ∧
    (∀ o pp, s.order? k = some o → s.pair? app o.pair = some pp → ¬ o.batch < pp.curBatch → s' = s) := by
  obtain ⟨rfl, hn⟩ | ⟨hf, o0, p0, ho0, hp0, hb0⟩ := cancelAllStep_eff h
  · refine ⟨rfl, fun _ _ => rfl, fun o pp ho ha hp hl hb => ?_, fun _ _ _ _ _ => rfl⟩
    exact absurd ⟨fun e => (by rw [e] at hl; cases hl), hb⟩ (hn o pp ho ha hp)
  · obtain ⟨l1, l2⟩ := finishOrder_lookup (st := .canceled) rfl hf
    refine ⟨pairs_finishOrder hf, l2, fun _ _ _ _ _ _ _ => l1, fun o pp ho hp hnb => ?_⟩
    rw [ho0] at ho; cases ho
    rw [hp0] at hp; cases hp
    exact absurd hb0 hnb

/-- an addressed live order of an earlier batch under key `k` is ended if `k` is in the list; an order still in its placement batch
is not touched -/
theorem cancelAll_fold {cfg : Cfg} {app user : Nat} {pairs : List Nat} (k : OKey) :
    ∀ (l : List OKey) (s s' : State), foldOpt (cancelAllStep cfg app user pairs) s l = some s' →
      (∀ o pp, s.order? k = some o → addressed app user pairs o → s.pair? app o.pair = some pp → o.status.live = true →
        o.batch < pp.curBatch → k ∈ l → ∀ o', s'.order? k = some o' → o'.status.live = false) ∧
      (∀ o pp, s.order? k = some o → s.pair? app o.pair = some pp → ¬ o.batch < pp.curBatch → s'.order? k = some o) := by
  intro l
  induction l with
  | nil =>
    intro s s' h
    cases foldOpt_nil_some h
    exact ⟨fun _ _ _ _ _ _ _ hk => (nomatch hk), fun _ _ ho _ _ => ho⟩
  | cons k1 t ih =>
    intro s s' h
    obtain ⟨s1, hx, ht⟩ := foldOpt_cons_some h
    obtain ⟨p1, oth1, own1, keep1⟩ := cancelAllStep_spec hx
    obtain ⟨a2, b2⟩ := ih s1 s' ht
    have pair1 : ∀ a p, s1.pair? a p = s.pair? a p := by intro a p; simp [State.pair?, p1]
    refine ⟨?_, ?_⟩
    · intro o pp ho ha hp hl hb hk o' ho'
      by_cases hk1 : k = k1
      · subst hk1
        -- ended by its own step, and the rest of the fold does not undo that
        exact (cancelAllFold_ended ht).mono (own1 o pp ho ha hp hl hb) o' ho'
      · have hkt : k ∈ t := by
          rcases List.mem_cons.mp hk with e | e
          · exact absurd e hk1
          · exact e
        have ho1 : s1.order? k = some o := by rw [oth1 k hk1]; exact ho
        exact a2 o pp ho1 ha (by rw [pair1]; exact hp) hl hb hkt o' ho'
    · intro o pp ho hp hnb
      have ho1 : s1.order? k = some o := by
        by_cases hk1 : k = k1
        · subst hk1
          rw [keep1 o pp ho hp hnb]; exact ho
        · rw [oth1 k hk1]; exact ho
      exact b2 o pp ho1 (by rw [pair1]; exact hp) hnb

theorem cancelMMStep_done {cfg : Cfg} (hsw : cfg.swapLookup = false) {app : Nat} {p : Pair} {s s' : State} {id : Nat}
    (h : cancelMMStep cfg app p s id = some s') : ∀ o, s'.order? (app, p.id, id) = some o → o.status.live = false := by
  have hk : mmKey cfg app p.id id = (app, p.id, id) := by simp [mmKey, hsw]
  rw [← hk]
  obtain ⟨rfl, hn⟩ | hf := cancelMMStep_eff h
  · exact hn
  · exact (finishOrder_lookup rfl hf).1

theorem cancelMM_fold_done {cfg : Cfg} (hsw : cfg.swapLookup = false) {app : Nat} {p : Pair} :
    ∀ (ids : List Nat) (s s' : State), foldOpt (cancelMMStep cfg app p) s ids = some s' →
      ∀ i ∈ ids, ∀ o, s'.order? (app, p.id, i) = some o → o.status.live = false
  | [], _, _, _, _, hi => nomatch hi
  | i :: t, _, s', h, j, hj => by
    obtain ⟨s1, hx, ht⟩ := foldOpt_cons_some h
    rcases List.mem_cons.mp hj with rfl | hj
    · exact (cancelMMFold_ended ht).mono (cancelMMStep_done hsw hx)
    · exact cancelMM_fold_done hsw t s1 s' ht j hj

/-- `cancelMMOrder` with the repaired lookup: every order listed in the owner's index for this (app, pair) — for
any app id and pair id — is ended, and the index is gone. -/
theorem cancelMMCore_all {cfg : Cfg} (hsw : cfg.swapLookup = false) {s s' : State} {app user : Nat} {p : Pair} {skip : Bool}
    {idx : MMIndex} (hidx : findBy (isMM app p.id user) s.mm = some idx)
    (h : cancelMMCore cfg s app user p skip = some s') :
    (∀ i ∈ idx.ids, ∀ o, s'.order? (app, p.id, i) = some o → o.status.live = false) ∧
    findBy (isMM app p.id user) s'.mm = none := by
  obtain ⟨idx', s1, hidx', h1, rfl⟩ | ⟨hn, -⟩ := cancelMMCore_eff h
  · rw [hidx] at hidx'; cases hidx'
    exact ⟨(cancelMM_fold_done hsw _ _ _ h1 :), findBy_filter_not _ _⟩
  · rw [hidx] at hn; cases hn

end Comdex.LiqLedger
