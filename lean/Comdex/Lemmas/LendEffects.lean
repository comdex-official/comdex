import Comdex.Model.Lend
import Comdex.Lemmas.Attrs
import Comdex.Lemmas.DecCore
/-!
What an accepted call of each handler `H` of `Model/Lend.lean` did: `H_ok : H … = .ok s' → ∃ e : HOk …, s' = e.post`, the record `HOk`
holding the values read and the guards passed (small handlers have a flat `H_ok`). Core Lean only.
-/
namespace Comdex.Lend

theorem bind_ok_iff {α β} {x : E α} {f : α → E β} {b : β} : (x >>= f) = .ok b ↔ ∃ a, x = .ok a ∧ f a = .ok b := by
  cases x <;> simp [bind, Except.bind]

theorem pure_ok_iff {α} {a b : α} : (pure a : E α) = .ok b ↔ b = a := by
  simp [pure, Except.pure, eq_comm]

@[simp] theorem orErr_ok_iff {α} {o : Option α} {e : String} {v : α} : orErr o e = .ok v ↔ o = some v := by
  cases o <;> simp [orErr]
@[simp] theorem check_ok_iff {c : Bool} {e : String} {u : Unit} : check c e = .ok u ↔ c = true := by
  cases c <;> simp [check]

/-- unfold a handler applied to a successful result into its guard facts -/
macro "invert " h:ident : tactic =>
  `(tactic| (simp only [bind, Except.bind, pure, Except.pure] at $h:ident
             repeat' (split at $h:ident <;> try cases $h:ident)
             all_goals try simp only [orErr_ok_iff, check_ok_iff] at *))

theorem exists_unit {p : Unit → Prop} : (∃ u, p u) ↔ p () := ⟨fun ⟨_, h⟩ => h, fun h => ⟨_, h⟩⟩

theorem ite_ok_iff {α} (c : Prop) [Decidable c] (x y : E α) (r : α) :
    (if c then x else y) = .ok r ↔ (c ∧ x = .ok r) ∨ (¬ c ∧ y = .ok r) := by
  split <;> simp [*]

theorem toBool_false {α} {x : E α} (h : ∀ a, x ≠ .ok a) : x.toBool = false := by
  cases x with
  | error e => rfl
  | ok a => exact absurd rfl (h a)

/-! `let k ← if c then call else pure k'` elaborates to `if c then call >>= jp else pure k' >>= jp` with a join point `jp`. Folded back
before `jp` is inlined, the rest of the block is read once and not once per branch. -/

theorem ite_bind {α β} (c : Prop) [Decidable c] (x y : E α) (f : α → E β) :
    (if c then x >>= f else y >>= f) = (if c then x else y) >>= f := by
  split <;> rfl

theorem ite_bind_unit {β} (c : Prop) [Decidable c] (x : E Unit) (f : Unit → E β) :
    (if c then x >>= f else f ()) = (if c then x else pure ()) >>= f := by
  split <;> rfl

theorem send_ite (c : Prop) [Decidable c] (b : Bank) (src dst d : Nat) (x : Int) :
    (if c then b.send src dst d x else pure b) = b.send src dst d (if c then x else 0) := by
  split <;> rfl

theorem mint_ite (c : Prop) [Decidable c] (b : Bank) (a d : Nat) (x : Int) :
    (if c then b.mint a d x else pure b) = b.mint a d (if c then x else 0) := by
  split <;> rfl

/- Normal forms under `simp only [do_ok] at h`: `let x ← e` ↦ `∃ x, e = .ok x ∧ …`, `orErr o _` ↦ `o = some x`, `check (!b)` ↦ `b = false`,
`check (a == b)` ↦ `a = b`, `check (decide (¬ a > b))` ↦ `a ≤ b`, `if c then x else y` ↦ `c ∧ … ∨ ¬ c ∧ …` (with `reduceCtorEq` when a branch
is an error). Blocks with join points: `simp -zeta only [ite_bind, …] at h` first. -/
attribute [do_ok] bind_ok_iff pure_ok_iff orErr_ok_iff check_ok_iff ite_ok_iff exists_unit and_false or_false
  Bool.not_eq_true' Bool.not_eq_false beq_iff_eq bne_iff_ne decide_eq_true_eq Int.not_lt Int.not_le

/-- the LTV the handlers apply on a pair: the e-mode LTV of the pair's collateral asset when the pair is in e-mode. In namespace `C08`
because the LTV theorems of `Props/C08.lean` are stated with it, in this file because the effect records `DrawOk`, `BorrowNewOk` are too. -/
def _root_.Comdex.C08.ltvOf (pair : PairCfg) (rates : RatesCfg) : Dec := if pair.eMode then rates.eLtv else rates.ltv

/- Names for expressions the handlers of `Model/Lend.lean` write inline: `reserveShare` is `toReserve` and `lendersShare` is `toMint` of
`closeBorrow` / `repay` / `auctionClose`; `posPart x`, `bookInterest`, `bookRepay` are their `if x > 0 then … else …` around a bank call, the
interest total and the reserve record; `payReward` / `noteReward` are the record updates of the two branches of `iterLends`, `addPenalty`
is `r1` of `auctionClose`, `addFunded` the update of `fundReserve`; `Bank.wrap` is send asset → mint cTokens → send cTokens (`deposit`,
`lendNew`), `Bank.unwrap` send cTokens → burn → send asset (`closeLend`, `withdraw`). -/
def Borrow.reserveShare (b : Borrow) : Int := Dec.truncateInt b.reserveInt
def Borrow.lendersShare (b : Borrow) : Int := Dec.truncateInt (b.interest - b.reserveInt)

def posPart (x : Int) : Int := if x > 0 then x else 0

def bookInterest (ss : List Stats) (p a : Nat) (x : Int) : List Stats := if x > 0 then addTotalInterest ss p a x else ss
def bookRepay (rs : List Resv) (a : Nat) (x : Int) : List Resv := if x > 0 then resvRepay rs a x else rs

def Resv.payReward (r : Resv) (x : Int) : Resv := { r.halves x false with outLenders := r.outLenders + x, totalOutLenders := r.totalOutLenders + x }
def Resv.noteReward (r : Resv) (x : Int) : Resv := { r with totalOutLenders := r.totalOutLenders + x }
def Resv.addPenalty (r : Resv) (x : Int) : Resv := { r.halves x true with inPenalty := r.inPenalty + x }
def Resv.addFunded (r : Resv) (x : Int) : Resv := { r.halves x true with funded := r.funded + x }

/-- the dust stays in the pool -/
theorem interest_split (interest reserve : Int) (hr : 0 ≤ reserve) (hle : reserve ≤ interest) :
    ∃ dust, 0 ≤ dust ∧ dust ≤ 1 ∧
      Dec.truncateInt interest = Dec.truncateInt reserve + Dec.truncateInt (interest - reserve) + dust := by
  rw [Dec.truncateInt_eq (by omega : 0 ≤ interest), Dec.truncateInt_eq hr, Dec.truncateInt_eq (by omega : 0 ≤ interest - reserve)]
  refine ⟨interest / Dec.P - reserve / Dec.P - (interest - reserve) / Dec.P, ?_, ?_, by omega⟩ <;> simp only [Dec.P] <;> omega

theorem truncateInt_ofInt (k : Int) : Dec.truncateInt (Dec.ofInt k) = k := Dec.truncateInt_ofInt k

def closePenalty (pair : PairCfg) (rates : RatesCfg) (b : Borrow) : Int :=
  Dec.truncateInt (Dec.mul (Dec.ofInt b.amountOut) (if pair.eMode then rates.eLiqPenalty else rates.liqPenalty))
/-- the hand-over always takes the normal penalty, the close (`closePenalty`) the e-mode one on an e-mode pair -/
def handoverFee (rates : RatesCfg) (b : Borrow) : Int := Dec.truncateInt (Dec.mul (Dec.ofInt b.amountOut) rates.liqPenalty)

/-- transit type 1 is a pool's main asset, 2 and 3 its first and second transit (bridge) asset -/
abbrev mainAsset (p : PoolCfg) : Nat := transitOf p.assets 1
abbrev firstTransit (p : PoolCfg) : Nat := transitOf p.assets 2
abbrev secondTransit (p : PoolCfg) : Nat := transitOf p.assets 3

abbrev denomOf (cfg : Cfg) (a : Nat) : Nat :=
  match cfg.asset? a with
  | some _ => a
  | none => 0

def newLend (s : State) (u a : Nat) (amt : Int) (pool : PoolCfg) (app : Nat) : Lend :=
  { id := s.lendCtr + 1, owner := u, pool := pool.id, asset := a, amountIn := amt, avail := amt, app := app }

def newBorrow (s : State) (l : Lend) (pair : PairCfg) (stable : Bool) (dIn : Nat) (aIn : Int) (dOut : Nat) (aOut : Int)
    (brDenom : Nat) (br : Int) : Borrow :=
  { id := s.borrowCtr + 1, lendingId := l.id, pairId := pair.id, inDenom := dIn, amountIn := aIn, outDenom := dOut, amountOut := aOut,
    interest := 0, stable := stable, liq := false, brDenom := brDenom, bridged := br, reserveInt := 0 }

theorem openBorrow_eq (s : State) (l : Lend) (pair : PairCfg) (stable : Bool) (dIn : Nat) (aIn : Int) (dOut : Nat) (aOut : Int)
    (brDenom : Nat) (br : Int) (bank : Bank) :
    openBorrow s l pair stable dIn aIn dOut aOut brDenom br bank =
      { s with bank := bank, borrowCtr := s.borrowCtr + 1,
               borrows := s.borrows ++ [newBorrow s l pair stable dIn aIn dOut aOut brDenom br],
               lends := setLend s.lends { l with avail := l.avail - aIn },
               stats := addBorrowId (addBorrowed s.stats pair.outPool pair.assetOut stable aOut) pair.outPool pair.assetOut (s.borrowCtr + 1) } :=
  rfl

def Bank.wrap (b : Bank) (u pool d c : Nat) (x : Int) (b' : Bank) : Prop :=
  ∃ b1, b.send u pool d x = .ok b1 ∧ ∃ b2, b1.mint pool c x = .ok b2 ∧ b2.send pool u c x = .ok b'
def Bank.unwrap (b : Bank) (u pool c d : Nat) (x : Int) (b' : Bank) : Prop :=
  ∃ b1, b.send u pool c x = .ok b1 ∧ ∃ b2, b1.burn pool c x = .ok b2 ∧ b2.send pool u d x = .ok b'

variable {cfg : Cfg} {s s' : State} {u k d a po app pid dIn dOut : Nat} {amt r w x y aIn aOut p paid recv left topUp : Int}
  {ext e1 e2 : ExtB} {stable : Bool}

theorem iterLends_ok (h : iterLends cfg s k r = .ok s') :
    ∃ l, getLend s.lends k = some l ∧
      ((0 < r ∧ ∃ pool, cfg.pool? l.pool = some pool ∧ ∃ rates, cfg.rates? l.asset = some rates ∧
          ∃ st, getStats s.stats l.pool l.asset = some st ∧
            ((st.totalInterest < r ∧ r ≤ s.bank.get cfg.reserveAcct l.asset ∧
                ∃ bk1, s.bank.send cfg.reserveAcct pool.acct l.asset r = .ok bk1 ∧ ∃ bk2, bk1.mint pool.acct rates.cAsset r = .ok bk2 ∧
                ∃ bk3, bk2.send pool.acct l.owner rates.cAsset r = .ok bk3 ∧
                s' = { s with bank := bk3, lends := setLend s.lends { l with avail := l.avail + r },
                              stats := addTotalLend s.stats l.pool l.asset r,
                              resv := modResv s.resv l.asset (·.payReward r) }) ∨
             (r ≤ st.totalInterest ∧ ∃ bk1, s.bank.send pool.acct l.owner rates.cAsset r = .ok bk1 ∧
                s' = { s with bank := bk1, lends := setLend s.lends { l with avail := l.avail + r },
                              stats := addTotalLend (addTotalInterest s.stats l.pool l.asset (-r)) l.pool l.asset r,
                              resv := modResv s.resv l.asset (·.noteReward r) }))) ∨
       (r ≤ 0 ∧ s' = s)) := by
  unfold iterLends at h
  simp only [do_ok] at h
  exact h

theorem iterLends_borrows (h : iterLends cfg s k r = .ok s') : s'.borrows = s.borrows := by
  obtain ⟨_, -, ⟨-, _, -, _, -, _, -, ⟨-, -, _, -, _, -, _, -, rfl⟩ | ⟨-, _, -, rfl⟩⟩ | ⟨-, rfl⟩⟩ := iterLends_ok h <;> rfl

theorem iterBorrow_ok {e : ExtB} (h : iterBorrow s k e = .ok s') :
    ∃ dI dR b, e = .val dI dR ∧ getBorrow s.borrows k = some b ∧
      s' = { s with borrows := setBorrow s.borrows { b with interest := b.interest + dI,
                                                            reserveInt := if dR > 0 then b.reserveInt + dR else b.reserveInt } } := by
  -- a `match`, not a `do` block: one `split` per `match`, a handful of cases (likewise the `match`es of `borrow`, `verifyCR`, `collRatio`)
  unfold iterBorrow at h
  split at h
  · cases h
  · cases h
  · split at h
    · cases h
    · cases h; exact ⟨_, _, _, rfl, ‹_›, rfl⟩

theorem iterBorrow_frame {e : ExtB} (h : iterBorrow s k e = .ok s') :
    s'.bank = s.bank ∧ s'.prices = s.prices ∧ s'.lends = s.lends ∧ s'.stats = s.stats := by
  obtain ⟨_, _, _, -, -, rfl⟩ := iterBorrow_ok h
  exact ⟨rfl, rfl, rfl, rfl⟩

structure OnLend (cfg : Cfg) (s : State) (k : Nat) (r : Int) where
  l0 : Lend
  s1 : State
  l : Lend
  get0 : getLend s.lends k = some l0
  alive : s.isKilled l0.app = false
  accrue : iterLends cfg s k r = .ok s1
  get : getLend s1.lends k = some l

structure DepositOk (cfg : Cfg) (s : State) (u k d : Nat) (amt r : Int) extends OnLend cfg s k r where
  pool : PoolCfg
  rates : RatesCfg
  bank : Bank
  notDep : s.isDep l0.pool = false
  owner : l.owner = u
  denom : d = l.asset
  hpool : cfg.pool? l.pool = some pool
  cap : checkSupplyCap cfg s1 l.asset pool amt = .ok ()
  hrates : cfg.rates? l.asset = some rates
  pay : s1.bank.wrap u pool.acct d rates.cAsset amt bank

def DepositOk.post (e : DepositOk cfg s u k d amt r) : State :=
  { e.s1 with bank := e.bank, lends := setLend e.s1.lends { e.l with amountIn := e.l.amountIn + amt, avail := e.l.avail + amt },
              stats := addTotalLend e.s1.stats e.l.pool e.l.asset amt }

theorem deposit_ok (h : deposit cfg s u k d amt r = .ok s') : ∃ e : DepositOk cfg s u k d amt r, s' = e.post := by
  unfold deposit at h
  simp only [do_ok] at h
  obtain ⟨l0, h0, hd, hk, s1, hit, l, hl, ho, hden, pool, hp, hcap, rates, hr, bk1, h1, bk2, h2, bk3, h3, rfl⟩ := h
  exact ⟨⟨⟨l0, s1, l, h0, hk, hit, hl⟩, pool, rates, bk3, hd, ho, hden, hp, hcap, hr, bk1, h1, bk2, h2, h3⟩, rfl⟩

structure LendGuardsOk (cfg : Cfg) (s : State) (a d : Nat) (amt : Int) (po app : Nat) (pool : PoolCfg) : Prop where
  notDep : s.isDep po = false
  alive : s.isKilled app = false
  asset : ∃ ac, cfg.asset? a = some ac
  hpool : cfg.pool? po = some pool
  commodo : cfg.app? app = some true
  denom : d = a
  listed : (pool.assets.any fun x => x.asset == a) = true
  cap : checkSupplyCap cfg s a pool amt = .ok ()

theorem lendGuards_ok {pool : PoolCfg} (h : lendGuards cfg s a d amt po app = .ok pool) : LendGuardsOk cfg s a d amt po app pool := by
  unfold lendGuards at h
  simp only [do_ok] at h
  obtain ⟨h1, h2, ac, h3, pl, h4, _, h5, rfl, h6, h7, h8, rfl⟩ := h
  exact ⟨h1, h2, ⟨ac, h3⟩, h4, h5, h6, h7, h8⟩

structure LendNewOk (cfg : Cfg) (s : State) (u a : Nat) (amt : Int) (pool : PoolCfg) where
  rates : RatesCfg
  bank : Bank
  hrates : cfg.rates? a = some rates
  cAsset : ∃ ac, cfg.asset? rates.cAsset = some ac
  pay : s.bank.wrap u pool.acct a rates.cAsset amt bank
  record : ∃ st, getStats s.stats pool.id a = some st

def LendNewOk.post (e : LendNewOk cfg s u a amt pool) (app : Nat) : State :=
  { s with bank := e.bank, lendCtr := s.lendCtr + 1, lends := s.lends ++ [newLend s u a amt pool app],
           stats := addLendId (addTotalLend s.stats pool.id a amt) pool.id a (s.lendCtr + 1) }

theorem lendNew_ok {pool : PoolCfg} (h : lendNew cfg s u a amt pool app = .ok s') : ∃ e : LendNewOk cfg s u a amt pool, s' = e.post app := by
  unfold lendNew at h
  simp only [do_ok] at h
  obtain ⟨rates, hr, ac, ha, bk1, h1, bk2, h2, bk3, h3, st, hst, rfl⟩ := h
  exact ⟨⟨rates, bk3, hr, ⟨ac, ha⟩, ⟨bk1, h1, bk2, h2, h3⟩, ⟨st, hst⟩⟩, rfl⟩

theorem lend_ok (h : lend cfg s u a d amt po app r = .ok s') :
    ∃ pool, lendGuards cfg s a d amt po app = .ok pool ∧
      ((∃ l, findLendByAsset s u a po = some l ∧ deposit cfg s u l.id d amt r = .ok s') ∨
       (findLendByAsset s u a po = none ∧ lendNew cfg s u a amt pool app = .ok s')) := by
  unfold lend at h
  simp only [do_ok] at h
  obtain ⟨pool, hg, h⟩ := h
  refine ⟨pool, hg, ?_⟩
  split at h
  · exact .inl ⟨_, ‹_›, h⟩
  · exact .inr ⟨‹_›, h⟩

structure CloseLendOk (cfg : Cfg) (s : State) (u k : Nat) (r : Int) extends OnLend cfg s k r where
  pool : PoolCfg
  rates : RatesCfg
  bank : Bank
  hpool : cfg.pool? l.pool = some pool
  owner : l.owner = u
  unborrowed : (borrowsOfLend s1.borrows k).isEmpty = true
  funds : l.avail ≤ s1.bank.get pool.acct l.asset
  hrates : cfg.rates? l.asset = some rates
  pay : s1.bank.unwrap u pool.acct rates.cAsset l.asset l.avail bank

def CloseLendOk.post (e : CloseLendOk cfg s u k r) : State :=
  { e.s1 with bank := e.bank, lends := delLend e.s1.lends k,
              stats := delLendId (addTotalLend e.s1.stats e.l.pool e.l.asset (-e.l.avail)) e.l.pool e.l.asset k }

theorem closeLend_ok (h : closeLend cfg s u k r = .ok s') : ∃ e : CloseLendOk cfg s u k r, s' = e.post := by
  unfold closeLend at h
  simp only [do_ok] at h
  obtain ⟨l0, h0, hk, s1, hit, l, hl, pool, hp, ho, he, hf, rates, hr, bk1, h1, bk2, h2, bk3, h3, rfl⟩ := h
  exact ⟨⟨⟨l0, s1, l, h0, hk, hit, hl⟩, pool, rates, bk3, hp, ho, he, hf, hr, bk1, h1, bk2, h2, h3⟩, rfl⟩

structure WithdrawOk (cfg : Cfg) (s : State) (u k d : Nat) (w r : Int) extends OnLend cfg s k r where
  pool : PoolCfg
  rates : RatesCfg
  bank : Bank
  notAll : ¬ (w = l0.avail ∧ l0.amountIn ≤ l0.avail)
  hpool : cfg.pool? l.pool = some pool
  owner : l.owner = u
  within : w ≤ l.avail
  denom : d = l.asset
  funds : w ≤ s1.bank.get pool.acct d
  hrates : cfg.rates? l.asset = some rates
  pay : s1.bank.unwrap u pool.acct rates.cAsset d w bank

def WithdrawOk.post (e : WithdrawOk cfg s u k d w r) : State :=
  { e.s1 with bank := e.bank, stats := addTotalLend e.s1.stats e.l.pool e.l.asset (-w),
              lends := setLend e.s1.lends { e.l with amountIn := if w < e.l.amountIn then e.l.amountIn - w else 0, avail := e.l.avail - w } }

theorem withdraw_ok (h : withdraw cfg s u k d w r = .ok s') :
    (∃ l0, getLend s.lends k = some l0 ∧ (w = l0.avail ∧ l0.amountIn ≤ l0.avail) ∧ closeLend cfg s u k r = .ok s') ∨
    ∃ e : WithdrawOk cfg s u k d w r, s' = e.post := by
  unfold withdraw at h
  simp only [do_ok] at h
  obtain ⟨l0, h0, ⟨hw, hc⟩ | ⟨hw, hk, s1, hit, l, hl, pool, hp, ho, hin, hden, hf, rates, hr, bk1, h1, bk2, h2, bk3, h3, rfl⟩⟩ := h
  · exact .inl ⟨l0, h0, hw, hc⟩
  · exact .inr ⟨⟨⟨l0, s1, l, h0, hk, hit, hl⟩, pool, rates, bk3, hw, hp, ho, hin, hden, hf, hr, bk1, h1, bk2, h2, h3⟩,
      by unfold WithdrawOk.post; split <;> rfl⟩

structure OnBorrow (s : State) (u k : Nat) (ext : ExtB) where
  b0 : Borrow
  l : Lend
  s1 : State
  b : Borrow
  get0 : getBorrow s.borrows k = some b0
  open0 : b0.liq = false
  lend : getLend s.lends b0.lendingId = some l
  alive : s.isKilled l.app = false
  owner : l.owner = u
  accrue : iterBorrow s k ext = .ok s1
  get : getBorrow s1.borrows k = some b

structure DrawOk (cfg : Cfg) (s : State) (u k d : Nat) (y : Int) (ext : ExtB) extends OnBorrow s u k ext where
  pair : PairCfg
  pool : PoolCfg
  rates : RatesCfg
  bank : Bank
  hpair : cfg.pair? b0.pairId = some pair
  hpool : cfg.pool? pair.outPool = some pool
  notDep : s.isDep l.pool = false
  denom : b.outDenom = d
  assetIn : ∃ ac, cfg.asset? l.asset = some ac
  assetOut : ∃ ac, cfg.asset? pair.assetOut = some ac
  hrates : cfg.rates? pair.assetIn = some rates
  funds : y ≤ s1.bank.get pool.acct pair.assetOut
  ltv : verifyCR cfg s1.prices b.amountIn l.asset (b.amountOut + Dec.truncateInt b.interest + y) pair.assetOut (C08.ltvOf pair rates) = .ok ()
  pay : s1.bank.send pool.acct u d y = .ok bank
  record : ∃ st, getStats s1.stats pair.outPool pair.assetOut = some st

def DrawOk.post (e : DrawOk cfg s u k d y ext) : State :=
  { e.s1 with bank := e.bank, borrows := setBorrow e.s1.borrows { e.b with amountOut := e.b.amountOut + y },
              stats := addBorrowed e.s1.stats e.pair.outPool e.pair.assetOut e.b.stable y }

theorem draw_ok (h : draw cfg s u k d y ext = .ok s') : ∃ e : DrawOk cfg s u k d y ext, s' = e.post := by
  unfold draw at h
  simp only [do_ok] at h
  obtain ⟨b0, h0, hq, pair, hp, pool, hpl, l, hl, hd, hk, ho, s1, hit, b, hb, hden, ac, ha, ac', ha', rates, hr, hf, hv, bk1, h1, st, hst, rfl⟩ := h
  exact ⟨⟨⟨b0, l, s1, b, h0, hq, hl, hk, ho, hit, hb⟩, pair, pool, rates, bk1, hp, hpl, hd, hden, ⟨ac, ha⟩, ⟨ac', ha'⟩, hr, hf, hv, h1, ⟨st, hst⟩⟩, rfl⟩

structure TransitUnits (cfg : Cfg) (prices : List (Nat × Nat)) (pool : PoolCfg) where
  unit1 : Dec
  unit2 : Dec
  price1 : calcPrice cfg prices (firstTransit pool) 1 = .ok unit1
  price2 : calcPrice cfg prices (secondTransit pool) 1 = .ok unit2
  ne1 : unit1 ≠ 0
  ne2 : unit2 ≠ 0

structure DepositBorrowOk (cfg : Cfg) (s : State) (u k d : Nat) (x : Int) (ext : ExtB) extends OnBorrow s u k ext where
  rates : RatesCfg
  pair : PairCfg
  inPool : PoolCfg
  outPool : PoolCfg
  bank1 : Bank
  t : Nat
  q : Int
  bank : Bank
  notDep : s.isDep l.pool = false
  hrates : cfg.rates? l.asset = some rates
  cAsset : ∃ ac, cfg.asset? rates.cAsset = some ac
  denom : d = rates.cAsset
  within : x ≤ l.avail
  hpair : cfg.pair? b.pairId = some pair
  hin : cfg.pool? l.pool = some inPool
  hout : cfg.pool? pair.outPool = some outPool
  pay : s1.bank.send u inPool.acct d x = .ok bank1
  bridge : pair.inter = false ∧ q = 0 ∧ bank = bank1 ∨
    pair.inter = true ∧ ∃ v, calcPrice cfg s1.prices pair.assetIn (Dec.truncateInt (Dec.mul (Dec.ofInt x) rates.ltv)) = .ok v ∧
      ∃ tu : TransitUnits cfg s1.prices inPool,
        ((b.brDenom = denomOf cfg (firstTransit inPool) ∧
            Dec.quo v tu.unit1 < Dec.ofInt (s1.bank.get inPool.acct (denomOf cfg (firstTransit inPool)))) ∧
            t = denomOf cfg (firstTransit inPool) ∧ q = Dec.truncateInt (Dec.quo v tu.unit1) ∨
         ¬ (b.brDenom = denomOf cfg (firstTransit inPool) ∧
            Dec.quo v tu.unit1 < Dec.ofInt (s1.bank.get inPool.acct (denomOf cfg (firstTransit inPool)))) ∧
            Dec.quo v tu.unit2 < Dec.ofInt (s1.bank.get inPool.acct (denomOf cfg (secondTransit inPool))) ∧
            t = denomOf cfg (secondTransit inPool) ∧ q = Dec.truncateInt (Dec.quo v tu.unit2)) ∧
        bank1.send inPool.acct outPool.acct t q = .ok bank
  sameDenom : b.inDenom = d

def DepositBorrowOk.post (e : DepositBorrowOk cfg s u k d x ext) : State :=
  { e.s1 with bank := e.bank, lends := setLend e.s1.lends { e.l with avail := e.l.avail - x },
              borrows := setBorrow e.s1.borrows { e.b with amountIn := e.b.amountIn + x, bridged := e.b.bridged + e.q } }

theorem depositBorrow_ok (h : depositBorrow cfg s u k d x ext = .ok s') : ∃ e : DepositBorrowOk cfg s u k d x ext, s' = e.post := by
  unfold depositBorrow at h
  simp only [do_ok, reduceCtorEq] at h
  obtain ⟨b0, h0, hq, l, hl, hd, hk, ho, s1, hit, b, hb, rates, hr, ac, ha, hden, hx, pair, hp, inPool, hip, outPool, hop, hpay⟩ := h
  rcases hpay with ⟨hi, bk1, h1, hin, rfl⟩ |
    ⟨hi, v, hv, u1, hu1, u2, hu2, n1, n2, ⟨c1, bk1, h1, bk2, h2, hin, rfl⟩ | ⟨c1, c2, bk1, h1, bk2, h2, hin, rfl⟩⟩
  · exact ⟨⟨⟨b0, l, s1, b, h0, hq, hl, hk, ho, hit, hb⟩, rates, pair, inPool, outPool, bk1, 0, 0, bk1, hd, hr, ⟨ac, ha⟩, hden, hx, hp, hip, hop, h1, .inl ⟨hi, rfl, rfl⟩, hin⟩,
      by simp only [DepositBorrowOk.post, Int.add_zero]⟩
  · exact ⟨⟨⟨b0, l, s1, b, h0, hq, hl, hk, ho, hit, hb⟩, rates, pair, inPool, outPool, bk1, _, _, bk2, hd, hr, ⟨ac, ha⟩, hden, hx, hp, hip, hop, h1,
      .inr ⟨hi, v, hv, ⟨u1, u2, hu1, hu2, n1, n2⟩, .inl ⟨c1, rfl, rfl⟩, h2⟩, hin⟩, rfl⟩
  · exact ⟨⟨⟨b0, l, s1, b, h0, hq, hl, hk, ho, hit, hb⟩, rates, pair, inPool, outPool, bk1, _, _, bk2, hd, hr, ⟨ac, ha⟩, hden, hx, hp, hip, hop, h1,
      .inr ⟨hi, v, hv, ⟨u1, u2, hu1, hu2, n1, n2⟩, .inr ⟨c1, c2, rfl, rfl⟩, h2⟩, hin⟩, rfl⟩

structure BorrowNewOk (cfg : Cfg) (s : State) (u : Nat) (l : Lend) (pair : PairCfg) (rates : RatesCfg) (stable : Bool) (dIn : Nat)
    (aIn : Int) (dOut : Nat) (aOut : Int) where
  inPool : PoolCfg
  outPool : PoolCfg
  bank1 : Bank
  t : Nat
  q : Int
  bank2 : Bank
  bank : Bank
  isolated : rates.isolated = true →
    (s.lends.any fun l' => l'.owner == u && l'.asset == pair.assetIn && !(borrowsOfLend s.borrows l'.id).isEmpty) = false
  within : aIn ≤ l.avail
  denom : dOut = pair.assetOut
  hin : cfg.pool? l.pool = some inPool
  hout : cfg.pool? pair.outPool = some outPool
  stableOk : (stable && !rates.stableOk) = false
  ltv : verifyCR cfg s.prices aIn l.asset aOut pair.assetOut (C08.ltvOf pair rates) = .ok ()
  funds : aOut ≤ s.bank.get outPool.acct dOut
  record : ∃ st, getStats s.stats pair.outPool pair.assetOut = some st
  apr : (!(rates.stableOk && stable) || (cfg.rates? pair.assetOut).isSome) = true
  pay : s.bank.send u inPool.acct dIn aIn = .ok bank1
  bridge : pair.inter = false ∧ t = dOut ∧ q = 0 ∧ bank2 = bank1 ∨
    pair.inter = true ∧ aIn.natAbs < 2 ^ 63 ∧
      ∃ v, calcPrice cfg s.prices l.asset (Dec.truncateInt (Dec.mul (Dec.ofInt aIn) (C08.ltvOf pair rates))) = .ok v ∧
      ∃ tu : TransitUnits cfg s.prices inPool,
      ∃ r1, cfg.rates? (firstTransit inPool) = some r1 ∧ ∃ r2, cfg.rates? (secondTransit inPool) = some r2 ∧
        (Dec.quo v tu.unit1 < Dec.ofInt (s.bank.get inPool.acct (denomOf cfg (firstTransit inPool))) ∧
            verifyCR cfg s.prices (Dec.truncateInt (Dec.quo v tu.unit1)) (firstTransit inPool) aOut pair.assetOut r1.ltv = .ok () ∧
            t = denomOf cfg (firstTransit inPool) ∧ q = Dec.truncateInt (Dec.quo v tu.unit1) ∨
         Dec.ofInt (s.bank.get inPool.acct (denomOf cfg (firstTransit inPool))) ≤ Dec.quo v tu.unit1 ∧
            Dec.quo v tu.unit2 < Dec.ofInt (s.bank.get inPool.acct (denomOf cfg (secondTransit inPool))) ∧
            verifyCR cfg s.prices (Dec.truncateInt (Dec.quo v tu.unit2)) (secondTransit inPool) aOut pair.assetOut r2.ltv = .ok () ∧
            t = denomOf cfg (secondTransit inPool) ∧ q = Dec.truncateInt (Dec.quo v tu.unit2)) ∧
        bank1.send inPool.acct outPool.acct t q = .ok bank2
  payout : bank2.send outPool.acct u dOut aOut = .ok bank

theorem borrowNew_ok {l : Lend} {pair : PairCfg} {rates : RatesCfg}
    (h : borrowNew cfg s u l pair rates stable dIn aIn dOut aOut = .ok s') :
    ∃ e : BorrowNewOk cfg s u l pair rates stable dIn aIn dOut aOut, s' = openBorrow s l pair stable dIn aIn dOut aOut e.t e.q e.bank := by
  unfold borrowNew at h
  simp -zeta only [ite_bind_unit] at h
  simp only [do_ok, reduceCtorEq] at h
  obtain ⟨hiso, hx, hden, inPool, hip, outPool, hop, hst, hv, hf, st, hs, hr, hpay⟩ := h
  have hiso : rates.isolated = true → _ := fun hi => hiso.elim (·.2) (absurd hi ·.1)
  rcases hpay with ⟨hi, bk1, h1, bk3, h3, rfl⟩ |
    ⟨hi, h64, v, hv', u1, hu1, u2, hu2, n1, n2, r1, hr1, r2, hr2,
      ⟨c1, cr, bk1, h1, bk2, h2, bk3, h3, rfl⟩ | ⟨c1, c2, cr, bk1, h1, bk2, h2, bk3, h3, rfl⟩⟩
  · exact ⟨⟨inPool, outPool, bk1, _, _, bk1, bk3, hiso, hx, hden, hip, hop, hst, hv, hf, ⟨st, hs⟩, hr, h1, .inl ⟨hi, rfl, rfl, rfl⟩, h3⟩, rfl⟩
  · exact ⟨⟨inPool, outPool, bk1, _, _, bk2, bk3, hiso, hx, hden, hip, hop, hst, hv, hf, ⟨st, hs⟩, hr, h1,
      .inr ⟨hi, h64, v, hv', ⟨u1, u2, hu1, hu2, n1, n2⟩, r1, hr1, r2, hr2, .inl ⟨c1, cr, rfl, rfl⟩, h2⟩, h3⟩, rfl⟩
  · exact ⟨⟨inPool, outPool, bk1, _, _, bk2, bk3, hiso, hx, hden, hip, hop, hst, hv, hf, ⟨st, hs⟩, hr, h1,
      .inr ⟨hi, h64, v, hv', ⟨u1, u2, hu1, hu2, n1, n2⟩, r1, hr1, r2, hr2, .inr ⟨c1, c2, cr, rfl, rfl⟩, h2⟩, h3⟩, rfl⟩

/-- `minLoan`: `minUSDVal` (10⁶ in `Dec`) -/
structure BorrowOk (cfg : Cfg) (s : State) (u k pid dIn : Nat) (aOut : Int) where
  l : Lend
  pair : PairCfg
  rates : RatesCfg
  v : Dec
  get : getLend s.lends k = some l
  notDep : s.isDep l.pool = false
  alive : s.isKilled l.app = false
  owner : l.owner = u
  hpair : cfg.pair? pid = some pair
  listed : (cfg.pairsOf pair.assetIn l.pool).contains pid = true
  assetIn : ∃ ac, cfg.asset? l.asset = some ac
  assetOut : ∃ ac, cfg.asset? pair.assetOut = some ac
  hrates : cfg.rates? pair.assetIn = some rates
  cAsset : ∃ ac, cfg.asset? rates.cAsset = some ac
  denom : dIn = rates.cAsset
  sameAsset : pair.assetIn = l.asset
  value : calcPrice cfg s.prices pair.assetOut aOut = .ok v
  minLoan : 1000000 * Dec.P ≤ v

theorem borrow_ok (h : borrow cfg s u k pid stable dIn aIn dOut aOut e1 e2 = .ok s') :
    ∃ e : BorrowOk cfg s u k pid dIn aOut,
      (∃ b, findBorrowByPair s u pid = some b ∧ ∃ s1, depositBorrow cfg s u b.id dIn aIn e1 = .ok s1 ∧ draw cfg s1 u b.id dOut aOut e2 = .ok s') ∨
      (findBorrowByPair s u pid = none ∧ borrowNew cfg s u e.l e.pair e.rates stable dIn aIn dOut aOut = .ok s') := by
  unfold borrow at h
  simp only [do_ok] at h
  obtain ⟨l, hl, hd, hk, ho, pair, hp, hin, a1, h1, a2, h2, rates, hr, a3, h3, hden, hsame, h⟩ := h
  split at h
  · cases h
  · rename_i v hv
    split at h
    · cases h
    · rename_i hmin
      refine ⟨⟨l, pair, rates, v, hl, hd, hk, ho, hp, hin, ⟨a1, h1⟩, ⟨a2, h2⟩, hr, ⟨a3, h3⟩, hden, hsame, hv, Int.not_lt.mp hmin⟩, ?_⟩
      split at h
      · simp only [do_ok] at h
        exact .inl ⟨_, ‹_›, h⟩
      · exact .inr ⟨‹_›, h⟩

theorem borrowAlternate_ok (h : borrowAlternate cfg s u a po d amt pid stable dOut aOut app r e1 e2 = .ok s') :
    ∃ pool, lendGuards cfg s a d amt po app = .ok pool ∧ ∃ rates, cfg.rates? a = some rates ∧ ∃ s1 k,
      ((∃ l, findLendByAsset s u a po = some l ∧ k = l.id ∧ deposit cfg s u l.id d amt r = .ok s1) ∨
       (findLendByAsset s u a po = none ∧ k = s1.lendCtr ∧ lendNew cfg s u a amt pool app = .ok s1)) ∧
      borrow cfg s1 u k pid stable rates.cAsset amt dOut aOut e1 e2 = .ok s' := by
  unfold borrowAlternate at h
  simp only [do_ok] at h
  obtain ⟨pool, hg, rates, hr, h⟩ := h
  refine ⟨pool, hg, rates, hr, ?_⟩
  split at h <;> simp only [do_ok] at h <;> obtain ⟨s1, h1, h2⟩ := h
  · exact ⟨s1, _, .inl ⟨_, ‹_›, rfl, h1⟩, h2⟩
  · exact ⟨s1, _, .inr ⟨‹_›, rfl, h1⟩, h2⟩

structure CloseBorrowOk (cfg : Cfg) (s : State) (u k : Nat) (ext : ExtB) extends OnBorrow s u k ext where
  pair : PairCfg
  ratesOut : RatesCfg
  pool : PoolCfg
  inPool : PoolCfg
  bank : Bank
  hpair : cfg.pair? b0.pairId = some pair
  hrates : cfg.rates? pair.assetOut = some ratesOut
  cAsset : ∃ ac, cfg.asset? ratesOut.cAsset = some ac
  hpool : cfg.pool? pair.outPool = some pool
  hin : cfg.pool? l.pool = some inPool
  assetOut : ∃ ac, cfg.asset? pair.assetOut = some ac
  reserveNonneg : 0 ≤ b.reserveShare
  pay : ∃ bk1, s1.bank.send u pool.acct pair.assetOut (b.amountOut + Dec.truncateInt b.interest) = .ok bk1 ∧
    ∃ bk2, bk1.send inPool.acct l.owner b.inDenom b.amountIn = .ok bk2 ∧
    ∃ bk3, bk2.send pool.acct cfg.reserveAcct pair.assetOut b.reserveShare = .ok bk3 ∧
    ∃ bk4, bk3.mint pool.acct ratesOut.cAsset (posPart b.lendersShare) = .ok bk4 ∧
    bk4.send pool.acct inPool.acct b.brDenom (if pair.inter then b.bridged else 0) = .ok bank
  record : ∃ st, getStats s1.stats pair.outPool pair.assetOut = some st

def CloseBorrowOk.post (e : CloseBorrowOk cfg s u k ext) : State :=
  { e.s1 with bank := e.bank, borrows := delBorrow e.s1.borrows k,
              lends := setLend e.s1.lends { e.l with avail := e.l.avail + e.b.amountIn },
              stats := delBorrowId (addBorrowed (bookInterest e.s1.stats e.pair.outPool e.pair.assetOut e.b.lendersShare)
                e.pair.outPool e.pair.assetOut e.b.stable (-e.b.amountOut)) e.pair.outPool e.pair.assetOut k,
              resv := bookRepay e.s1.resv e.pair.assetOut e.b.reserveShare }

theorem closeBorrow_ok (h : closeBorrow cfg s u k ext = .ok s') : ∃ e : CloseBorrowOk cfg s u k ext, s' = e.post := by
  unfold closeBorrow at h
  simp -zeta only [ite_bind, send_ite, mint_ite] at h
  simp only [do_ok] at h
  obtain ⟨b0, h0, hq, pair, hp, ratesOut, hro, a1, e1, pool, hpl, l, hl, hk, ho, s1, hit, b, hb, inPool, hip, a2, e2, rest⟩ := h
  obtain ⟨bk1, h1, bk2, h2, hn, bk3, h3, bk4, h4, bk5, h5, st, hst, rfl⟩ := rest
  exact ⟨⟨⟨b0, l, s1, b, h0, hq, hl, hk, ho, hit, hb⟩, pair, ratesOut, pool, inPool, bk5, hp, hro, ⟨a1, e1⟩, hpl, hip, ⟨a2, e2⟩, hn,
    ⟨bk1, h1, bk2, h2, bk3, h3, bk4, h4, h5⟩, ⟨st, hst⟩⟩, rfl⟩

structure RepayOk (cfg : Cfg) (s : State) (u k d : Nat) (p : Int) (ext : ExtB) extends OnBorrow s u k ext where
  pair : PairCfg
  ratesOut : RatesCfg
  pool : PoolCfg
  bank1 : Bank
  notAll : p ≠ b0.amountOut + Dec.truncateInt b0.interest
  hpair : cfg.pair? b0.pairId = some pair
  hrates : cfg.rates? pair.assetOut = some ratesOut
  cAsset : ∃ ac, cfg.asset? ratesOut.cAsset = some ac
  hpool : cfg.pool? pair.outPool = some pool
  denom : b.outDenom = d
  below : p < b.amountOut + Dec.truncateInt (Dec.ceil b.interest)
  pay : s1.bank.send u pool.acct d p = .ok bank1

theorem repay_ok (h : repay cfg s u k d p ext = .ok s') :
    (∃ b0, getBorrow s.borrows k = some b0 ∧ b0.liq = false ∧ p = b0.amountOut + Dec.truncateInt b0.interest ∧
      closeBorrow cfg s u k ext = .ok s') ∨
    ∃ e : RepayOk cfg s u k d p ext,
      (p ≤ e.b.reserveShare ∧ ∃ bk2, e.bank1.send e.pool.acct cfg.reserveAcct d p = .ok bk2 ∧
        s' = { e.s1 with bank := bk2, resv := resvRepay e.s1.resv e.pair.assetOut p,
                         borrows := setBorrow e.s1.borrows
                           { e.b with reserveInt := e.b.reserveInt - Dec.ofInt p, interest := e.b.interest - Dec.ofInt p } }) ∨
      (e.b.reserveShare < p ∧
       ((p ≤ Dec.truncateInt e.b.interest ∧ ∃ bk2, e.bank1.send e.pool.acct cfg.reserveAcct d e.b.reserveShare = .ok bk2 ∧
          0 ≤ p - e.b.reserveShare ∧ ∃ bk3, bk2.mint e.pool.acct e.ratesOut.cAsset (posPart (p - e.b.reserveShare)) = .ok bk3 ∧
          s' = { e.s1 with bank := bk3, resv := resvRepay e.s1.resv e.pair.assetOut e.b.reserveShare,
                           stats := bookInterest e.s1.stats e.pair.outPool e.pair.assetOut (p - e.b.reserveShare),
                           borrows := setBorrow e.s1.borrows
                             { e.b with reserveInt := e.b.reserveInt - Dec.ofInt e.b.reserveShare, interest := e.b.interest - Dec.ofInt p } }) ∨
        (Dec.truncateInt e.b.interest < p ∧ ∃ bk2, e.bank1.send e.pool.acct cfg.reserveAcct d e.b.reserveShare = .ok bk2 ∧
          0 ≤ e.b.lendersShare ∧ ∃ bk3, bk2.mint e.pool.acct e.ratesOut.cAsset (posPart e.b.lendersShare) = .ok bk3 ∧
          (∃ st, getStats e.s1.stats e.pair.outPool e.pair.assetOut = some st) ∧
          s' = { e.s1 with bank := bk3, resv := resvRepay e.s1.resv e.pair.assetOut e.b.reserveShare,
                           stats := addBorrowed (bookInterest e.s1.stats e.pair.outPool e.pair.assetOut e.b.lendersShare)
                             e.pair.outPool e.pair.assetOut e.b.stable (-(p - Dec.truncateInt e.b.interest)),
                           borrows := setBorrow e.s1.borrows
                             { e.b with reserveInt := e.b.reserveInt - Dec.ofInt e.b.reserveShare,
                                        amountOut := e.b.amountOut - (p - Dec.truncateInt e.b.interest),
                                        interest := e.b.interest - Dec.ofInt (Dec.truncateInt e.b.interest) } }))) := by
  unfold repay at h
  simp -zeta only [ite_bind, mint_ite] at h
  simp only [do_ok] at h
  obtain ⟨b0, h0, hq, ⟨hpe, hc⟩ | ⟨hpe, pair, hp, ratesOut, hro, a1, e1, pool, hpl, l, hl, hk, ho, s1, hit, b, hb, hd, hlt, bk1, h1, rest⟩⟩ := h
  · exact .inl ⟨b0, h0, hq, hpe, hc⟩
  · refine .inr ⟨⟨⟨b0, l, s1, b, h0, hq, hl, hk, ho, hit, hb⟩, pair, ratesOut, pool, bk1, hpe, hp, hro, ⟨a1, e1⟩, hpl, hd, hlt, h1⟩, ?_⟩
    obtain hA | ⟨hnA, hB | ⟨hnB, bk2, h2, hn, bk3, h3, st, hst, rfl⟩⟩ := rest
    · exact .inl hA
    · exact .inr ⟨hnA, .inl hB⟩
    · exact .inr ⟨hnA, .inr ⟨hnB, bk2, h2, hn, bk3, h3, ⟨st, hst⟩, rfl⟩⟩

theorem repayWithdraw_ok (h : repayWithdraw cfg s u k ext r = .ok s') :
    ∃ b, getBorrow s.borrows k = some b ∧ ∃ s1, closeBorrow cfg s u k ext = .ok s1 ∧
    ∃ l, getLend s1.lends b.lendingId = some l ∧ withdraw cfg s1 u b.lendingId l.asset b.amountIn r = .ok s' := by
  unfold repayWithdraw at h
  simp only [do_ok] at h
  exact h

theorem calcBorrow_ok (h : calcBorrow s u k ext = .ok s') :
    ∃ b l, getBorrow s.borrows k = some b ∧ b.liq = false ∧ getLend s.lends b.lendingId = some l ∧ s.isKilled l.app = false ∧
      l.owner = u ∧ iterBorrow s k ext = .ok s' := by
  unfold calcBorrow at h
  simp only [do_ok] at h
  obtain ⟨b, hb, hq, l, rest⟩ := h
  exact ⟨b, l, hb, hq, rest⟩

/-- a run of `calcBorrows` is a sequence of accepted accruals, the failed ones are skipped -/
theorem calcBorrows_induction {R : State → State → Prop} (refl : ∀ s, R s s) (trans : ∀ {s1 s2 s3}, R s1 s2 → R s2 s3 → R s1 s3)
    (step : ∀ {s s' k ext}, iterBorrow s k ext = .ok s' → R s s') (bs : List (Nat × ExtB)) {s s' : State}
    (h : calcBorrows s u bs = .ok s') : R s s' := by
  induction bs generalizing s with
  | nil => cases h; exact refl _
  | cons x bs ih =>
    simp only [calcBorrows] at h
    split at h
    · obtain ⟨_, _, _, _, _, _, _, hit⟩ := calcBorrow_ok ‹_›
      exact trans (step hit) (ih h)
    · split at h
      · cases h
      · exact ih h

theorem calcLends_cons_ok {rest : List (Nat × Int)} (h : calcLends cfg s u ((k, r) :: rest) = .ok s') :
    ∃ o : OnLend cfg s k r, o.l.owner = u ∧ calcLends cfg o.s1 u rest = .ok s' := by
  simp only [calcLends, do_ok] at h
  obtain ⟨l0, h0, hk, s1, hit, l, hl, rest⟩ := h
  exact ⟨⟨l0, s1, l, h0, hk, hit, hl⟩, rest⟩

theorem calcMsg_ok {bs : List (Nat × ExtB)} {ls : List (Nat × Int)} (h : calcMsg cfg s u bs ls = .ok s') :
    (s.lends.filter fun l => l.owner == u).isEmpty = false ∧ ls.map (·.1) = (s.lends.filter fun l => l.owner == u).map (·.id) ∧
    bs.map (·.1) = ((s.lends.filter fun l => l.owner == u).flatMap fun l => (borrowsOfLend s.borrows l.id).map (·.id)) ∧
    ∃ s1, calcBorrows s u bs = .ok s1 ∧ calcLends cfg s1 u ls = .ok s' := by
  unfold calcMsg at h
  simp only [do_ok] at h
  exact h

theorem fundModule_ok (h : fundModule cfg s u po a d amt = .ok s') :
    ∃ pool, cfg.pool? po = some pool ∧ ∃ bk1, s.bank.send u pool.acct d amt = .ok bk1 ∧ (∃ ac, cfg.asset? a = some ac) ∧ d = a ∧
    ∃ rates, cfg.rates? a = some rates ∧ (∃ ac, cfg.asset? rates.cAsset = some ac) ∧
    ∃ bk2, bk1.mint pool.acct rates.cAsset amt = .ok bk2 ∧ s' = { s with bank := bk2 } := by
  unfold fundModule at h
  simp only [do_ok] at h
  obtain ⟨pool, hp, bk1, h1, ac, ha, hd, rates, hr, ac', ha', rest⟩ := h
  exact ⟨pool, hp, bk1, h1, ⟨ac, ha⟩, hd, rates, hr, ⟨ac', ha'⟩, rest⟩

theorem fundReserve_ok (h : fundReserve cfg s u a d amt = .ok s') :
    (∃ ac, cfg.asset? a = some ac) ∧ d = a ∧ ∃ bk1, s.bank.send u cfg.reserveAcct d amt = .ok bk1 ∧
    s' = { s with bank := bk1, resv := modResv s.resv a (·.addFunded amt) } := by
  unfold fundReserve at h
  simp only [do_ok] at h
  obtain ⟨ac, ha, rest⟩ := h
  exact ⟨⟨ac, ha⟩, rest⟩

structure HandoverOk (cfg : Cfg) (s : State) (k : Nat) where
  b : Borrow
  l : Lend
  pair : PairCfg
  pool : PoolCfg
  rates : RatesCfg
  bank : Bank
  get : getBorrow s.borrows k = some b
  open0 : b.liq = false
  lend : getLend s.lends b.lendingId = some l
  alive : s.isKilled l.app = false
  hpair : cfg.pair? b.pairId = some pair
  hpool : cfg.pool? l.pool = some pool
  hrates : cfg.rates? pair.assetIn = some rates
  pay : ∃ bk1, s.bank.send pool.acct cfg.auctionAcct pair.assetIn b.amountIn = .ok bk1 ∧ bk1.burn pool.acct rates.cAsset b.amountIn = .ok bank
  recordOut : ∃ st, getStats s.stats pair.outPool pair.assetOut = some st
  recordIn : ∃ st, getStats s.stats l.pool l.asset = some st
  feeNonneg : 0 ≤ handoverFee rates b

/-- the state after the hand-over up to the lend position -/
def HandoverOk.mid (e : HandoverOk cfg s k) (ni : Dec) : State :=
  { s with bank := e.bank, borrows := setBorrow s.borrows { e.b with liq := true, interest := ni },
           stats := addTotalLend (addBorrowed s.stats e.pair.outPool e.pair.assetOut e.b.stable (-e.b.amountOut)) e.l.pool e.l.asset (-e.b.amountIn),
           locked := s.locked ++ [{ borrowId := e.b.id, owner := e.l.owner, target := e.b.amountOut + handoverFee e.rates e.b,
                                    fee := handoverFee e.rates e.b }] }

theorem handover_ok {ni : Dec} (h : handover cfg s k ni = .ok s') :
    ∃ e : HandoverOk cfg s k,
      (e.l.amountIn - e.b.amountIn ≤ 0 ∧
        s' = { e.mid ni with stats := delLendId (e.mid ni).stats e.l.pool e.l.asset e.l.id, lends := delLend s.lends e.l.id }) ∨
      (0 < e.l.amountIn - e.b.amountIn ∧ s' = { e.mid ni with lends := setLend s.lends { e.l with amountIn := e.l.amountIn - e.b.amountIn } }) := by
  unfold handover at h
  simp only [do_ok] at h
  obtain ⟨b, hb, hq, l, hl, hk, pair, hp, pool, hpl, rates, hr, bk1, h1, bk2, h2, st, hst, st', hst', hfee, hs'⟩ := h
  refine ⟨⟨b, l, pair, pool, rates, bk2, hb, hq, hl, hk, hp, hpl, hr, ⟨bk1, h1, h2⟩, ⟨st, hst⟩, ⟨st', hst'⟩, hfee⟩, ?_⟩
  rcases hs' with ⟨c, rfl⟩ | ⟨c, rfl⟩
  · exact .inl ⟨c, rfl⟩
  · exact .inr ⟨c, rfl⟩

theorem auctionBid_ok (h : auctionBid cfg s u k paid recv = .ok s') :
    ∃ b, getBorrow s.borrows k = some b ∧ (∃ lk, getLocked s.locked k = some lk) ∧ b.liq = true ∧ ∃ pair, cfg.pair? b.pairId = some pair ∧
    ∃ bk1, s.bank.send u cfg.auctionAcct b.outDenom paid = .ok bk1 ∧ ∃ bk2, bk1.send cfg.auctionAcct u pair.assetIn recv = .ok bk2 ∧
    s' = { s with bank := bk2 } := by
  unfold auctionBid at h
  simp only [do_ok] at h
  obtain ⟨b, hb, lk, hlk, rest⟩ := h
  exact ⟨b, hb, ⟨lk, hlk⟩, rest⟩

/-- bid.go lend branch + `MsgCloseDutchAuctionForBorrow`; `bank7`: before the bridged asset returns to the pool of the lend position, which
must still exist -/
structure AuctionCloseOk (cfg : Cfg) (s : State) (u k : Nat) (paid recv left topUp : Int) where
  b : Borrow
  lk : Locked
  pair : PairCfg
  pool : PoolCfg
  ratesOut : RatesCfg
  ratesIn : RatesCfg
  bank7 : Bank
  bank : Bank
  get : getBorrow s.borrows k = some b
  vault : getLocked s.locked k = some lk
  liq : b.liq = true
  hpair : cfg.pair? b.pairId = some pair
  hpool : cfg.pool? pair.outPool = some pool
  hratesOut : cfg.rates? pair.assetOut = some ratesOut
  hratesIn : cfg.rates? pair.assetIn = some ratesIn
  pay : ∃ bk0, s.bank.mint cfg.auctionAcct b.outDenom topUp = .ok bk0 ∧ ∃ bk1, bk0.send u cfg.auctionAcct b.outDenom paid = .ok bk1 ∧
    ∃ bk2, bk1.send cfg.auctionAcct u pair.assetIn recv = .ok bk2 ∧ ∃ bk3, bk2.send cfg.auctionAcct lk.owner pair.assetIn left = .ok bk3 ∧
    ∃ bk4, bk3.send cfg.auctionAcct pool.acct b.outDenom lk.target = .ok bk4 ∧
    ∃ bk5, bk4.send pool.acct cfg.reserveAcct b.outDenom (closePenalty pair ratesIn b) = .ok bk5 ∧
    ∃ bk6, bk5.send pool.acct cfg.reserveAcct b.outDenom (posPart b.reserveShare) = .ok bk6 ∧
    bk6.mint pool.acct ratesOut.cAsset (posPart b.lendersShare) = .ok bank7
  bridgeBack : (0 < b.bridged ∧ ∃ l, getLend s.lends b.lendingId = some l ∧ ∃ inPool, cfg.pool? l.pool = some inPool ∧
      bank7.send pool.acct inPool.acct b.brDenom b.bridged = .ok bank) ∨ (b.bridged ≤ 0 ∧ bank = bank7)

def AuctionCloseOk.post (e : AuctionCloseOk cfg s u k paid recv left topUp) : State :=
  { s with bank := e.bank, borrows := delBorrow s.borrows k, locked := delLocked s.locked k,
           resv := bookRepay (modResv s.resv e.pair.assetOut (·.addPenalty (closePenalty e.pair e.ratesIn e.b))) e.pair.assetOut e.b.reserveShare,
           stats := delBorrowId (bookInterest s.stats e.pair.outPool e.pair.assetOut e.b.lendersShare) e.pair.outPool e.pair.assetOut k }

theorem auctionClose_ok (h : auctionClose cfg s u k paid recv left topUp = .ok s') :
    ∃ e : AuctionCloseOk cfg s u k paid recv left topUp, s' = e.post := by
  unfold auctionClose at h
  simp -zeta only [ite_bind, send_ite, mint_ite] at h
  simp only [do_ok] at h
  obtain ⟨b, hb, lk, hlk, hq, pair, hp, bk0, h0, bk1, h1, bk2, h2, bk3, h3, pool, hpl, rO, hrO, rI, hrI, bk4, h4, bk5, h5, bk6, h6, bk7, h7, h8⟩ := h
  rcases h8 with ⟨c, l, hl, inPool, hip, bk8, h8, rfl⟩ | ⟨c, bk8, rfl, rfl⟩
  · exact ⟨⟨b, lk, pair, pool, rO, rI, bk7, bk8, hb, hlk, hq, hp, hpl, hrO, hrI, ⟨bk0, h0, bk1, h1, bk2, h2, bk3, h3, bk4, h4, bk5, h5, bk6, h6, h7⟩,
      .inl ⟨c, l, hl, inPool, hip, h8⟩⟩, rfl⟩
  · exact ⟨⟨b, lk, pair, pool, rO, rI, bk8, bk8, hb, hlk, hq, hp, hpl, hrO, hrI, ⟨bk0, h0, bk1, h1, bk2, h2, bk3, h3, bk4, h4, bk5, h5, bk6, h6, h7⟩,
      .inr ⟨c, rfl⟩⟩, rfl⟩

theorem sweepPool_ok (h : sweepPool cfg s po = .ok s') :
    s.delPools.contains po = false ∧ ∃ pool, cfg.pool? po = some pool ∧
    (((noIds s.stats po (mainAsset pool) && noIds s.stats po (firstTransit pool) && noIds s.stats po (secondTransit pool)) = true ∧
        (∃ ac, cfg.asset? (mainAsset pool) = some ac) ∧ (∃ ac, cfg.asset? (firstTransit pool) = some ac) ∧
        (∃ ac, cfg.asset? (secondTransit pool) = some ac) ∧
        ∃ bk1, s.bank.send pool.acct cfg.reserveAcct (mainAsset pool) (s.bank.get pool.acct (mainAsset pool)) = .ok bk1 ∧
        ∃ bk2, bk1.send pool.acct cfg.reserveAcct (firstTransit pool) (s.bank.get pool.acct (firstTransit pool)) = .ok bk2 ∧
        ∃ bk3, bk2.send pool.acct cfg.reserveAcct (secondTransit pool) (s.bank.get pool.acct (secondTransit pool)) = .ok bk3 ∧
        s' = { s with bank := bk3, delPools := po :: s.delPools,
                      resv := modResv (modResv (modResv s.resv (mainAsset pool) fun r =>
                          r.halves (s.bank.get pool.acct (mainAsset pool)) true) (firstTransit pool) fun r =>
                          r.halves (s.bank.get pool.acct (firstTransit pool)) true) (secondTransit pool) fun r =>
                          r.halves (s.bank.get pool.acct (secondTransit pool)) true }) ∨
      (¬ (noIds s.stats po (mainAsset pool) && noIds s.stats po (firstTransit pool) && noIds s.stats po (secondTransit pool)) = true ∧
        s' = s)) := by
  unfold sweepPool at h
  simp only [do_ok] at h
  obtain ⟨hd, pool, hp, ⟨hn, a1, h1, a2, h2, a3, h3, rest⟩ | hs⟩ := h
  · exact ⟨hd, pool, hp, .inl ⟨hn, ⟨a1, h1⟩, ⟨a2, h2⟩, ⟨a3, h3⟩, rest⟩⟩
  · exact ⟨hd, pool, hp, .inr hs⟩

theorem sweepPools_cons_ok {ps : List Nat} (h : sweepPools cfg s (po :: ps) = .ok s') :
    ∃ s1, sweepPool cfg s po = .ok s1 ∧ sweepPools cfg s1 ps = .ok s' := by
  simpa only [sweepPools, bind_ok_iff] using h

theorem sweepPools_induction {R : State → State → Prop} (refl : ∀ s, R s s) (trans : ∀ {s1 s2 s3}, R s1 s2 → R s2 s3 → R s1 s3)
    (step : ∀ {s s' p}, sweepPool cfg s p = .ok s' → R s s') (ps : List Nat) {s s' : State} (h : sweepPools cfg s ps = .ok s') : R s s' := by
  induction ps generalizing s with
  | nil => cases h; exact refl _
  | cons p ps ih =>
    obtain ⟨s1, h1, h2⟩ := sweepPools_cons_ok h
    exact trans (step h1) (ih h2)

theorem verifyCR_ok {prices : List (Nat × Nat)} {aIn : Int} {assetIn : Nat} {aOut : Int} {assetOut : Nat} {ltv : Dec} {u : Unit}
    (h : verifyCR cfg prices aIn assetIn aOut assetOut ltv = .ok u) :
    ∃ r, collRatio cfg prices aIn assetIn aOut assetOut = .ok r ∧ r ≤ ltv := by
  unfold verifyCR at h
  split at h
  · cases h
  · rename_i r hr
    split at h
    · cases h
    · exact ⟨r, hr, Int.not_lt.mp ‹_›⟩

theorem collRatio_ok {prices : List (Nat × Nat)} {aIn : Int} {assetIn : Nat} {aOut : Int} {assetOut : Nat} {r : Dec}
    (h : collRatio cfg prices aIn assetIn aOut assetOut = .ok r) :
    ∃ vin vout, calcPrice cfg prices assetIn aIn = .ok vin ∧ calcPrice cfg prices assetOut aOut = .ok vout ∧ vin ≠ 0 ∧ r = Dec.quo vout vin := by
  unfold collRatio at h
  split at h
  · cases h
  · split at h
    · cases h
    · split at h
      · cases h
      · simp only [Except.ok.injEq] at h
        exact ⟨_, _, ‹_›, ‹_›, ‹_›, h.symm⟩

end Comdex.Lend
