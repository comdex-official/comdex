import Comdex.Model.Locker
import Comdex.Lemmas.ListSum
/-! The keyed store (`Store.get/put/del/sumBy`: an association list read by first match, written in place or appended) and the bank
ledger of `Model/Locker.lean`.  `LimitBid.getK/putK/delK/sumK` are the same functions (`LimitBid.getK_eq` …), so limit bids and
`LimitFill` use the `Store` half too.  Core Lean only. -/
namespace Comdex.Locker

namespace Store
variable {K V : Type} [DecidableEq K]

theorem get_put (s : Store K V) (k k' : K) (v : V) :
    get (put s k v) k' = if k = k' then some v else get s k' := by
  induction s with
  | nil => rfl
  | cons p t ih =>
    by_cases h : p.1 = k
    · subst h; by_cases h' : p.1 = k' <;> simp [put, get, h']
    · by_cases h' : k = k'
      · subst h'; simp [put, get, h, ih]
      · simp [put, get, h, h', ih]

theorem get_put_self (s : Store K V) (k : K) (v : V) : get (put s k v) k = some v := by
  rw [get_put, if_pos rfl]

theorem get_put_ne (s : Store K V) {k k' : K} (v : V) (hne : k ≠ k') : get (put s k v) k' = get s k' := by
  rw [get_put, if_neg hne]

theorem isSome_get_put {s : Store K V} {k : K} (h : (get s k).isSome) (v : V) (k' : K) :
    (get (put s k v) k').isSome = (get s k').isSome := by
  rw [get_put]
  split
  · next hk => subst hk; exact h.symm
  · rfl

theorem get_del_ne (s : Store K V) {k k' : K} (hne : k ≠ k') : get (del s k) k' = get s k' := by
  induction s with
  | nil => rfl
  | cons p t ih =>
    by_cases h : p.1 = k
    · subst h; simp [del, get, hne]
    · by_cases h' : p.1 = k'
      · subst h'; simp [del, get, h]
      · simp [del, get, h, h', ih]

theorem put_put (s : Store K V) (k : K) (v v' : V) : put (put s k v) k v' = put s k v' := by
  induction s with
  | nil => simp [put]
  | cons p t ih => by_cases h : p.1 = k <;> simp [put, h, ih]

theorem mem_of_get {s : Store K V} {k : K} {v : V} (h : get s k = some v) : (k, v) ∈ s := by
  induction s with
  | nil => cases h
  | cons p t ih =>
    by_cases hk : p.1 = k
    · simp only [get, if_pos hk, Option.some.injEq] at h; subst hk h; exact List.mem_cons_self
    · simp only [get, if_neg hk] at h; exact List.mem_cons_of_mem _ (ih h)

theorem get_none_of_keys {s : Store K V} {k : K} (h : ∀ p ∈ s, p.1 ≠ k) : get s k = none := by
  induction s with
  | nil => rfl
  | cons p t ih =>
    simp only [get, if_neg (h p List.mem_cons_self)]
    exact ih fun q hq => h q (List.mem_cons_of_mem _ hq)

theorem forall_put {P : K × V → Prop} {s : Store K V} {k : K} {v : V} (h : ∀ p ∈ s, P p) (hv : P (k, v)) :
    ∀ p ∈ put s k v, P p := by
  induction s with
  | nil => simpa [put] using hv
  | cons q t ih =>
    have ht := ih fun p hp => h p (List.mem_cons_of_mem _ hp)
    by_cases hk : q.1 = k
    · simp only [put, if_pos hk, List.forall_mem_cons] at h ⊢; exact ⟨hv, h.2⟩
    · simp only [put, if_neg hk, List.forall_mem_cons] at h ⊢; exact ⟨h.1, ht⟩

theorem forall_del {P : K × V → Prop} {s : Store K V} {k : K} (h : ∀ p ∈ s, P p) : ∀ p ∈ del s k, P p := by
  induction s with
  | nil => exact h
  | cons q t ih =>
    have ht := ih fun p hp => h p (List.mem_cons_of_mem _ hp)
    by_cases hk : q.1 = k
    · simp only [del, if_pos hk]; exact fun p hp => h p (List.mem_cons_of_mem _ hp)
    · simp only [del, if_neg hk, List.forall_mem_cons] at h ⊢; exact ⟨h.1, ht⟩

def at0 (f : K → V → Int) (s : Store K V) (k : K) : Int :=
  match get s k with | some o => f k o | none => 0

theorem sumBy_put (f : K → V → Int) (s : Store K V) (k : K) (v : V) :
    sumBy f (put s k v) = sumBy f s - at0 f s k + f k v := by
  induction s with
  | nil => simp [put, sumBy, at0, get]
  | cons p t ih =>
    by_cases h : p.1 = k
    · subst h; simp [put, sumBy, at0, get]; omega
    · simp [put, sumBy, at0, get, h] at ih ⊢; omega

theorem sumBy_del (f : K → V → Int) (s : Store K V) (k : K) : sumBy f (del s k) = sumBy f s - at0 f s k := by
  induction s with
  | nil => simp [del, sumBy, at0, get]
  | cons p t ih =>
    by_cases h : p.1 = k
    · subst h; simp [del, sumBy, at0, get]; omega
    · simp [del, sumBy, at0, get, h] at ih ⊢; omega

omit [DecidableEq K] in
theorem sumBy_eq (f : K → V → Int) (s : Store K V) : sumBy f s = (s.map fun p => f p.1 p.2).sum := by
  induction s with
  | nil => rfl
  | cons p t ih => rw [List.map_cons, List.sum_cons, ← ih]; rfl

theorem at0_le_sumBy (f : K → V → Int) (s : Store K V) (k : K) (hnn : ∀ p ∈ s, 0 ≤ f p.1 p.2) :
    at0 f s k ≤ sumBy f s ∧ 0 ≤ sumBy f s := by
  have h0 : ∀ x ∈ s.map fun p => f p.1 p.2, 0 ≤ x := by
    intro x hx
    obtain ⟨p, hp, rfl⟩ := List.mem_map.mp hx
    exact hnn p hp
  rw [sumBy_eq]
  refine ⟨?_, ListSum.sum_nonneg _ h0⟩
  unfold at0
  cases hg : get s k with
  | none => exact ListSum.sum_nonneg _ h0
  | some v => exact ListSum.le_sum_of_mem _ h0 (List.mem_map.mpr ⟨(k, v), mem_of_get hg, rfl⟩)

end Store

namespace Bank

theorem bal_put (b : Bank) (a a' : Acct) (d d' : Nat) (v : Int) :
    bal (Store.put b (a, d) v) a' d' = if (a, d) = (a', d') then v else bal b a' d' := by
  unfold bal; rw [Store.get_put]; split <;> rfl

def Adds (b b' : Bank) (a : Acct) (d : Nat) (x : Int) : Prop :=
  ∀ a' d', b'.bal a' d' = b.bal a' d' + if (a, d) = (a', d') then x else 0

theorem adds_put (b : Bank) (a : Acct) (d : Nat) (x : Int) : Adds b (Store.put b (a, d) (b.bal a d + x)) a d x := by
  intro a' d'
  rw [bal_put]
  split
  · next h => cases h; rfl
  · omega

theorem Adds.self {b b' : Bank} {a : Acct} {d : Nat} {x : Int} (h : Adds b b' a d x) (d' : Nat) :
    b'.bal a d' = b.bal a d' + if d = d' then x else 0 := by
  rw [h]; simp

theorem Adds.other {b b' : Bank} {a : Acct} {d : Nat} {x : Int} (h : Adds b b' a d x) (a' : Acct) (hne : a ≠ a') (d' : Nat) :
    b'.bal a' d' = b.bal a' d' := by
  rw [h]; simp [hne]

def Sent (b b' : Bank) (src dst : Acct) (d : Nat) (x : Int) : Prop :=
  ∃ b1, Adds b b1 src d (-x) ∧ Adds b1 b' dst d x

variable {b b' : Bank} {src dst : Acct} {d : Nat} {x : Int}

theorem Sent.at_dst (h : Sent b b' src dst d x) (hne : src ≠ dst) (d' : Nat) :
    b'.bal dst d' = b.bal dst d' + if d = d' then x else 0 := by
  obtain ⟨b1, h1, h2⟩ := h
  rw [h2.self, h1.other _ hne]

theorem Sent.at_src (h : Sent b b' src dst d x) (hne : src ≠ dst) (d' : Nat) :
    b'.bal src d' = b.bal src d' + if d = d' then -x else 0 := by
  obtain ⟨b1, h1, h2⟩ := h
  rw [h2.other _ hne.symm, h1.self]

theorem Sent.at_other (h : Sent b b' src dst d x) (a : Acct) (hs : src ≠ a) (hd : dst ≠ a) (d' : Nat) :
    b'.bal a d' = b.bal a d' := by
  obtain ⟨b1, h1, h2⟩ := h
  rw [h2.other _ hd, h1.other _ hs]

theorem send_spec (h : send b src dst d x = some b') : 0 ≤ x ∧ x ≤ b.bal src d ∧ Sent b b' src dst d x := by
  simp only [send, Option.ite_none_left_eq_some, Option.some.injEq] at h
  obtain ⟨h1, h2, rfl⟩ := h
  exact ⟨by omega, by omega, _, adds_put b src d (-x), adds_put _ dst d x⟩

theorem send_sent (h : send b src dst d x = some b') : Sent b b' src dst d x := (send_spec h).2.2

theorem sendPos_spec (h0 : 0 ≤ x) (h : (if x > 0 then send b src dst d x else some b) = some b') : Sent b b' src dst d x := by
  split at h
  · exact send_sent h
  · cases h
    have hx : x = 0 := by omega
    subst hx
    exact ⟨b, fun _ _ => by simp, fun _ _ => by simp⟩

theorem send_none (h : send b src dst d x = none) : x < 0 ∨ b.bal src d < x := by
  unfold send at h
  split at h
  · left; assumption
  · split at h
    · right; assumption
    · cases h

theorem mint_spec {a : Acct} (h : mint b a d x = some b') : 0 ≤ x ∧ Adds b b' a d x := by
  simp only [mint, Option.ite_none_left_eq_some, Option.some.injEq] at h
  obtain ⟨h1, rfl⟩ := h
  exact ⟨by omega, adds_put b a d x⟩

end Bank
end Comdex.Locker
