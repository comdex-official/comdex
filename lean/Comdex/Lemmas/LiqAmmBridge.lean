import Comdex.Lemmas.AmmMatchAccount
import Comdex.Lemmas.LiqBasic
/-!
Bridge between C05's executable model of the matching engine (`Comdex.Amm`, `Model/AmmMatch.lean`) and the liquidity
ledger (`Comdex.LiqLedger`): the ledger input (`MatchIn`: per-order fills, per-pool flows, dust) of a match computed by
the MODELLED matcher on any well-formed book, and what C05 proves about it in the ledger's terms:

* quote side: exactly conserved — buyers' payments = sellers' receipts + the returned `quoteCoinDiff` (the dust);
* base side: buyers receive exactly what the sellers pay **plus** `lostBase` = the remainder dropped by the re-runs of the
  pro-rata distribution (defect D2), which is 0 whenever C05's decidable ghost `matchLossless` holds.
-/
namespace Comdex.LiqBridge
open Comdex.Amm

abbrev OP := Amm.Order × Amm.Order

/-- orders of the book before / after matching, position by position -/
def tickPairs : List Tick → List Tick → List OP
  | t :: ts, t' :: ts' => List.zip t.orders t'.orders ++ tickPairs ts ts'
  | _, _ => []

def bookPairs (b b' : Book) : List OP := tickPairs b.buys b'.buys ++ tickPairs b.sells b'.sells

def dPaid (x : OP) : Nat := (x.2.paid - x.1.paid).toNat
def dRecv (x : OP) : Nat := (x.2.received - x.1.received).toNat
def dOpn (x : OP) : Nat := (x.1.opn - x.2.opn).toNat
def isBuy (x : OP) : Bool := decide (x.1.dir = Dir.buy)

def toFill (x : OP) : LiqLedger.Fill := { id := x.1.oid, buy := isBuy x, paid := dPaid x, recv := dRecv x, matched := dOpn x }
def toFlow (x : OP) : LiqLedger.PoolFlow := { pool := x.1.oid, buy := isBuy x, paid := dPaid x, recv := dRecv x }

/-- the ledger input of a modelled match: one fill per changed user order, one flow per changed pool order, the returned
quote difference as dust -/
def matchInOf (pair : Nat) (b b' : Book) (q : Int) : LiqLedger.MatchIn :=
  let ps := (bookPairs b b').filter fun x => decide (x.1 ≠ x.2)
  { pair := pair, fills := (ps.filter fun x => x.1.kind != 1).map toFill,
    pools := (ps.filter fun x => x.1.kind == 1).map toFlow, dust := q.toNat }

/-- the remainder dropped on the sell side (D2): base coin received by buyers − base coin paid by sellers -/
def lostBase (b b' : Book) : Int := ticksFilled b.buys b'.buys - ticksFilled b.sells b'.sells

open Comdex.LiqLedger (sumOver)

theorem sumOver_filter_map {α β : Type} (F : β → Nat) (c : α → Bool) (h : α → β) (l : List α) :
    sumOver F ((l.filter c).map h) = sumOver (fun x => if c x then F (h x) else 0) l := by
  induction l with
  | nil => rfl
  | cons x t ih => by_cases hx : c x = true <;> simp [List.filter, hx, sumOver, ih]

theorem sumOver_add {α : Type} (F G : α → Nat) (l : List α) :
    sumOver F l + sumOver G l = sumOver (fun x => F x + G x) l := by
  induction l with
  | nil => rfl
  | cons x t ih => simp only [sumOver]; omega

def gA (x : OP) : Nat := if isBuy x then dPaid x else 0     -- quote paid in
def gB (x : OP) : Nat := if isBuy x then 0 else dRecv x     -- quote handed out (without dust)
def gC (x : OP) : Nat := if isBuy x then dRecv x else 0     -- base handed out
def gD (x : OP) : Nat := if isBuy x then 0 else dPaid x     -- base paid in

theorem g_unchanged (x : OP) (h : x.1 = x.2) : gA x = 0 ∧ gB x = 0 ∧ gC x = 0 ∧ gD x = 0 := by
  simp [gA, gB, gC, gD, dPaid, dRecv, h]

/-- unchanged pairs carry nothing, and every changed pair is either a fill or a pool flow -/
theorem matchInOf_sum {F : LiqLedger.Fill → Nat} {F' : LiqLedger.PoolFlow → Nat} (G : OP → Nat)
    (h1 : ∀ x, F (toFill x) = G x) (h2 : ∀ x, F' (toFlow x) = G x) (hG : ∀ x : OP, x.1 = x.2 → G x = 0)
    (pair : Nat) (b b' : Book) (q : Int) :
    sumOver F (matchInOf pair b b' q).fills + sumOver F' (matchInOf pair b b' q).pools = sumOver G (bookPairs b b') := by
  have fl (H : OP → Nat) (c : OP → Bool) (l : List OP) : sumOver H (l.filter c) = sumOver (fun x => if c x then H x else 0) l := by
    have := sumOver_filter_map H c id l
    rwa [List.map_id] at this
  simp only [matchInOf, sumOver_filter_map, fl, sumOver_add, h1, h2]
  refine LiqLedger.sumOver_congr _ _ _ fun x _ => ?_
  by_cases hx : x.1 = x.2
  · simp [hx, hG x hx]
  · cases hk : x.1.kind == 1 <;> simp [bne, hk, hx]

/-- what one order pair carries: quote in − quote out as `quoteOf` counts it, and the base it was filled for — handed
out to a buyer, paid in by a seller -/
theorem pair_flows {o o' : Amm.Order} (r : Reach o o') (hw : Wf o) :
    ((gA (o, o') : Nat) : Int) - gB (o, o') = (if o.dir = .buy then o'.paid - o.paid else o.received - o'.received) ∧
    (o.dir = .buy → ((gC (o, o') : Nat) : Int) - gD (o, o') = o.opn - o'.opn) ∧
    (o.dir = .sell → ((gD (o, o') : Nat) : Int) - gC (o, o') = o.opn - o'.opn) := by
  have dl := reach_delta r hw
  have p1 := Int.toNat_of_nonneg (Int.sub_nonneg.mpr dl.paid_ge)
  have p2 := Int.toNat_of_nonneg (Int.sub_nonneg.mpr dl.recv_ge)
  cases hd : o.dir <;>
    simp only [gA, gB, gC, gD, isBuy, dPaid, dRecv, hd, decide_true, decide_false, if_true, if_false, reduceCtorEq,
      Bool.false_eq_true, false_imp_iff, forall_const, and_true, true_and, p1, p2, Int.natCast_zero, Int.sub_zero]
  · exact dl.buy_recv hd
  · exact ⟨by omega, dl.sell_paid hd⟩

theorem zip_sum {d : Dir} {G1 G2 : OP → Nat} {f : Amm.Order → Amm.Order → Int}
    (h : ∀ o o', Reach o o' → Wf o → o.dir = d → ((G1 (o, o') : Nat) : Int) - G2 (o, o') = f o o') :
    ∀ os os', All2 Reach os os' → (∀ o ∈ os, Wf o ∧ o.dir = d) →
      ((sumOver G1 (List.zip os os') : Nat) : Int) - sumOver G2 (List.zip os os') = sumInt (List.zipWith f os os')
  | [], [], _, _ => rfl
  | [], _ :: _, h', _ => h'.elim
  | _ :: _, [], h', _ => h'.elim
  | o :: t, o' :: t', ⟨hr, ht⟩, hp => by
    have a := h o o' hr (hp o (by simp)).1 (hp o (by simp)).2
    have b := zip_sum h t t' ht fun x hx => hp x (by simp [hx])
    simp only [List.zip_cons_cons, List.zipWith_cons_cons, sumOver, sumInt]
    omega

theorem ticks_sum {d : Dir} {G1 G2 : OP → Nat} {f : Amm.Order → Amm.Order → Int}
    (h : ∀ o o', Reach o o' → Wf o → o.dir = d → ((G1 (o, o') : Nat) : Int) - G2 (o, o') = f o o') :
    ∀ ts ts', All2 TickReach ts ts' → (∀ t ∈ ts, TickOk d t) →
      ((sumOver G1 (tickPairs ts ts') : Nat) : Int) - sumOver G2 (tickPairs ts ts') =
        sumInt (List.zipWith (fun t t' => sumInt (List.zipWith f t.orders t'.orders)) ts ts')
  | [], [], _, _ => rfl
  | [], _ :: _, h', _ => h'.elim
  | _ :: _, [], h', _ => h'.elim
  | t :: ts, t' :: ts', ⟨hr, ht⟩, hok => by
    have a := zip_sum h t.orders t'.orders hr.2 fun o ho => ⟨(hok t (by simp) o ho).1, (hok t (by simp) o ho).2.1⟩
    have b := ticks_sum h ts ts' ht fun x hx => hok x (by simp [hx])
    simp only [tickPairs, LiqLedger.sumOver_append, List.zipWith_cons_cons, sumInt]
    omega

structure BookSums (b b' : Book) (q : Int) : Prop where
  quote : ((sumOver gA (bookPairs b b') : Nat) : Int) - sumOver gB (bookPairs b b') = q
  base : ((sumOver gC (bookPairs b b') : Nat) : Int) - sumOver gD (bookPairs b b') = lostBase b b'

theorem matchBook_sums (b : Book) (lp : Int) (hlp : 0 < lp) (hb : BookOk b)
    (hn : (∀ t ∈ b.buys, (t.orders.map (·.id)).Nodup) ∧ (∀ t ∈ b.sells, (t.orders.map (·.id)).Nodup))
    (b' : Book) (mp q : Int) (h : matchBook b lp = .ok b' mp q) : BookSums b b' q := by
  have hreach : BookReach b b' := by
    rcases matchBook_ok b lp hlp hb with h0 | ⟨b2, mp2, q2, h2, r⟩
    · rw [h0] at h; cases h
    · rw [h2] at h; cases h; exact r
  constructor
  · have hacc : q = ticksQuote b.buys b'.buys + ticksQuote b.sells b'.sells := (matchBook_account b lp hlp hb hn b' mp q h).1
    have qb : _ = ticksQuote b.buys b'.buys := ticks_sum (fun _ _ r w _ => (pair_flows r w).1) _ _ hreach.1 hb.1
    have qs : _ = ticksQuote b.sells b'.sells := ticks_sum (fun _ _ r w _ => (pair_flows r w).1) _ _ hreach.2 hb.2
    simp only [bookPairs, LiqLedger.sumOver_append]
    omega
  · have fb : _ = ticksFilled b.buys b'.buys := ticks_sum (fun _ _ r w hd => (pair_flows r w).2.1 hd) _ _ hreach.1 hb.1
    have fs : _ = ticksFilled b.sells b'.sells := ticks_sum (fun _ _ r w hd => (pair_flows r w).2.2 hd) _ _ hreach.2 hb.2
    simp only [bookPairs, LiqLedger.sumOver_append, lostBase]
    omega

theorem inQ_matchInOf (pair : Nat) (b b' : Book) (q : Int) :
    LiqLedger.inQ (matchInOf pair b b' q) = sumOver gA (bookPairs b b') :=
  (Nat.add_comm _ _).trans (matchInOf_sum gA (fun _ => rfl) (fun _ => rfl) (fun x hx => (g_unchanged x hx).1) pair b b' q)

theorem outQ_matchInOf (pair : Nat) (b b' : Book) (q : Int) :
    LiqLedger.outQ (matchInOf pair b b' q) = sumOver gB (bookPairs b b') + q.toNat :=
  congrArg (· + q.toNat) (matchInOf_sum gB (fun _ => rfl) (fun _ => rfl) (fun x hx => (g_unchanged x hx).2.1) pair b b' q)

theorem outB_matchInOf (pair : Nat) (b b' : Book) (q : Int) :
    LiqLedger.outB (matchInOf pair b b' q) = sumOver gC (bookPairs b b') :=
  matchInOf_sum gC (fun _ => rfl) (fun _ => rfl) (fun x hx => (g_unchanged x hx).2.2.1) pair b b' q

theorem inB_matchInOf (pair : Nat) (b b' : Book) (q : Int) :
    LiqLedger.inB (matchInOf pair b b' q) = sumOver gD (bookPairs b b') :=
  (Nat.add_comm _ _).trans (matchInOf_sum gD (fun _ => rfl) (fun _ => rfl) (fun x hx => (g_unchanged x hx).2.2.2) pair b b' q)

/-- hypotheses under which C05's accounting theorems apply: a book of well-formed orders with distinct ids per tick, a
positive last price, and a successful run of the modelled `OrderBook.Match` -/
structure ModelledRun (b : Book) (lp : Int) (b' : Book) (mp q : Int) : Prop where
  ok : BookOk b
  ids : (∀ t ∈ b.buys, (t.orders.map (·.id)).Nodup) ∧ (∀ t ∈ b.sells, (t.orders.map (·.id)).Nodup)
  lp_pos : 0 < lp
  run : matchBook b lp = .ok b' mp q

/-- **quote side, exact**: buyers' payments − sellers' receipts = the returned quote difference; with a non-negative
difference (the code sends it to the dust collector as a coin) the ledger's quote flows balance exactly -/
theorem modelled_quote_exact {b b' : Book} {lp mp q : Int} (h : ModelledRun b lp b' mp q) (pair : Nat) :
    ((LiqLedger.inQ (matchInOf pair b b' q) : Nat) : Int) + q.toNat = LiqLedger.outQ (matchInOf pair b b' q) + q ∧
    (0 ≤ q → LiqLedger.outQ (matchInOf pair b b' q) = LiqLedger.inQ (matchInOf pair b b' q)) := by
  have bs := matchBook_sums b lp h.lp_pos h.ok h.ids b' mp q h.run
  rw [inQ_matchInOf, outQ_matchInOf]
  have := bs.quote
  refine ⟨by push_cast; omega, fun hq => ?_⟩
  have : ((q.toNat : Nat) : Int) = q := Int.toNat_of_nonneg hq
  omega

/-- **base side with the D2 offset made explicit**: base handed to buyers = base paid by sellers + `lostBase` -/
theorem modelled_base_offset {b b' : Book} {lp mp q : Int} (h : ModelledRun b lp b' mp q) (pair : Nat) :
    ((LiqLedger.outB (matchInOf pair b b' q) : Nat) : Int) = LiqLedger.inB (matchInOf pair b b' q) + lostBase b b' ∧
    (matchLossless b lp = true → LiqLedger.outB (matchInOf pair b b' q) = LiqLedger.inB (matchInOf pair b b' q)) := by
  have bs := matchBook_sums b lp h.lp_pos h.ok h.ids b' mp q h.run
  rw [outB_matchInOf, inB_matchInOf]
  have e := bs.base
  refine ⟨by omega, fun hl => ?_⟩
  have := (matchBook_account b lp h.lp_pos h.ok h.ids b' mp q h.run).2 hl
  unfold lostBase at e
  omega

/-- a lossless modelled match with non-negative dust satisfies the ledger's conservation law -/
theorem modelled_conserving {b b' : Book} {lp mp q : Int} (h : ModelledRun b lp b' mp q) (hq : 0 ≤ q)
    (hl : matchLossless b lp = true) (pair : Nat) : LiqLedger.MatchConserving (matchInOf pair b b' q) := by
  have a := (modelled_quote_exact h pair).2 hq
  have c := (modelled_base_offset h pair).2 hl
  exact ⟨Nat.le_of_eq a, Nat.le_of_eq c⟩

theorem opConserving_of_modelled (ops : List LiqLedger.Op)
    (hm : ∀ a ms ds ws, LiqLedger.Op.endBlock a ms ds ws ∈ ops → ∀ m ∈ ms,
      ∃ (b b' : Book) (lp mp q : Int), ModelledRun b lp b' mp q ∧ 0 ≤ q ∧ matchLossless b lp = true ∧ m = matchInOf m.pair b b' q) :
    ∀ op ∈ ops, LiqLedger.OpConserving op := by
  intro op hop
  cases op with
  | endBlock a ms ds ws =>
    intro m hmm
    obtain ⟨b, b', lp, mp, q, hr, hq, hl, he⟩ := hm a ms ds ws hop m hmm
    rw [he]; exact modelled_conserving hr hq hl m.pair
  | _ => trivial

end Comdex.LiqBridge
