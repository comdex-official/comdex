import Comdex.Lemmas.LiqLedger
import Comdex.Lemmas.LiqMoves
/-!
The ghost flow accounts `mIn` / `mOut` of the liquidity ledger model: no message touches them (`GhostSame`), and applying a match
result adds to them exactly the sums of the observed fills, flows and dust (`applyMatch_ghost`).  Hence, without any premise on
the match results, `mOut ≤ mIn + lost`, where `lost` sums — over the history — what each observed match result handed out beyond
what it took in (0 for a conserving result; the dropped remainder of defect D2 otherwise).  The bound is carried as a relation
between two states indexed by the amount lost in between (`Lost`), which composes by adding the amounts.  C04 / C07 use
`genesis_slack`, `escrow_ge_live_offset`.
-/
namespace Comdex.LiqLedger

def GhostSame (s s' : State) : Prop :=
  ∀ a p d, s'.bal (.mIn a p) d = s.bal (.mIn a p) d ∧ s'.bal (.mOut a p) d = s.bal (.mOut a p) d

theorem GhostSame.refl (s : State) : GhostSame s s := fun _ _ _ => ⟨rfl, rfl⟩

theorem GhostSame.trans {s1 s2 s3 : State} (h1 : GhostSame s1 s2) (h2 : GhostSame s2 s3) : GhostSame s1 s3 :=
  fun a p d => ⟨(h2 a p d).1.trans (h1 a p d).1, (h2 a p d).2.trans (h1 a p d).2⟩

theorem GhostSame.of_bank {s s' : State} (h : s'.bank = s.bank) : GhostSame s s' := by
  intro a p d; simp [State.bal, h]

theorem OrderStep.ghostSame {s s' : State} (h : OrderStep s s') : GhostSame s s' := fun _ _ d => ⟨h.bal rfl d, h.bal rfl d⟩

theorem PoolStep.ghostSame {s s' : State} (h : PoolStep s s') : GhostSame s s' := fun _ _ d => ⟨h.bal rfl d, h.bal rfl d⟩

theorem Atom.ghostSame {cfg : Cfg} {k : Kind} {s s' : State} (h : Atom cfg k s s') (hk : k ≠ .batch) : GhostSame s s' := by
  cases k with
  | order => exact h.orderStep.ghostSame
  | pool | exec | create => exact (h.poolStep trivial).ghostSame
  | prune => cases h; exact .of_bank rfl
  | migrate => cases h with | migrate h => obtain ⟨-, rfl⟩ := migrate_eff h; exact .of_bank rfl
  | batch => exact absurd rfl hk

theorem step_ghostSame {cfg : Cfg} {s s' : State} {op : Op} (h : step cfg s op = some s')
    (hop : ∀ a ms ds ws, op ≠ .endBlock a ms ds ws) : GhostSame s s' :=
  step_rel GhostSame.refl GhostSame.trans (fun hk at' => at'.ghostSame fun e => by
    obtain ⟨a, ms, ds, ws, hx⟩ := e ▸ hk; exact hop a ms ds ws hx) h

theorem sumOver_side {α : Type} (buyOf : α → Bool) (amt : α → Nat) (X Y d : Denom) (l : List α) :
    sumOver (fun x => if (if buyOf x then X else Y) = d then amt x else 0) l =
      (if X = d then sumOver (fun x => if buyOf x then amt x else 0) l else 0) +
      (if Y = d then sumOver (fun x => if buyOf x then 0 else amt x) l else 0) := by
  induction l with
  | nil => simp [sumOver]
  | cons x t ih =>
    simp only [sumOver, ih]
    cases hb : buyOf x <;> by_cases hX : X = d <;> by_cases hY : Y = d <;> simp [hX, hY] <;> omega

theorem sumOver_const_if {α : Type} (c : Prop) [Decidable c] (F : α → Nat) (l : List α) :
    sumOver (fun x => if c then F x else 0) l = if c then sumOver F l else 0 := by
  by_cases h : c <;> simp [h]
  induction l with
  | nil => rfl
  | cons x t ih => simp [sumOver, ih]

theorem sumOver_pairSide {α : Type} (c : Prop) [Decidable c] (buyOf : α → Bool) (amt : α → Nat) (X Y d : Denom) (l : List α) :
    sumOver (fun x => if c ∧ (if buyOf x then X else Y) = d then amt x else 0) l =
      if c then (if X = d then sumOver (fun x => if buyOf x then amt x else 0) l else 0) +
        (if Y = d then sumOver (fun x => if buyOf x then 0 else amt x) l else 0) else 0 := by
  by_cases hc : c
  · simp only [hc, true_and, if_true]; exact sumOver_side buyOf amt X Y d l
  · simp only [hc, false_and, if_false]; exact sumOver_zero l

/-- what the observed result `m` of pair `p` takes into / hands out of the matching, seen from pair `(a, q)` and denom `d` -/
def flowIn (p : Pair) (m : MatchIn) (a q : Nat) (d : Denom) : Nat :=
  if p.app = a ∧ p.id = q then (if p.quote = d then inQ m else 0) + (if p.base = d then inB m else 0) else 0

def flowOut (p : Pair) (m : MatchIn) (a q : Nat) (d : Denom) : Nat :=
  if p.app = a ∧ p.id = q then (if p.quote = d then outQ m else 0) + (if p.base = d then outB m else 0) else 0

theorem flowIn_eq (p : Pair) (m : MatchIn) (a q : Nat) (d : Denom) :
    sumOver (fun f : PoolFlow => if (p.app = a ∧ p.id = q) ∧ sideIn p f.buy = d then f.paid else 0) m.pools +
      sumOver (fun f : Fill => if (p.app = a ∧ p.id = q) ∧ sideIn p f.buy = d then f.paid else 0) m.fills =
    flowIn p m a q d := by
  unfold flowIn inQ inB sideIn
  rw [sumOver_pairSide, sumOver_pairSide, ite_add_ite, ← ite_add_ite (p.quote = d), ← ite_add_ite (p.base = d)]
  congr 1
  omega

theorem flowOut_eq (p : Pair) (m : MatchIn) (a q : Nat) (d : Denom) :
    sumOver (fun f : Fill => if (p.app = a ∧ p.id = q) ∧ sideOut p f.buy = d then f.recv else 0) m.fills +
      sumOver (fun f : PoolFlow => if (p.app = a ∧ p.id = q) ∧ sideOut p f.buy = d then f.recv else 0) m.pools +
      (if (p.app = a ∧ p.id = q) ∧ p.quote = d then m.dust else 0) =
    flowOut p m a q d := by
  unfold flowOut outQ outB sideOut
  rw [sumOver_pairSide, sumOver_pairSide, ite_add_ite, ← ite_add_ite (p.quote = d), ← ite_add_ite (p.quote = d),
    ← ite_add_ite (p.base = d)]
  by_cases hk : p.app = a ∧ p.id = q
  · simp only [hk, true_and, if_true]; omega
  · simp only [hk, false_and, if_false]

/-- **exact effect of `ApplyMatchResult` on the flow accounts** of every pair and denom -/
theorem applyMatch_ghost {cfg : Cfg} {s s' : State} {p : Pair} {m : MatchIn} (h : applyMatch cfg s p m = some s')
    (a q : Nat) (d : Denom) :
    s'.bal (.mIn a q) d = s.bal (.mIn a q) d + flowIn p m a q d ∧ s'.bal (.mOut a q) d = s.bal (.mOut a q) d + flowOut p m a q d := by
  have ei := applyMatch_bal h (x := .mIn a q) rfl d
  have eo := applyMatch_bal h (x := .mOut a q) rfl d
  simp only [reduceCtorEq, false_and, if_false, sumOver_zero, Nat.add_zero, Nat.zero_add, Acct.mIn.injEq, Acct.mOut.injEq] at ei eo
  rw [← flowIn_eq, ← flowOut_eq]
  exact ⟨by rw [ei, Nat.add_assoc], by rw [eo]; simp only [Nat.add_assoc]⟩

theorem remSum_le_liveSum (cfg : Cfg) (a p : Nat) (d : Denom) (l : List Order) : remSum a p d l ≤ liveSum cfg a p d l := by
  unfold remSum liveSum
  induction l with
  | nil => simp [sumOver]
  | cons o t ih =>
    simp only [sumOver, remTerm, liveTerm]
    split <;> omega

/-- what a match result handed out beyond what it took in, quote side / base side -/
def defQ (m : MatchIn) : Nat := outQ m - inQ m
def defB (m : MatchIn) : Nat := outB m - inB m

theorem deficit_zero_of_conserving {m : MatchIn} (h : MatchConserving m) : defQ m = 0 ∧ defB m = 0 := by
  unfold defQ defB; obtain ⟨h1, h2⟩ := h; omega

/-- deficit of the match results given for pair id `p` in one EndBlocker call -/
def batchLost (ms : List MatchIn) (p : Nat) : Nat := sumOver (fun m => if m.pair = p then defQ m + defB m else 0) ms

theorem used_match_le (ms : List MatchIn) (p : Nat) :
    defQ ((ms.find? (·.pair == p)).getD (emptyMatch p)) + defB ((ms.find? (·.pair == p)).getD (emptyMatch p)) ≤ batchLost ms p := by
  cases hf : ms.find? (·.pair == p) with
  | none => simp [emptyMatch, defQ, defB, inQ, inB, outQ, outB, sumOver]
  | some m =>
    have hm := List.mem_of_find?_eq_some hf
    have hp : m.pair = p := by simpa using List.find?_some hf
    have := sumOver_le_of_mem (fun m => if m.pair = p then defQ m + defB m else 0) hm
    simpa [batchLost, hp] using this

theorem flowOut_le (p : Pair) (m : MatchIn) (a q : Nat) (d : Denom) :
    flowOut p m a q d ≤ flowIn p m a q d + (if p.app = a ∧ p.id = q then defQ m + defB m else 0) := by
  have side (c : Prop) [Decidable c] (x y : Nat) : (if c then x else 0) ≤ (if c then y else 0) + (x - y) := by
    split <;> omega
  have h1 := side (p.quote = d) (outQ m) (inQ m)
  have h2 := side (p.base = d) (outB m) (inB m)
  unfold flowOut flowIn defQ defB
  split <;> omega

theorem mem_of_mem_dedupKeys : ∀ {l : List (Nat × Nat)} {x}, x ∈ dedupKeys l → x ∈ l
  | y :: t, x, hx => by
    simp only [dedupKeys] at hx
    split at hx
    · exact List.mem_cons_of_mem _ (mem_of_mem_dedupKeys hx)
    · exact (List.mem_cons.mp hx).elim (· ▸ List.mem_cons_self) fun h => List.mem_cons_of_mem _ (mem_of_mem_dedupKeys h)

/-- over the transition the matching of pair `(a, q)` handed out, in denom `d`, at most `L` more than it took in -/
def Lost (a q : Nat) (d : Denom) (L : Nat) (s s' : State) : Prop :=
  s'.bal (.mOut a q) d + s.bal (.mIn a q) d ≤ s.bal (.mOut a q) d + s'.bal (.mIn a q) d + L

theorem GhostSame.lost {s s' : State} (h : GhostSame s s') (a q : Nat) (d : Denom) : Lost a q d 0 s s' := by
  unfold Lost; rw [(h a q d).1, (h a q d).2]; omega

theorem Lost.trans {a q : Nat} {d : Denom} {L1 L2 : Nat} {s1 s2 s3 : State} (h1 : Lost a q d L1 s1 s2) (h2 : Lost a q d L2 s2 s3) :
    Lost a q d (L1 + L2) s1 s3 := by
  unfold Lost at *; omega

theorem Lost.mono {a q : Nat} {d : Denom} {L L' : Nat} {s s' : State} (h : Lost a q d L s s') (hL : L ≤ L') : Lost a q d L' s s' := by
  unfold Lost at *; omega

theorem applyMatch_lost {cfg : Cfg} {s s' : State} {p : Pair} {m : MatchIn} (h : applyMatch cfg s p m = some s') (a q : Nat) (d : Denom) :
    Lost a q d (if p.app = a ∧ p.id = q then defQ m + defB m else 0) s s' := by
  have e := applyMatch_ghost h a q d
  have hle := flowOut_le p m a q d
  unfold Lost; rw [e.1, e.2]; omega

theorem execMatching_lost {cfg : Cfg} {ms : List MatchIn} {s s' : State} {pk : Nat × Nat}
    (h : execMatching cfg ms s pk = some s') (a q : Nat) (d : Denom) :
    Lost a q d (if pk = (a, q) then batchLost ms q else 0) s s' := by
  obtain ⟨x, y⟩ := pk
  obtain ⟨p, s1, s3, hp, h1, h3, rfl⟩ := execMatching_eff h
  obtain ⟨-, rfl, rfl⟩ := pair?_some hp
  have g1 : GhostSame s s1 := foldOpt_rel GhostSame.refl GhostSame.trans (fun _ _ _ hs => (Atom.prePass hs).orderStep.ghostSame) h1
  have g1 : GhostSame s (markDepleted s1 p) := g1
  refine (((g1.lost a q d).trans (applyMatch_lost h3 a q d)).trans ((GhostSame.of_bank rfl).lost a q d)).mono ?_
  have hu := used_match_le ms p.id
  by_cases hk : p.app = a ∧ p.id = q
  · obtain ⟨rfl, rfl⟩ := hk; rw [if_pos ⟨rfl, rfl⟩, if_pos rfl]; omega
  · rw [if_neg hk]; omega

theorem dedupKeys_nodup : ∀ l : List (Nat × Nat), (dedupKeys l).Nodup := by
  intro l
  induction l with
  | nil => simp [dedupKeys]
  | cons x t ih =>
    simp only [dedupKeys]
    split
    · exact ih
    · rename_i hx; exact List.nodup_cons.mpr ⟨hx, ih⟩

theorem endBlock_lost {cfg : Cfg} {s s' : State} {app : Nat} {ms : List MatchIn} {dins : List DepIn} {wins : List WdrIn}
    (h : endBlock cfg s app ms dins wins = some s') (a q : Nat) (d : Denom) :
    Lost a q d (if app = a then batchLost ms q else 0) s s' := by
  obtain rfl | ⟨s1, s2, s3, s4, h1, h2, h3, h4, rfl⟩ := endBlock_eff h
  · exact ((GhostSame.refl _).lost a q d).mono (Nat.zero_le _)
  have i1 := foldOpt_graded (R := Lost a q d) (g := fun pk => if pk = (a, q) then batchLost ms q else 0)
    (fun s => (GhostSame.refl s).lost a q d) Lost.trans (fun _ _ _ hx => execMatching_lost hx a q d) h1
  have g : GhostSame s1 s4 := (sweepFold_ended h2).orderStep.ghostSame.trans
    ((foldOpt_rel GhostSame.refl GhostSame.trans (fun _ _ _ hs => ((Atom.execDeposit (cfg := cfg) hs).poolStep trivial).ghostSame) h3).trans
      (foldOpt_rel GhostSame.refl GhostSame.trans (fun _ _ _ hs => ((Atom.execWithdraw (cfg := cfg) hs).poolStep trivial).ghostSame) h4))
  refine (i1.trans (g.lost a q d)).mono ?_
  -- the keys of a batch are distinct, and all of the batch's own app
  rw [sumOver_ite_eq_nodup _ _ (dedupKeys_nodup _), Nat.add_zero]
  split
  · rename_i hm
    obtain ⟨p, hp, he⟩ := List.mem_map.mp (mem_of_mem_dedupKeys hm)
    rw [if_pos ((eq_of_beq (List.mem_filter.mp hp).2).symm.trans (Prod.mk.inj he).1)]
    exact Nat.le_refl _
  · exact Nat.zero_le _

/-- what the observed match results of pair `(a, p)` handed out beyond what they took in, over a whole history -/
def lostOf (a p : Nat) : List Op → Nat
  | [] => 0
  | .endBlock a' ms _ _ :: t => (if a' = a then batchLost ms p else 0) + lostOf a p t
  | _ :: t => lostOf a p t

theorem lostOf_zero_of_conserving (a p : Nat) : ∀ (ops : List Op), (∀ op ∈ ops, OpConserving op) → lostOf a p ops = 0 := by
  intro ops
  induction ops with
  | nil => intro _; rfl
  | cons op t ih =>
    intro h
    have iht := ih (fun o ho => h o (by simp [ho]))
    cases op with
    | endBlock a' ms ds ws =>
      simp only [lostOf, iht]
      have hc : ∀ m ∈ ms, MatchConserving m := h (.endBlock a' ms ds ws) (by simp)
      have : batchLost ms p = 0 := by
        unfold batchLost
        have : sumOver (fun m => if m.pair = p then defQ m + defB m else 0) ms = sumOver (fun _ : MatchIn => 0) ms := by
          apply sumOver_congr
          intro m hm
          obtain ⟨z1, z2⟩ := deficit_zero_of_conserving (hc m hm)
          simp [z1, z2]
        rw [this, sumOver_zero]
      simp [this]
    | _ => simp only [lostOf, iht]

theorem lostOf_cons (a p : Nat) (op : Op) (ops : List Op) : lostOf a p (op :: ops) = lostOf a p [op] + lostOf a p ops := by
  cases op <;> simp [lostOf]

theorem stepT_lost {cfg : Cfg} (s : State) (op : Op) (a q : Nat) (d : Denom) : Lost a q d (lostOf a q [op]) s (stepT cfg s op) := by
  rcases stepT_cases cfg s op with e | h
  · rw [e]; exact ((GhostSame.refl _).lost a q d).mono (Nat.zero_le _)
  by_cases hop : ∃ a' ms ds ws, op = .endBlock a' ms ds ws
  · obtain ⟨a', ms, ds, ws, rfl⟩ := hop
    exact endBlock_lost h a q d
  · exact ((step_ghostSame h fun a' ms ds ws e => hop ⟨a', ms, ds, ws, e⟩).lost a q d).mono (Nat.zero_le _)

/-- **over any history** the matching flows of a pair satisfy `ΔmOut ≤ ΔmIn + lost`, no premise on the match results -/
theorem runT_lost {cfg : Cfg} (a q : Nat) (d : Denom) : ∀ (ops : List Op) (s : State), Lost a q d (lostOf a q ops) s (runT cfg s ops)
  | [], s => (GhostSame.refl s).lost a q d
  | op :: ops, s => lostOf_cons a q op ops ▸ (stepT_lost s op a q d).trans (runT_lost a q d ops (stepT cfg s op))

/-- a pair escrow covers the claims of its live orders up to what matching lost -/
theorem escrow_ge_live_offset {cfg : Cfg} {s : State} (hi : Inv cfg s) (a p : Nat) (d : Denom) (L : Nat)
    (hL : s.bal (.mOut a p) d ≤ s.bal (.mIn a p) d + L) :
    liveSum cfg a p d s.orders ≤ s.bal (.pairEscrow a p) d + L := by
  have := hi.pairEsc a p d
  omega

/-- after any history from genesis `mOut ≤ mIn + lostOf` -/
theorem genesis_slack (cfg : Cfg) (funds : List (Nat × Nat × Nat)) (ops : List Op) (a p : Nat) (d : Denom) :
    (runT cfg (genesis funds) ops).bal (.mOut a p) d ≤ (runT cfg (genesis funds) ops).bal (.mIn a p) d + lostOf a p ops := by
  have := runT_lost (cfg := cfg) a p d ops (genesis funds)
  rw [Lost, genesis_bal _ _ _ (by simp), genesis_bal _ _ _ (by simp)] at this
  omega

def Solvent (s : State) : Prop := ∀ a p d, s.bal (.mOut a p) d ≤ s.bal (.mIn a p) d

theorem genesis_solvent (funds : List (Nat × Nat × Nat)) : Solvent (genesis funds) := by
  intro a p d
  rw [genesis_bal _ _ _ (by simp), genesis_bal _ _ _ (by simp)]
  exact Nat.le_refl _

theorem escrow_ge_live {cfg : Cfg} {s : State} (hi : Inv cfg s) (hs : Solvent s) (a p : Nat) (d : Denom) :
    liveSum cfg a p d s.orders ≤ s.bal (.pairEscrow a p) d :=
  escrow_ge_live_offset hi a p d 0 (hs a p d)

theorem runT_solvent {cfg : Cfg} (ops : List Op) (hc : ∀ op ∈ ops, OpConserving op) : ∀ s, Solvent s → Solvent (runT cfg s ops) := by
  intro s hs a p d
  have := runT_lost (cfg := cfg) a p d ops s
  rw [lostOf_zero_of_conserving a p ops hc, Lost] at this
  have := hs a p d
  omega

end Comdex.LiqLedger
