import Comdex.Model.Guards
/-! Lemmas for the table obligations of C12 / C14. A *pin* is an equation `(l.filter p).map f = names`; the statements about
single rows are read off the pins, so the sweep of `p` over the table is evaluated once. `domScan` computes the domination
predicates of `Model/Guards.lean` (which visit, for every exit, all items before it) in one pass: `domScan_eq`.
Item codes: `kind` 0 guard, 1 write, 2 position read, 3 ok-exit, 4 swallowed error; `cls` = `GClass.code` (1 ownerEq … 6 adminOnly),
7 consistency comparison, 8 one weakened by `&&`; in `guarded c clean`, `clean` = no write before the guard. -/
namespace Comdex.Guards
open Comdex.Gen.Guards

theorem ownerEq_fails {e : Env} (h : e.signerIsOwner = false) : GClass.ownerEq.fails e = true := by simp [GClass.fails, h]
theorem adminOnly_fails {e : Env} (h : e.signerIsAdmin = false) : GClass.adminOnly.fails e = true := by simp [GClass.fails, h]
theorem breakerEnabled_fails {e : Env} (h : e.breakerOn = true) : GClass.breakerEnabled.fails e = true := h
theorem esmExecuted_fails {e : Env} (h : e.esmExecuted = true) : GClass.esmExecuted.fails e = true := h
theorem priceLookup_fails {e : Env} (h : e.priceActive = false) : GClass.priceLookup.fails e = true := by simp [GClass.fails, h]
theorem coolOff_fails {e : Env} (h : e.esmExecuted = true) (hp : e.coolOffPassed = true) : GClass.coolOff.fails e = true := by
  simp [GClass.fails, h, hp]

theorem run_error_of_rejecting {σ : Type} (e : Env) (g : Step σ) (hr : g.rejectsIn e) :
    ∀ (steps : List (Step σ)), g ∈ steps → ∀ s, ∃ c, run steps e s = .error c := by
  intro steps
  induction steps with
  | nil => intro h; cases h
  | cons st rest ih =>
    intro hmem s
    rcases List.mem_cons.mp hmem with rfl | h
    · cases g with
      | guard c ok => exact ⟨c, by simp [run, hr s]⟩
      | effect f => exact hr.elim
    · cases st with
      | guard c ok => by_cases hok : ok e s = true <;> simp [run, hok, ih h]
      | effect f => exact ih h (f s)

theorem stdGuard_rejects {σ : Type} (c : GClass) (e : Env) (h : c.fails e = true) : (stdGuard c : Step σ).rejectsIn e :=
  show ∀ _ : σ, (!c.fails e) = false from fun _ => by rw [h]; rfl

theorem stdGuard_blocks {σ : Type} (c : GClass) (steps : List (Step σ)) (e : Env) (s : σ)
    (hg : stdGuard c ∈ steps) (hf : c.fails e = true) : deliver steps e s = (s, false) := by
  obtain ⟨c', hc⟩ := run_error_of_rejecting e (stdGuard c) (stdGuard_rejects c e hf) steps hg s
  simp only [deliver, applyIfNoError, hc]

/-- `c ≠ .other`: a guard of class `other` is interpreted by `sem.other`, not as a `stdGuard` -/
theorem route_rejects_class {σ : Type} (sem : Sem σ) (route : List Item) (c : GClass) (clean : Bool) (e : Env) (s : σ)
    (hg : hasGuard c.code clean route = true) (hc : c ≠ .other) (hf : c.fails e = true) :
    deliver (stepsOf sem route) e s = (s, false) := by
  simp only [hasGuard, List.any_eq_true, Bool.and_eq_true, beq_iff_eq] at hg
  obtain ⟨it, hm, ⟨hk, hcl⟩, -⟩ := hg
  have h0 : c.code ≠ 0 := by cases c <;> simp_all [GClass.code]
  have hstep : stepOf sem it = some (stdGuard c) := by simp [stepOf, hk, hcl, h0, GClass.ofCode_code]
  exact stdGuard_blocks _ _ e s (List.mem_filterMap.mpr ⟨it, hm, hstep⟩) hf

theorem guarded_rejects {σ : Type} (c : GClass) {clean : Bool} {h : Handler} (hg : guarded c.code clean h = true)
    (hc : c ≠ .other) : ∀ p ∈ exits h.items, ∀ (sem : Sem σ) (e : Env) (s : σ), c.fails e = true →
      deliver (stepsOf sem (routeOf p.1 p.2)) e s = (s, false) := by
  simp only [guarded, Bool.and_eq_true, List.all_eq_true] at hg
  exact fun p hp sem e s hf => route_rejects_class sem _ c clean e s (hg.2 p hp) hc hf

theorem ownerAuthorised_exit {h : Handler} (ha : ownerAuthorised h = true) {p : List Item × Item} (hp : p ∈ exits h.items)
    (hn : namesAt p.1 p.2 = true) : hasGuard GClass.ownerEq.code false (routeOf p.1 p.2) = true := by
  simpa [hn, GClass.code] using List.all_eq_true.mp ha p hp

theorem mem_of_pin {α β : Type} {l : List α} {p : α → Bool} {f : α → β} {names : List β}
    (h : (l.filter p).map f = names) {a : α} (ha : a ∈ l) (hp : p a = true) : f a ∈ names :=
  h ▸ List.mem_map_of_mem (List.mem_filter.mpr ⟨ha, hp⟩)

theorem exists_of_pin {α β : Type} {l : List α} {p : α → Bool} {f : α → β} {names : List β}
    (h : (l.filter p).map f = names) {b : β} (hb : b ∈ names) : ∃ a ∈ l, f a = b ∧ p a = true := by
  obtain ⟨a, ha, rfl⟩ := List.mem_map.mp (h ▸ hb)
  exact ⟨a, (List.mem_filter.mp ha).1, rfl, (List.mem_filter.mp ha).2⟩

theorem exists_of_subset_pin {α β : Type} {l : List α} {p : α → Bool} {f : α → β} {names expected : List β}
    (h : (l.filter p).map f = names) (hsub : ∀ b ∈ expected, b ∈ names) : ∀ b ∈ expected, ∃ a ∈ l, f a = b ∧ p a = true :=
  fun b hb => exists_of_pin h (hsub b hb)

theorem any_eq_contains_of_pin {α β : Type} [BEq β] [LawfulBEq β] {l : List α} {p : α → Bool} {f : α → β} {names : List β}
    (h : (l.filter p).map f = names) (b : β) : (l.any fun a => f a == b && p a) = names.contains b := by
  rw [Bool.eq_iff_iff, List.any_eq_true, List.contains_iff_mem]
  constructor
  · rintro ⟨a, ha, hab⟩
    simp only [Bool.and_eq_true, beq_iff_eq] at hab
    exact hab.1 ▸ mem_of_pin h ha hab.2
  · intro hb
    obtain ⟨a, ha, hf, hp⟩ := exists_of_pin h hb
    exact ⟨a, ha, by simp [hf, hp]⟩

/-- One pass over the items of a handler. `ts`: the paths of the trigger items (`t`) met so far, `gs`: the paths of the
unconditional `g`-items met so far. At an exit: if a trigger lies on a path to it, a `g`-item must lie on every run to it. -/
def domScan (t g : Item → Bool) : List (List Nat) → List (List Nat) → List Item → Bool
  | _, _, [] => true
  | ts, gs, it :: rest =>
    (it.kind != 3 || !ts.any (isPrefix · it.path) || gs.any (isPrefix · it.path)) &&
      domScan t g (if t it then it.path :: ts else ts) (if g it && !it.cond then it.path :: gs else gs) rest

theorem routeOf_any (g : Item → Bool) (acc : List Item) (e : Item) :
    (routeOf acc e).any g = acc.any fun it => g it && !it.cond && isPrefix it.path e.path := by
  simp only [routeOf, List.any_reverse, List.any_filter]
  congr 1; funext it; cases g it <;> simp

/-- The scan started in the middle of a handler: `acc` = the items already passed, `ts` / `gs` = what the scan holds of them (the two
hypotheses are its loop invariants); `b` = a trigger with the empty path has been planted (`domScan_always`), so every exit counts. -/
theorem domScan_eq (t g : Item → Bool) (b : Bool) (items : List Item) : ∀ (acc : List Item) (ts gs : List (List Nat)),
    (∀ q, ts.any (isPrefix · q) = (b || acc.any fun it => t it && isPrefix it.path q)) →
    (∀ q, gs.any (isPrefix · q) = acc.any fun it => g it && !it.cond && isPrefix it.path q) →
    domScan t g ts gs items = (exitsAux acc items).all fun p =>
      !(b || p.1.any fun it => t it && isPrefix it.path p.2.path) || (routeOf p.1 p.2).any g := by
  induction items with
  | nil => intros; rfl
  | cons it rest ih =>
    intro acc ts gs hts hgs
    rw [domScan, exitsAux, List.all_append, ih (it :: acc)]
    · congr 1
      rw [hts, hgs]
      cases h : it.kind == 3 <;> simp [h, routeOf_any, bne]
    · intro q
      cases h : t it with
      | false => simp [h, hts]
      | true =>
        simp [h, hts]
        cases isPrefix it.path q <;> simp
    · intro q
      cases h : (g it && !it.cond) <;> simp [h, hgs]

theorem domScan_after (t g : Item → Bool) (items : List Item) :
    domScan t g [] [] items = (exits items).all fun p =>
      !(p.1.any fun it => t it && isPrefix it.path p.2.path) || (routeOf p.1 p.2).any g := by
  simpa [exits] using domScan_eq t g false items [] [] [] (fun q => rfl) (fun q => rfl)

/-- the empty path is a prefix of every path: started with it as a trigger, EVERY exit must be dominated -/
theorem domScan_always (g : Item → Bool) (items : List Item) :
    domScan (fun _ => false) g [[]] [] items = (exits items).all fun p => (routeOf p.1 p.2).any g := by
  simpa [exits] using domScan_eq (fun _ => false) g true items [] [[]] [] (fun q => by simp [isPrefix]) (fun q => rfl)

theorem guarded_eq_scan (c : Nat) (clean : Bool) :
    guarded c clean = fun h =>
      hasExit h && domScan (fun _ => false) (fun it => it.kind == 0 && it.cls == c && (!clean || !it.wb)) [[]] [] h.items := by
  funext h; rw [domScan_always]; rfl

theorem ownerAuthorised_eq_scan :
    ownerAuthorised = fun h =>
      domScan (fun it => it.kind == 2 && !it.keyed) (fun it => it.kind == 0 && it.cls == 1) [] [] h.items := by
  funext h; rw [domScan_after]; simp [ownerAuthorised, hasGuard, namesAt, Bool.and_assoc]

theorem consistencyGuarded_eq_scan :
    consistencyGuarded = fun h tag =>
      hasExit h &&
        domScan (fun it => it.kind == 2 && !it.keyed) (fun it => it.kind == 0 && it.cls == 7 && it.tag == tag) [] [] h.items := by
  funext h tag; rw [domScan_after]; simp [consistencyGuarded, hasGuardTag, namesAt, Bool.and_assoc]

/-- the questions of the name pins over `handlers` (`C12.authMatrix`), each with the `clean` flag its pin's statement has -/
inductive Col where
  | breaker | esm | coolOff | priceDominates | admin | noOwnerCheck | ownerChecked | signerKeyed | ownerAfterWrite | priceGuard
  | swallowsPrice
  deriving DecidableEq

def Col.all : List Col :=
  [.breaker, .esm, .coolOff, .priceDominates, .admin, .noOwnerCheck, .ownerChecked, .signerKeyed, .ownerAfterWrite, .priceGuard,
   .swallowsPrice]

def Col.holds : Col → Handler → Bool
  | .breaker => guarded 3 true
  | .esm => guarded 2 true
  | .coolOff => guarded 4 false
  | .priceDominates => guarded 5 false
  | .admin => guarded 6 false
  | .noOwnerCheck => fun h => !ownerAuthorised h
  | .ownerChecked => fun h => namesUnkeyed h && ownerAuthorised h
  | .signerKeyed => fun h => namesPosition h && !namesUnkeyed h
  | .ownerAfterWrite => Guards.ownerAfterWrite
  | .priceGuard => hasPriceGuard
  | .swallowsPrice => Guards.swallowsPrice

def sigOf (h : Handler) : List Col × List (String × Bool) :=
  (Col.all.filter (·.holds h), (consistencyTags h).map fun t => (t, consistencyGuarded h t))

theorem sigOf_contains (h : Handler) (c : Col) : (sigOf h).1.contains c = c.holds h := by
  have hc : c ∈ Col.all := by cases c <;> decide
  rw [Bool.eq_iff_iff, List.contains_iff_mem]
  exact ⟨fun hm => (List.mem_filter.mp hm).2, fun hh => List.mem_filter.mpr ⟨hc, hh⟩⟩

/-- `f`, `p` and `g` are not evaluated again -/
theorem pin_of_matrix {α β γ δ : Type} {l : List α} {f : α → β} {s : α → γ} {M : List (β × γ)}
    (hM : l.map (fun a => (f a, s a)) = M) {p : α → Bool} {g : α → δ} (q : γ → Bool) (g' : β × γ → δ)
    (hpq : ∀ a, p a = q (s a)) (hg : ∀ a, g a = g' (f a, s a)) :
    (l.filter p).map g = (M.filter fun r => q r.2).map g' := by
  subst hM
  induction l with
  | nil => rfl
  | cons a l ih => simp only [List.filter_cons, List.map_cons, hpq a]; split <;> simp [ih, hg a]

theorem map_pair_of {α β γ : Type} {l : List α} {f : α → β} {s : α → γ} {M : List (β × γ)}
    (hf : l.map f = M.map (·.1)) (hs : l.map s = M.map (·.2)) : l.map (fun a => (f a, s a)) = M := by
  induction l generalizing M with
  | nil => cases M <;> simp_all
  | cons a l ih =>
    cases M with
    | nil => simp at hf
    | cons r M => simp only [List.map_cons, List.cons.injEq] at hf hs ⊢; exact ⟨by rw [hf.1, hs.1], ih hf.2 hs.2⟩

end Comdex.Guards
