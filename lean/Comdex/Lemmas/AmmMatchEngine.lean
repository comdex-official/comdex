import Comdex.Lemmas.AmmMatchSums
/-!
The distribution functions (`FulfillOrders`, `DistributeOrderAmountToOrders`, `DistributeOrderAmountToTick`) on well-formed
orders at any positive price.  Each first computes a plan and then applies it with the `FillOrder` loop: a plan within
`MatchableAmount` cannot panic (`applyPlan_some`), and it hands out at most the amount given, exactly that amount iff the
decidable ghost `lossless` / `groupsLossless` holds (D2) — always the case for buy orders.
-/
namespace Comdex.Amm

/-! ## plans and the `FillOrder` loop -/

/-- what the engine may fill at price `p` whatever the order's limit price (`GoodFill` without `price_pos` and `within`) -/
structure Fillable (o : Order) (a p : Int) : Prop where
  pos : 0 < a
  le : a ≤ matchableAmount o p
  worth : o.dir = .sell → 0 < quoteFloor p a

theorem Fillable.good {o : Order} {a p : Int} (f : Fillable o a p) (hp : 0 < p) (hw : Within o p) : GoodFill o a p :=
  ⟨hp, f.pos, f.le, f.worth, hw⟩

theorem fillOrder_le {o : Order} {a p : Int} (h : a ≤ matchableAmount o p) : fillOrder o a p = some (fillRaw o a p) :=
  if_neg (Int.not_lt.mpr h)

theorem fillRaw_quote (o : Order) (a p : Int) :
    (fillRaw o a p).2 = if o.dir = .buy then (fillRaw o a p).1.paid - o.paid else o.received - (fillRaw o a p).1.received := by
  cases hd : o.dir with
  | buy => rw [fillRaw_buy hd]; simp
  | sell => rw [fillRaw_sell hd]; simp

theorem lookup_cons_ne {o k : Order} (h : o ≠ k) (v : Int) (xs : List (Order × Int)) :
    ((k, v) :: xs).lookup o = xs.lookup o := by
  have e : (o == k) = false := by simp [h]
  rw [List.lookup_cons, e]

theorem lookup_cons_self (k : Order) (v : Int) (xs : List (Order × Int)) : ((k, v) :: xs).lookup k = some v := by
  simp

theorem lookup_mem {plan : List (Order × Int)} {o : Order} {a : Int} (h : plan.lookup o = some a) : (o, a) ∈ plan := by
  induction plan with
  | nil => simp at h
  | cons x xs ih =>
    obtain ⟨k, v⟩ := x
    by_cases hk : o = k
    · subst hk; rw [lookup_cons_self] at h; cases h; exact List.mem_cons_self
    · rw [lookup_cons_ne hk] at h
      exact List.mem_cons_of_mem _ (ih h)

/-- the body of the `FillOrder` loop: an order of the plan is filled for its planned amount -/
def planStep (plan : List (Order × Int)) (p : Int) (o : Order) : Order :=
  match plan.lookup o with
  | none => o
  | some a => (fillRaw o a p).1

def applied (plan : List (Order × Int)) (p : Int) (os : List Order) : List Order := os.map (planStep plan p)

theorem applyPlan_some (os : List Order) (plan : List (Order × Int)) (p : Int)
    (h : ∀ oa ∈ plan, oa.2 ≤ matchableAmount oa.1 p) :
    applyPlan os plan p = some (applied plan p os, quoteOf os (applied plan p os)) := by
  induction os with
  | nil => rfl
  | cons o os ih =>
    unfold applyPlan
    rw [ih]
    simp only [applied, List.map_cons, quoteOf, List.zipWith_cons_cons, sumInt, planStep]
    cases hl : plan.lookup o with
    | none => simp
    | some a =>
      simp only [fillOrder_le (h (o, a) (lookup_mem hl)), fillRaw_quote o a p]
      rw [Int.add_comm]

theorem applied_fillAt (os : List Order) {plan : List (Order × Int)} {p : Int} (h : ∀ oa ∈ plan, GoodFill oa.1 oa.2 p) :
    All2 (FillAt p) os (applied plan p os) := by
  refine all2_map fun o _ => ?_
  unfold planStep
  cases hl : plan.lookup o with
  | none => exact Or.inl rfl
  | some a => exact Or.inr ⟨a, h (o, a) (lookup_mem hl), rfl⟩

theorem applied_filled (os : List Order) (plan : List (Order × Int)) (p : Int) :
    filledOf os (applied plan p os) = sumInt (os.map fun o => (plan.lookup o).getD 0) := by
  refine (zsum_map _ _ os).trans (congrArg sumInt (List.map_congr_left fun o _ => ?_))
  unfold planStep
  cases plan.lookup o with
  | none => simp
  | some a => simp only [fillRaw_opn, Option.getD_some]; omega

theorem lookup_none_of_not_mem (plan : List (Order × Int)) (o : Order) (h : o ∉ plan.map (·.1)) :
    plan.lookup o = none := by
  induction plan with
  | nil => rfl
  | cons x xs ih =>
    obtain ⟨k, v⟩ := x
    simp only [List.map_cons, List.mem_cons, not_or] at h
    rw [lookup_cons_ne h.1]
    exact ih h.2

theorem sum_lookup (os : List Order) (plan : List (Order × Int)) (hnd : os.Nodup) (hk : (plan.map (·.1)).Nodup)
    (hsub : ∀ oa ∈ plan, oa.1 ∈ os) :
    sumInt (os.map fun o => (plan.lookup o).getD 0) = planSum plan := by
  induction plan with
  | nil =>
    simp only [List.lookup_nil, Option.getD_none, planSum, List.map_nil, sumInt]
    exact sumInt_map_zero os
  | cons x xs ih =>
    obtain ⟨k, v⟩ := x
    simp only [List.map_cons, List.nodup_cons] at hk
    have hkm : k ∈ os := hsub (k, v) (by simp)
    have e : (os.map fun o => (List.lookup o ((k, v) :: xs)).getD 0) =
        os.map fun o => if o = k then v else (xs.lookup o).getD 0 := by
      apply List.map_congr_left
      intro o _
      by_cases h : o = k
      · rw [h, lookup_cons_self]; simp
      · rw [lookup_cons_ne h]; simp [h]
    rw [e, sumInt_ite_eq os k v _ hnd hkm, lookup_none_of_not_mem xs k hk.1,
      ih hk.2 (fun oa hoa => hsub oa (by simp [hoa]))]
    simp [planSum, sumInt]

theorem fillAt_dust {d : Dir} {p : Int} (hp : 0 ≤ p) {os os' : List Order} (h : All2 (FillAt p) os os')
    (hd : ∀ o ∈ os, o.dir = d) : RoundedIn p p (d.sign * filledOf os os') (fillsOf os os') (quoteOf os os') := by
  fun_induction All2 (FillAt p) os os' with
  | case1 => exact (RoundedIn.zero p p).congr (Int.mul_zero _) rfl rfl
  | case2 o os o' os' ih =>
    refine (RoundedIn.add ?_ (ih h.2 fun x hx => hd x (by simp [hx]))).congr (Int.mul_add ..) rfl rfl
    rcases h.1 with rfl | ⟨a, g, rfl⟩
    · exact (RoundedIn.zero p p).congr (by simp) (by simp) (by simp)
    · have := fillRaw_rounded o (Int.mul_nonneg hp (Int.le_of_lt g.pos))
      rw [hd o (by simp)] at this
      refine this.congr ?_ ?_ ?_ <;> dsimp only
      · rw [fillRaw_opn]; congr 1; omega
      · rw [fillRaw_fills]; omega
      · rw [← fillRaw_quote]
  | case3 => exact h.elim

/-! ## `FulfillOrders` -/

theorem fulfillPlan_cons (x : Order) (xs : List Order) (p : Int) :
    fulfillPlan (x :: xs) p =
      (if matchableAmount x p > 0 then [(x, matchableAmount x p)] else []) ++ fulfillPlan xs p := by
  unfold fulfillPlan
  rw [List.filterMap_cons]
  by_cases hm : matchableAmount x p > 0 <;> simp [hm]

theorem lookup_fulfillPlan (os : List Order) (p : Int) (o : Order) :
    (fulfillPlan os p).lookup o =
      if o ∈ os ∧ matchableAmount o p > 0 then some (matchableAmount o p) else none := by
  induction os with
  | nil => simp [fulfillPlan]
  | cons x xs ih =>
    rw [fulfillPlan_cons]
    by_cases hm : matchableAmount x p > 0
    · simp only [hm, if_true, List.singleton_append]
      by_cases hox : o = x
      · subst hox; rw [lookup_cons_self]; simp [hm]
      · rw [lookup_cons_ne hox, ih]
        simp [hox]
    · simp only [hm, if_false, List.nil_append, ih]
      by_cases hox : o = x
      · subst hox; simp [hm]
      · simp [hox]

theorem fulfillPlan_ok (os : List Order) (p : Int) (hp : 0 < p) :
    ∀ oa ∈ fulfillPlan os p, oa.1 ∈ os ∧ Fillable oa.1 oa.2 p := by
  intro oa hoa
  unfold fulfillPlan at hoa
  rw [List.mem_filterMap] at hoa
  obtain ⟨o, ho, hf⟩ := hoa
  simp only at hf
  split at hf
  · rename_i hm
    cases hf
    exact ⟨ho, hm, Int.le_refl _, fun _ => matchable_worth o p hp hm⟩
  · cases hf

theorem planSum_append (l₁ l₂ : List (Order × Int)) : planSum (l₁ ++ l₂) = planSum l₁ + planSum l₂ := by
  simp [planSum, sumInt_append]

theorem planSum_fulfillPlan (os : List Order) (p : Int) (h : ∀ o ∈ os, 0 ≤ matchableAmount o p) :
    planSum (fulfillPlan os p) = totalMatchable os p := by
  induction os with
  | nil => simp [fulfillPlan, planSum, totalMatchable, sumInt]
  | cons x xs ih =>
    rw [fulfillPlan_cons, planSum_append, ih (fun o ho => h o (by simp [ho]))]
    have := h x (by simp)
    simp only [totalMatchable, List.map_cons, sumInt]
    split
    · simp [planSum, sumInt]
    · simp [planSum, sumInt]; omega

theorem keys_fulfillPlan (os : List Order) (p : Int) :
    (fulfillPlan os p).map (·.1) = os.filter (fun o => decide (matchableAmount o p > 0)) := by
  induction os with
  | nil => simp [fulfillPlan]
  | cons x xs ih =>
    rw [fulfillPlan_cons, List.map_append, ih, List.filter_cons]
    by_cases hm : matchableAmount x p > 0 <;> simp [hm]

theorem fulfillOrders_eq (os : List Order) (p : Int) (hp : 0 < p) (hw : ∀ o ∈ os, Wf o) :
    fulfillOrders os p = some (applied (fulfillPlan os p) p os, quoteOf os (applied (fulfillPlan os p) p os)) ∧
    filledOf os (applied (fulfillPlan os p) p os) = totalMatchable os p := by
  refine ⟨applyPlan_some os _ p (fun oa hoa => (fulfillPlan_ok os p hp oa hoa).2.le), ?_⟩
  rw [applied_filled]
  refine congrArg sumInt (List.map_congr_left fun o ho => ?_)
  rw [lookup_fulfillPlan]
  have := matchable_nonneg o p (hw o ho) hp
  by_cases hm : matchableAmount o p > 0
  · simp [ho, hm]
  · simp [hm]; omega

/-! ## `DistributeOrderAmountToOrders`: the two passes -/

/-- a share handed to `o` by the two passes: between 0 and what `o` can take at `p` -/
def Share (p : Int) (o : Order) (a : Int) : Prop := 0 ≤ a ∧ a ≤ matchableAmount o p

theorem share1_bounds (o : Order) (total amt p : Int) (hm : 0 ≤ matchableAmount o p) : Share p o (share1 o total amt p) := by
  unfold Share share1
  simp only
  split
  · omega
  · split <;> omega

theorem pass1_all2 (os : List Order) (total amt p : Int) (h : ∀ o ∈ os, 0 ≤ matchableAmount o p) :
    All2 (Share p) os (pass1 os total amt p) :=
  all2_map fun o ho => share1_bounds o total amt p (h o ho)

theorem pass2_all2 (os : List Order) (prev : List Int) (rem p : Int) (hr : 0 ≤ rem) (h : All2 (Share p) os prev) :
    All2 (Share p) os (pass2 os prev rem p) := by
  fun_induction pass2 os prev rem p with
  | case1 => exact h
  | case2 o os b bs rem p h0 x ih =>
    obtain ⟨⟨h1, h2⟩, h3⟩ := h
    exact ⟨⟨by omega, by omega⟩, ih (by omega) h3⟩
  | case3 os prev rem p hne =>
    cases os with
    | nil => cases prev with
      | nil => trivial
      | cons _ _ => exact h.elim
    | cons o os => cases prev with
      | nil => exact h.elim
      | cons b bs => exact (hne o os b bs rfl rfl).elim

theorem amount_nonneg_of_wf {o : Order} (hw : Wf o) : 0 ≤ o.amount := by
  have := hw.opn_nonneg; have := hw.opn_le; omega

/-- `Q = ⌊amount / total⌋` as a `Dec`, the share `⌊Q·amt⌋`: two floors, each not above what it rounds -/
theorem proportionShare_le (o : Order) (total amt : Int) (ha : 0 ≤ o.amount) (ht : 0 < total) (hamt : 0 ≤ amt) :
    proportionShare o total amt * total ≤ o.amount * amt := by
  unfold proportionShare Dec.mulInt
  have hQ := Dec.quoTruncate_nonneg (Dec.ofInt_nonneg ha) (Dec.ofInt_nonneg (Int.le_of_lt ht))
  have h1 := Dec.quoTruncate_ofInt_mul_le ha ht
  have h2 := Dec.truncateInt_mul_le (Int.mul_nonneg hQ hamt)
  have h3 := Int.mul_le_mul_of_nonneg_right h2 (Int.le_of_lt ht)
  have h4 := Int.mul_le_mul_of_nonneg_right h1 hamt
  refine Int.le_of_mul_le_mul_right (a := Dec.P) ?_ Dec.P_pos
  linarith

theorem share1_mul_le (o : Order) (total amt p : Int) (hw : Wf o) (ht : 0 < total) (hamt : 0 ≤ amt) :
    share1 o total amt p * total ≤ o.amount * amt := by
  have ha := amount_nonneg_of_wf hw
  have hz : 0 ≤ o.amount * amt := Int.mul_nonneg ha hamt
  have hps := proportionShare_le o total amt ha ht hamt
  unfold share1
  simp only
  split
  · simpa using hz
  · split
    · have : min (matchableAmount o p) (proportionShare o total amt) ≤ proportionShare o total amt := by omega
      exact Int.le_trans (Int.mul_le_mul_of_nonneg_right this (by omega)) hps
    · simpa using hz

theorem sum_pass1_mul_le (os : List Order) (total amt p : Int) (hw : ∀ o ∈ os, Wf o) (ht : 0 < total) (hamt : 0 ≤ amt) :
    sumInt (pass1 os total amt p) * total ≤ totalAmount os * amt := by
  have := ListSum.sum_map_affine_le os (share1 · total amt p) (·.amount) total amt 0 fun o ho => by
    have := share1_mul_le o total amt p (hw o ho) ht hamt
    rw [Int.mul_comm total, Int.mul_comm amt, Int.add_zero]; exact this
  rw [Int.mul_zero, Int.add_zero, ← sumInt_eq, ← sumInt_eq] at this
  rw [Int.mul_comm _ total, Int.mul_comm _ amt]; exact this

theorem totalAmount_nonneg (os : List Order) (hw : ∀ o ∈ os, Wf o) : 0 ≤ totalAmount os :=
  sumInt_map_nonneg _ os fun o ho => amount_nonneg_of_wf (hw o ho)

theorem amount_le_total (os : List Order) (hw : ∀ o ∈ os, Wf o) (o : Order) (ho : o ∈ os) : o.amount ≤ totalAmount os := by
  induction os with
  | nil => simp at ho
  | cons x xs ih =>
    have hx := amount_nonneg_of_wf (hw x (by simp))
    have hxs := totalAmount_nonneg xs (fun y hy => hw y (by simp [hy]))
    simp only [totalAmount, List.map_cons, sumInt] at *
    rcases List.mem_cons.mp ho with rfl | h
    · omega
    · have := ih (fun y hy => hw y (by simp [hy])) h
      omega

theorem matchable_zero_of_total_zero (os : List Order) (p : Int) (hp : 0 < p) (hw : ∀ o ∈ os, Wf o)
    (ht : totalAmount os = 0) : ∀ o ∈ os, matchableAmount o p = 0 := by
  intro o ho
  have h1 := amount_le_total os hw o ho
  have h2 := matchable_le_opn o p (hw o ho)
  have h3 := matchable_nonneg o p (hw o ho) hp
  have h4 := (hw o ho).opn_le
  omega

/-- `orderAmt.QuoTruncate(totalAmt)` never divides by 0: a zero total makes every matchable amount zero -/
theorem no_div_by_zero (os : List Order) (p : Int) (hp : 0 < p) (hw : ∀ o ∈ os, Wf o) : divByZero os p = false := by
  unfold divByZero
  by_cases ht : totalAmount os = 0
  · have : (os.any fun o => matchableAmount o p != 0) = false := by
      rw [List.any_eq_false]
      intro o ho
      simp [matchable_zero_of_total_zero os p hp hw ht o ho]
    simp [this]
  · simp [ht]

theorem sum_pass1_le (os : List Order) (amt p : Int) (hp : 0 < p) (hw : ∀ o ∈ os, Wf o) (hamt : 0 ≤ amt) :
    sumInt (pass1 os (totalAmount os) amt p) ≤ amt := by
  have ht := totalAmount_nonneg os hw
  by_cases h0 : totalAmount os = 0
  · -- every share is zero
    have hs : pass1 os (totalAmount os) amt p = os.map fun _ => 0 :=
      List.map_congr_left fun o ho => by simp [share1, matchable_zero_of_total_zero os p hp hw h0 o ho]
    rw [hs, sumInt_map_zero]
    exact hamt
  · have hpos : 0 < totalAmount os := by omega
    have h := sum_pass1_mul_le os (totalAmount os) amt p hw hpos hamt
    rw [Int.mul_comm (totalAmount os)] at h
    exact Int.le_of_mul_le_mul_right h hpos

theorem pass1_length (os : List Order) (total amt p : Int) : (pass1 os total amt p).length = os.length := by
  simp [pass1]

theorem shares_all2 (os : List Order) (amt p : Int) (hp : 0 < p) (hw : ∀ o ∈ os, Wf o) (hamt : 0 ≤ amt) :
    All2 (Share p) os
      (pass2 os (pass1 os (totalAmount os) amt p) (amt - sumInt (pass1 os (totalAmount os) amt p)) p) := by
  apply pass2_all2
  · have := sum_pass1_le os amt p hp hw hamt; omega
  · exact pass1_all2 os _ amt p (fun o ho => matchable_nonneg o p (hw o ho) hp)

theorem shares_keys (os : List Order) (amt p : Int) (hp : 0 < p) (hw : ∀ o ∈ os, Wf o) (hamt : 0 ≤ amt) :
    (shares os amt p).map (·.1) = os := by
  unfold shares
  exact List.map_fst_zip (Nat.le_of_eq (all2_length (shares_all2 os amt p hp hw hamt)))

theorem shares_mem (os : List Order) (amt p : Int) (hp : 0 < p) (hw : ∀ o ∈ os, Wf o) (hamt : 0 ≤ amt)
    (oa : Order × Int) (h : oa ∈ shares os amt p) : oa.1 ∈ os ∧ Share p oa.1 oa.2 := by
  obtain ⟨o, a⟩ := oa
  unfold shares at h
  simp only at h
  exact ⟨(List.of_mem_zip h).1, all2_zip_mem (shares_all2 os amt p hp hw hamt) h⟩

theorem sum_le_totalMatchable {os : List Order} {prev : List Int} {p : Int} (h : All2 (Share p) os prev) :
    sumInt prev ≤ totalMatchable os p := by
  fun_induction All2 (Share p) os prev with
  | case1 => exact Int.le_refl _
  | case2 o os a prev ih =>
    have := ih h.2; have := h.1.2
    simp only [sumInt, totalMatchable, List.map_cons] at *
    omega
  | case3 => exact h.elim

theorem totalMatchable_cons (o : Order) (os : List Order) (p : Int) :
    totalMatchable (o :: os) p = matchableAmount o p + totalMatchable os p := rfl

/-- the whole of passes 1 and 2 in one identity: the shares after the second pass are those before plus the remainder, as far as
the orders' free capacity `totalMatchable − Σ prev` goes -/
theorem pass2_sum (os : List Order) (prev : List Int) (rem p : Int) (hr : 0 ≤ rem) (h : All2 (Share p) os prev) :
    sumInt (pass2 os prev rem p) = sumInt prev + min rem (totalMatchable os p - sumInt prev) := by
  fun_induction pass2 os prev rem p with
  | case1 o os b bs p =>
    have := sum_le_totalMatchable h
    omega
  | case2 o os b bs rem p h0 x ih =>
    have hcap := sum_le_totalMatchable h.2
    have h1 := ih (by omega) h.2
    have h2 := h.1
    unfold Share at h2
    rw [sumInt, sumInt, totalMatchable_cons, h1]
    clear ih h h1
    omega
  | case3 os prev rem p hne =>
    cases os with
    | nil => cases prev with
      | nil => simp [sumInt, totalMatchable]; omega
      | cons _ _ => exact h.elim
    | cons o os => cases prev with
      | nil => exact h.elim
      | cons b bs => exact (hne o os b bs rfl rfl).elim

theorem planSum_zip (os : List Order) (l : List Int) (h : os.length = l.length) : planSum (os.zip l) = sumInt l := by
  rw [planSum, List.map_snd_zip (Nat.le_of_eq h.symm)]

theorem shares_sum (os : List Order) (amt p : Int) (hp : 0 < p) (hw : ∀ o ∈ os, Wf o) (hamt : 0 ≤ amt) :
    planSum (shares os amt p) = min amt (totalMatchable os p) := by
  have h1 := pass1_all2 os (totalAmount os) amt p (fun o ho => matchable_nonneg o p (hw o ho) hp)
  have h2 := sum_pass1_le os amt p hp hw hamt
  have h3 := pass2_sum os _ (amt - sumInt (pass1 os (totalAmount os) amt p)) p (by omega) h1
  unfold shares
  simp only
  rw [planSum_zip _ _ (all2_length (shares_all2 os amt p hp hw hamt)), h3]
  omega

/-! ## `DistributeOrderAmountToOrders`: the re-runs -/

theorem totalMatchable_nonneg (os : List Order) (p : Int) (hp : 0 < p) (hw : ∀ o ∈ os, Wf o) : 0 ≤ totalMatchable os p :=
  sumInt_map_nonneg _ os fun o ho => matchable_nonneg o p (hw o ho) hp

/-- the shares that count as matched (third loop of `DistributeOrderAmountToOrders`) -/
def worthy (os : List Order) (amt p : Int) : List (Order × Int) :=
  (shares os amt p).filter (fun oa => shareOk oa.1 oa.2 p)

/-- the orders `DistributeOrderAmountToOrders` re-runs on when a share is worth nothing: those whose share is worth something,
or all but the last when there is none -/
def rerun (os : List Order) (amt p : Int) : List Order :=
  if (worthy os amt p).isEmpty then os.dropLast else (worthy os amt p).map (·.1)

theorem planOrders_succ (fuel : Nat) (os : List Order) (amt p : Int) (h : divByZero os p = false) :
    planOrders (fuel + 1) os amt p =
      if (worthy os amt p).length = (shares os amt p).length then some (shares os amt p)
      else planOrders fuel (rerun os amt p) amt p := by
  rw [planOrders, rerun, worthy]
  simp only [h, Bool.false_eq_true, if_false]
  split
  · rfl
  · split <;> rfl

theorem lossless_succ (fuel : Nat) (os : List Order) (amt p : Int) :
    lossless (fuel + 1) os amt p =
      if (worthy os amt p).length = (shares os amt p).length then decide (amt ≤ totalMatchable os p)
      else lossless fuel (rerun os amt p) amt p := by
  rw [lossless, rerun, worthy]
  split
  · rfl
  · split <;> rfl

/-- a re-run is on strictly fewer orders: why the fuel `os.length + 1` suffices -/
theorem rerun_sublist (os : List Order) (amt p : Int) (hp : 0 < p) (hw : ∀ o ∈ os, Wf o) (hamt : 0 ≤ amt)
    (h : (worthy os amt p).length ≠ (shares os amt p).length) :
    (rerun os amt p).Sublist os ∧ (rerun os amt p).length < os.length := by
  have hk := shares_keys os amt p hp hw hamt
  have hlen := congrArg List.length hk
  rw [List.length_map] at hlen
  have hlt : (worthy os amt p).length ≤ (shares os amt p).length := List.length_filter_le _ _
  unfold rerun
  split
  · refine ⟨List.dropLast_sublist os, ?_⟩
    rw [List.length_dropLast]
    omega
  · refine ⟨?_, by rw [List.length_map]; omega⟩
    have := (List.filter_sublist (p := fun oa => shareOk oa.1 oa.2 p) (l := shares os amt p)).map (·.1)
    rwa [hk] at this

/-- "at most, and exactly iff": `moved` never exceeds the amount offered, and equals it precisely when the decidable `ghost`
(`lossless`, `groupsLossless`, `ticksLossless`, `matchLossless`) holds; D2 is `ghost = false` -/
structure UpTo (moved amt : Int) (ghost : Bool) : Prop where
  le : moved ≤ amt
  exact_iff : moved = amt ↔ ghost = true

theorem UpTo.full (x : Int) : UpTo x x true := ⟨Int.le_refl x, fun _ => rfl, fun _ => rfl⟩

/-- only the shortfall `amt - moved` counts -/
theorem UpTo.of_gap {a x a' x' : Int} {g : Bool} (h : UpTo a x g) (e : x' - a' = x - a) : UpTo a' x' g :=
  ⟨by have := h.le; omega, by rw [← h.exact_iff]; constructor <;> intro <;> omega⟩

theorem UpTo.add {a x b y : Int} {g k : Bool} (h₁ : UpTo a x g) (h₂ : UpTo b y k) : UpTo (a + b) (x + y) (g && k) := by
  have := h₁.le; have := h₂.le
  refine ⟨by omega, ?_⟩
  rw [Bool.and_eq_true, ← h₁.exact_iff, ← h₂.exact_iff]
  constructor <;> intro <;> omega

/-- a plan offered `amt` at `p`: every entry may be filled, and the entries sum `UpTo amt` -/
structure PlanOk (plan : List (Order × Int)) (p amt : Int) (ghost : Bool) : Prop where
  fillable : ∀ oa ∈ plan, Fillable oa.1 oa.2 p
  sum : UpTo (planSum plan) amt ghost

/-- by the recursion of `planOrders` (`planOrders_succ`): a run that keeps every share is `shares_sum`; a re-run is on a sublist
(`rerun_sublist`) with the same `amt`, so keys and ghost carry over -/
theorem planOrders_plan (fuel : Nat) (os : List Order) (amt p : Int) (hp : 0 < p) (hamt : 0 ≤ amt)
    (hw : ∀ o ∈ os, Wf o) (plan : List (Order × Int)) (h : planOrders fuel os amt p = some plan) :
    (plan.map (·.1)).Sublist os ∧ PlanOk plan p amt (lossless fuel os amt p) := by
  induction fuel generalizing os with
  | zero => simp [planOrders] at h
  | succ fuel ih =>
    rw [planOrders_succ fuel os amt p (no_div_by_zero os p hp hw)] at h
    rw [lossless_succ]
    split at h
    · rename_i h1
      cases h
      rw [if_pos h1]
      refine ⟨by rw [shares_keys os amt p hp hw hamt]; exact List.Sublist.refl _, fun oa hoa => ?_, ?_, ?_⟩
      · obtain ⟨_, h0, hle⟩ := shares_mem os amt p hp hw hamt oa hoa
        have hok := (List.length_filter_eq_length_iff.mp h1) oa hoa
        unfold shareOk at hok
        simp only [Bool.and_eq_true, Bool.or_eq_true, bne_iff_ne, ne_eq, beq_iff_eq, decide_eq_true_eq] at hok
        refine ⟨by omega, hle, fun hs => ?_⟩
        rcases hok.2 with hb | hq
        · rw [hs] at hb; cases hb
        · exact hq
      · rw [shares_sum os amt p hp hw hamt]; omega
      · rw [shares_sum os amt p hp hw hamt, decide_eq_true_eq]; omega
    · rename_i h1
      rw [if_neg h1]
      have hsub := (rerun_sublist os amt p hp hw hamt h1).1
      obtain ⟨hk, hrest⟩ := ih (rerun os amt p) (fun o ho => hw o (hsub.subset ho)) h
      exact ⟨hk.trans hsub, hrest⟩

/-- the fuel is never used up: every re-run is on fewer orders -/
theorem planOrders_some (fuel : Nat) (os : List Order) (amt p : Int) (hp : 0 < p) (hamt : 0 ≤ amt)
    (hw : ∀ o ∈ os, Wf o) (hf : os.length < fuel) : ∃ plan, planOrders fuel os amt p = some plan := by
  induction fuel generalizing os with
  | zero => omega
  | succ fuel ih =>
    rw [planOrders_succ fuel os amt p (no_div_by_zero os p hp hw)]
    split
    · exact ⟨_, rfl⟩
    · rename_i h1
      obtain ⟨hsub, hlen⟩ := rerun_sublist os amt p hp hw hamt h1
      exact ih (rerun os amt p) (fun o ho => hw o (hsub.subset ho)) (by omega)

theorem planOrders_sum (fuel : Nat) (os : List Order) (amt p : Int) (hp : 0 < p) (hamt : 0 ≤ amt)
    (hw : ∀ o ∈ os, Wf o) (hl : lossless fuel os amt p = true) (plan : List (Order × Int))
    (h : planOrders fuel os amt p = some plan) : planSum plan = amt :=
  (planOrders_plan fuel os amt p hp hamt hw plan h).2.sum.exact_iff.mpr hl

theorem planSum_filter_buys (l : List (Order × Int)) (p : Int) (hb : ∀ oa ∈ l, oa.1.dir = .buy) :
    planSum (l.filter (fun oa => shareOk oa.1 oa.2 p)) = planSum l := by
  induction l with
  | nil => rfl
  | cons x xs ih =>
    have hx := hb x (by simp)
    have ih' := ih (fun y hy => hb y (by simp [hy]))
    unfold planSum at *
    rw [List.filter_cons]
    split
    · simp only [List.map_cons, sumInt, ih']
    · rename_i hno
      unfold shareOk at hno
      simp [hx] at hno
      simp only [List.map_cons, sumInt, ih', hno]
      omega

theorem planSum_le_matchable (l : List (Order × Int)) (p : Int) (h : ∀ oa ∈ l, oa.2 ≤ matchableAmount oa.1 p) :
    planSum l ≤ totalMatchable (l.map (·.1)) p := by
  induction l with
  | nil => simp [planSum, totalMatchable, sumInt]
  | cons x xs ih =>
    have := h x (by simp)
    have := ih (fun y hy => h y (by simp [hy]))
    simp only [planSum, totalMatchable, List.map_cons, sumInt] at *
    omega

/-- buy orders that can absorb `amt` still can in the re-run: every non-zero share of a buy order counts as matched -/
theorem rerun_absorbs_buys (os : List Order) (amt p : Int) (hp : 0 < p) (hamt : 0 ≤ amt) (hw : ∀ o ∈ os, Wf o)
    (hb : ∀ o ∈ os, o.dir = .buy) (hle : amt ≤ totalMatchable os p) : amt ≤ totalMatchable (rerun os amt p) p := by
  have hsum := shares_sum os amt p hp hw hamt
  have hfil : planSum (worthy os amt p) = planSum (shares os amt p) :=
    planSum_filter_buys (shares os amt p) p (fun oa hoa => hb _ (shares_mem os amt p hp hw hamt oa hoa).1)
  unfold rerun
  split
  · rename_i he
    rw [List.isEmpty_iff.mp he] at hfil
    have h0 : amt = 0 := by have : planSum ([] : List (Order × Int)) = 0 := rfl; omega
    rw [h0]
    exact totalMatchable_nonneg _ p hp (fun o ho => hw o (List.dropLast_subset os ho))
  · have := planSum_le_matchable (worthy os amt p) p
      (fun oa hoa => (shares_mem os amt p hp hw hamt oa (List.mem_filter.mp hoa).1).2.2)
    omega

theorem lossless_buys (fuel : Nat) (os : List Order) (amt p : Int) (hp : 0 < p) (hamt : 0 ≤ amt)
    (hw : ∀ o ∈ os, Wf o) (hb : ∀ o ∈ os, o.dir = .buy) (hle : amt ≤ totalMatchable os p) :
    lossless fuel os amt p = true := by
  induction fuel generalizing os with
  | zero => rfl
  | succ fuel ih =>
    rw [lossless_succ]
    split
    · simpa using hle
    · rename_i h1
      have hsub := (rerun_sublist os amt p hp hw hamt h1).1.subset
      exact ih _ (fun o ho => hw o (hsub ho)) (fun o ho => hb o (hsub ho)) (rerun_absorbs_buys os amt p hp hamt hw hb hle)

/-! ## `SortOrders` permutes -/

theorem insertSorted_perm (x : Order) (l : List Order) : (insertSorted x l).Perm (x :: l) := by
  induction l with
  | nil => simp [insertSorted]
  | cons y ys ih =>
    unfold insertSorted
    split
    · exact (List.Perm.cons y ih).trans (List.Perm.swap x y ys)
    · exact List.Perm.refl _

theorem sortOrders_perm (l : List Order) : (sortOrders l).Perm l := by
  induction l with
  | nil => simp [sortOrders]
  | cons x xs ih =>
    unfold sortOrders
    exact (insertSorted_perm x _).trans (List.Perm.cons x ih)

/-! ## `GroupOrdersByBatchID`: duplicate-free, pairwise disjoint groups that partition the orders -/

theorem mem_groupOrders (os g : List Order) (hg : g ∈ groupOrders os) : ∀ o ∈ g, o ∈ os := by
  unfold groupOrders at hg
  rw [List.mem_map] at hg
  obtain ⟨k, _, rfl⟩ := hg
  intro o ho
  exact (List.mem_filter.mp ho).1

theorem mem_insertKey (k x : Nat) (l : List Nat) : x ∈ insertKey k l ↔ x = k ∨ x ∈ l := by
  induction l with
  | nil => simp [insertKey]
  | cons y ys ih =>
    unfold insertKey
    split
    · simp
    · simp only [List.mem_cons, ih]
      constructor
      · rintro (h | h | h) <;> simp [h]
      · rintro (h | h | h) <;> simp [h]

theorem nodup_insertKey (k : Nat) (l : List Nat) (h : l.Nodup) (hk : k ∉ l) : (insertKey k l).Nodup := by
  induction l with
  | nil => simp [insertKey]
  | cons y ys ih =>
    rw [List.nodup_cons] at h
    simp only [List.mem_cons, not_or] at hk
    unfold insertKey
    split
    · rw [List.nodup_cons]
      exact ⟨by simp [hk.1, hk.2], List.nodup_cons.mpr h⟩
    · rw [List.nodup_cons]
      refine ⟨?_, ih h.2 hk.2⟩
      rw [mem_insertKey]
      rintro (e | e)
      · exact hk.1 e.symm
      · exact h.1 e

/-- the step of the fold in `batchKeys` -/
def addKey (ks : List Nat) (o : Order) : List Nat := if ks.contains o.batchId then ks else insertKey o.batchId ks

theorem batchKeys_eq (os : List Order) : batchKeys os = os.foldl addKey [] := rfl

theorem mem_addKey (ks : List Nat) (o : Order) (k : Nat) : k ∈ addKey ks o ↔ k = o.batchId ∨ k ∈ ks := by
  unfold addKey
  split
  · rename_i hc
    have hc' : o.batchId ∈ ks := by simpa using hc
    exact ⟨Or.inr, fun h => h.elim (fun e => e ▸ hc') id⟩
  · exact mem_insertKey _ _ _

theorem nodup_addKey (ks : List Nat) (o : Order) (h : ks.Nodup) : (addKey ks o).Nodup := by
  unfold addKey
  split
  · exact h
  · rename_i hc
    exact nodup_insertKey _ _ h (by simpa using hc)

theorem nodup_batchKeys (os : List Order) : (batchKeys os).Nodup := by
  rw [batchKeys_eq]
  have : ∀ ks : List Nat, ks.Nodup → (os.foldl addKey ks).Nodup := by
    induction os with
    | nil => intro ks h; exact h
    | cons o os ih => intro ks h; exact ih _ (nodup_addKey ks o h)
  exact this [] List.nodup_nil

theorem mem_foldl_addKey (os : List Order) (ks : List Nat) (k : Nat) :
    k ∈ os.foldl addKey ks ↔ k ∈ ks ∨ ∃ o ∈ os, o.batchId = k := by
  induction os generalizing ks with
  | nil => simp
  | cons x xs ih =>
    rw [List.foldl_cons, ih, mem_addKey]
    constructor
    · rintro ((rfl | h) | ⟨o, ho, e⟩)
      · exact Or.inr ⟨x, by simp, rfl⟩
      · exact Or.inl h
      · exact Or.inr ⟨o, by simp [ho], e⟩
    · rintro (h | ⟨o, ho, e⟩)
      · exact Or.inl (Or.inr h)
      · rcases List.mem_cons.mp ho with rfl | ho
        · exact Or.inl (Or.inl e.symm)
        · exact Or.inr ⟨o, ho, e⟩

theorem mem_batchKeys (os : List Order) : ∀ o ∈ os, o.batchId ∈ batchKeys os := fun o ho => by
  rw [batchKeys_eq]
  exact (mem_foldl_addKey os [] _).mpr (Or.inr ⟨o, ho, rfl⟩)

theorem groupOrders_nodup (os : List Order) (hnd : os.Nodup) : ∀ g ∈ groupOrders os, g.Nodup := by
  intro g hg
  unfold groupOrders at hg
  rw [List.mem_map] at hg
  obtain ⟨k, _, rfl⟩ := hg
  exact List.Nodup.sublist List.filter_sublist hnd

theorem groupOrders_disjoint (os : List Order) :
    (groupOrders os).Pairwise (fun g1 g2 => ∀ o ∈ g1, o ∉ g2) := by
  unfold groupOrders
  rw [List.pairwise_map]
  have hk : (batchKeys os).Pairwise (· ≠ ·) := nodup_batchKeys os
  refine hk.imp ?_
  intro a b hab o ho1 ho2
  have h1 := (List.mem_filter.mp ho1).2
  have h2 := (List.mem_filter.mp ho2).2
  simp only [beq_iff_eq] at h1 h2
  exact hab (h1.symm.trans h2)

theorem totalMatchable_perm {l₁ l₂ : List Order} (h : l₁.Perm l₂) (p : Int) : totalMatchable l₁ p = totalMatchable l₂ p :=
  sumInt_perm (h.map _)

theorem sumInt_indicator (ks : List Nat) (k0 : Nat) (v : Int) (hnd : ks.Nodup) (hk : k0 ∈ ks) :
    sumInt (ks.map fun k => if k0 = k then v else 0) = v := by
  have e : (ks.map fun k => if k0 = k then v else 0) = ks.map fun k => if k = k0 then v else (fun _ => 0) k :=
    List.map_congr_left fun k _ => by simp only [eq_comm]
  rw [e, sumInt_ite_eq ks k0 v (fun _ => 0) hnd hk, sumInt_map_zero]
  omega

theorem sum_groups (keys : List Nat) (hnd : keys.Nodup) (os : List Order) (p : Int)
    (hk : ∀ o ∈ os, o.batchId ∈ keys) :
    sumInt (keys.map fun k => totalMatchable (os.filter fun o => o.batchId == k) p) = totalMatchable os p := by
  induction os with
  | nil =>
    simp only [List.filter_nil, totalMatchable, List.map_nil, sumInt]
    exact sumInt_map_zero keys
  | cons x xs ih =>
    have e : (keys.map fun k => totalMatchable ((x :: xs).filter fun o => o.batchId == k) p) =
        keys.map fun k => (if x.batchId = k then matchableAmount x p else 0) + totalMatchable (xs.filter fun o => o.batchId == k) p := by
      apply List.map_congr_left
      intro k _
      rw [List.filter_cons]
      by_cases hxk : x.batchId = k
      · simp [hxk, totalMatchable, sumInt]
      · simp [hxk, totalMatchable]
    rw [e, sumInt_map_add, ih (fun o ho => hk o (by simp [ho])), sumInt_indicator keys x.batchId _ hnd (hk x (by simp))]
    simp [totalMatchable, sumInt]

theorem sum_groupOrders (os : List Order) (p : Int) :
    sumInt ((groupOrders os).map fun g => totalMatchable g p) = totalMatchable os p := by
  unfold groupOrders
  rw [List.map_map]
  exact sum_groups (batchKeys os) (nodup_batchKeys os) os p (mem_batchKeys os)

/-! ## the group loop of `DistributeOrderAmountToTick` -/

/-- the plan the group loop finds for `rem`: its orders come from the groups, it is `PlanOk`, and its keys are distinct when the
groups are duplicate-free and pairwise disjoint (what `sum_lookup` needs to turn the plan's sum into filled amounts) -/
structure GroupPlan (gs : List (List Order)) (rem p : Int) (plan : List (Order × Int)) : Prop where
  eq : planGroups gs rem p = some plan
  mem : ∀ oa ∈ plan, ∃ g ∈ gs, oa.1 ∈ g
  ok : PlanOk plan p rem (groupsLossless gs rem p)
  nodup : (∀ g ∈ gs, g.Nodup) → gs.Pairwise (fun g1 g2 => ∀ o ∈ g1, o ∉ g2) → (plan.map (·.1)).Nodup

/-- by the loop's four branches: an empty group is skipped; a group that fits is fulfilled and either ends the loop or is followed
by the plan for the rest (`UpTo.of_gap`; the keys of the two parts are in different groups, hence distinct); a group that does not
fit gets `planOrders` on its sorted orders -/
theorem planGroups_spec (gs : List (List Order)) (rem p : Int) (hp : 0 < p) (hrem : 0 ≤ rem)
    (hw : ∀ g ∈ gs, ∀ o ∈ g, Wf o) : ∃ plan, GroupPlan gs rem p plan := by
  induction gs generalizing rem with
  | nil =>
    refine ⟨[], rfl, by simp, ⟨by simp, ?_, ?_⟩, fun _ _ => List.nodup_nil⟩ <;>
      simp only [groupsLossless, decide_eq_true_eq, planSum, List.map_nil, sumInt] <;> omega
  | cons g gs ih =>
    have hwg : ∀ o ∈ g, Wf o := hw g (by simp)
    have hw' : ∀ g' ∈ gs, ∀ o ∈ g', Wf o := fun g' hg' => hw g' (by simp [hg'])
    have lift : ∀ {plan : List (Order × Int)}, (∀ oa ∈ plan, ∃ g' ∈ gs, oa.1 ∈ g') →
        ∀ oa ∈ plan, ∃ g' ∈ g :: gs, oa.1 ∈ g' := fun h oa hoa =>
      (h oa hoa).elim fun g' hg' => ⟨g', by simp [hg'.1], hg'.2⟩
    have hful_mem : ∀ oa ∈ fulfillPlan g p, ∃ g' ∈ g :: gs, oa.1 ∈ g' := fun oa hoa =>
      ⟨g, by simp, (fulfillPlan_ok g p hp oa hoa).1⟩
    have hful : ∀ oa ∈ fulfillPlan g p, Fillable oa.1 oa.2 p := fun oa hoa => (fulfillPlan_ok g p hp oa hoa).2
    have hful_sum : planSum (fulfillPlan g p) = totalMatchable g p :=
      planSum_fulfillPlan g p (fun o ho => matchable_nonneg o p (hwg o ho) hp)
    have hful_keys : g.Nodup → ((fulfillPlan g p).map (·.1)).Nodup := fun hgn => by
      rw [keys_fulfillPlan]; exact List.Nodup.sublist List.filter_sublist hgn
    by_cases h0 : totalMatchable g p = 0
    · obtain ⟨plan, hplan⟩ := ih rem hrem hw'
      refine ⟨plan, ?_, lift hplan.mem, ?_, fun hnd hdis =>
        hplan.nodup (fun g' hg' => hnd g' (by simp [hg'])) (List.pairwise_cons.mp hdis).2⟩
      · rw [planGroups]; simp only [h0, if_true]; exact hplan.eq
      · rw [groupsLossless]; simp only [h0, if_true]; exact hplan.ok
    · by_cases hge : rem ≥ totalMatchable g p
      · by_cases hz : rem - totalMatchable g p = 0
        · refine ⟨fulfillPlan g p, ?_, hful_mem, ?_, fun hnd _ => hful_keys (hnd g (by simp))⟩
          · rw [planGroups]; simp only [h0, hge, hz, if_true, if_false]
          · rw [groupsLossless]; simp only [h0, hge, hz, if_true, if_false]
            exact ⟨hful, by omega, fun _ => rfl, fun _ => by omega⟩
        · obtain ⟨rest, hrest⟩ := ih (rem - totalMatchable g p) (by omega) hw'
          refine ⟨fulfillPlan g p ++ rest, ?_, ?_, ?_, ?_⟩
          · rw [planGroups]; simp only [h0, hge, hz, if_true, if_false]; rw [hrest.eq]
          · intro oa hoa
            rcases List.mem_append.mp hoa with h | h
            · exact hful_mem oa h
            · exact lift hrest.mem oa h
          · rw [groupsLossless]; simp only [h0, hge, hz, if_true, if_false]
            refine ⟨fun oa hoa => ?_, hrest.ok.sum.of_gap (by rw [planSum_append, hful_sum]; omega)⟩
            rcases List.mem_append.mp hoa with h | h
            · exact hful oa h
            · exact hrest.ok.fillable oa h
          · intro hnd hdis
            rw [List.pairwise_cons] at hdis
            rw [List.map_append, List.nodup_append]
            refine ⟨hful_keys (hnd g (by simp)), hrest.nodup (fun g' hg' => hnd g' (by simp [hg'])) hdis.2, ?_⟩
            intro a ha b hb hab
            subst hab
            obtain ⟨oa, hoa, rfl⟩ := List.mem_map.mp hb
            obtain ⟨g', hg', hag'⟩ := hrest.mem oa hoa
            rw [keys_fulfillPlan] at ha
            exact hdis.1 g' hg' _ (List.mem_filter.mp ha).1 hag'
      · -- the model's fuel `g.length + 1` suffices: `planOrders_some`
        have hperm := sortOrders_perm g
        have hws : ∀ o ∈ sortOrders g, Wf o := fun o ho => hwg o (hperm.mem_iff.mp ho)
        obtain ⟨plan, hpl⟩ := planOrders_some (g.length + 1) (sortOrders g) rem p hp hrem hws (by rw [hperm.length_eq]; omega)
        obtain ⟨hk, hok⟩ := planOrders_plan _ _ rem p hp hrem hws plan hpl
        refine ⟨plan, ?_, fun oa hoa => ⟨g, by simp, ?_⟩, ?_,
          fun hnd _ => List.Nodup.sublist hk (hperm.nodup_iff.mpr (hnd g (by simp)))⟩
        · rw [planGroups]; simp only [h0, hge, if_false]; exact hpl
        · exact hperm.mem_iff.mp (hk.subset (List.mem_map.mpr ⟨oa, hoa, rfl⟩))
        · rw [groupsLossless]; simp only [h0, hge, if_false]; exact hok

theorem groupsLossless_buys (gs : List (List Order)) (rem p : Int) (hp : 0 < p) (hrem : 0 ≤ rem)
    (hw : ∀ g ∈ gs, ∀ o ∈ g, Wf o ∧ o.dir = .buy)
    (hle : rem ≤ sumInt (gs.map fun g => totalMatchable g p)) : groupsLossless gs rem p = true := by
  induction gs generalizing rem with
  | nil => simp [sumInt] at hle; simp [groupsLossless]; omega
  | cons g gs ih =>
    have hw' : ∀ g' ∈ gs, ∀ o ∈ g', Wf o ∧ o.dir = .buy := fun g' hg' => hw g' (by simp [hg'])
    simp only [List.map_cons, sumInt] at hle
    unfold groupsLossless
    simp only
    split
    · rename_i h0; exact ih rem hrem hw' (by omega)
    · split
      · split
        · rfl
        · exact ih _ (by omega) hw' (by omega)
      · rename_i hlt
        apply lossless_buys _ _ rem p hp hrem
        · intro o ho; exact (hw g (by simp) o ((sortOrders_perm g).mem_iff.mp ho)).1
        · intro o ho; exact (hw g (by simp) o ((sortOrders_perm g).mem_iff.mp ho)).2
        · rw [totalMatchable_perm (sortOrders_perm g)]; omega

/-! ## `DistributeOrderAmountToTick` and `DistributeOrderAmountToOrders` -/

/-- `DistributeOrderAmountToTick` as plan and application: the result is the plan applied to `os`, and on distinct orders the
filled amount is the plan's sum -/
structure TickPlan (os : List Order) (amt p : Int) (plan : List (Order × Int)) : Prop where
  eq : distributeToTick os amt p = some (applied plan p os, quoteOf os (applied plan p os))
  mem : ∀ oa ∈ plan, oa.1 ∈ os
  ok : PlanOk plan p amt (groupsLossless (groupOrders os) amt p)
  filled : os.Nodup → filledOf os (applied plan p os) = planSum plan

theorem distributeToTick_plan (os : List Order) (amt p : Int) (hp : 0 < p) (hamt : 0 ≤ amt) (hw : ∀ o ∈ os, Wf o) :
    ∃ plan, TickPlan os amt p plan := by
  obtain ⟨plan, hplan⟩ := planGroups_spec (groupOrders os) amt p hp hamt
    (fun g hg o ho => hw o (mem_groupOrders os g hg o ho))
  have hmem : ∀ oa ∈ plan, oa.1 ∈ os := fun oa hoa =>
    (hplan.mem oa hoa).elim fun g hg => mem_groupOrders os g hg.1 _ hg.2
  refine ⟨plan, ?_, hmem, hplan.ok, fun hnd => ?_⟩
  · unfold distributeToTick
    rw [hplan.eq]
    exact applyPlan_some os plan p (fun oa hoa => (hplan.ok.fillable oa hoa).le)
  · rw [applied_filled]
    exact sum_lookup os plan hnd (hplan.nodup (groupOrders_nodup os hnd) (groupOrders_disjoint os)) hmem

/-- what a distribution over the orders of one tick, offered `amt` at price `p`, did: each order left alone or filled once, `q`
the quote flow, and on distinct orders at most `amt` filled, all of it iff `g` -/
structure OrdersAt (p amt : Int) (g : Bool) (os os' : List Order) (q : Int) : Prop where
  fills : All2 (FillAt p) os os'
  quote : q = quoteOf os os'
  filled : os.Nodup → UpTo (filledOf os os') amt g

theorem distributeToTick_spec (os : List Order) (amt p : Int) (hp : 0 < p) (hamt : 0 ≤ amt)
    (hw : ∀ o ∈ os, Wf o ∧ Within o p) :
    ∃ os' q, distributeToTick os amt p = some (os', q) ∧
      OrdersAt p amt (groupsLossless (groupOrders os) amt p) os os' q := by
  obtain ⟨plan, hplan⟩ := distributeToTick_plan os amt p hp hamt (fun o ho => (hw o ho).1)
  exact ⟨_, _, hplan.eq,
    applied_fillAt os (fun oa hoa => (hplan.ok.fillable oa hoa).good hp (hw _ (hplan.mem oa hoa)).2), rfl,
    fun hnd => hplan.filled hnd ▸ hplan.ok.sum⟩

/-- for orders that are only well-formed (no limit price asked for, so nothing about the single fills) -/
theorem distributeToTick_exact (os : List Order) (amt p : Int) (hp : 0 < p) (hamt : 0 ≤ amt)
    (hw : ∀ o ∈ os, Wf o) (hnd : os.Nodup) (os' : List Order) (q : Int)
    (h : distributeToTick os amt p = some (os', q)) :
    q = quoteOf os os' ∧ UpTo (filledOf os os') amt (groupsLossless (groupOrders os) amt p) := by
  obtain ⟨plan, hplan⟩ := distributeToTick_plan os amt p hp hamt hw
  rw [hplan.eq] at h
  cases h
  rw [hplan.filled hnd]
  exact ⟨rfl, hplan.ok.sum⟩

theorem fulfillOrders_spec (os : List Order) (p : Int) (hp : 0 < p) (hw : ∀ o ∈ os, Wf o ∧ Within o p) :
    ∃ os' q, fulfillOrders os p = some (os', q) ∧ OrdersAt p (totalMatchable os p) true os os' q := by
  obtain ⟨he, hf⟩ := fulfillOrders_eq os p hp (fun o ho => (hw o ho).1)
  exact ⟨_, _, he, applied_fillAt os (fun oa hoa =>
    (fulfillPlan_ok os p hp oa hoa).2.good hp (hw _ (fulfillPlan_ok os p hp oa hoa).1).2), rfl, fun _ => hf ▸ UpTo.full _⟩

theorem distributeToOrders_within (os : List Order) (amt p : Int) (hp : 0 < p) (hamt : 0 ≤ amt)
    (hw : ∀ o ∈ os, Wf o ∧ Within o p) :
    ∃ os' q, distributeToOrders os amt p = some (os', q) ∧ All2 (FillAt p) os os' := by
  have hw' : ∀ o ∈ os, Wf o := fun o ho => (hw o ho).1
  obtain ⟨plan, hpl⟩ := planOrders_some (os.length + 1) os amt p hp hamt hw' (by omega)
  obtain ⟨hk, hok⟩ := planOrders_plan _ os amt p hp hamt hw' plan hpl
  unfold distributeToOrders
  rw [hpl]
  exact ⟨_, _, applyPlan_some os plan p (fun oa hoa => (hok.fillable oa hoa).le), applied_fillAt os (fun oa hoa =>
    (hok.fillable oa hoa).good hp (hw _ (hk.subset (List.mem_map.mpr ⟨oa, hoa, rfl⟩))).2)⟩

end Comdex.Amm
