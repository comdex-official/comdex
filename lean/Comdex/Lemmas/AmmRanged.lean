import Comdex.Model.AmmRanged
import Comdex.Lemmas.AmmPool
/-!
The ranged pool's side of a batch (`Model/AmmRanged.lean`; on `AmmPool`).  `X = xComp = rx + transX`, `Y = yComp = ry + transY`
are the virtual reserves (Dec raws); the pool's curve is `X·Y = const`.  `RangedPool.BuyAmountOver` / `SellAmountUnder` stay on that curve (up to
the last decimal that `Dec.Mul` / `QuoRoundUp` round) and within the REAL reserves; the tick loops of `PoolBuyOrders` /
`PoolSellOrders` only place such orders.
-/
namespace Comdex.Amm

/-- the `dx > rx` cap of the ranged buy amounts, `min(D, R)` as the code writes it -/
theorem cap_spec {D R : Int} (hR : 0 ≤ R) (hD : ¬ D ≤ 0) :
    0 ≤ (if D > R then R else D) ∧ (if D > R then R else D) ≤ R ∧ (if D > R then R else D) ≤ D := by
  split <;> omega

/-- the curve arithmetic of `RangedPool.BuyAmountOver` over variables: `X`, `Y` the virtual reserves, `p` the clamped price, `dx` the
quote coin spent (at most the real reserve `rx` and what the curve leaves, `X − Mul(p, Y)`), `b` an amount it buys at `t` -/
theorem buy_core (X Y rx t p dx b : Int) (hY : 0 ≤ Y) (ht0 : 0 < t) (htp : t ≤ p) (hdx0 : 0 ≤ dx)
    (hdx1 : dx ≤ Dec.ofInt rx) (hdx2 : dx ≤ X - Dec.mul p Y)
    (hb : b ≤ Dec.truncateInt (Dec.quoTruncate dx t)) :
    quoteCeil t b ≤ rx ∧ t * (Y + b * Dec.P) ≤ X * Dec.P + Dec.half := by
  have hs := Dec.truncQuo_spec dx t b hdx0 ht0 hb
  have hP := Dec.P_pos
  constructor
  · unfold Dec.ofInt at hdx1
    exact quoteCeil_le_iff.2 (by omega)
  · -- `Dec.mul` rounds half-even: `p·Y ≤ Mul(p, Y)·10¹⁸ + ½·10¹⁸`
    have hr := Dec.mul_lower p Y
    have htY : t * Y ≤ p * Y := Int.mul_le_mul_of_nonneg_right htp hY
    rw [Int.mul_add, ← Int.mul_assoc]
    simp only [Dec.P, Dec.half] at *
    omega

theorem rBuyAmountOver_spec (pl : RPool) (t a : Int) (hrx : 0 ≤ pl.rx) (hY : 0 ≤ pl.yComp) (ht0 : 0 < t)
    (h : pl.buyAmountOver t = some a) :
    0 ≤ a ∧ (0 < a → quoteCeil t a ≤ pl.rx ∧ t * (pl.yComp + a * Dec.P) ≤ pl.xComp * Dec.P + Dec.half) := by
  refine buyShape (Q := fun b => quoteCeil t b ≤ pl.rx ∧ t * (pl.yComp + b * Dec.P) ≤ pl.xComp * Dec.P + Dec.half) h ht0
    (fun hD => (cap_spec (Dec.ofInt_nonneg hrx) hD).1) fun b hD hb hb0 => ?_
  obtain ⟨hdx0, hd1, hd2⟩ := cap_spec (Dec.ofInt_nonneg hrx) hD
  exact buy_core _ _ _ t _ _ b hY ht0 (by split <;> omega) hdx0 hd1 hd2 hb

theorem rSellAmountUnder_spec (pl : RPool) (t a : Int) (hX : 0 ≤ pl.xComp) (hY : 0 ≤ pl.yComp)
    (h : pl.sellAmountUnder t = some a) :
    0 ≤ a ∧ (0 < a → 0 < t ∧ a ≤ pl.ry ∧ 0 ≤ pl.yComp - a * Dec.P ∧
      pl.xComp * Dec.PP ≤ t * (pl.yComp - a * Dec.P) * Dec.P + t) := by
  refine sellShape (Q := fun a => 0 < t ∧ a ≤ pl.ry ∧ 0 ≤ pl.yComp - a * Dec.P ∧
    pl.xComp * Dec.PP ≤ t * (pl.yComp - a * Dec.P) * Dec.P + t) h fun pp hp hlt _ h0 => ?_
  have hpp : 0 ≤ pp := by
    unfold RPool.price at hp
    split at hp
    · cases hp
    · unfold dquo at hp
      split at hp
      · cases hp
      · cases hp; exact Dec.quo_nonneg_of_nonneg _ _ hX hY
  generalize hpd : (if t > pl.maxPrice then pl.maxPrice else t) = p at hlt h0 ⊢
  have htp : p ≤ t := by rw [← hpd]; split <;> omega
  generalize hA : Dec.truncateInt (pl.yComp - Dec.quoRoundUp pl.xComp p) = A at h0 ⊢
  have hle2 : (if A > pl.ry then pl.ry else A) ≤ A := by split <;> omega
  have hle3 : (if A > pl.ry then pl.ry else A) ≤ pl.ry := by split <;> omega
  obtain ⟨c1, c2⟩ := quoRoundUp_spec pl.xComp pl.yComp p _ hX (by omega) h0 (by rw [hA]; exact hle2)
  refine ⟨by omega, hle3, c1, ?_⟩
  have h4 : p * (pl.yComp - (if A > pl.ry then pl.ry else A) * Dec.P) ≤ t * (pl.yComp - (if A > pl.ry then pl.ry else A) * Dec.P) :=
    Int.mul_le_mul_of_nonneg_right htp c1
  have h5 := Int.mul_le_mul_of_nonneg_right h4 (by decide : (0:Int) ≤ Dec.P)
  omega

theorem rBuyLoop_tickLoop (pp lowest : Int) (prec : Nat) :
    TickLoop (· < lowest) RPool.buyAmountOver (fun _ a => a < minCoinAmount)
      (fun s t a => { s with rx := s.rx - quoteCeil t a, ry := s.ry + a }) (fun s => ¬ s.rx > 0) (downTick · prec)
      (fun t => priceToDownTick (Dec.mul t (Dec.one - gapRatio pp t)) prec)
      (fun f s t acc => rBuyLoop f s pp lowest t prec acc) :=
  ⟨fun _ _ _ => rfl, fun _ _ _ _ => rfl⟩

theorem rSellLoop_tickLoop (pp highest : Int) (prec : Nat) :
    TickLoop (· > highest) RPool.sellAmountUnder (fun t a => a < minCoinAmount ∨ quoteFloor t a = 0)
      (fun s t a => { s with rx := s.rx + quoteFloor t a, ry := s.ry - a }) (fun s => ¬ s.ry > minCoinAmount) (upTick · prec)
      (fun t => priceToUpTick (Dec.mul t (Dec.one + gapRatio pp t)) prec)
      (fun f s t acc => rSellLoop f s pp highest t prec acc) :=
  ⟨fun _ _ _ => rfl, fun _ _ _ _ => rfl⟩

theorem rBuyLoop_ok (fuel : Nat) (pl : RPool) (pp lowest tick : Int) (prec : Nat) (acc os : List (Int × Int))
    (hlow : 0 < lowest) (h : rBuyLoop fuel pl pp lowest tick prec acc = some os) :
    ∃ rest, os = acc ++ rest ∧ (0 ≤ pl.rx → 0 ≤ pl.yComp → monRPoolBuys pl rest = true) := by
  obtain ⟨new, h1, h2⟩ := (rBuyLoop_tickLoop pp lowest prec).ok monRPoolBuys (fun s => 0 ≤ s.rx ∧ 0 ≤ s.yComp) (fun _ => rfl)
    (fun s t a hr hst ham hsk => by
      have ha : 0 < a := by unfold minCoinAmount at hsk; omega
      obtain ⟨s1, s2⟩ := (rBuyAmountOver_spec s t a hr.1 hr.2 (by omega) ham).2 ha
      refine ⟨⟨by simp only; omega, ?_⟩, fun rest hr => by unfold monRPoolBuys; simp [ha, s1, s2, hr]⟩
      have := hr.2
      unfold RPool.yComp Dec.ofInt at this ⊢
      have : 0 ≤ a * Dec.P := Int.mul_nonneg (by omega) (by decide)
      simp only [Int.add_mul]
      omega)
    fuel pl tick acc os h
  exact ⟨new, h1, fun a b => h2 ⟨a, b⟩⟩

theorem rSellLoop_ok (fuel : Nat) (pl : RPool) (pp highest tick : Int) (prec : Nat) (acc os : List (Int × Int))
    (h : rSellLoop fuel pl pp highest tick prec acc = some os) :
    ∃ rest, os = acc ++ rest ∧ (0 ≤ pl.xComp → 0 ≤ pl.yComp → monRPoolSells pl rest = true) := by
  obtain ⟨new, h1, h2⟩ := (rSellLoop_tickLoop pp highest prec).ok monRPoolSells (fun s => 0 ≤ s.xComp ∧ 0 ≤ s.yComp) (fun _ => rfl)
    (fun s t a hr hst ham hsk => by
      have ha : 0 < a := by unfold minCoinAmount at hsk; omega
      obtain ⟨ht0, s1, s2, s3⟩ := (rSellAmountUnder_spec s t a hr.1 hr.2 ham).2 ha
      have hq : 0 ≤ quoteFloor t a * Dec.P := Int.mul_nonneg (quoteFloor_nonneg t a (by omega) (by omega)) (by decide)
      refine ⟨⟨?_, ?_⟩, fun rest hr => by unfold monRPoolSells; simp [ha, s1, s3, hr]⟩
      · have := hr.1
        unfold RPool.xComp Dec.ofInt at this ⊢
        simp only [Int.add_mul]
        omega
      · unfold RPool.yComp Dec.ofInt at s2 ⊢
        simp only [Int.sub_mul]
        omega)
    fuel pl tick acc os h
  exact ⟨new, h1, fun a b => h2 ⟨a, b⟩⟩

/-- what `PoolBuyOrders` of a ranged pool must satisfy: apart from the one order at the upper price limit that `BuyAmountTo`
contributes when the pool price is above the limit (`first`; approximate square roots; afterwards the translation is derived
again — state `pl1`), every order is covered by the running real quote reserve and not above the virtual curve, provided the
reserves the loop starts from (real quote, virtual base) are non-negative -/
def RBuysOk (pl : RPool) (highest : Int) (l : List (Int × Int)) : Prop :=
  ∃ first rest pl1, l = first ++ rest ∧ (0 ≤ pl1.rx → 0 ≤ pl1.yComp → monRPoolBuys pl1 rest = true) ∧
    ((first = [] ∧ pl1 = pl) ∨
     (∃ amt, pl.buyAmountTo highest = some amt ∧ minCoinAmount ≤ amt ∧ first = [(highest, amt)] ∧
        pl.setBalances (pl.rx - quoteCeil highest amt) (pl.ry + amt) true = some pl1))

theorem rBuyFirst_cases {pl pl1 : RPool} {pp highest : Int} {acc : List (Int × Int)}
    (hf : rBuyFirst pl pp highest = some (pl1, acc)) :
    (acc = [] ∧ pl1 = pl) ∨
    (∃ amt, pl.buyAmountTo highest = some amt ∧ minCoinAmount ≤ amt ∧ acc = [(highest, amt)] ∧
      pl.setBalances (pl.rx - quoteCeil highest amt) (pl.ry + amt) true = some pl1) := by
  rcases firstShape hf with h | ⟨amt, hbt, h3, h⟩
  · cases h; exact Or.inl ⟨rfl, rfl⟩
  · cases hsb : pl.setBalances (pl.rx - quoteCeil highest amt) (pl.ry + amt) true with
    | none => rw [hsb] at h; cases h
    | some pl2 => rw [hsb] at h; cases h; exact Or.inr ⟨amt, hbt, h3, rfl, hsb⟩

theorem rPoolBuyOrders_ok (pl : RPool) (lowest highest : Int) (prec : Nat) (hlow : 0 < lowest) :
    RBuysOk pl highest (rPoolBuyOrders pl lowest highest prec) := by
  have triv : RBuysOk pl highest [] := ⟨[], [], pl, rfl, fun _ _ => rfl, Or.inl ⟨rfl, rfl⟩⟩
  unfold rPoolBuyOrders
  cases hp : pl.price with
  | none => exact triv
  | some pp =>
    simp only
    by_cases h1 : pp ≤ lowest
    · rw [if_pos h1]; exact triv
    · rw [if_neg h1]
      cases hf : rBuyFirst pl pp highest with
      | none => exact triv
      | some r =>
        obtain ⟨pl1, acc⟩ := r
        simp only
        cases hp1 : pl1.price with
        | none => exact triv
        | some p1 =>
          simp only
          cases hl : rBuyLoop _ pl1 pp lowest (priceToDownTick (if highest < p1 then highest else p1) prec) prec acc with
          | none => exact triv
          | some os =>
            obtain ⟨rest, hr1, hr2⟩ := rBuyLoop_ok _ pl1 pp lowest _ prec acc os hlow hl
            exact ⟨acc, rest, pl1, hr1, hr2, rBuyFirst_cases hf⟩

/-- the sell side of `RBuysOk`: the one other order is `SellAmountTo`'s at the lower price limit; the loop's orders are covered by the
running real base reserve and not below the virtual curve, provided the virtual reserves it starts from are non-negative -/
def RSellsOk (pl : RPool) (lowest : Int) (l : List (Int × Int)) : Prop :=
  ∃ first rest pl1, l = first ++ rest ∧ (0 ≤ pl1.xComp → 0 ≤ pl1.yComp → monRPoolSells pl1 rest = true) ∧
    ((first = [] ∧ pl1 = pl) ∨
     (∃ amt, pl.sellAmountTo lowest = some amt ∧ minCoinAmount ≤ amt ∧ first = [(lowest, amt)] ∧
        pl.setBalances (pl.rx + quoteFloor lowest amt) (pl.ry - amt) true = some pl1))

theorem rSellFirst_cases {pl pl1 : RPool} {pp lowest : Int} {acc : List (Int × Int)}
    (hf : rSellFirst pl pp lowest = some (pl1, acc)) :
    (acc = [] ∧ pl1 = pl) ∨
    (∃ amt, pl.sellAmountTo lowest = some amt ∧ minCoinAmount ≤ amt ∧ acc = [(lowest, amt)] ∧
      pl.setBalances (pl.rx + quoteFloor lowest amt) (pl.ry - amt) true = some pl1) := by
  rcases firstShape hf with h | ⟨amt, hbt, h3, h⟩
  · cases h; exact Or.inl ⟨rfl, rfl⟩
  · cases hsb : pl.setBalances (pl.rx + quoteFloor lowest amt) (pl.ry - amt) true with
    | none => rw [hsb] at h; cases h
    | some pl2 => rw [hsb] at h; cases h; exact Or.inr ⟨amt, hbt, h3.1, rfl, hsb⟩

theorem rPoolSellOrders_ok (pl : RPool) (lowest highest : Int) (prec : Nat) :
    RSellsOk pl lowest (rPoolSellOrders pl lowest highest prec) := by
  have triv : RSellsOk pl lowest [] := ⟨[], [], pl, rfl, fun _ _ => rfl, Or.inl ⟨rfl, rfl⟩⟩
  unfold rPoolSellOrders
  cases hp : pl.price with
  | none => exact triv
  | some pp =>
    simp only
    by_cases h1 : pp ≥ highest
    · rw [if_pos h1]; exact triv
    · rw [if_neg h1]
      cases hf : rSellFirst pl pp lowest with
      | none => exact triv
      | some r =>
        obtain ⟨pl1, acc⟩ := r
        simp only
        cases hp1 : pl1.price with
        | none => exact triv
        | some p1 =>
          simp only
          cases hl : rSellLoop _ pl1 pp highest (priceToUpTick (if lowest > p1 then lowest else p1) prec) prec acc with
          | none => exact triv
          | some os =>
            obtain ⟨rest, hr1, hr2⟩ := rSellLoop_ok _ pl1 pp highest _ prec acc os hl
            exact ⟨acc, rest, pl1, hr1, hr2, rSellFirst_cases hf⟩

/-- by the `dx > rx` cap of the code -/
theorem rBuyAmountTo_covered (pl : RPool) (t a : Int) (hrx : 0 ≤ pl.rx) (ht0 : 0 < t) (h : pl.buyAmountTo t = some a) :
    0 ≤ a ∧ (0 < a → quoteCeil t a ≤ pl.rx) := by
  refine buyShape (Q := fun b => quoteCeil t b ≤ pl.rx) h ht0 (fun hD => (cap_spec (Dec.ofInt_nonneg hrx) hD).1) fun b hD hb hb0 => ?_
  obtain ⟨hdx0, hd1, -⟩ := cap_spec (Dec.ofInt_nonneg hrx) hD
  exact quoteCeil_le_iff.2 (Int.le_trans (Dec.truncQuo_spec _ t b hdx0 ht0 hb) hd1)

/-- by the `amt > ry` cap of the code -/
theorem rSellAmountTo_covered (pl : RPool) (t a : Int) (hry : 0 ≤ pl.ry) (h : pl.sellAmountTo t = some a) :
    0 ≤ a ∧ a ≤ pl.ry := by
  have := sellShape (Q := (· ≤ pl.ry)) h fun pp _ _ _ _ => by split <;> omega
  by_cases ha : 0 < a
  · exact ⟨this.1, this.2 ha⟩
  · exact ⟨this.1, by omega⟩

end Comdex.Amm
