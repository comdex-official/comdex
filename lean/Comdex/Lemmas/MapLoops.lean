import Comdex.Model.MapLoops
import Comdex.Lemmas.ListSum
/-! Lemmas for C16: folds that do not depend on the iteration order, the sorting contract with core `mergeSort` as its
instance, `HasPriority` as a lexicographic order, the checked sum, keyed independent updates. Core Lean only. -/
namespace Comdex.MapLoops

theorem foldl_append_map {ε α : Type} (f : ε → α) (l : List ε) (acc : List α) :
    l.foldl (fun a e => a ++ [f e]) acc = acc ++ l.map f := by
  induction l generalizing acc with
  | nil => simp
  | cons x xs ih => simp [List.foldl_cons, ih]

theorem sort_eq_of_perm {α : Type} {le : α → α → Prop} {sort : List α → List α} (hs : IsSort le sort) {l l' : List α}
    (antisymm : ∀ a ∈ l, ∀ b ∈ l, le a b → le b a → a = b) (h : l.Perm l') : sort l = sort l' :=
  List.Perm.eq_of_pairwise (le := le)
    (fun a b ha hb => antisymm a ((hs.perm l).mem_iff.mp ha) b (h.mem_iff.mpr ((hs.perm l').mem_iff.mp hb)))
    (hs.sorted l) (hs.sorted l') (((hs.perm l).trans h).trans (hs.perm l').symm)

theorem sort_foldl_append_perm {ε α : Type} (f : ε → α) {le : α → α → Prop} (antisymm : ∀ a b, le a b → le b a → a = b)
    {sort : List α → List α} (hs : IsSort le sort) {l l' : List ε} (h : l.Perm l') :
    sort (l.foldl (fun a e => a ++ [f e]) []) = sort (l'.foldl (fun a e => a ++ [f e]) []) := by
  rw [foldl_append_map, foldl_append_map]
  exact sort_eq_of_perm hs (fun a _ b _ => antisymm a b) ((h.map f).append_left [])

theorem isSort_mergeSort {α : Type} (cmp : α → α → Bool) (le : α → α → Prop) (hle : ∀ a b, cmp a b = true → le a b)
    (trans : ∀ a b c, cmp a b = true → cmp b c = true → cmp a c = true) (total : ∀ a b, (cmp a b || cmp b a) = true) :
    IsSort le (·.mergeSort cmp) where
  perm l := List.mergeSort_perm l _
  sorted l := (List.pairwise_mergeSort trans total l).imp (hle _ _)

theorem isSort_goSortStrings : IsSort (fun a b : String => a ≤ b) ModuleAccountAddrs.goSortStrings :=
  isSort_mergeSort _ _ (fun _ _ => of_decide_eq_true)
    (fun _ _ _ hab hbc => decide_eq_true (String.le_trans (of_decide_eq_true hab) (of_decide_eq_true hbc)))
    (fun a b => by simpa using String.le_total a b)

theorem isSort_goSortDesc : IsSort OrderBookString.le OrderBookString.goSortDesc :=
  isSort_mergeSort _ _ (fun _ _ => of_decide_eq_true)
    (fun _ _ _ hab hbc => decide_eq_true (Int.le_trans (of_decide_eq_true hbc) (of_decide_eq_true hab)))
    (fun a b => by simp only [Bool.or_eq_true, decide_eq_true_eq]; omega)

namespace SortOrders

/-- `HasPriority` is the lexicographic order on (amount descending, user before pool, id ascending); the kind as a number,
so that the order properties are linear arithmetic -/
theorem hasPriority_iff (a b : Key) : hasPriority a b = true ↔
    b.amount < a.amount ∨ a.amount = b.amount ∧
      (a.isPool.toNat < b.isPool.toNat ∨ a.isPool.toNat = b.isPool.toNat ∧ a.id < b.id) := by
  unfold hasPriority
  by_cases h : a.amount = b.amount
  · cases a.isPool <;> cases b.isPool <;> simp [h]
  · simp only [ne_eq, h, not_false_eq_true, if_true, decide_eq_true_eq, false_and, or_false]

theorem hasPriority_irrefl (a : Key) : hasPriority a a = false := by
  simp [← Bool.not_eq_true, hasPriority_iff]

theorem hasPriority_asymm (a b : Key) (h : hasPriority a b = true) : hasPriority b a = false := by
  simp only [← Bool.not_eq_true, hasPriority_iff] at h ⊢
  omega

theorem hasPriority_total (a b : Key) (hne : ident a ≠ ident b) : hasPriority a b = true ∨ hasPriority b a = true := by
  have hk : a.isPool.toNat = b.isPool.toNat → a.id ≠ b.id := fun h e =>
    hne (Prod.ext (by show a.isPool = b.isPool; revert h; cases a.isPool <;> cases b.isPool <;> simp) e)
  simp only [hasPriority_iff]
  omega

theorem hasPriority_trans (a b c : Key) (hab : hasPriority a b = true) (hbc : hasPriority b c = true) :
    hasPriority a c = true := by
  simp only [hasPriority_iff] at hab hbc ⊢
  omega

theorem hasPriority_trichotomy (a b : Key) : a = b ∨ hasPriority a b = true ∨ hasPriority b a = true := by
  by_cases hi : ident a = ident b
  · by_cases ha : a.amount = b.amount
    · left
      cases a; cases b
      simp only [ident, Prod.mk.injEq] at hi
      simp_all
    · right
      simp only [hasPriority_iff]
      omega
  · right; exact hasPriority_total a b hi

theorem notAfter_trans (a b c : Key) (hab : notAfter a b) (hbc : notAfter b c) : notAfter a c := by
  unfold notAfter at *
  cases hca : hasPriority c a
  · rfl
  · exfalso
    rcases hasPriority_trichotomy a b with e | h | h
    · subst e; rw [hca] at hbc; cases hbc
    · rcases hasPriority_trichotomy b c with e | h' | h'
      · subst e; rw [hca] at hab; cases hab
      · have := hasPriority_trans a b c h h'
        have := hasPriority_asymm a c this
        rw [hca] at this; cases this
      · rw [h'] at hbc; cases hbc
    · rw [h] at hab; cases hab

end SortOrders

theorem SwapFeeTotal.foldl_body_none (l : List (Nat × Int)) : l.foldl SwapFeeTotal.body none = none := by
  induction l with
  | nil => rfl
  | cons x xs ih => simpa [List.foldl_cons, SwapFeeTotal.body] using ih

theorem SwapFeeTotal.body_some (a : Int) (e : Nat × Int) :
    SwapFeeTotal.body (some a) e = if Dec.fits (a + e.2) = true then some (a + e.2) else none := rfl

/-- closed form of the checked sum: with non-negative summands every partial sum is bounded by the total, so the
loop panics iff the TOTAL does not fit -/
theorem SwapFeeTotal.foldl_body_closed (l : List (Nat × Int)) (h : ∀ e ∈ l, e.2 ≥ 0) (a : Int) (ha : a ≥ 0)
    (hfa : Dec.fits a = true) :
    l.foldl SwapFeeTotal.body (some a) =
      if Dec.fits (a + (l.map (·.2)).sum) = true then some (a + (l.map (·.2)).sum) else none := by
  induction l generalizing a with
  | nil => simp [hfa]
  | cons x xs ih =>
    have hx := h x (by simp)
    have hxs : ∀ e ∈ xs, e.2 ≥ 0 := fun e he => h e (by simp [he])
    have hs : 0 ≤ (xs.map (·.2)).sum := ListSum.sum_map_nonneg _ _ hxs
    have hcons : a + ((x :: xs).map (·.2)).sum = a + x.2 + (xs.map (·.2)).sum := by
      rw [List.map_cons, List.sum_cons]; omega
    rw [List.foldl_cons, SwapFeeTotal.body_some, hcons]
    by_cases hf : Dec.fits (a + x.2) = true
    · rw [if_pos hf, ih hxs (a + x.2) (by omega) hf]
    · rw [if_neg hf, SwapFeeTotal.foldl_body_none]
      have : ¬ Dec.fits (a + x.2 + (xs.map (·.2)).sum) = true := by
        simp only [Dec.fits, decide_eq_true_eq] at hf ⊢
        omega
      rw [if_neg this]

theorem FillOrders.setAt_comm {κ : Type} [DecidableEq κ] (f : κ → FillOrders.Order) {k1 k2 : κ} (hne : k1 ≠ k2)
    (v1 v2 : FillOrders.Order) :
    FillOrders.setAt (FillOrders.setAt f k1 v1) k2 v2 = FillOrders.setAt (FillOrders.setAt f k2 v2) k1 v1 := by
  funext x
  simp only [FillOrders.setAt]
  by_cases h1 : x = k1 <;> by_cases h2 : x = k2
  · exact absurd (h1.symm.trans h2) hne
  · subst h1; simp [hne]
  · subst h2; simp [Ne.symm hne]
  · simp [h1, h2]

theorem FillOrders.setAt_ne {κ : Type} [DecidableEq κ] (f : κ → FillOrders.Order) {k1 k2 : κ} (hne : k1 ≠ k2)
    (v : FillOrders.Order) : FillOrders.setAt f k1 v k2 = f k2 := by
  simp [FillOrders.setAt, Ne.symm hne]

theorem FillOrders.body_comm {κ : Type} [DecidableEq κ] (price : Dec) (z : Option (FillOrders.St κ)) (x y : κ × Int)
    (hne : x.1 ≠ y.1) :
    FillOrders.body price (FillOrders.body price z x) y = FillOrders.body price (FillOrders.body price z y) x := by
  cases z with
  | none => rfl
  | some st =>
    simp only [FillOrders.body]
    cases hx : FillOrders.fillOrder price (st.orders x.1) x.2 with
    | none =>
      cases hy : FillOrders.fillOrder price (st.orders y.1) y.2 with
      | none => rfl
      | some r => simp [FillOrders.setAt_ne st.orders (Ne.symm hne), hx]
    | some r =>
      cases hy : FillOrders.fillOrder price (st.orders y.1) y.2 with
      | none => simp [FillOrders.setAt_ne st.orders hne, hy]
      | some r' =>
        simp only [FillOrders.setAt_ne st.orders hne, FillOrders.setAt_ne st.orders (Ne.symm hne), hx, hy]
        rw [FillOrders.setAt_comm st.orders hne]
        congr 2
        omega

end Comdex.MapLoops
