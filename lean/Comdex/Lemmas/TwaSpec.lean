import Comdex.Lemmas.Twa
/-! The oracle window over whole histories (C17): the run of the stored record refines the run of the specification; the specification's
window counts positive samples. -/
namespace Comdex.C17
open Comdex.Twa

def HeightsPos (ops : List Op) : Prop := ∀ op ∈ ops, ∀ r h, op = Op.sample r h → h > 0

def specRun (N : Nat) (acc : Int) (s : Spec) (ops : List Op) : Spec := ops.foldl (Spec.step N acc) s

theorem run_refines (N : Nat) (hN : N ≥ 1) (acc : Int) (ops : List Op) (s : Option Rec)
    (hwf : WfO N s) (hh : HeightsPos ops) :
    ∃ s', run N acc s ops = .ok s' ∧ WfO N s' ∧ abs s' = specRun N acc (abs s) ops := by
  induction ops generalizing s with
  | nil => exact ⟨s, rfl, hwf, rfl⟩
  | cons op ops ih =>
    obtain ⟨s1, h1, hwf1, habs1⟩ := step_refines N hN acc s op hwf (hh op List.mem_cons_self)
    obtain ⟨s2, h2, hwf2, habs2⟩ := ih s1 hwf1 (fun o ho => hh o (List.mem_cons_of_mem _ ho))
    refine ⟨s2, ?_, hwf2, ?_⟩
    · simp [run, h1, h2, bind, Except.bind]
    · rw [habs2, habs1]; rfl

def countPos : List Op → Nat
  | [] => 0
  | .sample r _ :: t => (if r > 0 then 1 else 0) + countPos t
  | _ :: t => countPos t

theorem resume_window_le (acc : Int) (s : Spec) (ht : Int) : (s.resume acc ht).window.length ≤ s.window.length := by
  unfold Spec.resume
  split
  · split
    · exact Nat.le_refl _
    · exact Nat.zero_le _
  · exact Nat.le_refl _

theorem push_window_le (N : Nat) (t : Spec) (rate : Nat) : (t.push N rate).window.length ≤ t.window.length + 1 := by
  have : (lastN N (t.window ++ [rate])).length ≤ t.window.length + 1 := by
    unfold lastN; rw [List.length_drop, List.length_append]; exact Nat.sub_le _ _
  simp only [Spec.push]
  split <;> exact this

theorem spec_window_le_count (N : Nat) (acc : Int) (ops : List Op) (s : Spec) :
    (specRun N acc s ops).window.length ≤ s.window.length + countPos ops := by
  induction ops generalizing s with
  | nil => exact Nat.le_refl _
  | cons op ops ih =>
    refine Nat.le_trans (ih (s.step N acc op)) ?_
    cases op with
    | discardAll => exact Nat.add_le_add_right (Nat.zero_le _) _
    | deactivate => exact Nat.le_refl _
    | sample rate ht =>
      simp only [Spec.step, Spec.sample, countPos]
      split
      · next hr => rw [hr]; split <;> exact Nat.le_of_eq (by simp)
      · next hr =>
        have h1 := push_window_le N (s.resume acc ht) rate
        have h2 := resume_window_le acc s ht
        rw [if_pos (Nat.pos_of_ne_zero hr)]
        omega

/-- the window is full (`WfO.abs_active`) and grows by at most one per positive sample -/
theorem active_count (N : Nat) (acc : Int) (ops : List Op) {s' : Option Rec} (w : WfO N s')
    (a : abs s' = specRun N acc Spec.init ops) (ha : (abs s').active = true) : countPos ops ≥ N := by
  have hc := spec_window_le_count N acc ops Spec.init
  rw [← a, (w.abs_active ha).1] at hc
  exact Nat.le_trans hc (Nat.le_of_eq (Nat.zero_add _))

end Comdex.C17
