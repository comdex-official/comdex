import Comdex.Lemmas.LiqAtom
import Comdex.Lemmas.LiqQueue
/-!
The ledger invariant `Inv` of the liquidity ledger model and its preservation by every atom (`LiqAtom`), hence by every operation
and every history.  Each proof starts from the handler's effect (`LiqEffect`); a step that moves no coin of the global escrow or the
module account and leaves the pool-side tables alone keeps the clauses about them (`Inv.of_moves`: the order side, the payments of
a batch), a handler of the pool side those about orders (`Inv.of_poolStep`).
-/
namespace Comdex.LiqLedger

theorem liveSum_append (cfg : Cfg) (a p : Nat) (d : Denom) (l m : List Order) :
    liveSum cfg a p d (l ++ m) = liveSum cfg a p d l + liveSum cfg a p d m := sumOver_append _ l m

theorem liveSum_snoc (cfg : Cfg) (a p : Nat) (d : Denom) (l : List Order) (o : Order) :
    liveSum cfg a p d (l ++ [o]) = liveSum cfg a p d l + liveTerm cfg a p d o := sumOver_snoc _ l o

theorem liveSum_modBy (cfg : Cfg) (a p : Nat) (d : Denom) {pr : Order → Bool} (g : Order → Order) {l : List Order} {o : Order}
    (h : findBy pr l = some o) :
    liveSum cfg a p d (modBy pr g l) + liveTerm cfg a p d o = liveSum cfg a p d l + liveTerm cfg a p d (g o) :=
  sumOver_modBy _ g h

theorem depSum_snoc (d : Denom) (l : List DepReq) (r : DepReq) : depSum d (l ++ [r]) = depSum d l + depTerm d r :=
  sumOver_snoc _ l r

theorem depSum_modBy (d : Denom) {pr : DepReq → Bool} (g : DepReq → DepReq) {l : List DepReq} {r : DepReq}
    (h : findBy pr l = some r) : depSum d (modBy pr g l) + depTerm d r = depSum d l + depTerm d (g r) :=
  sumOver_modBy _ g h

theorem wdrSum_snoc (d : Denom) (l : List WdrReq) (r : WdrReq) : wdrSum d (l ++ [r]) = wdrSum d l + wdrTerm d r :=
  sumOver_snoc _ l r

theorem wdrSum_modBy (d : Denom) {pr : WdrReq → Bool} (g : WdrReq → WdrReq) {l : List WdrReq} {r : WdrReq}
    (h : findBy pr l = some r) : wdrSum d (modBy pr g l) + wdrTerm d r = wdrSum d l + wdrTerm d (g r) :=
  sumOver_modBy _ g h

theorem farmSum_snoc (a p : Nat) (l : List Farmer) (f : Farmer) : farmSum a p (l ++ [f]) = farmSum a p l + farmTerm a p f :=
  sumOver_snoc _ l f

theorem farmSum_modBy (a p : Nat) {pr : Farmer → Bool} (g : Farmer → Farmer) {l : List Farmer} {f : Farmer}
    (h : findBy pr l = some f) : farmSum a p (modBy pr g l) + farmTerm a p f = farmSum a p l + farmTerm a p (g f) :=
  sumOver_modBy _ g h

/-- per-order ledger: what was taken, and — once the order has ended — what went back and what went to the
fee collector -/
def OrderOk (cfg : Cfg) (o : Order) : Prop :=
  o.taken = o.offer + feeRes (rateOf cfg o.app) o ∧ o.remaining ≤ o.offer ∧
  (o.status.live = true → o.refunded = 0 ∧ o.feeFwd = 0) ∧
  (o.status.live = false →
    o.refunded = o.remaining + (feeRes (rateOf cfg o.app) o - fwdSpec (rateOf cfg o.app) o) ∧
    o.feeFwd = fwdSpec (rateOf cfg o.app) o)

theorem OrderOk.taken_eq {cfg : Cfg} {o : Order} (h : OrderOk cfg o) : o.taken = o.offer + feeRes (rateOf cfg o.app) o := h.1

theorem OrderOk.rem_le {cfg : Cfg} {o : Order} (h : OrderOk cfg o) : o.remaining ≤ o.offer := h.2.1

theorem OrderOk.of_live {cfg : Cfg} {o : Order} (h : OrderOk cfg o) (hl : o.status.live = true) : o.refunded = 0 ∧ o.feeFwd = 0 :=
  h.2.2.1 hl

theorem OrderOk.of_ended {cfg : Cfg} {o : Order} (h : OrderOk cfg o) (hl : o.status.live = false) :
    o.refunded = o.remaining + (feeRes (rateOf cfg o.app) o - fwdSpec (rateOf cfg o.app) o) ∧
    o.feeFwd = fwdSpec (rateOf cfg o.app) o :=
  h.2.2.2 hl

theorem OrderOk.taken_split {cfg : Cfg} {o : Order} (h : OrderOk cfg o) :
    o.taken = (o.offer - o.remaining) + (o.remaining + (feeRes (rateOf cfg o.app) o - fwdSpec (rateOf cfg o.app) o)) +
      fwdSpec (rateOf cfg o.app) o := by
  rw [Nat.add_assoc, Nat.add_assoc o.remaining, Nat.sub_add_cancel (fwdSpec_le _ o), ← Nat.add_assoc, Nat.sub_add_cancel h.rem_le]
  exact h.taken_eq

/-- the three custody equations — global escrow = pending requests; pair escrow = claims of the live orders + what matching took in
− what it handed out (`mIn` / `mOut`, the model's ghost accounts: credited with every payment of a batch, never sent from); module
account = farmed pool coins — and what it takes to keep them: a pool without supply is disabled, queue entries are positive,
every order satisfies its own ledger `OrderOk` -/
structure Inv (cfg : Cfg) (s : State) : Prop where
  escrow : ∀ d, s.bal .gEscrow d = depSum d s.deps + wdrSum d s.wdrs
  pairEsc : ∀ a p d, s.bal (.pairEscrow a p) d + s.bal (.mOut a p) d = liveSum cfg a p d s.orders + s.bal (.mIn a p) d
  farm : ∀ a p, s.bal .module (.pool a p) = farmSum a p s.farmers
  zero : ∀ q ∈ s.pools, q.ps = 0 → q.disabled = true
  qpos : ∀ f ∈ s.farmers, ∀ q ∈ f.queued, 0 < q.1
  ords : ∀ o ∈ s.orders, OrderOk cfg o

theorem Inv.of_moves {cfg : Cfg} {A : Acct → Bool} {s s' : State} (hi : Inv cfg s) (hm : Moves A s.bank s'.bank)
    (hg : A .gEscrow = false) (hmod : A .module = false) (ps : PoolSame s s')
    (hp : ∀ a p d, s'.bal (.pairEscrow a p) d + s'.bal (.mOut a p) d = liveSum cfg a p d s'.orders + s'.bal (.mIn a p) d)
    (ho : ∀ o ∈ s'.orders, OrderOk cfg o) : Inv cfg s' where
  escrow d := by rw [show s'.bal .gEscrow d = s.bal .gEscrow d from hm.get_of_not hg d, ps.deps, ps.wdrs]; exact hi.escrow d
  pairEsc := hp
  farm a p := by rw [show s'.bal .module _ = s.bal .module _ from hm.get_of_not hmod _, ps.farmers]; exact hi.farm a p
  zero := ps.pools ▸ hi.zero
  qpos := ps.farmers ▸ hi.qpos
  ords := ho

theorem Inv.of_poolStep {cfg : Cfg} {s s' : State} (hi : Inv cfg s) (fr : PoolStep s s')
    (he : ∀ d, s'.bal .gEscrow d = depSum d s'.deps + wdrSum d s'.wdrs)
    (hf : ∀ a p, s'.bal .module (.pool a p) = farmSum a p s'.farmers)
    (hz : ∀ q ∈ s'.pools, q.ps = 0 → q.disabled = true) (hq : ∀ f ∈ s'.farmers, ∀ q ∈ f.queued, 0 < q.1) : Inv cfg s' where
  escrow := he
  pairEsc a p d := by rw [fr.bal rfl, fr.bal rfl, fr.bal rfl, fr.ord.orders]; exact hi.pairEsc a p d
  farm := hf
  zero := hz
  qpos := hq
  ords := fr.ord.orders ▸ hi.ords

theorem Inv.escrow_of {cfg : Cfg} {s s' : State} (hi : Inv cfg s) (hb : ∀ d, s'.bal .gEscrow d = s.bal .gEscrow d)
    (hd : s'.deps = s.deps) (hw : s'.wdrs = s.wdrs) : ∀ d, s'.bal .gEscrow d = depSum d s'.deps + wdrSum d s'.wdrs := by
  intro d; rw [hb, hd, hw]; exact hi.escrow d

theorem Inv.farm_of {cfg : Cfg} {s s' : State} (hi : Inv cfg s) (hb : ∀ a p, s'.bal .module (.pool a p) = s.bal .module (.pool a p))
    (hf : s'.farmers = s.farmers) : ∀ a p, s'.bal .module (.pool a p) = farmSum a p s'.farmers := by
  intro a p; rw [hb, hf]; exact hi.farm a p

theorem finishOrder_inv {cfg : Cfg} {s s' : State} {k : OKey} {st : OStatus} (hst : st.live = false)
    (hi : Inv cfg s) (h : finishOrder cfg s k st = some s') : Inv cfg s' := by
  have fr := finishOrder_orderStep h
  obtain ⟨o, ho, ⟨-, rfl⟩ | ⟨hl, ac, s1, s2, hac, h1, h2, rfl⟩⟩ := finishOrder_eff h
  · exact hi
  have hok := hi.ords o (order?_some ho).1
  have hrate := rateOf_of_app hac
  refine hi.of_moves fr.bank rfl rfl fr.pool ?_ ?_
  · intro a p d
    show s2.bal (.pairEscrow a p) d + s2.bal (.mOut a p) d = liveSum cfg a p d (modBy (isO k) _ s.orders) + s2.bal (.mIn a p) d
    have hs := liveSum_modBy cfg a p d
      (fun o' => { o' with status := st, refunded := (settle ac.feeRate o).1, feeFwd := (settle ac.feeRate o).2 }) ho
    have hinv := hi.pairEsc a p d
    have e1 := State.bal_send_out h1 (.pairEscrow a p) nofun d
    have e2 := State.bal_send_out h2 (.pairEscrow a p) nofun d
    have htot := settle_total ac.feeRate o
    rw [State.send_bal_other h2 (.mOut a p) nofun nofun, State.send_bal_other h1 (.mOut a p) nofun nofun,
      State.send_bal_other h2 (.mIn a p) nofun nofun, State.send_bal_other h1 (.mIn a p) nofun nofun]
    simp only [liveTerm, hst, hl, hrate, Acct.pairEscrow.injEq, and_assoc, and_true, Bool.false_eq_true, and_false, if_false] at hs e1 e2
    by_cases hc : o.app = a ∧ o.pair = p ∧ o.od = d <;> simp only [hc, and_self, if_true, if_false] at hs e1 e2 <;> omega
  · refine forall_modBy hi.ords fun x hx => ?_
    obtain rfl : o = x := Option.some.inj (ho.symm.trans hx)
    refine ⟨by simpa [feeRes] using hok.taken_eq, hok.rem_le, fun hlive => by simp [hst] at hlive, fun _ => ?_⟩
    rw [hrate, settle_spec]
    exact ⟨rfl, rfl⟩

theorem Ended.inv {cfg : Cfg} {s s' : State} (hi : Inv cfg s) (h : Ended cfg s s') : Inv cfg s' :=
  h.rel (R := fun s s' => Inv cfg s → Inv cfg s') (fun _ h => h) (fun h1 h2 h => h2 (h1 h))
    (fun hst hf hi => finishOrder_inv hst hi hf) hi

theorem newOrder_ok (cfg : Cfg) (p : Pair) (id owner : Nat) (typ : OType) (buy : Bool) (price amount offer : Nat) (e : Int) :
    OrderOk cfg (newOrder p id owner typ buy price amount offer
      (offer + (if typ = .mm then 0 else feeOf (rateOf cfg p.app) offer)) e) := by
  refine ⟨?_, Nat.le_refl _, fun _ => ⟨rfl, rfl⟩, fun h => ?_⟩
  · by_cases hm : typ = .mm <;> simp [newOrder, feeRes, hm]
  · simp [newOrder, OStatus.live] at h

theorem liveTerm_newOrder (cfg : Cfg) (p : Pair) (id owner : Nat) (typ : OType) (buy : Bool) (price amount offer tk : Nat)
    (e : Int) (a q : Nat) (d : Denom) :
    liveTerm cfg a q d (newOrder p id owner typ buy price amount offer tk e) =
      if p.app = a ∧ p.id = q ∧ sideIn p buy = d then
        offer + (if typ = .mm then 0 else feeOf (rateOf cfg p.app) offer) else 0 := by
  by_cases hm : typ = .mm <;> simp [liveTerm, newOrder, OStatus.live, feeRes, hm]

theorem placeOrder_inv {cfg : Cfg} {s s' : State} {app user pair : Nat} {typ : OType} {buy : Bool}
    {msgOffer msgPrice price amount : Nat} {lifespan : Int} {ext : Bool} (hi : Inv cfg s)
    (h : placeOrder cfg s app user pair typ buy msgOffer msgPrice price amount lifespan ext = some s') : Inv cfg s' := by
  have fr := (Atom.place h).orderStep
  obtain ⟨ac, p, s1, hmm, -, hac, hp, h1, rfl⟩ := placeOrder_eff h
  obtain ⟨-, hpa, hpi⟩ := pair?_some hp
  have hrate := rateOf_of_app hac
  refine hi.of_moves fr.bank rfl rfl fr.pool ?_ ?_
  · intro a q d
    show s1.bal (.pairEscrow a q) d + s1.bal (.mOut a q) d = liveSum cfg a q d (s.orders ++ [_]) + s1.bal (.mIn a q) d
    have hinv := hi.pairEsc a q d
    rw [State.bal_send_in h1 (.pairEscrow a q) nofun, State.send_bal_other h1 (.mOut a q) nofun nofun,
      State.send_bal_other h1 (.mIn a q) nofun nofun, liveSum_snoc]
    simp only [liveTerm_newOrder, hmm, if_false, hpa, hpi, hrate, Acct.pairEscrow.injEq, and_assoc]
    omega
  · intro o ho
    rcases List.mem_append.mp ho with h1 | h1
    · exact hi.ords o h1
    · rw [List.mem_singleton.mp h1]
      have := newOrder_ok cfg p (p.lastOrderId + 1) user typ buy price amount (offerAmt buy price amount) (s.now + lifespan)
      simpa [hmm, hpa, hrate] using this

theorem Inv.modPair {cfg : Cfg} {s : State} (hi : Inv cfg s) (a p : Nat) (g : Pair → Pair) : Inv cfg (s.modPair a p g) :=
  ⟨hi.escrow, hi.pairEsc, hi.farm, hi.zero, hi.qpos, hi.ords⟩

theorem Inv.with_mm {cfg : Cfg} {s : State} (hi : Inv cfg s) (m : List MMIndex) : Inv cfg { s with mm := m } :=
  ⟨hi.escrow, hi.pairEsc, hi.farm, hi.zero, hi.qpos, hi.ords⟩

theorem Inv.with_block {cfg : Cfg} {s : State} (hi : Inv cfg s) (h : Nat) (t : Int) : Inv cfg { s with height := h, now := t } :=
  ⟨hi.escrow, hi.pairEsc, hi.farm, hi.zero, hi.qpos, hi.ords⟩

theorem cancelMMCore_inv {cfg : Cfg} {s s' : State} {app user : Nat} {p : Pair} {skip : Bool} (hi : Inv cfg s)
    (h : cancelMMCore cfg s app user p skip = some s') : Inv cfg s' := by
  obtain ⟨s1, he, hs⟩ := cancelMMCore_ended h
  rw [hs]
  exact (he.inv hi).with_mm _

theorem liveSum_mkMM (cfg : Cfg) (p : Pair) (owner : Nat) (buy : Bool) (e : Int) (a q : Nat) (d : Denom) :
    ∀ (ts : List Tick) (last : Nat), liveSum cfg a q d (mkMMOrders p owner buy e last ts) =
      if p.app = a ∧ p.id = q ∧ sideIn p buy = d then sumOffers ts else 0 := by
  intro ts
  induction ts with
  | nil => intro last; simp [mkMMOrders, liveSum, sumOver, sumOffers]
  | cons t ts ih =>
    intro last
    have ih' := ih (last + 1)
    unfold liveSum at ih' ⊢
    simp only [mkMMOrders, sumOver, sumOffers, ih', liveTerm_newOrder]
    by_cases hc : p.app = a ∧ p.id = q ∧ sideIn p buy = d <;> simp [hc]

theorem mkMM_ok (cfg : Cfg) (p : Pair) (owner : Nat) (buy : Bool) (e : Int) :
    ∀ (ts : List Tick) (last : Nat), ∀ o ∈ mkMMOrders p owner buy e last ts, OrderOk cfg o := by
  intro ts
  induction ts with
  | nil => intro last o ho; simp [mkMMOrders] at ho
  | cons t ts ih =>
    intro last o ho
    simp only [mkMMOrders, List.mem_cons] at ho
    rcases ho with rfl | ho
    · have := newOrder_ok cfg p (last + 1) owner .mm buy t.price t.amount t.offer e
      simpa using this
    · exact ih _ o ho

theorem liveSum_mmOrders (cfg : Cfg) (p : Pair) (owner : Nat) (e : Int) (buys sells : List Tick) (a q : Nat) (d : Denom) :
    liveSum cfg a q d (mmOrders p owner e buys sells) =
      (if p.app = a ∧ p.id = q ∧ p.quote = d then sumOffers buys else 0) +
      (if p.app = a ∧ p.id = q ∧ p.base = d then sumOffers sells else 0) := by
  unfold mmOrders
  rw [liveSum_append, liveSum_mkMM, liveSum_mkMM]; rfl

theorem mmOrders_ok (cfg : Cfg) (p : Pair) (owner : Nat) (e : Int) (buys sells : List Tick) :
    ∀ o ∈ mmOrders p owner e buys sells, OrderOk cfg o := fun o ho =>
  (List.mem_append.mp ho).elim (mkMM_ok cfg p owner true e _ _ o) (mkMM_ok cfg p owner false e _ _ o)

theorem mmOrder_inv {cfg : Cfg} {s s' : State} {app user pair : Nat} {buys sells : List Tick} {lifespan : Int} {ext : Bool}
    (hi : Inv cfg s) (h : mmOrder cfg s app user pair buys sells lifespan ext = some s') : Inv cfg s' := by
  have fr := (Atom.mmOrder h).orderStep
  obtain ⟨p, s1, s2, s3, hp, hc1, h2, h3, rfl⟩ := mmOrder_eff h
  have hi1 := cancelMMCore_inv hi hc1
  obtain ⟨-, hpa, hpi⟩ := pair?_some hp
  refine hi.of_moves fr.bank rfl rfl fr.pool ?_ ?_
  · intro a q d
    show s3.bal (.pairEscrow a q) d + s3.bal (.mOut a q) d = liveSum cfg a q d (s1.orders ++ _) + s3.bal (.mIn a q) d
    have hinv := hi1.pairEsc a q d
    rw [State.bal_send_in h3 (.pairEscrow a q) nofun, State.bal_send_in h2 (.pairEscrow a q) nofun,
      State.send_bal_other h3 (.mOut a q) nofun nofun, State.send_bal_other h2 (.mOut a q) nofun nofun,
      State.send_bal_other h3 (.mIn a q) nofun nofun, State.send_bal_other h2 (.mIn a q) nofun nofun,
      liveSum_append, liveSum_mmOrders]
    simp only [hpa, hpi, Acct.pairEscrow.injEq, and_assoc]
    omega
  · intro o ho
    rcases List.mem_append.mp ho with h1 | h1
    · exact hi1.ords o h1
    · exact mmOrders_ok cfg p user _ buys sells o h1

theorem Inv.modPool {cfg : Cfg} {s : State} (hi : Inv cfg s) (a p : Nat) (g : Pool → Pool)
    (hg : ∀ x, (g x).ps = 0 → (g x).disabled = true ∨ (x.ps = 0 ∧ (g x).disabled = x.disabled)) : Inv cfg (s.modPool a p g) := by
  refine ⟨hi.escrow, hi.pairEsc, hi.farm, ?_, hi.qpos, hi.ords⟩
  show ∀ q ∈ modBy (isPool a p) g s.pools, _
  apply forall_modBy hi.zero
  intro x hx h0
  rcases hg x h0 with h | ⟨h1, h2⟩
  · exact h
  · rw [h2]; exact hi.zero x (findBy_some_prop hx).2 h1

theorem depositReq_inv {cfg : Cfg} {s s' : State} {app user pool dx dy : Nat} {ext : Bool} {id : Nat} (hi : Inv cfg s)
    (h : depositReq cfg s app user pool dx dy ext = some (s', id)) : Inv cfg s' := by
  have fr := (Atom.depositReq h).poolStep trivial
  obtain ⟨q, p, s1, s2, -, -, h1, h2, rfl⟩ := depositReq_eff h
  refine hi.of_poolStep fr ?_ (hi.farm_of (fun a q => ?_) rfl) ?_ hi.qpos
  · intro d
    show s2.bal .gEscrow d = depSum d (s.deps ++ [_]) + wdrSum d s.wdrs
    rw [State.bal_send_to h2 nofun, State.bal_send_to h1 nofun, hi.escrow d, depSum_snoc]
    simp only [depTerm, if_true]
    omega
  · exact (State.send_bal_other h2 .module nofun nofun).trans (State.send_bal_other h1 _ nofun nofun)
  · exact forall_modBy hi.zero fun x hx => hi.zero x (findBy_some_prop hx).2

theorem withdrawReq_inv {cfg : Cfg} {s s' : State} {app user pool pc : Nat} {ext : Bool} {id : Nat} (hi : Inv cfg s)
    (h : withdrawReq cfg s app user pool pc ext = some (s', id)) : Inv cfg s' := by
  have fr := (Atom.withdrawReq h).poolStep trivial
  obtain ⟨q, s1, -, h1, rfl⟩ := withdrawReq_eff h
  refine hi.of_poolStep fr ?_ (hi.farm_of (fun a q => ?_) rfl) ?_ hi.qpos
  · intro d
    show s1.bal .gEscrow d = depSum d s.deps + wdrSum d (s.wdrs ++ [_])
    rw [State.bal_send_to h1 nofun, hi.escrow d, wdrSum_snoc]
    simp only [wdrTerm, true_and]
    omega
  · exact State.send_bal_other h1 .module nofun nofun
  · exact forall_modBy hi.zero fun x hx => hi.zero x (findBy_some_prop hx).2

theorem failDep_inv {cfg : Cfg} {s s' : State} {r : DepReq} (hi : Inv cfg s)
    (hr : findBy (isDep r.app r.pool r.id) s.deps = some r) (hp : r.status = .pending)
    (h : failDep s r = some s') : Inv cfg s' := by
  have fr := failDep_poolStep h
  obtain ⟨s1, s2, h1, h2, rfl⟩ := failDep_eff h
  refine hi.of_poolStep fr ?_ (hi.farm_of (fun a q => ?_) rfl) hi.zero hi.qpos
  · intro d
    show s2.bal .gEscrow d = depSum d (modBy _ _ s.deps) + wdrSum d s.wdrs
    have hs := depSum_modBy d (fun r => { r with status := .failed }) hr
    have hinv := hi.escrow d
    have hg := send2_from h1 h2 nofun nofun d
    simp only [depTerm, hp, if_true, reduceCtorEq, if_false] at hs
    omega
  · exact (State.send_bal_other h2 .module nofun nofun).trans (State.send_bal_other h1 _ nofun nofun)

theorem Inv.disablePool {cfg : Cfg} {s : State} (hi : Inv cfg s) (a p : Nat) :
    Inv cfg (s.modPool a p fun q => { q with disabled := true }) :=
  hi.modPool a p _ (fun _ _ => Or.inl rfl)

theorem execDeposit_inv {cfg : Cfg} {s s' : State} {a pl i ax ay pc : Nat} (hi : Inv cfg s)
    (h : execDeposit s a pl i ax ay pc = some s') : Inv cfg s' := by
  have fr := (Atom.execDeposit (cfg := cfg) h).poolStep trivial
  obtain ⟨r, hr, hx⟩ := execDeposit_exec h
  cases hx with
  | skip _ e => exact e ▸ hi
  | refund hp _ ht hf =>
    rcases ht with rfl | ⟨-, rfl⟩
    · exact failDep_inv hi (findBy_isDep_self hr) hp hf
    · exact failDep_inv (hi.disablePool a pl) (findBy_isDep_self hr) hp hf
  | ok hpend' hq _ _ hok =>
    obtain ⟨hpc, hle1, hle2, s2, s3, s4, s5, s6, h2, h3, h4, h5, h6, rfl⟩ := hok
    refine hi.of_poolStep fr ?_ ?_ ?_ hi.qpos
    · intro d
      show s6.bal .gEscrow d = depSum d (modBy _ _ s.deps) + wdrSum d s.wdrs
      have hs := depSum_modBy d (fun r => { r with status := .succeeded, ax := ax, ay := ay, minted := pc }) hr
      have hinv := hi.escrow d
      have e23 := send2_from h2 h3 nofun nofun d
      have e4 := State.send_bal_other (d' := d) h4 .gEscrow nofun nofun
      have e56 := send2_from h5 h6 nofun nofun d
      rw [State.bal_mint] at e23
      simp only [depTerm, hpend', if_true, reduceCtorEq, if_false, false_and, Nat.add_zero] at hs e23
      have x1 := ite_add_sub (r.qd = d) hle1
      have x2 := ite_add_sub (r.bd = d) hle2
      omega
    · intro a' q'
      show s6.bal .module (.pool a' q') = farmSum a' q' s.farmers
      have e4 := State.bal_send_from h4 nofun (.pool a' q')
      rw [← hi.farm a' q', State.send_bal_other h6 .module nofun nofun, State.send_bal_other h5 .module nofun nofun]
      rw [State.send_bal_other h3 .module nofun nofun, State.send_bal_other h2 .module nofun nofun, State.bal_mint] at e4
      simp only [true_and] at e4
      omega
    · refine forall_modBy hi.zero fun x hx h0 => ?_
      have : x.ps + pc = 0 := h0
      omega

theorem failWdr_inv {cfg : Cfg} {s s' : State} {r : WdrReq} (hi : Inv cfg s)
    (hr : findBy (isWdr r.app r.pool r.id) s.wdrs = some r) (hp : r.status = .pending)
    (h : failWdr s r = some s') : Inv cfg s' := by
  have fr := failWdr_poolStep h
  obtain ⟨s1, h1, rfl⟩ := failWdr_eff h
  refine hi.of_poolStep fr ?_ (hi.farm_of (fun a q => ?_) rfl) hi.zero hi.qpos
  · intro d
    show s1.bal .gEscrow d = depSum d s.deps + wdrSum d (modBy _ _ s.wdrs)
    have hs := wdrSum_modBy d (fun r => { r with status := .failed }) hr
    have hinv := hi.escrow d
    have e1 := State.bal_send_from h1 nofun d
    simp only [wdrTerm, hp, true_and, reduceCtorEq, false_and, if_false] at hs
    omega
  · exact State.send_bal_other h1 .module nofun nofun

theorem Inv.ords_of {cfg : Cfg} {s s' : State} (hi : Inv cfg s) (ho : s'.orders = s.orders) :
    ∀ o ∈ s'.orders, OrderOk cfg o := by rw [ho]; exact hi.ords

theorem execWithdraw_inv {cfg : Cfg} {s s' : State} {a pl i x y : Nat} (hi : Inv cfg s)
    (h : execWithdraw s a pl i x y = some s') : Inv cfg s' := by
  have fr := (Atom.execWithdraw (cfg := cfg) h).poolStep trivial
  obtain ⟨r, hr, hx⟩ := execWithdraw_exec h
  cases hx with
  | skip _ e => exact e ▸ hi
  | refund hp _ ht hf =>
    rcases ht with rfl | ⟨-, rfl⟩
    · exact failWdr_inv hi (findBy_isWdr_self hr) hp hf
    · exact failWdr_inv (hi.disablePool a pl) (findBy_isWdr_self hr) hp hf
  | @ok hpend' q p hq _ hp hok =>
    obtain ⟨s1, s2, s3, s4, h1, h2, h3, h4, hps, rfl⟩ := hok
    have hrk := isWdr_true (findBy_some_prop hr).1
    refine hi.of_poolStep fr ?_ ?_ ?_ hi.qpos
    · intro d
      show s4.bal .gEscrow d = depSum d s.deps + wdrSum d (modBy _ _ s.wdrs)
      have hs := wdrSum_modBy d (fun r => { r with status := .succeeded, wx := x, wy := y }) hr
      have hinv := hi.escrow d
      have e4 := State.bal_burn h4 .gEscrow d
      have e1 := State.bal_send_from h1 nofun d
      rw [State.send_bal_other h3 .gEscrow nofun nofun, State.send_bal_other h2 .gEscrow nofun nofun] at e4
      simp only [wdrTerm, hpend', hrk.1, hrk.2.1, true_and, reduceCtorEq, false_and, if_false, Nat.add_zero] at hs e4
      omega
    · intro a' q'
      show s4.bal .module (.pool a' q') = farmSum a' q' s.farmers
      have e4 := State.bal_burn h4 .module (.pool a' q')
      have e1 := State.bal_send_to h1 nofun (.pool a' q')
      rw [State.send_bal_other h3 .module nofun nofun, State.send_bal_other h2 .module nofun nofun] at e4
      rw [← hi.farm a' q']
      simp only [true_and] at e4
      omega
    · show ∀ z ∈ (if r.pc = q.ps then modBy (isPool a pl) _ (modBy _ _ s.pools) else modBy _ _ s.pools), _
      by_cases hc : r.pc = q.ps
      · rw [if_pos hc, modBy_modBy _ (by intro z; rfl)]
        exact forall_modBy hi.zero fun z _ _ => rfl
      · rw [if_neg hc]
        refine forall_modBy hi.zero fun z hz' h0 => ?_
        cases hq.symm.trans hz'
        have : q.ps - r.pc = 0 := h0
        omega

theorem Inv.modO_same {cfg : Cfg} {s : State} (hi : Inv cfg s) (k : OKey) (g : Order → Order)
    (hg : ∀ x, s.order? k = some x → (∀ a p d, liveTerm cfg a p d (g x) = liveTerm cfg a p d x) ∧ OrderOk cfg (g x)) :
    Inv cfg (s.modO k g) := by
  refine ⟨hi.escrow, ?_, hi.farm, hi.zero, hi.qpos, ?_⟩
  · intro a p d
    show s.bal _ d + s.bal _ d = liveSum cfg a p d (modBy (isO k) g s.orders) + s.bal _ d
    cases hx : s.order? k with
    | none => rw [modBy_of_none hx]; exact hi.pairEsc a p d
    | some x =>
      have hs := liveSum_modBy cfg a p d g hx
      rw [(hg x hx).1 a p d] at hs
      have := hi.pairEsc a p d
      omega
  · show ∀ o ∈ modBy (isO k) g s.orders, _
    apply forall_modBy hi.ords
    intro x hx
    exact (hg x hx).2

theorem prePass_inv {cfg : Cfg} {s s' : State} {k : OKey} (hi : Inv cfg s) (h : prePass cfg s k = some s') : Inv cfg s' := by
  obtain ⟨o, ho, ⟨hst, rfl⟩ | ⟨-, rfl⟩ | ⟨-, hf⟩⟩ := prePass_eff h
  · apply hi.modO_same
    intro x hx
    have hxo : x = o := by rw [ho] at hx; exact (Option.some.inj hx).symm
    subst hxo
    have hok := hi.ords x (order?_some ho).1
    refine ⟨fun a p d => ?_, ?_⟩
    · simp [liveTerm, hst, OStatus.live, feeRes]
    · refine ⟨by simpa [feeRes] using hok.taken_eq, hok.rem_le, fun _ => ?_, fun hh => ?_⟩
      · exact hok.of_live (by simp [hst, OStatus.live])
      · simp [OStatus.live] at hh
  · exact hi
  · exact finishOrder_inv rfl hi hf

theorem markDepleted_inv {cfg : Cfg} {s : State} (hi : Inv cfg s) (p : Pair) : Inv cfg (markDepleted s p) := by
  refine ⟨hi.escrow, hi.pairEsc, hi.farm, ?_, hi.qpos, hi.ords⟩
  intro q hq h0
  simp only [markDepleted, List.mem_map] at hq
  obtain ⟨x, hx, rfl⟩ := hq
  by_cases hc : (x.app == p.app && x.pair == p.id && !x.disabled && depleted s p x) = true
  · simp [hc]
  · simp only [hc] at h0 ⊢
    exact hi.zero x hx h0

theorem poolPayIn_inv {cfg : Cfg} {p : Pair} {s s' : State} {f : PoolFlow} (hi : Inv cfg s)
    (h : poolPayIn p s f = some s') : Inv cfg s' := by
  obtain ⟨s1, h1, rfl⟩ := poolPayIn_eff h
  have f1 := State.send_fields h1
  have b := State.bal_send_credit h1 (.mIn p.app p.id)
  refine hi.of_moves (poolPayIn_moves h) rfl rfl (f1.trans (.credit ..)).poolSame (fun a q d => ?_) (hi.ords_of f1.orders)
  have e1 := b (.pairEscrow a q) d
  have e2 := b (.mOut a q) d
  have e3 := b (.mIn a q) d
  have hinv := hi.pairEsc a q d
  simp only [reduceCtorEq, false_and, if_false, Nat.add_zero, Acct.pairEscrow.injEq, Acct.mIn.injEq] at e1 e2 e3
  show _ = liveSum cfg a q d s1.orders + _
  rw [f1.orders]
  omega

theorem payOut_inv {cfg : Cfg} {s s1 : State} {a0 p0 : Nat} {t : Acct} {d0 : Denom} {n : Nat} (hi : Inv cfg s) (ht : t.payee = true)
    (h1 : s.send (.pairEscrow a0 p0) t d0 n = some s1) : Inv cfg (s1.credit (.mOut a0 p0) d0 n) := by
  have t3 : ∀ a p, t ≠ .pairEscrow a p := fun _ _ e => by rw [e] at ht; cases ht
  have t4 : ∀ a p, t ≠ .mIn a p := fun _ _ e => by rw [e] at ht; cases ht
  have t5 : ∀ a p, t ≠ .mOut a p := fun _ _ e => by rw [e] at ht; cases ht
  have f1 := State.send_fields h1
  have b := State.bal_send_credit h1 (.mOut a0 p0)
  refine hi.of_moves (payOut_moves ht h1) rfl rfl (f1.trans (.credit ..)).poolSame (fun a q d => ?_) (hi.ords_of f1.orders)
  have e1 := b (.pairEscrow a q) d
  have e2 := b (.mOut a q) d
  have e3 := b (.mIn a q) d
  have hinv := hi.pairEsc a q d
  simp only [reduceCtorEq, t3, t4, t5, false_and, if_false, Nat.add_zero, Acct.pairEscrow.injEq, Acct.mOut.injEq] at e1 e2 e3
  show _ = liveSum cfg a q d s1.orders + _
  rw [f1.orders]
  omega

theorem fillOrder_inv {cfg : Cfg} {p : Pair} {s s' : State} {f : Fill} (hi : Inv cfg s)
    (h : fillOrder cfg p s f = some s') : Inv cfg s' := by
  obtain ⟨o, s1, ho, hlive, hod, hpaid, hs1, hfin⟩ := fillOrder_eff h
  obtain ⟨hmem, hoa, hop, -⟩ := order?_some ho
  simp only at hoa hop
  have hok := hi.ords o hmem
  have hmid : Inv cfg s1 := by
    rw [hs1]
    have b := fun x d => State.bal_credit (s.modO (p.app, p.id, f.id) (·.filled f)) (.mIn p.app p.id) (sideIn p f.buy) f.paid x d
    refine ⟨fun d => ?_, fun a q d => ?_, fun a q => ?_, hi.zero, hi.qpos, ?_⟩
    · rw [b]; simp only [reduceCtorEq, false_and, if_false]; exact hi.escrow d
    · have hs := liveSum_modBy cfg a q d (·.filled f) ho
      have hinv := hi.pairEsc a q d
      have t1 : liveTerm cfg a q d o =
          if p.app = a ∧ p.id = q ∧ sideIn p f.buy = d then o.remaining + feeRes (rateOf cfg o.app) o else 0 := by
        simp [liveTerm, hoa, hop, hod, hlive]
      have t2 : liveTerm cfg a q d (o.filled f) =
          if p.app = a ∧ p.id = q ∧ sideIn p f.buy = d then o.remaining - f.paid + feeRes (rateOf cfg o.app) o else 0 := by
        simp [liveTerm, Order.filled, hoa, hop, hod, OStatus.live, feeRes]
      rw [t1, t2] at hs
      rw [b, b, b]
      simp only [reduceCtorEq, false_and, if_false, Acct.mIn.injEq, Nat.add_zero, and_assoc]
      show s.bal _ _ + s.bal _ _ = liveSum cfg a q d (modBy _ _ s.orders) + (s.bal _ _ + _)
      by_cases hc : p.app = a ∧ p.id = q ∧ sideIn p f.buy = d <;> simp only [hc, and_self, if_true, if_false] at hs ⊢ <;> omega
    · rw [b]; simp only [reduceCtorEq, false_and, if_false]; exact hi.farm a q
    · refine forall_modBy hi.ords fun x hx => ?_
      obtain rfl : o = x := Option.some.inj (ho.symm.trans hx)
      refine ⟨hok.taken_eq, Nat.le_trans (Nat.sub_le _ _) hok.rem_le, fun _ => hok.of_live hlive,
        fun hh => ?_⟩
      simp [Order.filled, OStatus.live] at hh
  rcases hfin with rfl | hf
  · exact hmid
  · exact finishOrder_inv rfl hmid hf

theorem processQueued_inv {cfg : Cfg} {s : State} (hi : Inv cfg s) (app : Nat) : Inv cfg (processQueued cfg s app) := by
  refine ⟨hi.escrow, hi.pairEsc, ?_, hi.zero, ?_, hi.ords⟩
  · intro a p
    show s.bal .module (.pool a p) = farmSum a p (s.farmers.map _)
    rw [hi.farm a p]
    unfold farmSum
    symm
    apply sumOver_map
    intro f _
    split
    · simp only [farmTerm, activate]
      have := qTotal_filter (fun q => decide (s.now < q.2 + cfg.queueDur)) f.queued
      by_cases hc : f.app = a ∧ f.pool = p <;> simp [hc] <;> omega
    · rfl
  · intro f hf q hq
    simp only [processQueued, List.mem_map] at hf
    obtain ⟨x, hx, rfl⟩ := hf
    split at hq
    · simp only [activate, List.mem_filter] at hq
      exact hi.qpos x hx q hq.1
    · exact hi.qpos x hx q hq

theorem beginBlock_inv {cfg : Cfg} {s : State} (hi : Inv cfg s) (app : Nat) : Inv cfg (beginBlock s app) := by
  refine ⟨?_, ?_, hi.farm, hi.zero, hi.qpos, ?_⟩
  · intro d
    show s.bal .gEscrow d = depSum d (s.deps.filter _) + wdrSum d (s.wdrs.filter _)
    unfold depSum wdrSum
    rw [sumOver_filter, sumOver_filter]
    · exact hi.escrow d
    · intro x _ hx
      simp only [wdrTerm]
      rw [if_neg]
      intro hh
      simp [hh.1] at hx
      exact absurd hx.2 (by decide)
    · intro x _ hx
      simp only [depTerm]
      rw [if_neg]
      intro hh
      simp [hh] at hx
      exact absurd hx.2 (by decide)
  · intro a p d
    show s.bal _ d + s.bal _ d = liveSum cfg a p d (s.orders.filter _) + s.bal _ d
    unfold liveSum
    rw [sumOver_filter]
    · exact hi.pairEsc a p d
    · intro x _ hx
      simp only [liveTerm]
      rw [if_neg]
      intro hh
      simp [hh.2.2.2] at hx
  · intro o ho
    simp only [beginBlock, List.mem_filter] at ho
    exact hi.ords o ho.1

/-- every app's `MinInitialPoolCoinSupply` is positive (`validateMinInitialPoolCoinSupply`) -/
def CfgOk (cfg : Cfg) : Prop := ∀ ac ∈ cfg.apps, 0 < ac.minInitSupply

theorem app?_mem {cfg : Cfg} {a : Nat} {ac : AppCfg} (h : cfg.app? a = some ac) : ac ∈ cfg.apps := by
  unfold Cfg.app? at h
  exact List.mem_of_find?_eq_some h

theorem createPair_inv {cfg : Cfg} {s s' : State} {app creator : Nat} {base quote : Denom} {ext : Bool} (hi : Inv cfg s)
    (h : createPair cfg s app creator base quote ext = some s') : Inv cfg s' := by
  have fr := (Atom.createPair h).orderStep
  obtain ⟨ac, s1, h1, rfl⟩ := createPair_eff h
  refine hi.of_moves fr.bank rfl rfl fr.pool (fun a q d => ?_) hi.ords
  show s1.bal _ d + s1.bal _ d = liveSum cfg a q d s.orders + s1.bal _ d
  rw [State.send_bal_other h1 (.pairEscrow a q) nofun nofun, State.send_bal_other h1 (.mOut a q) nofun nofun,
    State.send_bal_other h1 (.mIn a q) nofun nofun]
  exact hi.pairEsc a q d

theorem createPool_inv {cfg : Cfg} (hc : CfgOk cfg) {s s' : State} {app creator pair : Nat} {ranged : Bool} {dx dy ammPs : Nat}
    {ext : Bool} (hi : Inv cfg s) (h : createPool cfg s app creator pair ranged dx dy ammPs ext = some s') : Inv cfg s' := by
  have fr := (Atom.createPool h).poolStep trivial
  obtain ⟨ac, p, s1, s2, s3, s4, q, hac, hp, hqd, h1, h2, h3, h4, rfl⟩ := createPool_eff h
  have hqps : 0 < q.ps := by
    rw [hqd]; exact Nat.lt_of_lt_of_le (hc ac (app?_mem hac)) (Nat.le_max_right _ _)
  -- the pool coins are minted into the module account and leave it at once: only creator, reserve and fee collector move
  have key : ∀ x : Acct, (∀ n, x ≠ .user n) → (∀ a b, x ≠ .reserve a b) → (∀ a, x ≠ .feeColl a) → ∀ d, s4.bal x d = s.bal x d := by
    intro x hu hr hf d
    have e4 := State.bal_send h4 x d
    have em := State.bal_credit s3 .module (.pool app q.id) q.ps x d
    rw [if_neg fun e : Acct.user creator = x ∧ Denom.pool app q.id = d => hu _ e.1.symm] at e4
    rw [State.send_bal_other h3 x (hu _) (hf _), State.send_bal_other h2 x (hu _) (hr _ _),
      State.send_bal_other h1 x (hu _) (hr _ _)] at em
    exact Nat.add_right_cancel (e4.trans em)
  refine hi.of_poolStep fr (hi.escrow_of (key .gEscrow nofun nofun nofun) rfl rfl)
    (hi.farm_of (fun a q' => key .module nofun nofun nofun _) rfl) ?_ hi.qpos
  intro x hx h0
  rcases List.mem_append.mp hx with hx | hx
  · exact hi.zero x hx h0
  · rw [List.mem_singleton.mp hx] at h0; omega

theorem farm_inv {cfg : Cfg} {s s' : State} {app user pool amt : Nat} {ext : Bool} (hi : Inv cfg s)
    (h : farm cfg s app user pool amt ext = some s') : Inv cfg s' := by
  have fr := (Atom.farm h).poolStep trivial
  obtain ⟨s1, hamt, h1, rfl⟩ := farm_eff h
  have hbase : ∀ d, s1.bal .gEscrow d = s.bal .gEscrow d := fun d => State.send_bal_other h1 _ nofun nofun
  have hmod := fun a q => State.bal_send_to h1 nofun (.pool a q)
  rcases hf0 : findBy (isFarmer app pool user) s.farmers with _ | f0 <;> rw [hf0] at fr
  · refine hi.of_poolStep fr (hi.escrow_of hbase rfl rfl) ?_ hi.zero ?_
    · intro a q
      show s1.bal .module (.pool a q) = farmSum a q (s.farmers ++ [_])
      have hinv := hi.farm a q
      rw [hmod, farmSum_snoc]
      simp only [farmTerm, qTotal, Nat.add_zero, Denom.pool.injEq]
      omega
    · intro f hf q hq
      rcases List.mem_append.mp hf with hf | hf
      · exact hi.qpos f hf q hq
      · rw [List.mem_singleton.mp hf] at hq
        rw [List.mem_singleton.mp hq]; exact hamt
  · obtain ⟨hfa, hfp, -⟩ := isFarmer_true (findBy_some_prop hf0).1
    refine hi.of_poolStep fr (hi.escrow_of hbase rfl rfl) ?_ hi.zero ?_
    · intro a q
      show s1.bal .module (.pool a q) = farmSum a q (modBy _ _ s.farmers)
      have hs := farmSum_modBy a q (fun f => { f with queued := f.queued ++ [(amt, s.now)] }) hf0
      have hinv := hi.farm a q
      rw [hmod]
      simp only [farmTerm, qTotal_append, qTotal, Nat.add_zero, hfa, hfp] at hs
      simp only [Denom.pool.injEq]
      by_cases hk : app = a ∧ pool = q <;> simp only [hk, and_self, if_true, if_false] at hs ⊢ <;> omega
    · refine forall_modBy hi.qpos fun x hx q hq => ?_
      rcases List.mem_append.mp hq with hq | hq
      · exact hi.qpos x (findBy_some_prop hx).2 q hq
      · rw [List.mem_singleton.mp hq]; exact hamt

theorem unfarm_inv {cfg : Cfg} {s s' : State} {app user pool amt : Nat} {ext : Bool} (hi : Inv cfg s)
    (h : unfarm cfg s app user pool amt ext = some s') : Inv cfg s' := by
  have fr := (Atom.unfarm h).poolStep trivial
  obtain ⟨f, s1, hf, htot, hact, h1, rfl⟩ := unfarm_eff h
  obtain ⟨hfa, hfp, -⟩ := isFarmer_true (findBy_some_prop hf).1
  have hdk := unfarm_queue_left f.queued amt f.active (hi.qpos f (findBy_some_prop hf).2) htot
  refine hi.of_poolStep fr (hi.escrow_of (fun d => State.send_bal_other h1 _ nofun nofun) rfl rfl) ?_ hi.zero ?_
  · intro a q
    show s1.bal .module (.pool a q) = farmSum a q (modBy _ _ s.farmers)
    have hs := farmSum_modBy a q
      (fun f' => { f' with queued := keepNonzero (deduct f.queued amt).1, active := f'.active - (deduct f.queued amt).2 }) hf
    have hinv := hi.farm a q
    have hmod := State.bal_send_from h1 nofun (.pool a q)
    simp only [farmTerm, hfa, hfp] at hs
    simp only [Denom.pool.injEq] at hmod
    by_cases hk : app = a ∧ pool = q
    · rw [if_pos hk, if_pos hk] at hs; rw [if_pos hk] at hmod; omega
    · rw [if_neg hk, if_neg hk] at hs; rw [if_neg hk] at hmod; omega
  · exact forall_modBy hi.qpos fun x _ q hq => hdk.1 q hq

/-- (the migration moves no coin and keeps every amount of every record; the only field it rewrites that the invariant reads is
the order type, and `limit` and `market` orders carry the same fee reserve) -/
theorem migrate_inv {cfg : Cfg} {s s' : State} (hi : Inv cfg s) (h : migrate cfg s = some s') : Inv cfg s' := by
  obtain ⟨hty, rfl⟩ := migrate_eff h
  refine ⟨hi.escrow, ?_, hi.farm, ?_, hi.qpos, ?_⟩
  · intro a p d
    show s.bal (.pairEscrow a p) d + s.bal (.mOut a p) d = liveSum cfg a p d (s.orders.map _) + s.bal (.mIn a p) d
    unfold liveSum
    rw [sumOver_map]
    · exact hi.pairEsc a p d
    · intro o ho
      have := hty o ho
      split
      · simp [liveTerm, feeRes, this]
      · rfl
  · intro q hq
    obtain ⟨q0, hq0, rfl⟩ := List.mem_map.mp hq
    have := hi.zero q0 hq0
    split
    · exact this
    · exact this
  · intro o ho
    obtain ⟨o0, ho0, rfl⟩ := List.mem_map.mp ho
    have hok := hi.ords o0 ho0
    have hm := hty o0 ho0
    split
    · simpa [OrderOk, feeRes, fwdSpec, hm] using hok
    · exact hok

theorem Atom.inv {cfg : Cfg} (hc : CfgOk cfg) {k : Kind} {s s' : State} (h : Atom cfg k s s') (hi : Inv cfg s) : Inv cfg s' := by
  cases h with
  | block => exact hi.with_block _ _
  | createPair h => exact createPair_inv hi h
  | place h => exact placeOrder_inv hi h
  | mmOrder h => exact mmOrder_inv hi h
  | cancelMM h => exact cancelMMCore_inv hi h
  | finish hst h => exact finishOrder_inv hst hi h
  | prePass h => exact prePass_inv hi h
  | nextBatch => exact hi.modPair _ _ _
  | markDepleted => exact markDepleted_inv hi _
  | depositReq h => exact depositReq_inv hi h
  | withdrawReq h => exact withdrawReq_inv hi h
  | execDeposit h => exact execDeposit_inv hi h
  | execWithdraw h => exact execWithdraw_inv hi h
  | farm h => exact farm_inv hi h
  | unfarm h => exact unfarm_inv hi h
  | processQueued => exact processQueued_inv hi _
  | poolPayIn h => exact poolPayIn_inv hi h
  | fill h => exact fillOrder_inv hi h
  | payOut ht h => exact payOut_inv hi ht h
  | prune => exact beginBlock_inv hi _
  | createPool h => exact createPool_inv hc hi h
  | migrate h => exact migrate_inv hi h

theorem step_inv {cfg : Cfg} (hc : CfgOk cfg) {s s' : State} {op : Op} (hi : Inv cfg s) (h : step cfg s op = some s') :
    Inv cfg s' :=
  step_rel (R := fun s s' => Inv cfg s → Inv cfg s') (fun _ h => h) (fun h1 h2 h => h2 (h1 h)) (fun _ a => a.inv hc) h hi

theorem runT_inv {cfg : Cfg} (hc : CfgOk cfg) (ops : List Op) (s : State) (hi : Inv cfg s) : Inv cfg (runT cfg s ops) :=
  runT_keeps (fun a => a.inv hc) hi

theorem genesis_bal (funds : List (Nat × Nat × Nat)) (a : Acct) (d : Denom) (ha : ∀ n, a ≠ .user n) :
    (genesis funds).bal a d = 0 := by
  unfold genesis State.bal
  have : ∀ (b : Bank), b.get (a, d) = 0 → (funds.foldl (fun b f => b.add (.user f.1) (.coin f.2.1) f.2.2) b).get (a, d) = 0 := by
    induction funds with
    | nil => intro b hb; exact hb
    | cons f t ih =>
      intro b hb
      apply ih
      rw [Bank.get_add]
      have : ¬ ((Acct.user f.1, Denom.coin f.2.1) = (a, d)) := by
        intro e; exact ha f.1 (Prod.mk.inj e).1.symm
      simp [this, hb]
  exact this [] rfl

theorem genesis_inv (cfg : Cfg) (funds : List (Nat × Nat × Nat)) : Inv cfg (genesis funds) := by
  refine ⟨?_, ?_, ?_, ?_, ?_, ?_⟩
  · intro d; rw [genesis_bal _ _ _ (by simp)]; rfl
  · intro a p d
    rw [genesis_bal _ _ _ (by simp), genesis_bal _ _ _ (by simp), genesis_bal _ _ _ (by simp)]; rfl
  · intro a p; rw [genesis_bal _ _ _ (by simp)]; rfl
  · intro q hq; cases hq
  · intro f hf; cases hf
  · intro o ho; cases ho

theorem genesis_run_inv {cfg : Cfg} (hc : CfgOk cfg) (funds : List (Nat × Nat × Nat)) (ops : List Op) :
    Inv cfg (runT cfg (genesis funds) ops) :=
  runT_inv hc ops _ (genesis_inv cfg funds)

end Comdex.LiqLedger
