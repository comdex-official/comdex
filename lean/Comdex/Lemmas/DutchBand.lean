import Comdex.Lemmas.DutchV2Step
/-!
`Band e a`: the record's posted price is at most its start price and at least its end price minus the proved slack
(`(price + 1)·tau ≥ end·tau − (start − end)`, with `end = start·discount` and `tau` recomputed from the record as the code does) — in
EVERY reachable state, the block hook of an app under emergency shutdown included.  The one thing the band needs is that the price
function is never evaluated beyond the end of the window: `iterate` is only reached with `now ≤ EndTime`, or it restarts.  An
iterator that keeps updating a non-vault auction past `EndTime` under shutdown breaks exactly this (`seeded/s81`).  Block times must
not run backwards (`Chrono`): the elapsed time the price function sees is then never negative.
-/
namespace Comdex.DutchV2
open Comdex.DutchPrice

structure Band (e : Env) (a : Auc) : Prop where
  init_nonneg : (0 : Int) ≤ a.init
  window : a.end_ = a.start + e.T
  le_start : (a.price : Int) ≤ a.init
  ge_end : ∀ endP t, endPrice a.init e.discount = .ok endP → tau a.init endP e.T = .ok t →
      (endP : Int) * t - (a.init - endP) ≤ (a.price + 1) * t

/-- the decidable form the driver evaluates on REAL records -/
theorem monBand_of_band {e : Env} {a : Auc} (h : Band e a) : monBand e a = true := by
  unfold monBand
  simp only [Bool.and_eq_true, decide_eq_true_eq]
  refine ⟨h.le_start, ?_⟩
  split
  · rename_i endP he
    split
    · rename_i t ht
      unfold monGeEndSlack
      simp only [decide_eq_true_eq, ge_iff_le]
      exact h.ge_end endP t he ht
    · rfl
  · rfl

theorem endPrice_tau_ok {e : Env} {top endP : Dec} {t : Int} (hw : WfEnv e) (htop : (0 : Int) ≤ top)
    (he : endPrice top e.discount = .ok endP) (ht : tau top endP e.T = .ok t) :
    endP = Dec.mul top e.discount ∧ (0 : Int) ≤ endP ∧ (0 : Int) < top - endP ∧ e.T ≤ t ∧ t = tauVal top endP e.T := by
  cases endPrice_ok he
  obtain ⟨rfl, hne⟩ := tau_ok ht
  obtain ⟨h0, hD⟩ := discount_gap hw htop hne
  exact ⟨rfl, h0, hD, tauVal_ge_T top _ e.T h0 hD hw.T_nonneg, rfl⟩

theorem band_at_start {e : Env} {a : Auc} (hw : WfEnv e) (hi : (0 : Int) ≤ a.init) (hp : a.price = a.init)
    (hwin : a.end_ = a.start + e.T) : Band e a := by
  refine ⟨hi, hwin, by rw [hp], ?_⟩
  intro endP t he ht
  obtain ⟨-, h0, hD, hT, -⟩ := endPrice_tau_ok hw hi he ht
  have ht0 : 0 ≤ t := by have := hw.T_nonneg; omega
  rw [hp]
  have h1 : (endP : Int) * t ≤ a.init * t := Int.mul_le_mul_of_nonneg_right (by omega) ht0
  linarith

theorem band_after_update {e : Env} {a : Auc} {p orc ord : Dec} {dur : Int} (hw : WfEnv e) (hb : Band e a)
    (hd0 : 0 ≤ dur) (hdT : dur ≤ e.T) (hp : priceV2 a.init e.discount e.T dur = .ok p) :
    Band e { a with price := p, orc := orc, ord := ord } := by
  obtain ⟨he0, hD, hT, hTt, rfl⟩ := priceV2_update hw hb.init_nonneg hp
  refine ⟨hb.init_nonneg, hb.window, linearVal_le_top _ _ _ hb.init_nonneg (by omega) hd0, fun endP t he ht => ?_⟩
  obtain ⟨rfl, -, -, -, rfl⟩ := endPrice_tau_ok hw hb.init_nonneg he ht
  exact linearVal_ge_end_slack a.init _ e.T dur he0 hD hT hdT

theorem iterate_band {e : Env} {a a' : Auc} {now twaC twaD : Int} {actC actD : Bool}
    (hw : WfEnv e) (hb : Band e a) (hs : a.start ≤ now) (htw : 0 ≤ twaC)
    (h : iterate e a now twaC actC twaD actD = .ok a') : Band e a' ∧ a'.start ≤ now := by
  rcases iterate_cases h with ⟨-, p0, hp0, rfl⟩ | ⟨hnow, p, hp, rfl⟩
  · have hp : (0 : Int) ≤ p0 := by rw [startPrice_ok hp0]; exact Int.mul_nonneg hw.premium_nonneg htw
    exact ⟨band_at_start hw hp rfl rfl, Int.le_refl _⟩
  · have hwin := hb.window
    exact ⟨band_after_update hw hb (by omega) (by omega) hp, hs⟩

/-- `t`: the time of the latest block so far -/
def BandInv (e : Env) (s : St) (t : Int) : Prop := ∀ a, s.auc = some a → Band e a ∧ a.start ≤ t

theorem BandInv.of_auc_eq {e : Env} {s s' : St} {t : Int} (hi : BandInv e s t) (h : s'.auc = s.auc) : BandInv e s' t := by
  intro a ha; rw [h] at ha; exact hi a ha

theorem BandInv.later {e : Env} {s : St} {t t' : Int} (hi : BandInv e s t) (h : t ≤ t') : BandInv e s t' :=
  fun a ha => ⟨(hi a ha).1, Int.le_trans (hi a ha).2 h⟩

theorem apply_band {e : Env} {s s' : St} {a : Auc} {who : Nat} {p : Plan} {auto : Bool} {t : Int}
    (hb : Band e a) (hs : a.start ≤ t) (h : apply e s a who p auto = .ok s') : BandInv e s' t := by
  obtain ⟨-, s1, b1, b2, -, -, -, s2, rfl, hcl⟩ := apply_shape h
  by_cases hc : p.close = true
  · rw [if_pos hc] at hcl
    obtain ⟨s3, b4, -, -, rfl⟩ := hcl
    exact fun a' ha' => by cases ha'
  · rw [if_neg hc] at hcl
    subst hcl
    intro a' ha'
    cases ha'
    exact ⟨⟨hb.init_nonneg, hb.window, hb.le_start, hb.ge_end⟩, hs⟩

theorem placeBid_band {e : Env} {s s' : St} {a : Auc} {who : Nat} {amt dt : Int} {auto : Bool} {t : Int}
    (hb : Band e a) (hs : a.start ≤ t) (h : placeBid e s a who amt dt auto = .ok s') : BandInv e s' t := by
  obtain ⟨p, -, h⟩ := placeBid_ok h
  exact apply_band hb hs h

theorem fillLoop_band {e : Env} {a : Auc} {dt t : Int} (hb : Band e a) (hs : a.start ≤ t) :
    ∀ (l : List LBid) (s s' : St), BandInv e s t → fillLoop e a dt s l = .ok s' → BandInv e s' t := by
  intro l
  induction l with
  | nil => intro s s' hi h; rw [fillLoop_nil h]; exact hi
  | cons hd tl ih =>
    intro s s' hi h
    obtain ⟨pr, who, amt⟩ := hd
    obtain ⟨s1, hs1, rfl | h⟩ := fillLoop_cons h
    · exact placeBid_band hb hs hs1
    · exact ih s1 s' (placeBid_band hb hs hs1) h

/-- block times do not run backwards (`t`: the latest block so far); also carries `0 ≤ twaC` for every block -/
def Chrono : Int → List Op → Prop
  | _, [] => True
  | t, .tick now twaC _ _ _ _ :: r => t ≤ now ∧ 0 ≤ twaC ∧ Chrono now r
  | t, .tickEsm now twaC _ _ _ _ :: r => t ≤ now ∧ 0 ≤ twaC ∧ Chrono now r
  | t, _ :: r => Chrono t r

/-- the time of the latest block of `ops`, `t` if there is none -/
def lastTime : Int → List Op → Int
  | t, [] => t
  | _, .tick now _ _ _ _ _ :: r => lastTime now r
  | _, .tickEsm now _ _ _ _ _ :: r => lastTime now r
  | t, _ :: r => lastTime t r

def Op.block : Op → Option (Int × Int)
  | .tick now twaC .. | .tickEsm now twaC .. => some (now, twaC)
  | _ => none

theorem did_band {e : Env} {s s' : St} {op : Op} {t t' : Int} (hw : WfEnv e) (h : Did e op s s') (hi : BandInv e s t) (ht : t ≤ t')
    (hop : ∀ p, op.block = some p → p.1 = t' ∧ 0 ≤ p.2) : BandInv e s' t' := by
  cases h with
  | skip => exact hi.later ht
  | bid ha h => exact placeBid_band (hi _ ha).1 (Int.le_trans (hi _ ha).2 ht) h
  | update ha hit | updateEsm ha hit =>
    obtain ⟨rfl, htw⟩ := hop _ rfl
    intro a'' h''
    cases h''
    exact iterate_band hw (hi _ ha).1 (Int.le_trans (hi _ ha).2 ht) htw hit
  | esm _ _ ht' =>
    obtain ⟨b, toBurn, fee, -, -, -, -, rfl⟩ := triggerEsm_ok ht'
    exact (hi.later ht).of_auc_eq rfl
  | fill ha h | fillEsm ha h => exact fillLoop_band (hi _ ha).1 (Int.le_trans (hi _ ha).2 ht) _ _ _ (hi.later ht) h
  | deposit => exact (hi.later ht).of_auc_eq rfl

theorem run_band {e : Env} (hw : WfEnv e) :
    ∀ (ops : List Op) (s : St) (t : Int), BandInv e s t → Chrono t ops → BandInv e (run e s ops) (lastTime t ops) := by
  intro ops
  induction ops with
  | nil => intro s t hi _; exact hi
  | cons op ops ih =>
    intro s t hi hc
    obtain ⟨s1, h1, h2⟩ := step_did e s op
    show BandInv e (run e (step e s op) ops) _
    cases op with
    | tick now twaC | tickEsm now twaC =>
      have hb : ∀ p : Int × Int, some (now, twaC) = some p → p.1 = now ∧ 0 ≤ p.2 := fun p hp => by cases hp; exact ⟨rfl, hc.2.1⟩
      exact ih _ _ (did_band hw h2 (did_band hw h1 hi hc.1 hb) (Int.le_refl _) hb) hc.2.2
    | bid | reserve | limit =>
      have hb : ∀ p : Int × Int, none = some p → p.1 = t ∧ 0 ≤ p.2 := fun p hp => by cases hp
      exact ih _ _ (did_band hw h2 (did_band hw h1 hi (Int.le_refl _) hb) (Int.le_refl _) hb) hc

end Comdex.DutchV2
