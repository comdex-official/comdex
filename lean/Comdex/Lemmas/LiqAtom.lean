import Comdex.Lemmas.LiqFrame
import Comdex.Lemmas.Fold
/-!
What an accepted operation of the liquidity ledger model is made of.  `Atom` lists the units of which the invariants and ledgers
are proved directly: the base handlers and the bookkeeping updates of a batch that no handler shares.  Every atom has a `Kind`: the
side of the module it works on (`LiqFrame`), a payment of a batch, or one of the two operations that rewrite whole tables.  Every
accepted operation is a sequence of atoms of the kinds it has (`step_atoms`, `Op.has`), so a reflexive transitive relation on states
(an invariant `P` as `fun s s' => P s → P s'`) that holds of every atom holds of every operation and history (`step_rel`,
`runT_keeps`).  An aspect that fails for some kind says so in its lemma about atoms, and `Op.has` names the operations of that kind.
-/
namespace Comdex.LiqLedger

/-- `exec a pl`: the execution of a deposit / withdrawal request of pool `(a, pl)`; `create a`: the creation of a pool of app `a` -/
inductive Kind where
  | order | pool | exec (a pl : Nat) | batch | prune | create (a : Nat) | migrate

def Kind.poolSide : Kind → Prop
  | .pool | .exec .. | .create _ => True
  | _ => False

/-- (`payOut` is the three payments out of a pair escrow in a batch — to the owner of a filled order, to a pool reserve, to the dust
collector — which the model books the same way: a send to a `payee` and the same amount credited to `mOut`) -/
inductive Atom (cfg : Cfg) : Kind → State → State → Prop
  | block (s : State) (h : Nat) (t : Int) : Atom cfg .order s { s with height := h, now := t }
  | createPair {s s' : State} {app creator : Nat} {base quote : Denom} {ext : Bool} :
      createPair cfg s app creator base quote ext = some s' → Atom cfg .order s s'
  | place {s s' : State} {app user pair : Nat} {typ : OType} {buy : Bool} {msgOffer msgPrice price amount : Nat} {lifespan : Int}
      {ext : Bool} : placeOrder cfg s app user pair typ buy msgOffer msgPrice price amount lifespan ext = some s' → Atom cfg .order s s'
  | mmOrder {s s' : State} {app user pair : Nat} {buys sells : List Tick} {lifespan : Int} {ext : Bool} :
      mmOrder cfg s app user pair buys sells lifespan ext = some s' → Atom cfg .order s s'
  | cancelMM {s s' : State} {app user : Nat} {p : Pair} {skip : Bool} : cancelMMCore cfg s app user p skip = some s' → Atom cfg .order s s'
  | finish {s s' : State} {k : OKey} {st : OStatus} : st.live = false → finishOrder cfg s k st = some s' → Atom cfg .order s s'
  | prePass {s s' : State} {k : OKey} : prePass cfg s k = some s' → Atom cfg .order s s'
  | nextBatch (s : State) (a p : Nat) (l : Option Nat → Option Nat) :
      Atom cfg .order s (s.modPair a p fun q => { q with curBatch := q.curBatch + 1, lastPrice := l q.lastPrice })
  | markDepleted (s : State) (p : Pair) : Atom cfg .pool s (markDepleted s p)
  | depositReq {s s' : State} {app user pool dx dy : Nat} {ext : Bool} {id : Nat} :
      depositReq cfg s app user pool dx dy ext = some (s', id) → Atom cfg .pool s s'
  | withdrawReq {s s' : State} {app user pool pc : Nat} {ext : Bool} {id : Nat} :
      withdrawReq cfg s app user pool pc ext = some (s', id) → Atom cfg .pool s s'
  | execDeposit {s s' : State} {a pl i ax ay pc : Nat} : execDeposit s a pl i ax ay pc = some s' → Atom cfg (.exec a pl) s s'
  | execWithdraw {s s' : State} {a pl i x y : Nat} : execWithdraw s a pl i x y = some s' → Atom cfg (.exec a pl) s s'
  | farm {s s' : State} {app user pool amt : Nat} {ext : Bool} : farm cfg s app user pool amt ext = some s' → Atom cfg .pool s s'
  | unfarm {s s' : State} {app user pool amt : Nat} {ext : Bool} : unfarm cfg s app user pool amt ext = some s' → Atom cfg .pool s s'
  | processQueued (s : State) (app : Nat) : Atom cfg .pool s (processQueued cfg s app)
  | poolPayIn {s s' : State} {p : Pair} {f : PoolFlow} : poolPayIn p s f = some s' → Atom cfg .batch s s'
  | fill {s s' : State} {p : Pair} {f : Fill} : fillOrder cfg p s f = some s' → Atom cfg .batch s s'
  | payOut {s s1 : State} {a p : Nat} {t : Acct} {d : Denom} {n : Nat} : t.payee = true → s.send (.pairEscrow a p) t d n = some s1 →
      Atom cfg .batch s (s1.credit (.mOut a p) d n)
  | prune (s : State) (app : Nat) : Atom cfg .prune s (beginBlock s app)
  | createPool {s s' : State} {app creator pair : Nat} {ranged : Bool} {dx dy ammPs : Nat} {ext : Bool} :
      createPool cfg s app creator pair ranged dx dy ammPs ext = some s' → Atom cfg (.create app) s s'
  | migrate {s s' : State} : migrate cfg s = some s' → Atom cfg .migrate s s'

theorem Atom.orderStep {cfg : Cfg} {s s' : State} (h : Atom cfg .order s s') : OrderStep s s' := by
  cases h with
  | block | nextBatch => exact .of_eq rfl rfl rfl rfl rfl
  | cancelMM h => exact cancelMMCore_orderStep h
  | finish _ h => exact finishOrder_orderStep h
  | createPair h =>
    obtain ⟨ac, s1, h1, rfl⟩ := createPair_eff h
    exact (OrderStep.of_send rfl h1).of_bank rfl rfl rfl rfl rfl
  | place h =>
    obtain ⟨ac, p, s1, -, -, -, -, h1, rfl⟩ := placeOrder_eff h
    exact (OrderStep.of_send rfl h1).of_bank rfl rfl rfl rfl rfl
  | mmOrder h =>
    obtain ⟨p, s1, s2, s3, -, hc, h2, h3, rfl⟩ := mmOrder_eff h
    exact (cancelMMCore_orderStep hc).trans (((OrderStep.of_send rfl h2).trans (.of_send rfl h3)).of_bank rfl rfl rfl rfl rfl)
  | prePass h =>
    obtain ⟨o, -, ⟨-, rfl⟩ | ⟨-, rfl⟩ | ⟨-, hf⟩⟩ := prePass_eff h
    · exact .of_eq rfl rfl rfl rfl rfl
    · exact .refl _
    · exact finishOrder_orderStep hf

theorem Atom.poolStep {cfg : Cfg} {k : Kind} {s s' : State} (h : Atom cfg k s s') (hk : k.poolSide) : PoolStep s s' := by
  cases h with
  | markDepleted | processQueued => exact .of_eq rfl rfl rfl rfl
  | depositReq h =>
    obtain ⟨q, p, s1, s2, -, -, h1, h2, rfl⟩ := depositReq_eff h
    exact ((PoolStep.of_send rfl h1).trans (.of_send rfl h2)).of_bank rfl rfl rfl rfl
  | withdrawReq h =>
    obtain ⟨q, s1, -, h1, rfl⟩ := withdrawReq_eff h
    exact (PoolStep.of_send rfl h1).of_bank rfl rfl rfl rfl
  | @execDeposit s _ a pl _ _ _ pc h =>
    obtain ⟨r, -, hx⟩ := execDeposit_exec h
    refine hx.rel (.refl _) PoolStep.trans (.of_eq rfl rfl rfl rfl) failDep_poolStep ?_
    rintro _ _ - ⟨-, -, -, s2, s3, s4, s5, s6, h2, h3, h4, h5, h6, rfl⟩
    exact (PoolStep.trans (⟨.mint _ _ _ _ rfl, rfl, rfl, rfl⟩ : PoolStep s (s.mint a pl pc)) ((PoolStep.of_send rfl h2).trans
      ((PoolStep.of_send rfl h3).trans ((PoolStep.of_send rfl h4).trans ((PoolStep.of_send rfl h5).trans (.of_send rfl h6)))))).of_bank
        rfl rfl rfl rfl
  | execWithdraw h =>
    obtain ⟨r, -, hx⟩ := execWithdraw_exec h
    refine hx.rel (.refl _) PoolStep.trans (.of_eq rfl rfl rfl rfl) failWdr_poolStep ?_
    rintro _ _ - ⟨s1, s2, s3, s4, h1, h2, h3, h4, -, rfl⟩
    exact ⟨(((PoolStep.of_send rfl h1).trans ((PoolStep.of_send rfl h2).trans (.of_send rfl h3))).bank.trans (.of_burn rfl h4) :
      Moves _ _ s4.bank), rfl, rfl, rfl⟩
  | farm h =>
    obtain ⟨s1, -, h1, rfl⟩ := farm_eff h
    exact (PoolStep.of_send rfl h1).of_bank rfl rfl rfl rfl
  | unfarm h =>
    obtain ⟨f, s1, -, -, -, h1, rfl⟩ := unfarm_eff h
    exact (PoolStep.of_send rfl h1).of_bank rfl rfl rfl rfl
  | createPool h =>
    obtain ⟨ac, p, s1, s2, s3, s4, q, -, -, -, h1, h2, h3, h4, rfl⟩ := createPool_eff h
    exact ((PoolStep.of_send rfl h1).trans ((PoolStep.of_send rfl h2).trans ((PoolStep.of_send rfl h3).trans
      (PoolStep.trans (s2 := s3.credit _ _ _) ⟨.mint _ _ _ _ rfl, rfl, rfl, rfl⟩ (.of_send rfl h4))))).of_bank rfl rfl rfl rfl
  | _ => exact False.elim hk

theorem Atom.poolSame {cfg : Cfg} {s s' : State} (h : Atom cfg .batch s s') : PoolSame s s' := by
  cases h with
  | poolPayIn h => exact (poolPayIn_bankOnly h).poolSame
  | fill h => exact fillOrder_poolSame h
  | payOut _ h => exact ((State.send_fields h).trans (.credit ..)).poolSame

inductive Atoms (cfg : Cfg) (K : Kind → Prop) : State → State → Prop
  | refl (s : State) : Atoms cfg K s s
  | step {k : Kind} {s s1 s' : State} : Atom cfg k s s1 → K k → Atoms cfg K s1 s' → Atoms cfg K s s'

theorem Atoms.trans {cfg : Cfg} {K : Kind → Prop} {s1 s2 s3 : State} (h1 : Atoms cfg K s1 s2) (h2 : Atoms cfg K s2 s3) :
    Atoms cfg K s1 s3 := by
  induction h1 with
  | refl _ => exact h2
  | step a hk _ ih => exact .step a hk (ih h2)

theorem Atom.one {cfg : Cfg} {K : Kind → Prop} {k : Kind} {s s' : State} (h : Atom cfg k s s') (hk : K k) : Atoms cfg K s s' :=
  .step h hk (.refl _)

theorem Atoms.rel {cfg : Cfg} {K : Kind → Prop} {R : State → State → Prop} (refl : ∀ s, R s s)
    (trans : ∀ {a b c}, R a b → R b c → R a c) (atom : ∀ {k s s'}, K k → Atom cfg k s s' → R s s') {s s' : State}
    (h : Atoms cfg K s s') : R s s' := by
  induction h with
  | refl _ => exact refl _
  | step a hk _ ih => exact trans (atom hk a) ih

theorem Atoms.fold {cfg : Cfg} {K : Kind → Prop} {α : Type} {f : State → α → Option State} {l : List α}
    (hf : ∀ s x s', x ∈ l → f s x = some s' → Atoms cfg K s s') {s s' : State} (h : foldOpt f s l = some s') : Atoms cfg K s s' :=
  foldOpt_rel_mem Atoms.refl Atoms.trans hf h

theorem Ended.atoms {cfg : Cfg} {K : Kind → Prop} (ho : K .order) {s s' : State} (h : Ended cfg s s') : Atoms cfg K s s' :=
  h.rel Atoms.refl Atoms.trans fun hst hf => (Atom.finish hst hf).one ho

theorem applyMatch_atoms {cfg : Cfg} {K : Kind → Prop} (hb : K .batch) {s s' : State} {p : Pair} {m : MatchIn}
    (h : applyMatch cfg s p m = some s') : Atoms cfg K s s' := by
  obtain ⟨s1, s2, s3, s4, s5, h1, h2, h3, h4, h5, rfl⟩ := applyMatch_eff h
  refine (Atoms.fold (fun _ _ _ _ hh => (Atom.poolPayIn hh).one hb) h1).trans ((Atoms.fold (fun _ _ _ _ hh => (Atom.fill hh).one hb) h2).trans
    ((Atoms.fold (fun _ _ _ _ hh => ?_) h3).trans ((Atoms.fold (fun _ _ _ _ hh => ?_) h4).trans ((Atom.payOut rfl h5).one hb))))
  · obtain ⟨o, t, -, ht, rfl⟩ := fillPayOut_eff hh; exact (Atom.payOut rfl ht).one hb
  · obtain ⟨t, ht, rfl⟩ := poolPayOut_eff hh; exact (Atom.payOut rfl ht).one hb

theorem execMatching_atoms {cfg : Cfg} {K : Kind → Prop} (ho : K .order) (hp : K .pool) (hb : K .batch)
    {ms : List MatchIn} {s s' : State} {pk : Nat × Nat} (h : execMatching cfg ms s pk = some s') : Atoms cfg K s s' := by
  obtain ⟨p, s1, s3, -, h1, h3, rfl⟩ := execMatching_eff h
  exact (Atoms.fold (fun _ _ _ _ hh => (Atom.prePass hh).one ho) h1).trans (((Atom.markDepleted s1 p).one hp).trans
    ((applyMatch_atoms hb h3).trans ((Atom.nextBatch s3 p.app p.id fun old =>
      match ((ms.find? (·.pair == p.id)).getD (emptyMatch p.id)).last with | some x => some x | none => old).one ho)))

/-- (the requests an app's batch executes are those of its own pools: the keys come from the records filtered by app) -/
theorem endBlock_atoms {cfg : Cfg} {K : Kind → Prop} {app : Nat} (ho : K .order) (hp : K .pool) (hb : K .batch)
    (he : ∀ pl, K (.exec app pl)) {s s' : State} {ms : List MatchIn} {dins : List DepIn} {wins : List WdrIn}
    (h : endBlock cfg s app ms dins wins = some s') : Atoms cfg K s s' := by
  obtain rfl | ⟨s1, s2, s3, s4, h1, h2, h3, h4, rfl⟩ := endBlock_eff h
  · exact .refl _
  refine (Atoms.fold (fun _ _ _ _ hh => execMatching_atoms ho hp hb hh) h1).trans (((sweepFold_ended h2).atoms ho).trans
    ((Atoms.fold (fun _ _ _ hx hh => ?_) h3).trans ((Atoms.fold (fun _ _ _ hx hh => ?_) h4).trans ((Atom.processQueued s4 app).one hp))))
  · obtain ⟨r, hr, rfl⟩ := List.mem_map.mp hx
    exact (Atom.execDeposit hh).one (eq_of_beq (List.mem_filter.mp hr).2 ▸ he r.pool)
  · obtain ⟨r, hr, rfl⟩ := List.mem_map.mp hx
    exact (Atom.execWithdraw hh).one (eq_of_beq (List.mem_filter.mp hr).2 ▸ he r.pool)

/-- operation `op` can contain atoms of kind `k`: a message stays on one side of the module; the batch of an app works on both,
makes the payments of the match results and executes requests of the app's own pools -/
def Op.has (op : Op) : Kind → Prop
  | .order => match op with
    | .block .. | .createPair .. | .order .. | .mmOrder .. | .cancel .. | .cancelAll .. | .cancelMM .. | .endBlock .. => True
    | _ => False
  | .pool => match op with
    | .deposit .. | .withdraw .. | .farm .. | .unfarm .. | .depositAndFarm .. | .unfarmAndWithdraw .. | .endBlock .. => True
    | _ => False
  | .exec a pl => (∃ ms ds ws, op = .endBlock a ms ds ws) ∨ (∃ u dx dy ax ay pc e, op = .depositAndFarm a u pl dx dy ax ay pc e) ∨
      ∃ u n x y e, op = .unfarmAndWithdraw a u pl n x y e
  | .batch => ∃ a ms ds ws, op = .endBlock a ms ds ws
  | .prune => ∃ a, op = .beginBlock a
  | .create a => ∃ c p r dx dy ps e, op = .createPool a c p r dx dy ps e
  | .migrate => op = .migrate

theorem step_deposit {cfg : Cfg} {s s' : State} {a u p dx dy : Nat} {e : Bool} (h : step cfg s (.deposit a u p dx dy e) = some s') :
    ∃ id, depositReq cfg s a u p dx dy e = some (s', id) := by
  simp only [step, Option.map_eq_some_iff] at h
  obtain ⟨⟨s1, id⟩, h1, rfl⟩ := h
  exact ⟨id, h1⟩

theorem step_withdraw {cfg : Cfg} {s s' : State} {a u p pc : Nat} {e : Bool} (h : step cfg s (.withdraw a u p pc e) = some s') :
    ∃ id, withdrawReq cfg s a u p pc e = some (s', id) := by
  simp only [step, Option.map_eq_some_iff] at h
  obtain ⟨⟨s1, id⟩, h1, rfl⟩ := h
  exact ⟨id, h1⟩

theorem step_atoms {cfg : Cfg} {s s' : State} {op : Op} (h : step cfg s op = some s') : Atoms cfg op.has s s' := by
  cases op with
  | block ht t => cases h; exact (Atom.block s ht t).one trivial
  | createPair => exact (Atom.createPair h).one trivial
  | createPool => exact (Atom.createPool h).one ⟨_, _, _, _, _, _, _, rfl⟩
  | deposit => obtain ⟨_, h⟩ := step_deposit h; exact (Atom.depositReq h).one trivial
  | withdraw => obtain ⟨_, h⟩ := step_withdraw h; exact (Atom.withdrawReq h).one trivial
  | order => obtain ⟨_, _, _, -, -, -, h⟩ := placeOrderMsg_eff h; exact (Atom.place h).one trivial
  | mmOrder => obtain ⟨_, -, h⟩ := mmOrderMsg_eff h; exact (Atom.mmOrder h).one trivial
  | cancel => exact (cancelOrder_ended h).atoms trivial
  | cancelAll => exact (cancelAll_ended h).atoms trivial
  | cancelMM => obtain ⟨_, -, h⟩ := cancelMM_eff h; exact (Atom.cancelMM h).one trivial
  | farm => exact (Atom.farm h).one trivial
  | unfarm => exact (Atom.unfarm h).one trivial
  | depositAndFarm =>
    obtain ⟨s1, id, s2, h1, h2, h3⟩ := depositAndFarm_eff h
    exact .step (.depositReq h1) trivial (.step (.execDeposit h2) (.inr (.inl ⟨_, _, _, _, _, _, _, rfl⟩)) ((Atom.farm h3).one trivial))
  | unfarmAndWithdraw =>
    obtain ⟨s1, s2, id, h1, h2, h3⟩ := unfarmAndWithdraw_eff h
    exact .step (.unfarm h1) trivial (.step (.withdrawReq h2) trivial ((Atom.execWithdraw h3).one (.inr (.inr ⟨_, _, _, _, _, rfl⟩))))
  | endBlock => exact endBlock_atoms trivial trivial ⟨_, _, _, _, rfl⟩ (fun _ => .inl ⟨_, _, _, rfl⟩) h
  | beginBlock a => cases h; exact (Atom.prune s a).one ⟨a, rfl⟩
  | migrate => exact (Atom.migrate h).one rfl

theorem step_rel {cfg : Cfg} {R : State → State → Prop} (refl : ∀ s, R s s) (trans : ∀ {a b c}, R a b → R b c → R a c)
    {s s' : State} {op : Op} (atom : ∀ {k s s'}, op.has k → Atom cfg k s s' → R s s') (h : step cfg s op = some s') : R s s' :=
  (step_atoms h).rel refl trans atom

theorem stepT_cases (cfg : Cfg) (s : State) (op : Op) : stepT cfg s op = s ∨ step cfg s op = some (stepT cfg s op) :=
  skips_getD _ s op

theorem runT_keeps {cfg : Cfg} {P : State → Prop} (atom : ∀ {k s s'}, Atom cfg k s s' → P s → P s') {s : State} {ops : List Op}
    (hs : P s) : P (runT cfg s ops) :=
  foldl_skips (skips_getD (step cfg)) (Q := fun _ => True) (fun hp _ a => step_rel (R := fun s s' => P s → P s') (fun _ h => h)
    (fun h1 h2 h => h2 (h1 h)) (fun _ => atom) a hp) hs fun _ _ => trivial

end Comdex.LiqLedger
