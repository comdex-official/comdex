import Comdex.Model.LiqLedger
/-!
The farming queue of one farmer (oldest entry first): its total, and the unfarm loop of the code (`deduct` followed by the
"stop at the first zero" copy `keepNonzero`, rewards.go:411-432) against its specification `takeNewest`: the loop takes
from the newest entries first and leaves for the active position only what the whole queue cannot cover.
-/
namespace Comdex.LiqLedger

theorem qTotal_filter (P : Nat × Int → Bool) (l : List (Nat × Int)) :
    qTotal (l.filter P) + qTotal (l.filter fun q => !P q) = qTotal l := by
  induction l with
  | nil => rfl
  | cons x t ih =>
    by_cases hx : P x = true
    · simp [List.filter, hx, qTotal]; omega
    · have : P x = false := by simpa using hx
      simp [List.filter, this, qTotal]; omega

theorem qTotal_append (l m : List (Nat × Int)) : qTotal (l ++ m) = qTotal l + qTotal m := by
  induction l with
  | nil => simp [qTotal]
  | cons x t ih => simp [qTotal, ih]; omega

theorem qTotal_reverse (l : List (Nat × Int)) : qTotal l.reverse = qTotal l := by
  induction l with
  | nil => rfl
  | cons x t ih => rw [List.reverse_cons, qTotal_append, ih, qTotal, qTotal, qTotal, Nat.add_zero, Nat.add_comm]

/-- specification on the queue listed newest first -/
def takeNewest : List (Nat × Int) → Nat → List (Nat × Int)
  | [], _ => []
  | (a, t) :: rest, r =>
    if r = 0 then (a, t) :: rest
    else if r < a then (a - r, t) :: rest
    else takeNewest rest (r - a)

theorem takeNewest_total : ∀ (m : List (Nat × Int)) (r : Nat), qTotal (takeNewest m r) = qTotal m - r
  | [], r => (Nat.zero_sub r).symm
  | (a, t) :: rest, r => by
    unfold takeNewest
    by_cases h0 : r = 0
    · rw [if_pos h0, h0, Nat.sub_zero]
    · rw [if_neg h0]
      by_cases h1 : r < a
      · rw [if_pos h1]; exact (Nat.sub_add_comm (Nat.le_of_lt h1)).symm
      · obtain ⟨k, rfl⟩ := Nat.exists_eq_add_of_le (Nat.le_of_not_lt h1)
        rw [if_neg h1, takeNewest_total rest, qTotal, Nat.add_sub_cancel_left, Nat.add_sub_add_left]

theorem takeNewest_pos : ∀ (m : List (Nat × Int)) (r : Nat), (∀ q ∈ m, 0 < q.1) → ∀ q ∈ takeNewest m r, 0 < q.1
  | [], _, _ => nofun
  | (a, t) :: rest, r, h => by
    unfold takeNewest
    by_cases h0 : r = 0
    · rw [if_pos h0]; exact h
    · rw [if_neg h0]
      by_cases h1 : r < a
      · rw [if_pos h1]
        intro q hq
        rcases List.mem_cons.mp hq with rfl | hq
        · exact Nat.sub_pos_of_lt h1
        · exact h q (List.mem_cons_of_mem _ hq)
      · rw [if_neg h1]
        exact takeNewest_pos rest (r - a) fun q hq => h q (List.mem_cons_of_mem _ hq)

theorem deduct_zero (l : List (Nat × Int)) : deduct l 0 = (l, 0) := by
  induction l with
  | nil => rfl
  | cons x t ih => simp [deduct, ih]

theorem deduct_cons (x : Nat × Int) (t : List (Nat × Int)) (r : Nat) :
    deduct (x :: t) r =
      if (deduct t r).2 = 0 then (x :: (deduct t r).1, 0)
      else if (deduct t r).2 ≤ x.1 then ((x.1 - (deduct t r).2, x.2) :: (deduct t r).1, 0)
      else ((0, x.2) :: (deduct t r).1, (deduct t r).2 - x.1) := rfl

/-- what the unfarm loop leaves for the active position: only what the whole queue could not cover -/
theorem deduct_rest (l : List (Nat × Int)) (r : Nat) : (deduct l r).2 = r - qTotal l := by
  induction l with
  | nil => rfl
  | cons x t ih =>
    rw [deduct_cons, qTotal, Nat.add_comm, ← Nat.sub_sub, ← ih]
    by_cases h0 : (deduct t r).2 = 0
    · rw [if_pos h0, h0, Nat.zero_sub]
    · rw [if_neg h0]
      by_cases h1 : (deduct t r).2 ≤ x.1
      · rw [if_pos h1, Nat.sub_eq_zero_of_le h1]
      · rw [if_neg h1]

theorem deduct_snoc (l : List (Nat × Int)) (x : Nat × Int) (r : Nat) :
    deduct (l ++ [x]) r =
      if r = 0 then (l ++ [x], 0)
      else if r ≤ x.1 then (l ++ [(x.1 - r, x.2)], 0)
      else ((deduct l (r - x.1)).1 ++ [(0, x.2)], (deduct l (r - x.1)).2) := by
  induction l with
  | nil =>
    by_cases h0 : r = 0
    · subst h0; simp [deduct]
    · by_cases h1 : r ≤ x.1 <;> simp [deduct, h0, h1]
  | cons y t ih =>
    simp only [List.cons_append, deduct, ih]
    by_cases h0 : r = 0
    · simp [h0]
    · by_cases h1 : r ≤ x.1
      · simp [h0, h1]
      · simp only [h0, h1, if_false]
        by_cases h2 : (deduct t (r - x.1)).2 = 0
        · simp [h2]
        · by_cases h3 : (deduct t (r - x.1)).2 ≤ y.1 <;> simp [h2, h3]

theorem keepNonzero_snoc_zero (l : List (Nat × Int)) (t : Int) : keepNonzero (l ++ [(0, t)]) = keepNonzero l := by
  induction l with
  | nil => simp [keepNonzero]
  | cons y ys ih => by_cases hy : y.1 = 0 <;> simp [keepNonzero, hy, ih]

theorem keepNonzero_pos_append (l m : List (Nat × Int)) (h : ∀ q ∈ l, 0 < q.1) : keepNonzero (l ++ m) = l ++ keepNonzero m := by
  induction l with
  | nil => rfl
  | cons y ys ih =>
    have hy : ¬ y.1 = 0 := by have := h y (by simp); omega
    simp [keepNonzero, hy, ih (fun q hq => h q (by simp [hq]))]

/-- by `deduct_snoc` on the newest entry `x` (the LAST of the reversed queue): `r = 0` nothing taken; `r < x.1` part of `x`; `r = x.1` `x` used up
and dropped; `r > x.1` `x` dropped (`keepNonzero_snoc_zero`) and `r − x.1` taken from the older ones (induction).  Positive entries survive
`keepNonzero` (`keepNonzero_pos_append`) -/
theorem unfarm_queue_spec_rev : ∀ (m : List (Nat × Int)) (r : Nat), (∀ q ∈ m, 0 < q.1) →
    keepNonzero (deduct m.reverse r).1 = (takeNewest m r).reverse := by
  intro m
  induction m with
  | nil => intro r _; simp [deduct, keepNonzero, takeNewest]
  | cons x l ih =>
    intro r hpos
    have hl : ∀ q ∈ l, 0 < q.1 := fun q hq => hpos q (by simp [hq])
    have hlr : ∀ q ∈ l.reverse, 0 < q.1 := fun q hq => hl q (by simpa using hq)
    have hx : 0 < x.1 := hpos x (by simp)
    rw [List.reverse_cons, deduct_snoc]
    obtain ⟨a, t⟩ := x
    simp only [takeNewest]
    by_cases h0 : r = 0
    · simp only [h0, if_true]
      rw [keepNonzero_pos_append _ _ hlr]
      have : ¬ a = 0 := by simp at hx; omega
      simp [keepNonzero, this]
    · simp only [h0, if_false]
      by_cases h1 : r ≤ a
      · simp only [h1, if_true]
        rw [keepNonzero_pos_append _ _ hlr]
        by_cases h2 : r < a
        · have : ¬ a - r = 0 := by omega
          simp [h2, keepNonzero, this]
        · have e : a - r = 0 := by omega
          have e2 : r - a = 0 := by omega
          simp only [h2, if_false, keepNonzero, e, if_true, List.append_nil, e2]
          cases l with
          | nil => simp [takeNewest]
          | cons z zs =>
            obtain ⟨za, zt⟩ := z
            simp [takeNewest]
      · have h2 : ¬ r < a := by omega
        simp only [h1, h2, if_false]
        rw [keepNonzero_snoc_zero, ih (r - a) hl]

theorem unfarm_queue_spec (l : List (Nat × Int)) (r : Nat) (h : ∀ q ∈ l, 0 < q.1) :
    keepNonzero (deduct l r).1 = (takeNewest l.reverse r).reverse := by
  have := unfarm_queue_spec_rev l.reverse r (fun q hq => h q (by simpa using hq))
  simpa using this

theorem unfarm_queue_left (l : List (Nat × Int)) (r A : Nat) (h : ∀ q ∈ l, 0 < q.1) (hr : r ≤ qTotal l + A) :
    (∀ q ∈ keepNonzero (deduct l r).1, 0 < q.1) ∧
    qTotal (keepNonzero (deduct l r).1) + (A - (deduct l r).2) + r = qTotal l + A := by
  rw [unfarm_queue_spec l r h, deduct_rest, qTotal_reverse, takeNewest_total, qTotal_reverse]
  exact ⟨fun q hq => takeNewest_pos _ _ (fun q hq => h q (List.mem_reverse.mp hq)) q (List.mem_reverse.mp hq), by omega⟩

end Comdex.LiqLedger
