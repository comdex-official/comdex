import Comdex.Lemmas.AmmTick
/-!
The order-book view and `FindMatchPrice` (on `AmmTick`), for any well-formed view (`ViewOk`): a found price is a tick between
the lowest sell and the highest buy price; found ⇔ the book crosses.
-/
namespace Comdex.Amm

/-- prices strictly ordered along the slice by `R`, sums non-decreasing from `last` -/
def AccOk (R : Int → Int → Prop) : Int → AccSums → Prop
  | _, [] => True
  | last, (p, s) :: rest => last ≤ s ∧ (∀ q ∈ rest.map (·.1), R p q) ∧ AccOk R s rest

theorem sumBefore_ge (R : Int → Int → Prop) (stop : Int → Bool) (l : AccSums) (last : Int) (h : AccOk R last l) :
    last ≤ sumBefore stop l last := by
  induction l generalizing last with
  | nil => simp [sumBefore]
  | cons x rest ih =>
    obtain ⟨p, s⟩ := x
    obtain ⟨h1, _, h3⟩ := h
    unfold sumBefore
    split
    · omega
    · have := ih s h3; omega

theorem sumBefore_anti (R : Int → Int → Prop) (stop₁ stop₂ : Int → Bool) (hs : ∀ p, stop₁ p = true → stop₂ p = true)
    (l : AccSums) (last : Int) (h : AccOk R last l) : sumBefore stop₂ l last ≤ sumBefore stop₁ l last := by
  induction l generalizing last with
  | nil => simp [sumBefore]
  | cons x rest ih =>
    obtain ⟨p, s⟩ := x
    obtain ⟨h1, _, h3⟩ := h
    unfold sumBefore
    by_cases c1 : stop₁ p = true
    · simp [c1, hs p c1]
    · by_cases c2 : stop₂ p = true
      · simp only [c1, c2, if_true]
        have := sumBefore_ge R stop₁ rest s h3
        simp; omega
      · simp only [c1, c2]; exact ih s h3

theorem firstPositive_mem (l : AccSums) (q : Int) (h : firstPositive l = some q) : q ∈ l.map (·.1) := by
  induction l with
  | nil => simp [firstPositive] at h
  | cons x rest ih =>
    obtain ⟨p, s⟩ := x
    unfold firstPositive at h
    split at h
    · cases h; simp
    · simp [ih h]

theorem sumBefore_pos (stop : Int → Bool) (l : AccSums) (last : Int) (hl : last ≤ 0)
    (h : 0 < sumBefore stop l last) : ∃ q, firstPositive l = some q ∧ stop q = false := by
  induction l generalizing last with
  | nil => simp [sumBefore] at h; omega
  | cons x rest ih =>
    obtain ⟨p, s⟩ := x
    unfold sumBefore at h
    unfold firstPositive
    by_cases c : stop p = true
    · simp [c] at h; omega
    · simp only [c] at h
      by_cases hs : s > 0
      · exact ⟨p, by simp [hs], by simpa using c⟩
      · simp only [hs, if_false]
        exact ih s (by omega) h

theorem sumBefore_pos_of (R : Int → Int → Prop) (stop : Int → Bool)
    (hup : ∀ p q, R p q → stop p = true → stop q = true) (l : AccSums) (last : Int) (h : AccOk R last l)
    (q : Int) (hq : firstPositive l = some q) (hs : stop q = false) : 0 < sumBefore stop l last := by
  induction l generalizing last with
  | nil => simp [firstPositive] at hq
  | cons x rest ih =>
    obtain ⟨p, s⟩ := x
    obtain ⟨h1, h2, h3⟩ := h
    unfold firstPositive at hq
    unfold sumBefore
    by_cases hpos : s > 0
    · simp only [hpos, if_true, Option.some.injEq] at hq
      subst hq
      simp only [hs]
      have := sumBefore_ge R stop rest s h3
      simp; omega
    · simp only [hpos, if_false] at hq
      have hqm := firstPositive_mem rest q hq
      have hnp : stop p = false := by
        cases hc : stop p with
        | false => rfl
        | true => have := hup p q (h2 q hqm) hc; rw [hs] at this; cases this
      simp only [hnp]
      exact ih s h3 hq

theorem sumBefore_pos_iff (R : Int → Int → Prop) (stop : Int → Bool)
    (hup : ∀ p q, R p q → stop p = true → stop q = true) (l : AccSums) (h : AccOk R 0 l)
    (q : Int) (hq : firstPositive l = some q) : 0 < sumBefore stop l 0 ↔ stop q = false := by
  refine ⟨fun hp => ?_, sumBefore_pos_of R stop hup l 0 h q hq⟩
  obtain ⟨q', hq', hs⟩ := sumBefore_pos stop l 0 (Int.le_refl 0) hp
  rw [hq] at hq'; cases hq'; exact hs

theorem firstPositive_none (l : AccSums) (last : Int) (stop : Int → Bool) (hl : last ≤ 0)
    (h : firstPositive l = none) : sumBefore stop l last ≤ 0 := by
  by_contra hc
  obtain ⟨q, hq, _⟩ := sumBefore_pos stop l last hl (by omega)
  rw [h] at hq; cases hq

def Rdir (incr : Bool) (p q : Int) : Prop := if incr then p < q else p > q

/-- what `MakeView` of a well-formed book satisfies -/
structure ViewOk (v : View) (prec : Nat) : Prop where
  buys : AccOk (Rdir false) 0 v.buys
  sells : AccOk (Rdir true) 0 v.sells
  buyTicks : ∀ q ∈ v.buys.map (·.1), GridTick prec q
  sellTicks : ∀ q ∈ v.sells.map (·.1), GridTick prec q

theorem View.sell_mono {v : View} {prec : Nat} (h : ViewOk v prec) {x y : Int} (hxy : x ≤ y) :
    v.sellAmountUnder x ≤ v.sellAmountUnder y := by
  apply sumBefore_anti _ _ _ _ _ 0 h.sells
  intro p hp; simp only [decide_eq_true_eq] at hp ⊢; omega

theorem View.buy_anti {v : View} {prec : Nat} (h : ViewOk v prec) {x y : Int} (hxy : x ≤ y) :
    v.buyAmountOver y ≤ v.buyAmountOver x := by
  apply sumBefore_anti _ _ _ _ _ 0 h.buys
  intro p hp; simp only [decide_eq_true_eq] at hp ⊢; omega

theorem View.sell_pos_iff {v : View} {prec : Nat} (h : ViewOk v prec) (ls : Int) (hls : v.lowestSellPrice = some ls)
    (x : Int) : 0 < v.sellAmountUnder x ↔ ls ≤ x :=
  (sumBefore_pos_iff (Rdir true) _ (fun p q (hpq : p < q) hp => by simp only [decide_eq_true_eq] at hp ⊢; omega)
    v.sells h.sells ls hls).trans (by simp only [decide_eq_false_iff_not]; omega)

theorem View.buy_pos_iff {v : View} {prec : Nat} (h : ViewOk v prec) (hb : Int) (hhb : v.highestBuyPrice = some hb)
    (x : Int) : 0 < v.buyAmountOver x ↔ x ≤ hb :=
  (sumBefore_pos_iff (Rdir false) _ (fun p q (hpq : p > q) hp => by simp only [decide_eq_true_eq] at hp ⊢; omega)
    v.buys h.buys hb hhb).trans (by simp only [decide_eq_false_iff_not]; omega)

/-- `findFirstTrueCondition(0, H, f)` for an `f` that stays true going up and holds at `b`: found, not above `b` -/
theorem walk_up (H : Nat) (hH : 1 ≤ H) (f : Int → Bool)
    (hmono : ∀ k k' : Nat, k ≤ k' → k' ≤ H → f k = true → f k' = true) (b : Nat) (hb : b ≤ H) (hfb : f b = true) :
    ∃ i : Nat, findFirstTrue 0 H f = some (i : Int) ∧ i ≤ b ∧ f i = true := by
  unfold findFirstTrue
  have h0 : (0 : Int) < (H : Int) := by omega
  rw [if_pos h0]
  simp only
  have hn : ((H : Int) - 0 + 1).toNat = H + 1 := by omega
  rw [hn]
  obtain ⟨hle, hf⟩ := search_first (H + 1) (fun k => f (0 + (k : Int)))
    (fun a c hac hc ha => by
      simp only [Int.zero_add] at ha ⊢
      exact hmono a c hac (by omega) ha) b (by omega) (by simpa using hfb)
  simp only [Int.zero_add] at hle hf ⊢
  refine ⟨search (H + 1) (fun k => f (k : Int)), ?_, hle, hf⟩
  rw [if_neg (by omega)]

/-- `findFirstTrueCondition(H, 0, g)` for a `g` that stays true going down and holds at `a`: the search runs over `k ↦ g (H - k)` -/
theorem walk_down (H : Nat) (g : Int → Bool)
    (hanti : ∀ k k' : Nat, k ≤ k' → k' ≤ H → g k' = true → g k = true) (a : Nat) (ha : a ≤ H) (hga : g a = true) :
    ∃ j : Nat, findFirstTrue H 0 g = some (j : Int) ∧ a ≤ j ∧ j ≤ H ∧ g j = true := by
  unfold findFirstTrue
  rw [if_neg (Int.not_lt.mpr (Int.natCast_nonneg H))]
  simp only
  have hn : ((H : Int) - 0 + 1).toNat = H + 1 := by rw [Int.sub_zero]; exact Int.toNat_natCast (H + 1)
  rw [hn]
  have cast : ∀ x : Nat, x ≤ H → ((H : Int) - (x : Int)) = ((H - x : Nat) : Int) := fun x hx => (Int.ofNat_sub hx).symm
  have hmono : ∀ x y : Nat, x ≤ y → y < H + 1 → g ((H : Int) - (x : Int)) = true → g ((H : Int) - (y : Int)) = true := by
    intro x y hxy hy hx
    rw [cast x (by omega)] at hx; rw [cast y (by omega)]
    exact hanti (H - y) (H - x) (by omega) (by omega) hx
  obtain ⟨hle, hg⟩ := search_first (H + 1) (fun k => g ((H : Int) - (k : Int))) hmono (H - a) (by omega)
    (by simp only [cast (H - a) (by omega)]; rw [show H - (H - a) = a by omega]; exact hga)
  generalize search (H + 1) (fun k => g ((H : Int) - (k : Int))) = r at *
  have hr : r ≤ H := by omega
  rw [cast r hr] at hg ⊢
  exact ⟨H - r, by rw [if_neg (Int.not_lt.mpr (Int.natCast_nonneg _))], by omega, by omega, hg⟩

/-- the two walks of `FindMatchPrice` over two step functions of the tick index, from index `-1` on: the downward walk looks at `i - 1` -/
theorem crossing_walks (H a b : Nat) (hH : 1 ≤ H) (hab : a ≤ b) (hbH : b ≤ H) (S B : Int → Int)
    (hS : ∀ x y, -1 ≤ x → x ≤ y → S x ≤ S y) (hB : ∀ x y, -1 ≤ x → x ≤ y → B y ≤ B x)
    (hSp : ∀ x, -1 ≤ x → (0 < S x ↔ (a : Int) ≤ x)) (hBp : ∀ x, -1 ≤ x → (0 < B x ↔ x ≤ (b : Int))) :
    ∃ i j : Nat,
      findFirstTrue 0 H (fun i => decide (S i > 0) && decide (B (i + 1) ≤ S i)) = some (i : Int) ∧
      findFirstTrue H 0 (fun i => decide (B i > 0) && decide (B i ≥ S (i - 1))) = some (j : Int) ∧
      a ≤ i ∧ i ≤ b ∧ a ≤ j ∧ j ≤ b := by
  obtain ⟨i, hi1, hi2, hi3⟩ := walk_up H hH (fun i => decide (S i > 0) && decide (B (i + 1) ≤ S i))
    (fun k k' hkk _ hk => by
      simp only [Bool.and_eq_true, decide_eq_true_eq] at hk ⊢
      have := hS k k' (by omega) (by omega)
      have := hB (k + 1) (k' + 1) (by omega) (by omega)
      omega)
    b hbH (by
      simp only [Bool.and_eq_true, decide_eq_true_eq]
      have := (hSp b (by omega)).mpr (by omega)
      have := (hBp (b + 1) (by omega)).not.mpr (by omega)
      omega)
  obtain ⟨j, hj1, hj2, _, hj4⟩ := walk_down H (fun i => decide (B i > 0) && decide (B i ≥ S (i - 1)))
    (fun k k' hkk _ hk => by
      simp only [Bool.and_eq_true, decide_eq_true_eq] at hk ⊢
      have := hB k k' (by omega) (by omega)
      have := hS (k - 1) (k' - 1) (by omega) (by omega)
      omega)
    a (by omega) (by
      simp only [Bool.and_eq_true, decide_eq_true_eq]
      have := (hBp a (by omega)).mpr (by omega)
      have := (hSp (a - 1) (by omega)).not.mpr (by omega)
      omega)
  simp only [Bool.and_eq_true, decide_eq_true_eq] at hi3 hj4
  have := (hSp i (by omega)).mp hi3.1
  have := (hBp j (by omega)).mp hj4.1
  exact ⟨i, j, hi1, hj1, by omega, hi2, hj2, by omega⟩

/-- both walks end at indices in `[a, b]` (`crossing_walks`); the midpoint of two ticks of
`[T a, T b]` rounds to a tick of that range (`roundPrice_between`) -/
theorem findMatchPrice_crossing (v : View) (prec : Nat) (hprec : 10 ^ prec < 2 ^ 300 - 1) (hv : ViewOk v prec)
    (hb ls : Int) (hhb : v.highestBuyPrice = some hb) (hls : v.lowestSellPrice = some ls) (hcross : ls ≤ hb) :
    ∃ k a b : Nat, findMatchPrice v prec = some ((T prec k : Nat) : Int) ∧ ls = ((T prec a : Nat) : Int) ∧
      hb = ((T prec b : Nat) : Int) ∧ a ≤ k ∧ k ≤ b := by
  obtain ⟨b, hbH, hbT⟩ := hv.buyTicks hb (firstPositive_mem _ _ hhb)
  obtain ⟨a, haH, haT⟩ := hv.sellTicks ls (firstPositive_mem _ _ hls)
  have hab : a ≤ b := by
    rw [haT, hbT] at hcross
    exact (T_le_iff prec).mp (by exact_mod_cast hcross)
  obtain ⟨hH, hH1⟩ := tickToIndex_highest prec hprec
  obtain ⟨i, j, hi, hj, hai, hib, haj, hjb⟩ := crossing_walks (hiIdx prec) a b hH1 hab hbH
    (fun i => v.sellAmountUnder (tickFromIndex i prec)) (fun i => v.buyAmountOver (tickFromIndex i prec))
    (fun x y hx hxy => View.sell_mono hv (tickFromIndex_mono prec hx hxy))
    (fun x y hx hxy => View.buy_anti hv (tickFromIndex_mono prec hx hxy))
    (fun x hx => (View.sell_pos_iff hv ls hls _).trans (by rw [haT]; exact (tickFromIndex_cmp prec a hx).1))
    (fun x hx => (View.buy_pos_iff hv hb hhb _).trans (by rw [hbT]; exact (tickFromIndex_cmp prec b hx).2))
  have hmid : Dec.quoInt (tickFromIndex i prec + tickFromIndex j prec) 2 = (((T prec i + T prec j) / 2 : Nat) : Int) := by
    rw [tickFromIndex_nat, tickFromIndex_nat]
    unfold Dec.quoInt
    rw [Int.tdiv_eq_ediv_of_nonneg (by omega)]
    push_cast; rfl
  have := T_mono prec hai
  have := T_mono prec haj
  have := T_mono prec hib
  have := T_mono prec hjb
  obtain ⟨k, hk1, hk2, hk3⟩ := roundPrice_between prec a b ((T prec i + T prec j) / 2) (by omega) (by omega)
  refine ⟨k, a, b, ?_, haT, hbT, hk1, hk2⟩
  unfold findMatchPrice
  rw [hhb, hls]
  simp only
  rw [if_neg (by omega), tickToIndex_lowest, hH, hi]
  simp only
  rw [hj]
  simp only
  rw [hmid, hk3]

theorem findMatchPrice_some_inv (v : View) (prec : Nat) (p : Int) (h : findMatchPrice v prec = some p) :
    ∃ hb ls, v.highestBuyPrice = some hb ∧ v.lowestSellPrice = some ls ∧ ls ≤ hb := by
  unfold findMatchPrice at h
  cases hhb : v.highestBuyPrice with
  | none => rw [hhb] at h; cases h
  | some hb =>
    cases hls : v.lowestSellPrice with
    | none => rw [hhb, hls] at h; cases h
    | some ls =>
      rw [hhb, hls] at h
      simp only at h
      by_cases hc : hb < ls
      · rw [if_pos hc] at h; cases h
      · exact ⟨hb, ls, rfl, rfl, by omega⟩

theorem monCrossing_iff (v : View) :
    monCrossing v = true ↔ ∃ hb ls, v.highestBuyPrice = some hb ∧ v.lowestSellPrice = some ls ∧ ls ≤ hb := by
  unfold monCrossing
  cases v.highestBuyPrice with
  | none => exact ⟨fun h => Bool.noConfusion h, fun ⟨_, _, h, _⟩ => nomatch h⟩
  | some hb =>
    cases v.lowestSellPrice with
    | none => exact ⟨fun h => Bool.noConfusion h, fun ⟨_, _, _, h, _⟩ => nomatch h⟩
    | some ls =>
      exact ⟨fun h => ⟨hb, ls, rfl, rfl, of_decide_eq_true h⟩,
        fun ⟨_, _, h1, h2, h3⟩ => by cases h1; cases h2; exact decide_eq_true h3⟩

theorem findMatchPrice_isSome (v : View) (prec : Nat) (hprec : 10 ^ prec < 2 ^ 300 - 1) (hv : ViewOk v prec) :
    (findMatchPrice v prec).isSome = monCrossing v :=
  Bool.eq_iff_iff.2 <| Iff.trans
    ⟨fun h => let ⟨p, hp⟩ := Option.isSome_iff_exists.1 h; findMatchPrice_some_inv v prec p hp,
     fun ⟨hb, ls, h1, h2, h3⟩ =>
      let ⟨_, _, _, hf, _⟩ := findMatchPrice_crossing v prec hprec hv hb ls h1 h2 h3; hf ▸ rfl⟩
    (monCrossing_iff v).symm

theorem findMatchPrice_in_spread (v : View) (prec : Nat) (hprec : 10 ^ prec < 2 ^ 300 - 1) (hv : ViewOk v prec) (p : Int)
    (h : findMatchPrice v prec = some p) :
    ∃ ls hb, v.lowestSellPrice = some ls ∧ v.highestBuyPrice = some hb ∧
      ls ≤ p ∧ p ≤ hb ∧ 0 < p ∧ isTick p prec = true ∧ monMatchPrice v prec p = true := by
  obtain ⟨hb, ls, hhb, hls, hc⟩ := findMatchPrice_some_inv v prec p h
  obtain ⟨k, a, b, hf, ha, hb', hak, hkb⟩ := findMatchPrice_crossing v prec hprec hv hb ls hhb hls hc
  rw [hf] at h; cases h
  have h1 : ls ≤ ((T prec k : Nat) : Int) := by rw [ha]; exact_mod_cast T_mono prec hak
  have h2 : ((T prec k : Nat) : Int) ≤ hb := by rw [hb']; exact_mod_cast T_mono prec hkb
  have hTpos := zero_lt_T prec k
  have h3 : (0 : Int) < ((T prec k : Nat) : Int) := by exact_mod_cast hTpos
  refine ⟨ls, hb, hls, hhb, h1, h2, h3, isTick_T prec k, ?_⟩
  unfold monMatchPrice
  rw [hhb, hls]
  simp [h1, h2, hTpos, isTick_T prec k]

end Comdex.Amm
