import Comdex.Lemmas.LiquidationSweep
import Comdex.Lemmas.Fold
import Comdex.Lemmas.KeyedRecs
/-! The liquidation handlers: what an accepted step wrote, the relation every step of a block hook or message establishes
(`StepRel`), and its transport through the passes. Core Lean only. -/
namespace Comdex.Liquidation
open Comdex

theorem modify_ids {l : List Borrow} {id : Nat} {g : Borrow → Borrow} (hg : ∀ x, (g x).id = x.id) :
    (l.map (fun x => if x.id == id then g x else x)).map (·.id) = l.map (·.id) := by
  rw [List.map_map]
  apply List.map_congr_left
  intro x _
  show (if x.id == id then g x else x).id = x.id
  split
  · exact hg x
  · rfl

/-- `Bal.add` and `Offsets.set` are upserts, all three key tests spelt `·.1 == k` -/
theorem find?_upsert_fst {β : Type} {l : List (Nat × β)} {k k' : Nat} {f : Nat × β → Nat × β} (hf : ∀ x, x.1 = k → (f x).1 = k) {d : β} :
    (if l.any (·.1 == k) then l.map (fun x => if x.1 == k then f x else x) else l ++ [(k, d)]).find? (·.1 == k') =
      if k' = k then some ((l.find? (·.1 == k)).elim (k, d) f) else l.find? (·.1 == k') :=
  KeyedRecs.find?_upsert Prod.fst (fun _ => beq_iff_eq) (fun _ => beq_iff_eq) (fun _ => beq_iff_eq) hf rfl l

theorem Bal.get_add_self (b : Bal) (k : Nat) (d : Int) : (Bal.add b k d).get k = b.get k + d := by
  unfold Bal.add Bal.get
  rw [find?_upsert_fst (f := fun x => (x.1, x.2 + d)) (fun _ h => h), if_pos rfl]
  cases b.find? (·.1 == k) with
  | none => exact (Int.zero_add d).symm
  | some x => rfl

theorem Bal.get_add_other (b : Bal) (k k' : Nat) (d : Int) (hne : k' ≠ k) : (Bal.add b k d).get k' = b.get k' := by
  unfold Bal.add Bal.get
  rw [find?_upsert_fst (f := fun x => (x.1, x.2 + d)) (fun _ h => h), if_neg hne]

theorem Offsets.get?_set_self (o : Offsets) (k v : Nat) : (Offsets.set o k v).get? k = some v := by
  unfold Offsets.set Offsets.get?
  rw [find?_upsert_fst (f := fun _ => (k, v)) (fun _ _ => rfl), if_pos rfl]
  cases o.find? (·.1 == k) <;> rfl

theorem Offsets.get?_set_other (o : Offsets) (k k' v : Nat) (hne : k' ≠ k) : (Offsets.set o k v).get? k' = o.get? k' := by
  unfold Offsets.set Offsets.get?
  rw [find?_upsert_fst (f := fun _ => (k, v)) (fun _ _ => rfl), if_neg hne]

/-- a step runs inside `ApplyFuncIfNoError` (a failing one changes nothing); `I` is what the steps need of the state, `R` carries it along -/
theorem fold_applyIfNoError {α : Type} {R : World → World → Prop} {I : World → Prop}
    (refl : ∀ w, R w w) (trans : ∀ {a b c}, R a b → R b c → R a c) (inv : ∀ {w w'}, R w w' → I w → I w')
    {f : α → World → Option World} {l : List α} (hf : ∀ a, a ∈ l → ∀ w w', I w → f a w = some w' → R w w')
    {w : World} (hI : I w) : R w (l.foldl (fun acc a => applyIfNoError (f a) acc) w) :=
  foldl_skips (skips_getD fun w a => f a w) (P := fun w' => R w w') (Q := fun a => ∀ w w', I w → f a w = some w' → R w w')
    (fun r q h => trans r (q _ _ (inv r hI) h)) (refl w) hf

theorem vaultPass_some {batch key off : Nat} {f : Vault → World → Option World} {w w' : World}
    (h : vaultPass batch key off f w = some w') :
    ∃ (sl : List Vault) (w₁ : World), (∀ v, v ∈ sl → v ∈ w.vaults) ∧ w₁ = sl.foldl (fun acc v => applyIfNoError (f v) acc) w ∧
      w' = { w₁ with offsets := w₁.offsets.set key (sweepBoundsI (toGoInt w.counter) (toGoInt off) (toGoInt batch)).2.toNat } := by
  unfold vaultPass at h
  simp only at h
  split at h
  · cases h
  next sl hsl => exact ⟨sl, _, goSlice_sub _ _ _ _ hsl, rfl, (Option.some.inj h).symm⟩

theorem vaultPass_offset (batch key off : Nat) (f : Vault → World → Option World) (w w' : World)
    (h : vaultPass batch key off f w = some w') :
    w'.offsets.get? key = some (sweepBoundsI (toGoInt w.counter) (toGoInt off) (toGoInt batch)).2.toNat := by
  obtain ⟨_, _, _, _, rfl⟩ := vaultPass_some h
  exact Offsets.get?_set_self _ _ _

theorem vaultPass_none_iff (batch key off : Nat) (f : Vault → World → Option World) (w : World) :
    vaultPass batch key off f w = none ↔
      goSlice w.vaults (sweepBoundsI (toGoInt w.counter) (toGoInt off) (toGoInt batch)).1
        (sweepBoundsI (toGoInt w.counter) (toGoInt off) (toGoInt batch)).2 = none := by
  unfold vaultPass
  simp only
  split
  · next h => simp [h]
  · next h => simp [h]

def Outcome.world? : Outcome → Option World
  | .ok w => some w
  | .panic => none

/-- the statements of C09 speak of `.world? = some w'`, the lemmas here of `= .ok w'` -/
theorem Outcome.world?_eq_some {o : Outcome} {w : World} : o.world? = some w ↔ o = .ok w := by
  cases o with
  | ok w1 => exact ⟨fun h => congrArg Outcome.ok (Option.some.inj h), fun h => congrArg Outcome.world? h⟩
  | panic => exact ⟨fun h => (nomatch h), fun h => (nomatch h)⟩

theorem borrowPassV2_ok {e : Env} {batch : Nat} {w w' : World} (h : borrowPassV2 e batch w = .ok w') :
    ∃ (ids : List Nat) (w₁ : World) (n : Nat), w₁ = ids.foldl (fun acc id => applyIfNoError (liquidateBorrowV2 e id) acc) w ∧
      w' = { w₁ with offsets := w₁.offsets.set 1 n } := by
  unfold borrowPassV2 at h
  simp only at h
  split at h
  · cases h
  next sl _ => exact ⟨sl, _, _, rfl, (Outcome.ok.inj h).symm⟩

theorem borrowPassV1_ok {e : Env} {batch : Nat} {w w' : World} (h : borrowPassV1 e batch w = .ok w') :
    ∃ (ids : List Nat) (w₁ : World) (n : Nat), w₁ = ids.foldl (fun acc id => applyIfNoError (liquidateBorrowV1 e true id) acc) w ∧
      w' = { w₁ with offsets := w₁.offsets.set lendAppId n } := by
  unfold borrowPassV1 at h
  simp only at h
  split at h
  · cases h
  next sl _ => exact ⟨sl, _, _, rfl, (Outcome.ok.inj h).symm⟩

/-- ids are store keys: no two vaults share one -/
def NodupIds (w : World) : Prop := (w.vaults.map (·.id)).Nodup

/-- the emergency controls are OFF and — a guard that must be ON — the app is whitelisted for liquidation in one of the generations -/
def GuardsOff (e : Env) (app : Nat) : Prop :=
  (e.app app).esm = false ∧ (e.app app).kill = false ∧ ((e.app app).wl2 = true ∨ (e.app app).wl1 = true)

/-- vaults are only removed, and every removed one tested unsafe (`CR < MinCr` on the recorded debt) with `GuardsOff` for its app -/
def Removes (e : Env) (w w' : World) : Prop :=
  (∀ q, q ∈ w'.vaults → q ∈ w.vaults) ∧ (∀ q, q ∈ w.vaults → q ∉ w'.vaults → vaultUnsafe e q = true ∧ GuardsOff e q.app)

theorem Removes.of_vaults_eq (e : Env) {w w' : World} (h : w'.vaults = w.vaults) : Removes e w w' :=
  ⟨fun _ hq => h ▸ hq, fun _ hq hn => absurd (h ▸ hq) hn⟩

theorem Removes.refl (e : Env) (w : World) : Removes e w w := .of_vaults_eq e rfl

theorem Removes.trans {e : Env} {a b c : World} (h1 : Removes e a b) (h2 : Removes e b c) : Removes e a c := by
  refine ⟨fun q h => h1.1 q (h2.1 q h), fun q hq hn => ?_⟩
  by_cases hb : q ∈ b.vaults
  · exact h2.2 q hb hn
  · exact h1.2 q hq hb

theorem nodup_filter (w : World) (f : Vault → Bool) (h : NodupIds w) :
    ((w.vaults.filter f).map (·.id)).Nodup :=
  List.Nodup.sublist (List.Sublist.map _ List.filter_sublist) h

/-- `L`: any list containing the vaults of the state; the steps of generation 1 judge a snapshot taken from it -/
theorem vaultPass_removes (e : Env) (L : List Vault) (batch key off : Nat) (f : Vault → World → Option World)
    (hf : ∀ v, v ∈ L → ∀ w w', (∀ q, q ∈ w.vaults → q ∈ L) → f v w = some w' → Removes e w w')
    (w w' : World) (hsub : ∀ q, q ∈ w.vaults → q ∈ L) (h : vaultPass batch key off f w = some w') : Removes e w w' := by
  obtain ⟨sl, _, hsl, rfl, rfl⟩ := vaultPass_some h
  exact fold_applyIfNoError (I := fun w => ∀ q, q ∈ w.vaults → q ∈ L) (Removes.refl e) Removes.trans
    (fun hr hI q hq => hI q (hr.1 q hq)) (fun v hv => hf v (hsub v (hsl v hv))) hsub

theorem handOver_eq_some {w w' : World} {v : Vault} {asset : Nat} {k : Amounts} :
    handOver w v asset k = some w' ↔ (0 < v.amountIn → v.amountIn ≤ w.vaultBal.get asset) ∧
    w' = { w with
      vaults := w.vaults.filter (·.id != v.id)
      counter := decU64 w.counter
      vaultBal := if v.amountIn > 0 then w.vaultBal.add asset (- v.amountIn) else w.vaultBal
      auctionBal := if v.amountIn > 0 then w.auctionBal.add asset v.amountIn else w.auctionBal
      lockedId := w.lockedId + 1
      auctionId := w.auctionId + 1
      newLocked := w.newLocked ++ [{ id := w.lockedId + 1, orig := v.id, app := v.app, amountIn := v.amountIn, isBorrow := false,
                                     debt := k.debt, target := k.target, fee := k.fee, bonus := k.bonus, cr := k.cr, collValue := k.collValue }]
      newAuctions := w.newAuctions ++ [{ id := w.auctionId + 1, locked := w.lockedId + 1, asset := asset, amount := v.amountIn, target := k.target }] } := by
  unfold handOver
  rw [Option.ite_none_left_eq_some, Option.some.injEq, eq_comm]
  exact and_congr_left' ⟨fun hg hp => Int.not_lt.1 fun hlt => hg ⟨hp, hlt⟩, fun h hc => Int.not_le.2 hc.2 (h hc.1)⟩

theorem handOver_removes_id (w w' : World) (v : Vault) (a : Nat) (k : Amounts) (h : handOver w v a k = some w') :
    ∀ q, q ∈ w'.vaults → q.id ≠ v.id := by
  obtain ⟨_, rfl⟩ := handOver_eq_some.1 h
  intro q hq
  simpa using (List.mem_filter.1 hq).2

theorem vaultUnsafe_iff (e : Env) (v : Vault) (p : Product) (hp : e.product? v.prod = some p) :
    vaultUnsafe e v = true ↔ ∃ cr, vaultCR e p v.amountIn v.totalOut = some cr ∧ cr < p.minCr := by
  unfold vaultUnsafe vaultCRof
  simp only [hp]
  cases h : vaultCR e p v.amountIn v.totalOut with
  | none => simp
  | some cr => simp

theorem amountsV2_spec {e : Env} {p : Product} {v : Vault} {k : Amounts} (h : amountsV2 e p v = some k) :
    k.debt = v.amountOut + v.intPost + v.closingFee ∧ k.fee = Dec.truncateInt (Dec.mul (Dec.ofInt k.debt) p.penalty) ∧
    k.bonus = 0 ∧ k.target = k.debt + k.fee ∧ vaultCR e p v.amountIn k.debt = some k.cr := by
  unfold amountsV2 at h
  split at h
  · cases h
  next cr hcr => cases h; exact ⟨rfl, rfl, rfl, rfl, hcr⟩

theorem amountsV1_spec {e : Env} {p : Product} {v : Vault} {k : Amounts} (h : amountsV1 e p v = some k) :
    k.debt = v.amountOut ∧ k.fee = v.intPost + v.closingFee ∧
    k.target = v.amountOut + Dec.truncateInt (Dec.mul (Dec.ofInt v.amountOut) p.penalty) + k.fee ∧
    vaultCR e p v.amountIn (v.amountOut + v.intPost + v.closingFee) = some k.cr ∧ e.valueOf p.assetIn v.amountIn = some k.collValue := by
  unfold amountsV1 at h
  split at h
  next cr tin hcr hin => cases h; exact ⟨rfl, rfl, rfl, hcr, hin⟩
  · cases h

/-- the right side follows the handler: the guards, then the ratio on the RECORDED debt decides between hand-over and no-op -/
theorem liquidateVaultV2_eq_some {e : Env} {id : Nat} {w w' : World} :
    liquidateVaultV2 e id w = some w' ↔
      ∃ v p cr, w.vaults.find? (·.id == id) = some v ∧ (e.app v.app).esm = false ∧ (e.app v.app).kill = false ∧
        (e.app v.app).wl2 = true ∧ e.product? v.prod = some p ∧ vaultCR e p v.amountIn v.totalOut = some cr ∧
        if cr < p.minCr then
          (e.app v.app).dutch2 = true ∧ e.priceActive p.assetIn = true ∧ e.priceActive p.assetOut = true ∧
            ∃ k, amountsV2 e p v = some k ∧ handOver w v p.assetIn k = some w'
        else w' = w := by
  constructor
  · intro h
    unfold liquidateVaultV2 at h
    split at h
    · cases h
    next v hf =>
    obtain ⟨hg1, h⟩ := Option.ite_none_left_eq_some.1 h
    obtain ⟨hg2, h⟩ := Option.ite_none_left_eq_some.1 h
    split at h
    · cases h
    next p hp =>
    split at h
    · cases h
    next cr hcr =>
    have hg1' : (e.app v.app).esm = false ∧ (e.app v.app).kill = false := by simpa using hg1
    refine ⟨v, p, cr, hf, hg1'.1, hg1'.2, by simpa using hg2, hp, hcr, ?_⟩
    by_cases hlt : cr < p.minCr
    · rw [if_pos hlt] at h ⊢
      obtain ⟨hd, h⟩ := Option.ite_none_left_eq_some.1 h
      obtain ⟨hpr, h⟩ := Option.ite_none_left_eq_some.1 h
      split at h
      · cases h
      next k hk =>
      have hpr' : e.priceActive p.assetIn = true ∧ e.priceActive p.assetOut = true := by simpa using hpr
      exact ⟨by simpa using hd, hpr'.1, hpr'.2, k, hk, h⟩
    · rw [if_neg hlt] at h ⊢
      exact (Option.some.inj h).symm
  · rintro ⟨v, p, cr, hf, h1, h2, h3, hp, hcr, h⟩
    unfold liquidateVaultV2
    simp only [hf, h1, h2, h3, hp, hcr, Bool.or_self, Bool.not_true, Bool.false_eq_true, if_false]
    by_cases hlt : cr < p.minCr
    · rw [if_pos hlt] at h ⊢
      obtain ⟨hd, hpi, hpo, k, hk, ho⟩ := h
      simp only [hd, hpi, hpo, hk, Bool.not_true, Bool.and_self, Bool.false_eq_true, if_false]
      exact ho
    · rw [if_neg hlt] at h ⊢
      rw [h]

theorem liquidateVaultV2_cases (e : Env) (id : Nat) (w w' : World) (h : liquidateVaultV2 e id w = some w') :
    w' = w ∨ ∃ v p k, w.vaults.find? (·.id == id) = some v ∧ e.product? v.prod = some p ∧ vaultUnsafe e v = true ∧
      GuardsOff e v.app ∧ (e.app v.app).dutch2 = true ∧ amountsV2 e p v = some k ∧ handOver w v p.assetIn k = some w' := by
  obtain ⟨v, p, cr, hf, h1, h2, h3, hp, hcr, h⟩ := liquidateVaultV2_eq_some.1 h
  by_cases hlt : cr < p.minCr
  · rw [if_pos hlt] at h
    obtain ⟨hd, _, _, k, hk, ho⟩ := h
    exact Or.inr ⟨v, p, k, hf, hp, (vaultUnsafe_iff e v p hp).2 ⟨cr, hcr, hlt⟩, ⟨h1, h2, Or.inl h3⟩, hd, hk, ho⟩
  · rw [if_neg hlt] at h
    exact Or.inl h

/-- generation 1: the wrapped body of the sweep, judging the snapshot `v` -/
theorem liquidateVaultV1_eq_some {e : Env} {a : Nat} {v : Vault} {w w' : World} :
    liquidateVaultV1 e a v w = some w' ↔
      v.app = a ∧ ∃ p cr, e.product? v.prod = some p ∧ vaultCR e p v.amountIn v.totalOut = some cr ∧
        if cr < p.minCr then
          (p.outOracle = true → e.priceActive p.assetOut = true) ∧ (e.app a).auc1 = true ∧ e.priceActive p.assetIn = true ∧
            ∃ k, amountsV1 e p v = some k ∧ handOver w v p.assetIn k = some w'
        else w' = w := by
  constructor
  · intro h
    unfold liquidateVaultV1 at h
    obtain ⟨happ, h⟩ := Option.ite_none_left_eq_some.1 h
    split at h
    · cases h
    next p hp =>
    split at h
    · cases h
    next cr hcr =>
    refine ⟨by simpa using happ, p, cr, hp, hcr, ?_⟩
    by_cases hlt : cr < p.minCr
    · rw [if_pos hlt] at h ⊢
      obtain ⟨hpo, h⟩ := Option.ite_none_left_eq_some.1 h
      obtain ⟨hauc, h⟩ := Option.ite_none_left_eq_some.1 h
      obtain ⟨hpi, h⟩ := Option.ite_none_left_eq_some.1 h
      split at h
      · cases h
      next k hk => exact ⟨by simpa using hpo, by simpa using hauc, by simpa using hpi, k, hk, h⟩
    · rw [if_neg hlt] at h ⊢
      exact (Option.some.inj h).symm
  · rintro ⟨rfl, p, cr, hp, hcr, h⟩
    unfold liquidateVaultV1
    simp only [bne_self_eq_false, Bool.false_eq_true, if_false, hp, hcr]
    by_cases hlt : cr < p.minCr
    · rw [if_pos hlt] at h ⊢
      obtain ⟨hpo, hauc, hpi, k, hk, ho⟩ := h
      have h2 : (p.outOracle && !e.priceActive p.assetOut) = false := by
        cases ho' : p.outOracle with
        | false => rfl
        | true => simp [hpo ho']
      simp only [h2, hauc, hpi, hk, Bool.not_true, Bool.false_eq_true, if_false]
      exact ho
    · rw [if_neg hlt] at h ⊢
      rw [h]

theorem liquidateVaultV1_cases (e : Env) (a : Nat) (v : Vault) (w w' : World) (h : liquidateVaultV1 e a v w = some w') :
    w' = w ∨ ∃ p k, v.app = a ∧ e.product? v.prod = some p ∧ vaultUnsafe e v = true ∧ (e.app a).auc1 = true ∧
      amountsV1 e p v = some k ∧ handOver w v p.assetIn k = some w' := by
  obtain ⟨ha, p, cr, hp, hcr, h⟩ := liquidateVaultV1_eq_some.1 h
  by_cases hlt : cr < p.minCr
  · rw [if_pos hlt] at h
    obtain ⟨_, hauc, _, k, hk, ho⟩ := h
    exact Or.inr ⟨p, k, ha, hp, (vaultUnsafe_iff e v p hp).2 ⟨cr, hcr, hlt⟩, hauc, hk, ho⟩
  · rw [if_neg hlt] at h
    exact Or.inl h

/-- the borrow list with `IsLiquidated` set on the borrow `id` -/
def flag (id : Nat) (l : List Borrow) : List Borrow := l.map (fun x => if x.id == id then { x with liquidated := true } else x)

def NodupB (w : World) : Prop := (w.borrows.map (·.id)).Nodup

def KeepsB (e : Env) (w w' : World) : Prop :=
  ∀ b, b ∈ w.borrows → b.liquidated = false →
    (borrowUnsafe e b = false ∨ (e.app b.app).kill = true ∨ (e.app b.app).wl2 = false) → b ∈ w'.borrows

/-- generation 1 has no whitelisting for borrows, and ONE test (`borrowUnsafe`) for sweep and message -/
def KeepsB1 (e : Env) (w w' : World) : Prop :=
  ∀ b, b ∈ w.borrows → b.liquidated = false → (borrowUnsafe e b = false ∨ (e.app b.app).kill = true) → b ∈ w'.borrows

/-- `KeepsB e w w'` and `KeepsB1 e w w'` unfold to this at their two conditions `P`; they are stated separately, so the lemmas about
`KeepsP` reach them by unfolding -/
def KeepsP (P : Borrow → Prop) (w w' : World) : Prop :=
  ∀ b, b ∈ w.borrows → b.liquidated = false → P b → b ∈ w'.borrows

theorem KeepsP.trans {P : Borrow → Prop} {a b c : World} (h1 : KeepsP P a b) (h2 : KeepsP P b c) : KeepsP P a c :=
  fun x hx hl hs => h2 x (h1 x hx hl hs) hl hs

theorem KeepsB.toV1 {e : Env} {w w' : World} (h : KeepsB e w w') : KeepsB1 e w w' :=
  fun b hb hl hs => h b hb hl (hs.imp_right Or.inl)

/-- the state after the complete seizure of borrow `b` (found under `id`) at ratio `r` -/
def borrowSeized (e : Env) (w : World) (id : Nat) (b : Borrow) (r : Dec) : World :=
  let fee := Dec.truncateInt (Dec.mul (Dec.ofInt b.principal) b.pen)
  let bonus := Dec.truncateInt (Dec.mul (Dec.ofInt b.principal) b.bon)
  { w with
    borrows := flag id w.borrows
    poolBal := (w.poolBal.add b.assetIn (- b.amountIn)).add b.cAsset (- b.amountIn)
    auctionBal := w.auctionBal.add b.assetIn b.amountIn
    lockedId := w.lockedId + 1
    auctionId := w.auctionId + 1
    newLocked := w.newLocked ++ [{ id := w.lockedId + 1, orig := b.id, app := b.app, amountIn := b.amountIn, isBorrow := true,
                                   debt := b.principal, target := b.principal + fee, fee := fee, bonus := bonus, cr := r, collValue := b.amountIn }]
    newAuctions := w.newAuctions ++ [{ id := w.auctionId + 1, locked := w.lockedId + 1, asset := b.assetIn, amount := b.amountIn,
                                       target := b.principal + fee, dutch := (e.app b.app).dutch2 }]
    totalBorrowed := w.totalBorrowed.add (statKey b.outPool b.assetOut) (- b.principal)
    totalLend := w.totalLend.add (statKey b.pool b.assetIn) (- b.amountIn)
    lendBal := if w.lendBal.get b.lendId - b.amountIn > 0 then w.lendBal.add b.lendId (- b.amountIn) else w.lendBal.remove b.lendId }

theorem borrowRatio_eq_some {e : Env} {b : Borrow} {r : Dec} : borrowRatio e b = some r ↔
    ∃ tin tout, e.valueOf b.assetIn b.amountIn = some tin ∧ e.valueOf b.assetOut b.debt = some tout ∧ tin ≠ 0 ∧
      r = Dec.quo tout tin := by
  unfold borrowRatio
  constructor
  · intro h
    split at h
    next tin tout hin hout =>
      obtain ⟨h0, h⟩ := Option.ite_none_left_eq_some.1 h
      exact ⟨tin, tout, hin, hout, h0, (Option.some.inj h).symm⟩
    · cases h
  · rintro ⟨tin, tout, hin, hout, h0, rfl⟩
    rw [hin, hout]
    exact if_neg h0

theorem borrowUnsafe_iff (e : Env) (b : Borrow) :
    borrowUnsafe e b = true ↔ ∃ r, borrowRatio e b = some r ∧ r > borrowThreshold b := by
  unfold borrowUnsafe
  cases h : borrowRatio e b with
  | none => simp
  | some r => simp

/-- the right side follows the handler; a flagged borrow is a successful no-op, prices are needed for a Dutch auction only -/
theorem liquidateBorrowV2_eq_some {e : Env} {id : Nat} {w w' : World} :
    liquidateBorrowV2 e id w = some w' ↔ ∃ b, w.borrows.find? (·.id == id) = some b ∧
      if b.liquidated = true then w' = w else
        (e.app b.app).kill = false ∧ ∃ r, borrowRatio e b = some r ∧
          if r > borrowThreshold b then
            (e.app b.app).wl2 = true ∧ b.amountIn ≤ w.poolBal.get b.assetIn ∧ b.amountIn ≤ w.poolBal.get b.cAsset ∧
            ((e.app b.app).dutch2 = true ∨ (e.app b.app).english2 = true) ∧
            ((e.app b.app).dutch2 = true → e.priceActive b.assetIn = true ∧ e.priceActive b.assetOut = true) ∧
            w' = borrowSeized e w id b r
          else w' = w := by
  constructor
  · intro h
    unfold liquidateBorrowV2 at h
    split at h
    · cases h
    next b hb =>
    refine ⟨b, hb, ?_⟩
    by_cases hl : b.liquidated = true
    · rw [if_pos hl] at h ⊢; exact (Option.some.inj h).symm
    rw [if_neg hl] at h ⊢
    obtain ⟨hk, h⟩ := Option.ite_none_left_eq_some.1 h
    split at h
    · cases h
    next r hr =>
    refine ⟨by simpa using hk, r, hr, ?_⟩
    by_cases hgt : r > borrowThreshold b
    · rw [if_pos hgt] at h ⊢
      obtain ⟨hwl, h⟩ := Option.ite_none_left_eq_some.1 h
      obtain ⟨hb1, h⟩ := Option.ite_none_left_eq_some.1 h
      obtain ⟨hb2, h⟩ := Option.ite_none_left_eq_some.1 h
      obtain ⟨hty, h⟩ := Option.ite_none_left_eq_some.1 h
      obtain ⟨hpr, h⟩ := Option.ite_none_left_eq_some.1 h
      refine ⟨by simpa using hwl, Int.not_lt.1 hb1, Int.not_lt.1 hb2, ?_, by simpa using hpr, (Option.some.inj h).symm⟩
      cases hd : (e.app b.app).dutch2 <;> simp [hd] at hty ⊢
      exact hty
    · rw [if_neg hgt] at h ⊢; exact (Option.some.inj h).symm
  · rintro ⟨b, hb, h⟩
    unfold liquidateBorrowV2
    rw [hb]
    by_cases hl : b.liquidated = true
    · rw [if_pos hl] at h; rw [h]; exact if_pos hl
    rw [if_neg hl] at h
    obtain ⟨hk, r, hr, h⟩ := h
    by_cases hgt : r > borrowThreshold b
    · rw [if_pos hgt] at h
      obtain ⟨hwl, hb1, hb2, hty, hpr, rfl⟩ := h
      have n1 : ¬ (w.poolBal.get b.assetIn < b.amountIn) := Int.not_lt.2 hb1
      have n2 : ¬ (w.poolBal.get b.cAsset < b.amountIn) := Int.not_lt.2 hb2
      have n3 : (!(e.app b.app).dutch2 && !(e.app b.app).english2) = false := by
        rcases hty with h | h <;> simp [h]
      have n4 : ((e.app b.app).dutch2 && !(e.priceActive b.assetIn && e.priceActive b.assetOut)) = false := by
        cases hd : (e.app b.app).dutch2 with
        | false => rfl
        | true => simp [hpr hd]
      simp only [hl, hk, hr, hgt, hwl, n1, n2, n3, n4, Bool.not_true, Bool.false_eq_true, if_false, if_true]
      rfl
    · rw [if_neg hgt] at h
      simp only [hl, hk, hr, hgt, Bool.false_eq_true, if_false, h]

theorem liquidateBorrowV2_cases (e : Env) (id : Nat) (w w' : World) (h : liquidateBorrowV2 e id w = some w') :
    w' = w ∨ ∃ b r, w.borrows.find? (·.id == id) = some b ∧ b.liquidated = false ∧ borrowRatio e b = some r ∧ borrowUnsafe e b = true ∧
      (e.app b.app).kill = false ∧ (e.app b.app).wl2 = true ∧ ((e.app b.app).dutch2 = true ∨ (e.app b.app).english2 = true) ∧
      b.amountIn ≤ w.poolBal.get b.assetIn ∧ b.amountIn ≤ w.poolBal.get b.cAsset ∧ w' = borrowSeized e w id b r := by
  obtain ⟨b, hb, h⟩ := liquidateBorrowV2_eq_some.1 h
  by_cases hl : b.liquidated = true
  · rw [if_pos hl] at h
    exact Or.inl h
  rw [if_neg hl] at h
  obtain ⟨hk, r, hr, h⟩ := h
  by_cases hgt : r > borrowThreshold b
  · rw [if_pos hgt] at h
    obtain ⟨hwl, hb1, hb2, hty, _, hw'⟩ := h
    exact Or.inr ⟨b, r, hb, by simpa using hl, hr, (borrowUnsafe_iff e b).2 ⟨r, hr, hgt⟩, hk, hwl, hty, hb1, hb2, hw'⟩
  · rw [if_neg hgt] at h
    exact Or.inl h

def Grows (w w' : World) : Prop :=
  (∃ x, w'.newLocked = w.newLocked ++ x) ∧ (∃ y, w'.newAuctions = w.newAuctions ++ y)

def Backed (w w' : World) : Prop :=
  ∀ b', b' ∈ w'.borrows → b'.liquidated = true →
    (∃ b, b ∈ w.borrows ∧ b.id = b'.id ∧ b.liquidated = true) ∨
    (∃ l, l ∈ w'.newLocked ∧ l.orig = b'.id ∧ l.isBorrow = true ∧ ∃ a, a ∈ w'.newAuctions ∧ a.locked = l.id ∧ a.amount = l.amountIn)

/-- what every generation-2 entry point establishes: `removes` (vaults), `keeps` (unflagged borrows that are safe, under the kill
switch or not whitelisted keep an identical record), `grows` (the books `newLocked`, `newAuctions` are only appended to), `backed`
(a borrow flagged here has a locked vault and an auction over the locked amount in the books). `nodup` lets the relation carry the
uniqueness of borrow ids, which `keeps` needs of the state before a borrow step -/
structure StepRel (e : Env) (w w' : World) : Prop where
  removes : Removes e w w'
  keeps : KeepsB e w w'
  grows : Grows w w'
  backed : Backed w w'
  nodup : NodupB w → NodupB w'

theorem Grows.trans {a b c : World} (h1 : Grows a b) (h2 : Grows b c) : Grows a c := by
  obtain ⟨⟨x1, hx1⟩, ⟨y1, hy1⟩⟩ := h1
  obtain ⟨⟨x2, hx2⟩, ⟨y2, hy2⟩⟩ := h2
  exact ⟨⟨x1 ++ x2, by rw [hx2, hx1, List.append_assoc]⟩, ⟨y1 ++ y2, by rw [hy2, hy1, List.append_assoc]⟩⟩

/-- the entries that back a borrow in `b` are still in the books of `c`: they only grow -/
theorem Backed.trans {a b c : World} (h1 : Backed a b) (g2 : Grows b c) (h2 : Backed b c) : Backed a c := by
  intro b'' hb'' hl''
  cases h2 b'' hb'' hl'' with
  | inr h => exact Or.inr h
  | inl h =>
    obtain ⟨b', hb', hid, hl'⟩ := h
    cases h1 b' hb' hl' with
    | inl h => obtain ⟨b0, hb0, hid0, hl0⟩ := h; exact Or.inl ⟨b0, hb0, by rw [hid0, hid], hl0⟩
    | inr h =>
      obtain ⟨l, hl, ho, hib, a, ha, hal, ham⟩ := h
      obtain ⟨⟨x, hx⟩, ⟨y, hy⟩⟩ := g2
      exact Or.inr ⟨l, by rw [hx]; exact List.mem_append_left _ hl, by rw [ho, hid], hib,
        a, by rw [hy]; exact List.mem_append_left _ ha, hal, ham⟩

theorem StepRel.set_offsets {e : Env} {w w' : World} (h : StepRel e w w') (o : Offsets) : StepRel e w { w' with offsets := o } :=
  ⟨h.removes, h.keeps, h.grows, h.backed, h.nodup⟩

theorem StepRel.refl (e : Env) (w : World) : StepRel e w w :=
  ⟨.refl e w, fun _ h _ _ => h, ⟨⟨[], (List.append_nil _).symm⟩, ⟨[], (List.append_nil _).symm⟩⟩, fun b h hl => Or.inl ⟨b, h, rfl, hl⟩, id⟩

theorem StepRel.trans {e : Env} {a b c : World} (h1 : StepRel e a b) (h2 : StepRel e b c) : StepRel e a c :=
  ⟨h1.removes.trans h2.removes, KeepsP.trans h1.keeps h2.keeps, h1.grows.trans h2.grows,
   h1.backed.trans h2.grows h2.backed, fun h => h2.nodup (h1.nodup h)⟩

/-- `L`: any duplicate-free list containing `v` and the current vaults -/
theorem stepRel_of_handOver {e : Env} {L : List Vault} (hL : (L.map (·.id)).Nodup) {w w' : World} {v : Vault} {a : Nat} {k : Amounts}
    (hsub : ∀ q, q ∈ w.vaults → q ∈ L) (hv : v ∈ L) (hu : vaultUnsafe e v = true ∧ GuardsOff e v.app)
    (h : handOver w v a k = some w') : StepRel e w w' := by
  obtain ⟨_, rfl⟩ := handOver_eq_some.1 h
  refine ⟨⟨fun q hq => (List.mem_filter.1 hq).1, fun q hq hnq => ?_⟩, fun _ hb _ _ => hb, ⟨⟨_, rfl⟩, ⟨_, rfl⟩⟩,
    fun b hb hl => Or.inl ⟨b, hb, rfl, hl⟩, id⟩
  have hid : q.id = v.id := Classical.byContradiction fun hne => hnq (List.mem_filter.2 ⟨hq, by simpa using hne⟩)
  rw [KeyedRecs.eq_of_key_eq hL (hsub q hq) hv hid]
  exact hu

theorem liquidateVaultV2_rel (e : Env) (L : List Vault) (hL : (L.map (·.id)).Nodup) (id : Nat) (w w' : World)
    (hsub : ∀ q, q ∈ w.vaults → q ∈ L) (h : liquidateVaultV2 e id w = some w') : StepRel e w w' := by
  rcases liquidateVaultV2_cases e id w w' h with rfl | ⟨v, p, k, hf, _, hu, hg, _, _, ho⟩
  · exact StepRel.refl e _
  · exact stepRel_of_handOver hL hsub (hsub v (List.mem_of_find?_eq_some hf)) ⟨hu, hg⟩ ho

/-- generation 1 (the decision is taken on the snapshot `v` of the pass); the caller has checked the app's guards -/
theorem liquidateVaultV1_rel (e : Env) (L : List Vault) (hL : (L.map (·.id)).Nodup) (a : Nat) (v : Vault) (w w' : World)
    (hga : GuardsOff e a) (hsub : ∀ q, q ∈ w.vaults → q ∈ L) (hv : v ∈ L) (h : liquidateVaultV1 e a v w = some w') : StepRel e w w' := by
  rcases liquidateVaultV1_cases e a v w w' h with rfl | ⟨p, k, ha, _, hu, _, _, ho⟩
  · exact StepRel.refl e _
  · exact stepRel_of_handOver hL hsub hv ⟨hu, ha ▸ hga⟩ ho

/-- the borrow side of a seizure in both generations: the step rewrites the one record found under `id`, and that record fails `P` -/
theorem keepsP_of_modify {P : Borrow → Prop} {w w' : World} (hn : NodupB w) {id : Nat} {b0 : Borrow}
    (hf : w.borrows.find? (·.id == id) = some b0) (hP : ¬ P b0) {g : Borrow → Borrow} (hg : ∀ x, (g x).id = x.id)
    (hw : w'.borrows = w.borrows.map (fun x => if x.id == id then g x else x)) : KeepsP P w w' ∧ NodupB w' := by
  obtain ⟨hm, hid⟩ := KeyedRecs.find?_key Borrow.id hf fun _ => beq_iff_eq
  refine ⟨fun b hb _ hs => ?_, ?_⟩
  · rw [hw]
    refine List.mem_map.2 ⟨b, hb, if_neg fun he => hP ?_⟩
    rw [← KeyedRecs.eq_of_key_eq hn hb hm ((eq_of_beq he).trans hid.symm)]
    exact hs
  · unfold NodupB
    rw [hw, modify_ids hg]
    exact hn

theorem liquidateBorrowV2_rel (e : Env) (id : Nat) (w w' : World) (hn : NodupB w)
    (h : liquidateBorrowV2 e id w = some w') : StepRel e w w' := by
  rcases liquidateBorrowV2_cases e id w w' h with rfl | ⟨b0, r, hf, _, _, hu, hk, hwl, _, _, _, rfl⟩
  · exact StepRel.refl e _
  have hkeep : KeepsB e w (borrowSeized e w id b0 r) ∧ NodupB (borrowSeized e w id b0 r) :=
    keepsP_of_modify hn hf (by simp [hu, hk, hwl]) (g := fun x => { x with liquidated := true }) (fun _ => rfl) rfl
  refine ⟨Removes.refl e w, hkeep.1, ⟨⟨_, rfl⟩, ⟨_, rfl⟩⟩, fun b' hb' hl' => ?_, fun _ => hkeep.2⟩
  obtain ⟨x, hx, rfl⟩ := List.mem_map.1 hb'
  by_cases hid : (x.id == id) = true
  · refine Or.inr ⟨_, List.mem_append_right _ (List.mem_singleton.2 rfl), ?_, rfl, _, List.mem_append_right _ (List.mem_singleton.2 rfl), rfl, rfl⟩
    rw [if_pos hid]
    exact (KeyedRecs.find?_key Borrow.id hf fun _ => beq_iff_eq).2.trans (eq_of_beq hid).symm
  · rw [if_neg hid] at hl' ⊢
    exact Or.inl ⟨x, hx, rfl, hl'⟩

theorem vaultPass_rel (e : Env) (L : List Vault) (batch key off : Nat) (f : Vault → World → Option World)
    (hf : ∀ v, v ∈ L → ∀ w w', (∀ q, q ∈ w.vaults → q ∈ L) → f v w = some w' → StepRel e w w')
    (w w' : World) (hsub : ∀ q, q ∈ w.vaults → q ∈ L) (h : vaultPass batch key off f w = some w') : StepRel e w w' := by
  obtain ⟨sl, _, hsl, rfl, rfl⟩ := vaultPass_some h
  exact (fold_applyIfNoError (I := fun w => ∀ q, q ∈ w.vaults → q ∈ L) (StepRel.refl e) StepRel.trans
    (fun hr hI q hq => hI q (hr.removes.1 q hq)) (fun v hv => hf v (hsub v (hsl v hv))) hsub).set_offsets _

theorem borrowPassV2_rel (e : Env) (batch : Nat) (w w' : World) (hn : NodupB w) (h : borrowPassV2 e batch w = .ok w') :
    StepRel e w w' := by
  obtain ⟨ids, _, _, rfl, rfl⟩ := borrowPassV2_ok h
  exact (fold_applyIfNoError (l := ids) (StepRel.refl e) StepRel.trans (fun hr hI => hr.nodup hI)
    (fun id _ w w' hI hs => liquidateBorrowV2_rel e id w w' hI hs) hn).set_offsets _

theorem blockV2_ok {e : Env} {batch : Nat} {w w' : World} (h : blockV2 e batch w = .ok w') :
    ∃ w1, vaultPass batch 0 ((w.offsets.get? 0).getD 0) (fun v => liquidateVaultV2 e v.id) w = some w1 ∧
      borrowPassV2 e batch w1 = .ok w' := by
  unfold blockV2 at h
  simp only at h
  split at h
  · cases h
  next w1 hvp => exact ⟨w1, hvp, h⟩

theorem blockV2_rel (e : Env) (batch : Nat) (w w' : World) (hn : NodupIds w) (hb : NodupB w)
    (h : blockV2 e batch w = .ok w') : StepRel e w w' := by
  obtain ⟨w1, hvp, hbp⟩ := blockV2_ok h
  have hr1 : StepRel e w w1 :=
    vaultPass_rel e w.vaults batch 0 _ _ (fun v _ a b hsub hfv => liquidateVaultV2_rel e w.vaults hn v.id a b hsub hfv) w w1
      (fun _ h => h) hvp
  exact hr1.trans (borrowPassV2_rel e batch w1 w' (hr1.nodup hb) hbp)

/-- the app records of the environment are keyed by their id -/
def AppsUnique (e : Env) : Prop := ∀ a, a ∈ e.apps → e.app a.id = a

theorem appsLoopV1_skip {e : Env} {batch : Nat} {a : App} {rest : List App} {w : World} (h : a.kill = true ∨ a.esm = true) :
    appsLoopV1 e batch (a :: rest) w = appsLoopV1 e batch rest w := by
  rw [appsLoopV1, if_pos (by simpa using h)]

theorem appsLoopV1_rel (e : Env) (batch : Nat) (L : List Vault) (hL : (L.map (·.id)).Nodup) (apps : List App) (w w' : World)
    (hA : ∀ a, a ∈ apps → e.app a.id = a ∧ a.wl1 = true)
    (hsub : ∀ q, q ∈ w.vaults → q ∈ L) (h : appsLoopV1 e batch apps w = some w') : StepRel e w w' := by
  induction apps generalizing w with
  | nil => rw [Option.some.inj h]; exact StepRel.refl e w'
  | cons a rest ih =>
    unfold appsLoopV1 at h
    have hA' : ∀ a', a' ∈ rest → e.app a'.id = a' ∧ a'.wl1 = true := fun a' ha' => hA a' (List.mem_cons_of_mem _ ha')
    split at h
    · exact ih w hA' hsub h
    next hoff =>
    simp only at h
    split at h
    · cases h
    next w1 hvp =>
    obtain ⟨he, hw⟩ := hA a List.mem_cons_self
    have hoff' : a.kill = false ∧ a.esm = false := by simpa using hoff
    have hga : GuardsOff e a.id := by unfold GuardsOff; rw [he]; exact ⟨hoff'.2, hoff'.1, Or.inr hw⟩
    have hr1 : StepRel e w w1 :=
      vaultPass_rel e L batch a.id _ _ (fun v hv x y hs hfv => liquidateVaultV1_rel e L hL a.id v x y hga hs hv hfv) w w1 hsub hvp
    exact hr1.trans (ih w1 hA' (fun q hq => hsub q (hr1.removes.1 q hq)) h)

theorem msgLiquidateV2_rel (e : Env) (liqType id : Nat) (w w' : World) (hn : NodupIds w) (hb : NodupB w)
    (h : msgLiquidateV2 e liqType id w = some w') : StepRel e w w' := by
  unfold msgLiquidateV2 at h
  split at h
  · exact liquidateVaultV2_rel e w.vaults hn id w w' (fun _ h => h) h
  · split at h
    · exact liquidateBorrowV2_rel e id w w' hb h
    · rw [Option.some.inj h]; exact StepRel.refl e w'

theorem msgLiquidateVaultV1_eq_some {e : Env} {app id : Nat} {w w' : World} :
    msgLiquidateVaultV1 e app id w = some w' ↔ (e.app app).wl1 = true ∧ (e.app app).kill = false ∧ (e.app app).esm = false ∧
      ∃ v, w.vaults.find? (·.id == id) = some v ∧ liquidateVaultV1 e app v w = some w' := by
  constructor
  · intro h
    unfold msgLiquidateVaultV1 at h
    obtain ⟨hwl, h⟩ := Option.ite_none_left_eq_some.1 h
    obtain ⟨hoff, h⟩ := Option.ite_none_left_eq_some.1 h
    split at h
    · cases h
    next v hf =>
    have hoff' : (e.app app).kill = false ∧ (e.app app).esm = false := by simpa using hoff
    exact ⟨by simpa using hwl, hoff'.1, hoff'.2, v, hf, h⟩
  · rintro ⟨h1, h2, h3, v, hf, h⟩
    unfold msgLiquidateVaultV1
    simp only [h1, h2, h3, hf, Bool.not_true, Bool.or_self, Bool.false_eq_true, if_false]
    exact h

theorem msgLiquidateVaultV1_rel (e : Env) (app id : Nat) (w w' : World) (hn : NodupIds w)
    (h : msgLiquidateVaultV1 e app id w = some w') : StepRel e w w' := by
  obtain ⟨hwl, hk, hesm, v, hf, h⟩ := msgLiquidateVaultV1_eq_some.1 h
  exact liquidateVaultV1_rel e w.vaults hn app v w w' ⟨hesm, hk, Or.inr hwl⟩ (fun _ h => h) (List.mem_of_find?_eq_some hf) h

/-- the borrow list with `IsLiquidated` set on the borrow `id` and its collateral reduced to `n` -/
def flagV1 (id : Nat) (n : Int) (l : List Borrow) : List Borrow :=
  l.map (fun x => if x.id == id then { x with liquidated := true, amountIn := n } else x)

/-- what a generation-1 borrow seizure checks and writes — all of it but `totalBorrowed`, the one write that differs between sweep
and message (no field mentions `sweep`) -/
structure SeizedV1 (e : Env) (sweep : Bool) (b : Borrow) (r : Dec) (w w' : World) (i : SellOffIn) (o : SellOffOut) : Prop where
  hin : b.sellOffIn e = some i
  hout : sellOffV1 i = some o
  auc : (e.app b.app).lendAuc1 = true
  pool1 : o.toAuction + o.toReserve ≤ w.poolBal.get b.assetIn
  pool2 : o.totalDeduction ≤ w.poolBal.get b.cAsset
  vaults : w'.vaults = w.vaults
  counter : w'.counter = w.counter
  vaultBal : w'.vaultBal = w.vaultBal
  offsets : w'.offsets = w.offsets
  borrows : w'.borrows = flagV1 b.id o.newAmountIn w.borrows
  poolBal : w'.poolBal = (w.poolBal.add b.assetIn (- (o.toAuction + o.toReserve))).add b.cAsset (- o.totalDeduction)
  auctionBal : w'.auctionBal = w.auctionBal.add b.assetIn o.toAuction
  reserveBal : w'.reserveBal = w.reserveBal.add b.assetIn o.toReserve
  lockedId : w'.lockedId = w.lockedId + 1
  lendAuctionId : w'.lendAuctionId = w.lendAuctionId + 1
  auctionId : w'.auctionId = w.auctionId
  lendBal : w'.lendBal = w.lendBal.add b.lendId (- o.lendReduction)
  totalLend : w'.totalLend = w.totalLend.add (statKey b.pool b.assetIn) (- o.lendReduction)
  books : ∃ l a, w'.newLocked = w.newLocked ++ [l] ∧ w'.newAuctions = w.newAuctions ++ [a] ∧ l.orig = b.id ∧ l.isBorrow = true ∧
    l.id = w.lockedId + 1 ∧ a.locked = l.id ∧ a.id = w.lendAuctionId + 1 ∧ a.asset = b.assetIn ∧ l.amountIn = o.newAmountIn ∧
    l.collValue = o.selloff ∧ a.target = l.target ∧ l.debt = b.principal ∧ l.cr = r ∧ a.dutch = true ∧
    a.amount = Dec.truncateInt (Dec.quo o.selloff (assetValue 1 i.pIn i.dIn)) ∧
    a.target = Dec.truncateInt (Dec.quo o.selloff (assetValue 1 i.pOut i.dOut)) ∧ 0 ≤ a.amount ∧ 0 ≤ a.target

theorem Borrow.sellOffIn_amountIn {e : Env} {b : Borrow} {i : SellOffIn} (h : b.sellOffIn e = some i) : i.amountIn = b.amountIn := by
  unfold Borrow.sellOffIn at h
  split at h
  · split at h
    · cases h; rfl
    · cases h
  · cases h

theorem seizeBorrowV1_spec (e : Env) (sweep : Bool) (b : Borrow) (r : Dec) (w w' : World)
    (h : seizeBorrowV1 e sweep b r w = some w') : ∃ i o, SeizedV1 e sweep b r w w' i o := by
  unfold seizeBorrowV1 at h
  split at h
  · cases h
  next i hi =>
  split at h
  · cases h
  next o ho =>
  obtain ⟨hp1, h⟩ := Option.ite_none_left_eq_some.1 h
  obtain ⟨hp2, h⟩ := Option.ite_none_left_eq_some.1 h
  obtain ⟨_, h⟩ := Option.ite_none_left_eq_some.1 h
  obtain ⟨hauc, h⟩ := Option.ite_none_left_eq_some.1 h
  obtain ⟨hneg, h⟩ := Option.ite_none_left_eq_some.1 h
  cases h
  exact ⟨i, o, {
    hin := hi, hout := ho, auc := by simpa using hauc, pool1 := Int.not_lt.1 hp1, pool2 := Int.not_lt.1 hp2
    vaults := rfl, counter := rfl, vaultBal := rfl, offsets := rfl, borrows := rfl, poolBal := rfl, auctionBal := rfl, reserveBal := rfl
    lockedId := rfl, lendAuctionId := rfl, auctionId := rfl, lendBal := rfl, totalLend := rfl
    -- the appended locked vault and auction are the witnesses; only the two signs at the end are not by computation
    books := ⟨_, _, rfl, rfl, rfl, rfl, rfl, rfl, rfl, rfl, rfl, rfl, rfl, rfl, rfl, rfl, rfl, rfl, by simp only; omega, by simp only; omega⟩ }⟩

theorem liquidateBorrowV1_cases (e : Env) (sweep : Bool) (id : Nat) (w w' : World) (h : liquidateBorrowV1 e sweep id w = some w') :
    w' = w ∨ ∃ b r, w.borrows.find? (·.id == id) = some b ∧ b.liquidated = false ∧ (e.app b.app).kill = false ∧
      borrowRatio e b = some r ∧ borrowUnsafe e b = true ∧
      seizeBorrowV1 e sweep b r w = some w' := by
  have same : ∀ {c : Prop} [Decidable c], (if c then some w else none) = some w' → w' = w :=
    fun h => (Option.some.inj (Option.ite_none_right_eq_some.1 h).2).symm
  unfold liquidateBorrowV1 at h
  split at h
  · exact Or.inl (same h)
  next b hb =>
  by_cases hl : b.liquidated = true
  · rw [if_pos hl] at h; exact Or.inl (same h)
  rw [if_neg hl] at h
  obtain ⟨hk, h⟩ := Option.ite_none_left_eq_some.1 h
  split at h
  next tin tout hin hout =>
    obtain ⟨h0, h⟩ := Option.ite_none_left_eq_some.1 h
    by_cases hgt : Dec.quo tout tin > borrowThreshold b
    · rw [if_pos hgt] at h
      have hr : borrowRatio e b = some (Dec.quo tout tin) := borrowRatio_eq_some.2 ⟨tin, tout, hin, hout, h0, rfl⟩
      exact Or.inr ⟨b, _, hb, by simpa using hl, by simpa using hk, hr, (borrowUnsafe_iff e b).2 ⟨_, hr, hgt⟩, h⟩
    · rw [if_neg hgt] at h; exact Or.inl (Option.some.inj h).symm
  · exact Or.inl (same h)

theorem liquidateBorrowV1_vaults (e : Env) (sweep : Bool) (id : Nat) (w w' : World) (h : liquidateBorrowV1 e sweep id w = some w') :
    w'.vaults = w.vaults := by
  rcases liquidateBorrowV1_cases e sweep id w w' h with rfl | ⟨b0, r0, _, _, _, _, _, hsz⟩
  · rfl
  · obtain ⟨_, _, S⟩ := seizeBorrowV1_spec e sweep b0 r0 w w' hsz
    exact S.vaults

theorem liquidateBorrowV1_keeps (e : Env) (sweep : Bool) (id : Nat) (w w' : World) (hn : NodupB w)
    (h : liquidateBorrowV1 e sweep id w = some w') : KeepsB1 e w w' ∧ NodupB w' := by
  rcases liquidateBorrowV1_cases e sweep id w w' h with rfl | ⟨b0, r0, hf, _, hk0, _, hu0, hs⟩
  · exact ⟨fun _ hb _ _ => hb, hn⟩
  obtain ⟨i, o, S⟩ := seizeBorrowV1_spec e sweep b0 r0 w w' hs
  exact keepsP_of_modify hn hf (by simp [hu0, hk0]) (g := fun x => { x with liquidated := true, amountIn := o.newAmountIn })
    (fun _ => rfl) (by rw [S.borrows, (KeyedRecs.find?_key Borrow.id hf fun _ => beq_iff_eq).2]; rfl)

theorem borrowPassV1_vaults (e : Env) (batch : Nat) (w w' : World) (h : borrowPassV1 e batch w = .ok w') : w'.vaults = w.vaults := by
  obtain ⟨ids, _, _, rfl, rfl⟩ := borrowPassV1_ok h
  exact fold_applyIfNoError (R := fun w w' => w'.vaults = w.vaults) (I := fun _ => True) (l := ids) (fun _ => rfl)
    (fun h1 h2 => h2.trans h1) (fun _ _ => trivial) (fun id _ w w' _ hs => liquidateBorrowV1_vaults e true id w w' hs) trivial

theorem borrowPassV1_keeps (e : Env) (batch : Nat) (w w' : World) (hn : NodupB w) (h : borrowPassV1 e batch w = .ok w') :
    KeepsB1 e w w' ∧ NodupB w' := by
  obtain ⟨ids, _, _, rfl, rfl⟩ := borrowPassV1_ok h
  have := fold_applyIfNoError (R := fun w w' => KeepsB1 e w w' ∧ (NodupB w → NodupB w')) (l := ids) (fun _ => ⟨fun _ h _ _ => h, id⟩)
    (fun h1 h2 => ⟨KeepsP.trans h1.1 h2.1, fun h => h2.2 (h1.2 h)⟩) (fun hr hI => hr.2 hI)
    (fun id _ w w' hI hs => let r := liquidateBorrowV1_keeps e true id w w' hI hs; ⟨r.1, fun _ => r.2⟩) hn
  exact ⟨this.1, this.2 hn⟩

/-- NOT a `StepRel`: for generation-1 borrows only `KeepsB1` is proved, neither `Grows` nor `Backed` -/
theorem blockV1_rel (e : Env) (batch : Nat) (w w' : World) (hU : AppsUnique e) (hn : NodupIds w)
    (h : blockV1 e batch w = .ok w') : Removes e w w' ∧ (NodupB w → KeepsB1 e w w' ∧ NodupB w') := by
  unfold blockV1 at h
  split at h
  · cases h
  next w1 hl =>
  have hr := appsLoopV1_rel e batch w.vaults hn _ w w1
    (fun a ha => ⟨hU a (List.mem_filter.1 ha).1, (List.mem_filter.1 ha).2⟩) (fun _ h => h) hl
  refine ⟨hr.removes.trans (.of_vaults_eq e (borrowPassV1_vaults e batch w1 w' h)), fun hb => ?_⟩
  have r := borrowPassV1_keeps e batch w1 w' (hr.nodup hb) h
  exact ⟨KeepsP.trans hr.keeps.toV1 r.1, r.2⟩

theorem liquidateBorrowV2_vaultSide (e : Env) (id : Nat) (w w' : World) (h : liquidateBorrowV2 e id w = some w') :
    w'.vaults = w.vaults ∧ w'.counter = w.counter ∧ w'.vaultBal = w.vaultBal ∧ w'.offsets = w.offsets := by
  rcases liquidateBorrowV2_cases e id w w' h with rfl | ⟨b, r, _, _, _, _, _, _, _, _, _, rfl⟩ <;> exact ⟨rfl, rfl, rfl, rfl⟩

theorem borrowPassV2_vaultSide (e : Env) (batch : Nat) (w w' : World) (h : borrowPassV2 e batch w = .ok w') :
    w'.vaults = w.vaults ∧ w'.counter = w.counter ∧ w'.vaultBal = w.vaultBal ∧ w'.offsets.get? 0 = w.offsets.get? 0 := by
  obtain ⟨ids, _, _, rfl, rfl⟩ := borrowPassV2_ok h
  have := fold_applyIfNoError (l := ids) (I := fun _ => True)
    (R := fun w w' => w'.vaults = w.vaults ∧ w'.counter = w.counter ∧ w'.vaultBal = w.vaultBal ∧ w'.offsets = w.offsets)
    (fun _ => ⟨rfl, rfl, rfl, rfl⟩)
    (fun h1 h2 => ⟨h2.1.trans h1.1, h2.2.1.trans h1.2.1, h2.2.2.1.trans h1.2.2.1, h2.2.2.2.trans h1.2.2.2⟩) (fun _ _ => trivial)
    (fun id _ w w' _ hs => liquidateBorrowV2_vaultSide e id w w' hs) (w := w) trivial
  exact ⟨this.1, this.2.1, this.2.2.1, by rw [← this.2.2.2]; exact Offsets.get?_set_other _ 1 0 _ (by decide)⟩

/-- `pen`, `bon`: the x/auctionsV2 parameters the fee and bonus come from. The handler also checks both assets, the signs of the
amounts and both prices, of which C09 says nothing -/
theorem msgLiquidateExternalV2_effect {e : Env} {app ca da : Nat} {camt damt ub : Int} {w w' : World}
    (h : msgLiquidateExternalV2 e app ca da camt damt ub w = some w') :
    ∃ pen bon, e.aucParams2 = some (pen, bon) ∧ 0 < w.appReserve.get (statKey app da) ∧ camt ≤ ub ∧
      (e.app app).wl2 = true ∧ (e.app app).dutch2 = true ∧
      w' = { w with
        auctionBal := if camt = 0 then w.auctionBal else w.auctionBal.add ca camt
        lockedId := w.lockedId + 1
        auctionId := w.auctionId + 1
        newLocked := w.newLocked ++ [{ id := w.lockedId + 1, orig := 0, app := app, amountIn := camt, isBorrow := false, debt := damt,
                                       target := damt + Dec.truncateInt (Dec.mul (Dec.ofInt damt) pen),
                                       fee := Dec.truncateInt (Dec.mul (Dec.ofInt damt) pen),
                                       bonus := Dec.truncateInt (Dec.mul (Dec.ofInt damt) bon), cr := 0, collValue := camt }]
        newAuctions := w.newAuctions ++ [{ id := w.auctionId + 1, locked := w.lockedId + 1, asset := ca, amount := camt,
                                           target := damt + Dec.truncateInt (Dec.mul (Dec.ofInt damt) pen) }] } := by
  unfold msgLiquidateExternalV2 at h
  split at h
  · cases h
  next pen bon hpar =>
  split at h
  · obtain ⟨hres, h⟩ := Option.ite_none_left_eq_some.1 h
    obtain ⟨_, h⟩ := Option.ite_none_left_eq_some.1 h
    obtain ⟨hub, h⟩ := Option.ite_none_left_eq_some.1 h
    obtain ⟨hwl, h⟩ := Option.ite_none_left_eq_some.1 h
    obtain ⟨_, h⟩ := Option.ite_none_left_eq_some.1 h
    have hwl' : (e.app app).wl2 = true ∧ (e.app app).dutch2 = true := by simpa using hwl
    exact ⟨pen, bon, hpar, Int.not_le.1 hres, Int.not_lt.1 hub, hwl'.1, hwl'.2, (Option.some.inj h).symm⟩
  · cases h

theorem msgAppReserveFunds_effect {e : Env} {app asset : Nat} {denomOk : Bool} {amt userBal : Int} {w w' : World}
    (h : msgAppReserveFunds e app asset denomOk amt userBal w = some w') :
    amt ≤ userBal ∧
    w' = { w with appReserve := w.appReserve.add (statKey app asset) amt
                  liqBal := if amt = 0 then w.liqBal else w.liqBal.add asset amt } := by
  unfold msgAppReserveFunds at h
  split at h
  · cases h
  obtain ⟨_, h⟩ := Option.ite_none_left_eq_some.1 h
  obtain ⟨_, h⟩ := Option.ite_none_left_eq_some.1 h
  obtain ⟨hub, h⟩ := Option.ite_none_left_eq_some.1 h
  exact ⟨Int.not_lt.1 hub, (Option.some.inj h).symm⟩

end Comdex.Liquidation
