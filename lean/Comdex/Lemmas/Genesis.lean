import Comdex.Model.Genesis
import Comdex.Model.GenesisTable
/-! For the genesis round-trip law (C20): look-ups through `filter`, `++` and the recomputed counters; the table of a module is
well formed by construction (`tableOf_wf`); the migration loop (`encode_decodeInto_fresh`, `decodeInto_full`). -/
namespace Comdex.Genesis

theorem get_nil (p k : String) : get [] p k = none := rfl

theorem get_cons (e : Entry) (s : Store) (p k : String) :
    get (e :: s) p k = if (e.pfx == p && e.key == k) = true then some e.val else get s p k := by
  simp only [get, List.find?_cons]; split <;> simp_all

theorem get_append (a b : Store) (p k : String) : get (a ++ b) p k = (get a p k).or (get b p k) := by
  simp only [get, List.find?_append]; cases a.find? _ <;> rfl

theorem get_filter (q : String → Bool) (s : Store) (p k : String) :
    get (s.filter fun e => q e.pfx) p k = if q p = true then get s p k else none := by
  induction s with
  | nil => simp [get_nil]
  | cons e s ih =>
    by_cases he : e.pfx = p
    · subst he; by_cases hq : q e.pfx = true <;> by_cases hk : e.key = k <;> simp [get_cons, hq, hk, ih]
    · by_cases hq : q e.pfx = true <;> simp [get_cons, hq, he, ih]

theorem get_export (t : Table) (s : Store) (p k : String) :
    get («export» t s) p k = if t.restored.contains p = true then get s p k else none :=
  get_filter (fun q => t.restored.contains q) s p k

theorem get_init (t : Table) (idx : Store → Store) (g : Store) (p k : String) :
    get (init t idx g) p k = ((get g p k).or (get (counterEntries g t.counters) p k)).or (get (idx g) p k) := by
  rw [init, get_append, get_append]

theorem get_none_of_pfx (s : Store) (p k : String) (h : ∀ e ∈ s, e.pfx ≠ p) : get s p k = none := by
  rw [get, List.find?_eq_none.mpr fun e he => by simp [h e he]]; rfl

theorem get_some_pfx (s : Store) (p k : String) (v : Val) (h : get s p k = some v) : ∃ e ∈ s, e.pfx = p ∧ e.key = k := by
  simp only [get, Option.map_eq_some_iff] at h
  obtain ⟨e, he, -⟩ := h
  exact ⟨e, List.mem_of_find?_eq_some he, by simpa using List.find?_some he⟩

theorem get_counterEntries (g : Store) (cs : List Counter) (p k : String)
    (hnd : (cs.map (·.pfx)).Nodup) :
    get (counterEntries g cs) p k =
      if k = "" then
        match cs.find? (fun c => c.pfx == p) with
        | some c => (ruleVal g c.rule).map Val.num
        | none => none
      else none := by
  induction cs with
  | nil => simp [counterEntries, get_nil]
  | cons c cs ih =>
    rw [List.map_cons, List.nodup_cons] at hnd
    have ih := ih hnd.2
    by_cases hcp : c.pfx = p
    · -- no later counter has the same prefix
      have hlater : cs.find? (fun c' => c'.pfx == p) = none :=
        List.find?_eq_none.mpr fun c' hc' hb => hnd.1 (by simpa [hcp, ← beq_iff_eq.mp hb] using List.mem_map_of_mem hc')
      rw [hlater] at ih
      by_cases hk : k = ""
      · subst hk
        cases hr : ruleVal g c.rule <;> simp [counterEntries, hr, get_cons, hcp, ih]
      · cases hr : ruleVal g c.rule <;> simp [counterEntries, hr, get_cons, hcp, hk, ih, eq_comm (a := "")]
    · cases hr : ruleVal g c.rule <;> simp [counterEntries, hr, get_cons, hcp, ih]

theorem encode_decodeInto_fresh {n : Nat} {w : Wire} (h : Wire.canonical n w) :
    encode (decodeInto (List.replicate n 0) w) = w := by
  obtain ⟨hn, hx⟩ := h
  induction w generalizing n with
  | nil => cases n <;> rfl
  | cons x xs ih =>
    cases n with
    | zero => simp at hn
    | succ n =>
      have hlen : xs.length = n := by simpa using hn
      have hxs : ∀ y ∈ xs, y ≠ some 0 := fun y hy => hx y (List.mem_cons_of_mem _ hy)
      have ih' := ih hlen hxs
      cases x with
      | none =>
        simp only [List.replicate_succ, decodeInto, encode, List.map_cons, if_true]
        unfold encode at ih'; rw [ih']
      | some v =>
        have hv : v ≠ 0 := by
          intro h; exact hx (some v) (List.mem_cons_self) (by rw [h])
        simp only [List.replicate_succ, decodeInto, encode, List.map_cons, hv, if_false]
        unfold encode at ih'; rw [ih']

theorem decodeInto_full (w : Wire) : ∀ acc : List Nat, acc.length = w.length → (∀ x ∈ w, x ≠ none) →
    decodeInto acc w = w.map (·.getD 0) := by
  induction w with
  | nil => intro acc _ _; cases acc <;> rfl
  | cons x xs ih =>
    intro acc hl hx
    cases acc with
    | nil => simp at hl
    | cons d ds =>
      have hl' : ds.length = xs.length := by simpa using hl
      have hxs : ∀ y ∈ xs, y ≠ none := fun y hy => hx y (List.mem_cons_of_mem _ hy)
      cases x with
      | none => exact absurd rfl (hx none List.mem_cons_self)
      | some v => simp only [decodeInto, List.map_cons, Option.getD_some, ih ds hl' hxs]

open Comdex.Gen.Genesis (Module)

theorem computedCounters_pfx_sublist (m : Module) :
    ((computedCounters m).map (·.pfx)).Sublist (m.counters.map (·.pfx)) := by
  unfold computedCounters
  induction m.counters with
  | nil => exact .slnil
  | cons c cs ih =>
    rw [List.filterMap_cons]
    cases computedRule c.rule with
    | none => exact ih.cons _
    | some r => exact ih.cons_cons _

/-- Given two facts about the extracted module: a genesis field
is filled only from prefixes ExportGenesis reads, and no counter prefix is listed twice. (Recomputed counters are excluded
from `restoredOf` / `derivedOf` by their filters; a rebuilt prefix is not exported, a carried one is read into a field.) -/
theorem tableOf_wf (m : Module) (hflows : ∀ f ∈ m.flows, ∀ p ∈ f.2.1, p ∈ m.exported)
    (hnd : (m.counters.map (·.pfx)).Nodup) : (tableOf m).wf = true := by
  have hcc : ∀ c ∈ computedCounters m, isComputedCounter m c.pfx = true := fun c hc =>
    List.any_eq_true.mpr ⟨c, hc, beq_self_eq_true _⟩
  simp only [Table.wf, tableOf, Bool.and_eq_true, List.all_eq_true, Bool.not_eq_true',
    ← Bool.not_eq_true, List.contains_iff_mem]
  refine ⟨⟨fun c hc => ⟨fun h => ?_, fun h => ?_⟩, fun p hp h => ?_⟩, decide_eq_true (hnd.sublist (computedCounters_pfx_sublist m))⟩
  · simp [restoredOf, hcc c hc] at h
  · simp [derivedOf, hcc c hc] at h
  · simp only [restoredOf, derivedOf, List.mem_filter, Bool.and_eq_true, Bool.not_eq_true', faithful, List.any_eq_true,
      List.contains_iff_mem] at hp h
    obtain ⟨f, hf, hr, -⟩ := h.2.1.1
    exact absurd (hflows f hf p hr) (by simpa using hp.2.1.2)

end Comdex.Genesis
