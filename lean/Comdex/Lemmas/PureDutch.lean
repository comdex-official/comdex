import Comdex.Lemmas.GoSem
import Comdex.Model.DutchPrice
/-!
`GoSem.M` → `Except Unit`: the Dutch price model (`Model/DutchPrice.lean`) has a single failure ("the step panics,
`ApplyFuncIfNoError` writes nothing"), so the panic class of the translation is forgotten.  `forget` is a monad
morphism; the image of every primitive the price functions use is given.  Used by `Props/C10Pure.lean`.
-/
namespace Comdex.PureDutch
open Comdex.GoSem

def forget {α : Type} : M α → Except Unit α
  | .ok a => .ok a
  | .error _ => .error ()

theorem forget_bind {α β : Type} (x : M α) (f : α → M β) :
    forget (x >>= f) = forget x >>= fun a => forget (f a) := by
  cases x <;> rfl
theorem forget_pure {α : Type} (a : α) : forget (pure a : M α) = pure a := rfl
theorem forget_ok {α : Type} (a : α) : forget (Except.ok a : M α) = pure a := rfl

theorem forget_chkDec (x : Dec) : forget (chkDec x) = DutchPrice.chk x := by
  unfold chkDec DutchPrice.chk; split <;> rfl
theorem forget_decMul (a b : Dec) : forget (decMul a b) = DutchPrice.chk (Dec.mul a b) := forget_chkDec _
theorem forget_decQuo (a b : Dec) :
    forget (decQuo a b) = if b = 0 then .error () else DutchPrice.chk (Dec.quo a b) := by
  unfold decQuo; split
  · rfl
  · exact forget_chkDec _
theorem fitsI64_eq (a : Int) : GoSem.fitsI64 a = DutchPrice.fitsI64 a := rfl

theorem forget_intInt64 (a : Int) : forget (intInt64 a) = if DutchPrice.fitsI64 a then pure a else .error () := by
  unfold intInt64
  rw [fitsI64_eq]
  split <;> rfl
theorem forget_intSub (a b : Int) : forget (intSub a b) = if Dec.fitsInt (a - b) then pure (a - b) else .error () := by
  unfold intSub chkInt; split <;> rfl

theorem bind_error_unit {α β : Type} (x : Except Unit α) : (x >>= fun _ => (Except.error () : Except Unit β)) = .error () := by
  cases x <;> rfl

theorem error_bind_unit {α β : Type} (f : α → Except Unit β) : ((Except.error () : Except Unit α) >>= f) = .error () := rfl

theorem fitsInt_of_fitsI64 {x : Int} (h : DutchPrice.fitsI64 x = true) : Dec.fitsInt x = true := by
  unfold DutchPrice.fitsI64 at h
  unfold Dec.fitsInt
  simp only [Bool.and_eq_true, decide_eq_true_eq] at h ⊢
  omega

end Comdex.PureDutch
