import Comdex.Lemmas.Locker
import Comdex.Lemmas.Accrual
/-! C13 with the reward computed inside the model (`stepT`): every timed operation is an operation of `step` followed by writes to
fields the books do not read, except the sweep of a saving-rate change, which runs `lsrIter` with computed amounts. -/
namespace Comdex.Locker
variable {D : Nat → Int} {s s' : State} {id : Nat}

theorem accrue_pay_pos (s : State) (ctx : Ctx) (app asset id : Nat) (pw : Option Int) (ρ : Int)
    (h : (accrue s ctx app asset id pw).1 = .pay ρ) : 1 ≤ ρ := by
  unfold accrue at h
  split at h; · cases h
  split at h; · cases h
  split at h; · cases h
  split at h
  · split at h
    · simp only at h
      split at h
      · next hge => cases h; exact Accrual.trackerStep_pay_pos _ _ hge
      · cases h
    · cases h
  · cases h

theorem accrue_rw_ok (s : State) (ctx : Ctx) (app asset id : Nat) (pw : Option Int) : (accrue s ctx app asset id pw).1.ok := by
  cases h : (accrue s ctx app asset id pw).1 with
  | none => trivial
  | fail => trivial
  | pay ρ => have := accrue_pay_pos s ctx app asset id pw ρ h; show 0 ≤ ρ; omega

theorem OpT.dmg_nonneg (op : OpT) (a : Nat) : 0 ≤ op.dmg a := by
  cases op with
  | plain op => exact Op.dmg_nonneg op a
  | _ => exact Int.le_refl 0

theorem touch_tr (app : Nat) (t : Option Dec) (ctx : Ctx) : Tr s (touch (setTracker s id app t) id ctx) := by
  cases t <;> exact Tr.same ⟨rfl, rfl, rfl, rfl, rfl⟩

/-- the tracker is written before `lsrIter` runs and the time stamp after it: two frames around the untimed iteration -/
theorem lsrIterT_inv {ctx : Ctx} {app asset : Nat} {lsr : Dec} {cbt : Int} {ct : Bool} {pw : Option Int} {cont : Bool}
    (hL : LInv s) (hC : CInvD D s) (hkey : HasKey s app asset id)
    (h : lsrIterT s ctx app asset id lsr cbt ct pw = some (s', cont)) :
    LInv s' ∧ CInvD D s' ∧ (∀ id', HasKey s app asset id' → HasKey s' app asset id') := by
  have frame : ∀ {t t' : State}, LInv t → CInvD D t → (∀ id', HasKey s app asset id' → HasKey t app asset id') → SameBooks t t' →
      LInv t' ∧ CInvD D t' ∧ ∀ id', HasKey s app asset id' → HasKey t' app asset id' :=
    fun a b k e => ⟨((Tr.same e).inv a b).1, ((Tr.same e).inv a b).2, fun id' hk => (k id' hk).frame e.lockers⟩
  unfold lsrIterT at h
  split at h
  · split at h
    · cases h
    · cases h; exact ⟨hL, hC, fun _ h => h⟩
    · next x _ =>
      simp only at h
      split at h
      · next hge =>
        have hρ : Rw.ok (.pay (Accrual.trackerStep (tracker s id app) x).1) := by
          have := Accrual.trackerStep_pay_pos _ _ hge
          show 0 ≤ _; omega
        have e0 : SameBooks s { s with trackers := Store.put s.trackers (id, app) (Accrual.trackerStep (tracker s id app) x).2 } :=
          ⟨rfl, rfl, rfl, rfl, rfl⟩
        obtain ⟨a0, b0, k0⟩ := frame hL hC (fun _ hk => hk) e0
        cases hit : lsrIter { s with trackers := Store.put s.trackers (id, app) (Accrual.trackerStep (tracker s id app) x).2 }
            app asset id (.pay (Accrual.trackerStep (tracker s id app) x).1) with
        | none => rw [hit] at h; cases h
        | some r =>
          obtain ⟨s1, res⟩ := r
          obtain ⟨a, b, _, d⟩ := lsrIter_inv hit a0 b0 hρ (k0 id hkey)
          rw [hit] at h
          rcases res with _ | (_ | _) <;> cases h
          · exact ⟨a, b, fun id' hk => d id' (k0 id' hk)⟩
          · exact ⟨a, b, fun id' hk => d id' (k0 id' hk)⟩
          · exact frame a b (fun id' hk => d id' (k0 id' hk)) ⟨rfl, rfl, rfl, rfl, rfl⟩
      · cases h
        exact frame hL hC (fun _ hk => hk) ⟨rfl, rfl, rfl, rfl, rfl⟩
  · cases h

theorem lsrLoopT_inv {ctx : Ctx} {app asset : Nat} {lsr : Dec} {cbt : Int} {ct : Bool} (ids : List Nat) :
    ∀ {s s' : State} {pws : List (Option Int)}, LInv s → CInvD D s → (∀ id ∈ ids, HasKey s app asset id) →
      lsrLoopT s ctx app asset lsr cbt ct ids pws = some s' → LInv s' ∧ CInvD D s' := by
  induction ids with
  | nil => intro s s' pws hL hC _ h; cases h; exact ⟨hL, hC⟩
  | cons id ids ih =>
    intro s s' pws hL hC hkeys h
    unfold lsrLoopT at h
    split at h
    · cases h
    · next s1 hit =>
      obtain ⟨hL1, hC1, hk1⟩ := lsrIterT_inv hL hC (hkeys id List.mem_cons_self) hit
      exact ih hL1 hC1 (fun id' hid' => hk1 id' (hkeys id' (List.mem_cons_of_mem _ hid'))) h
    · next s1 hit =>
      cases h
      obtain ⟨a, b, _⟩ := lsrIterT_inv hL hC (hkeys id List.mem_cons_self) hit
      exact ⟨a, b⟩

theorem iterateRewards_inv {ctx : Ctx} {app asset : Nat} {lsr : Dec} {cbt : Int} {ct : Bool} {pws : List (Option Int)}
    (hL : LInv s) (hC : CInvD D s) (h : iterateRewards s ctx app asset lsr cbt ct pws = some s') : LInv s' ∧ CInvD D s' := by
  unfold iterateRewards at h
  split at h
  · cases h; exact ⟨hL, hC⟩
  · next lk hlk => exact lsrLoopT_inv lk.ids hL hC (hL.hasKey hlk) h

theorem step_map_inv {o : Op} {post : State → State} (h : (step s o).map post = some s') (hL : LInv s) (hC : CInvD D s)
    (ho : o.extOk) (hv : o.isV2Close = false) (hpost : ∀ s1, Tr s1 (post s1)) : LInv s' ∧ CInvD D s' := by
  simp only [Option.map_eq_some_iff] at h
  obtain ⟨s1, hs, rfl⟩ := h
  obtain ⟨a, b, _⟩ := step_inv hL hC ho hv hs
  exact (hpost s1).inv a b

theorem lsrUpdate_inv {ctx : Ctx} {app asset : Nat} {c : CL} {pws : List (Option Int)} (hL : LInv s) (hC : CInvD D s)
    (h : stepT s ctx (.lsrUpdate app asset c pws) = some s') : LInv s' ∧ CInvD D s' := by
  simp only [stepT] at h
  split at h; · cases h
  next old hold =>
  have fin : ∀ {s1 : State} (bh bt : Int), LInv s1 ∧ CInvD D s1 →
      LInv ({ s1 with collk := Store.put s1.collk (app, asset) { c with bh := bh, bt := bt } } : State) ∧
      CInvD D ({ s1 with collk := Store.put s1.collk (app, asset) { c with bh := bh, bt := bt } } : State) :=
    fun {s1} _ _ h => Tr.inv (s := s1) (Tr.same ⟨rfl, rfl, rfl, rfl, rfl⟩) h.1 h.2
  have iter : ∀ {ct : Bool} {bh bt : Int}, ((iterateRewards s ctx app asset old.lsr old.bt ct pws).map fun s1 =>
      ({ s1 with collk := Store.put s1.collk (app, asset) { c with bh := bh, bt := bt } } : State)) = some s' →
      LInv s' ∧ CInvD D s' := by
    intro ct bh bt h
    simp only [Option.map_eq_some_iff] at h
    obtain ⟨s1, hs, rfl⟩ := h
    exact fin _ _ (iterateRewards_inv hL hC hs)
  by_cases hwl : (app, asset) ∈ s.rewardWl
  · rw [if_pos hwl] at h
    by_cases h0 : c.lsr = 0
    · rw [if_pos h0] at h; exact iter h
    · rw [if_neg h0] at h
      by_cases h1 : old.lsr = 0
      · rw [if_pos h1] at h; cases h; exact fin _ _ ⟨hL, hC⟩
      · rw [if_neg h1] at h
        by_cases h2 : old.lsr > 0 ∧ c.lsr > 0
        · rw [if_pos h2] at h; exact iter h
        · rw [if_neg h2] at h; cases h; exact fin _ _ ⟨hL, hC⟩
  · rw [if_neg hwl] at h; cases h; exact fin _ _ ⟨hL, hC⟩

/-- every timed operation, whatever `math.Pow` returned: the locker books stay exact, the collector books lose at most `dmg`
(`OpT.dmg` is `0` unless the operation is `plain`). -/
theorem stepT_inv {ctx : Ctx} {op : OpT} (hL : LInv s) (hC : CInvD D s) (hext : op.extOk)
    (h : stepT s ctx op = some s') : LInv s' ∧ CInvD (fun a => D a + op.dmg a) s' := by
  have add0 : LInv s' ∧ CInvD D s' → LInv s' ∧ CInvD (fun a => D a + 0) s' := fun h => ⟨h.1, h.2.mono fun a => by omega⟩
  cases op with
  | create u app asset amt =>
    exact add0 <| step_map_inv h hL hC trivial rfl fun _ => Tr.same ⟨rfl, rfl, rfl, rfl, rfl⟩
  | deposit u app asset id amt pw | withdraw u app asset id amt pw =>
    exact add0 <| step_map_inv h hL hC (accrue_rw_ok s ctx app asset id pw) rfl fun _ => touch_tr app _ ctx
  | close u app asset id pw =>
    exact add0 <| step_map_inv h hL hC (accrue_rw_ok s ctx app asset id pw) rfl fun _ => Tr.same ⟨rfl, rfl, rfl, rfl, rfl⟩
  | rewardCalc app id pw =>
    simp only [stepT] at h
    split at h; · cases h
    next l hl =>
    refine add0 <| step_map_inv h hL hC (accrue_rw_ok s ctx app l.asset id pw) rfl fun s1 => ?_
    split
    · exact Tr.refl s1
    · exact touch_tr app (some _) ctx
  | lsrUpdate app asset c pws => exact add0 (lsrUpdate_inv hL hC h)
  | wlReward app asset =>
    simp only [stepT, Option.ite_none_left_eq_some] at h
    obtain ⟨_, h⟩ := h
    split at h <;> cases h
    · exact add0 ⟨hL, hC⟩
    · exact add0 (Tr.inv (s := s) (Tr.same ⟨rfl, rfl, rfl, rfl, rfl⟩) hL hC)
  | plain op =>
    simp only [stepT] at h
    split at h
    · exact step_invD hL hC hext h
    · cases h

end Comdex.Locker
