import Comdex.Lemmas.Gauge
import Comdex.Lemmas.DecRound
import Comdex.Lemmas.Accrual
/-! C19, the share computation: the roundings of one payout chained into the pro-rata bound; the exact binary64 conversion. -/
namespace Comdex.Gauge

theorem chopRound_nonneg' (x : Int) (hx : 0 ≤ x) : 0 ≤ Dec.chopRound x := Dec.chopRound_nonneg x hx

/-- `r ≤ (1 + 2⁻⁵³)·(a·s/S + (s/P + 1)/(2P))` for weight `s` of total `S` (raw 10⁻¹⁸ units) and allocation `a`, cross-multiplied -/
def ProRata (r a s S : Int) : Prop :=
  r * TWO53 * (2 * Dec.P * Dec.P * S) ≤ (TWO53 + 1) * (2 * a * s * Dec.P * Dec.P + (s + Dec.P) * S)

theorem rewardOf_prorata (conv : Int → Int × Int) (hc : FloatUpper conv) (a S s r : Int)
    (ha : 0 ≤ a) (hS : 0 < S) (hs : 0 ≤ s) (h : rewardOf conv a S s = .ok r) : ProRata r a s S := by
  -- four roundings, each bounded from above: `m = Quo(a, S)` (`quo_upper`), `p = Mul(s, m)` (`mul_upper`), `conv p` (`hc`), the floor
  unfold rewardOf at h
  dsimp only at h
  split_ifs at h
  cases h
  have hP := Dec.P_pos
  have hT : (0:Int) ≤ TWO53 := by decide
  have hm0 := Dec.quo_nonneg (Dec.ofInt a) S (Dec.ofInt_nonneg ha) hS
  have hm := Dec.quo_upper (Dec.ofInt a) S (Dec.ofInt_nonneg ha) hS
  unfold ProRata multiplier
  generalize Dec.quo (Dec.ofInt a) S = m at *
  unfold Dec.ofInt at hm
  have hp0 := Dec.mul_nonneg s m hs hm0
  have hp := Dec.mul_upper s m
  generalize Dec.mul s m = p at *
  obtain ⟨hd, hn⟩ := hc p hp0
  unfold floorQ
  generalize (conv p).1 = n at *
  generalize (conv p).2 = d at *
  have hr : n / d * d ≤ n := Int.ediv_mul_le n (ne_of_gt hd)
  generalize n / d = r at *
  have e1 := Int.mul_le_mul_of_nonneg_right hp hS.le
  have e2 := Int.mul_le_mul_of_nonneg_left hm hs
  -- r·P·2⁵³ ≤ p·(2⁵³ + 1), cancelling `d`
  have e3 := Int.mul_le_mul_of_nonneg_right hr (Int.mul_nonneg hP.le hT)
  have h4 : r * Dec.P * TWO53 ≤ p * (TWO53 + 1) := Int.le_of_mul_le_mul_left (a := d) (by linarith) hd
  have e5 := Int.mul_le_mul_of_nonneg_right h4 (Int.mul_nonneg (Int.mul_nonneg (by decide : (0:Int) ≤ 2) hP.le) hS.le)
  have e6 : (TWO53 + 1) * (2 * p * Dec.P * S) ≤ (TWO53 + 1) * (2 * a * s * Dec.P * Dec.P + (s + Dec.P) * S) :=
    Int.mul_le_mul_of_nonneg_left (by linarith) (by linarith)
  linarith

theorem prorata_zero (a s S : Int) (ha : 0 ≤ a) (hs : 0 ≤ s) (hS : 0 ≤ S) : ProRata 0 a s S := by
  have hP := Dec.P_pos.le
  unfold ProRata
  rw [Int.zero_mul, Int.zero_mul]
  exact Int.mul_nonneg (by decide) (Int.add_nonneg
    (Int.mul_nonneg (Int.mul_nonneg (Int.mul_nonneg (Int.mul_nonneg (by decide) ha) hs) hP) hP)
    (Int.mul_nonneg (Int.add_nonneg hs hP) hS))

/-- for `P ≤ s` the absolute slack is at most `s/P²`, i.e. `K/P` of `a·s/S` when `S ≤ K·a·P`; `hK` says that
`(1 + 2⁻⁵³)·(1 + K/P) ≤ 1 + 10⁻¹²` -/
theorem prorata_1e12 (r a S s K : Int) (ha : 0 ≤ a) (hS : 0 < S) (hs1 : Dec.P ≤ s) (hSA : S ≤ K * a * Dec.P)
    (hK : (TWO53 + 1) * (Dec.P + K) * 1000000000000 ≤ TWO53 * Dec.P * 1000000000001) (hB : ProRata r a s S) :
    r * 1000000000000 * S ≤ 1000000000001 * a * s := by
  have hP := Dec.P_pos
  have hT : (0:Int) < TWO53 := by decide
  have hs : 0 ≤ s := by omega
  unfold ProRata at hB
  have e1 : (s + Dec.P) * S ≤ (2 * s) * S := Int.mul_le_mul_of_nonneg_right (by omega) hS.le
  have e2 : s * S ≤ s * (K * a * Dec.P) := Int.mul_le_mul_of_nonneg_left hSA hs
  have e3 : (TWO53 + 1) * ((s + Dec.P) * S) ≤ (TWO53 + 1) * (2 * (s * (K * a * Dec.P))) :=
    Int.mul_le_mul_of_nonneg_left (by linarith) (by linarith)
  have h1 : Dec.P * TWO53 * (r * S) ≤ (TWO53 + 1) * (Dec.P + K) * (a * s) :=
    Int.le_of_mul_le_mul_left (a := 2 * Dec.P) (by linarith) (by linarith)
  have h2 := Int.mul_le_mul_of_nonneg_right hK (Int.mul_nonneg ha hs)
  exact Int.le_of_mul_le_mul_left (a := TWO53 * Dec.P) (by linarith) (Int.mul_pos hT hP)

/-- `divRoundEven` is the function `Accrual.rhe` of the other model of `Dec.MustFloat64` (`Model/Accrual.lean`), by `rfl` -/
theorem divRoundEven_upper (a b : Nat) (hb : 0 < b) : 2 * (divRoundEven a b * b) ≤ 2 * a + b :=
  (Accrual.rhe_spec a b hb).1

theorem geTwoPow_k0 (raw : Nat) (hr : raw ≠ 0) : geTwoPow raw ((Nat.log2 raw : Int) - 60) = true := by
  unfold geTwoPow
  simp only [decide_eq_true_eq]
  have h1 := Nat.log2_self_le hr
  generalize hk : ((Nat.log2 raw : Int) - 60) = k0
  have e : 2 ^ Nat.log2 raw * 2 ^ (-k0).toNat = 2 ^ 60 * 2 ^ k0.toNat := by
    rw [← Nat.pow_add, ← Nat.pow_add]; congr 1; omega
  calc P18 * 2 ^ k0.toNat ≤ 2 ^ 60 * 2 ^ k0.toNat := Nat.mul_le_mul_right _ (by decide)
    _ = 2 ^ Nat.log2 raw * 2 ^ (-k0).toNat := e.symm
    _ ≤ raw * 2 ^ (-k0).toNat := Nat.mul_le_mul_right _ h1

theorem f64parts_spec (raw : Nat) (hr : raw ≠ 0) : ∃ e : Int, geTwoPow raw (e + 52) = true ∧
    f64parts raw = (divRoundEven (raw * 2 ^ (-e).toNat) (P18 * 2 ^ e.toNat), e) := by
  unfold f64parts
  dsimp only
  split
  · rename_i h
    exact ⟨_, by rw [Int.sub_add_cancel]; exact h, rfl⟩
  · exact ⟨_, by rw [Int.sub_add_cancel]; exact geTwoPow_k0 raw hr, rfl⟩

/-- rounding to nearest a quotient of at least `2^52` adds at most `2⁻⁵³` of it -/
theorem f64_scaled_upper (raw : Nat) (e : Int) (hn : geTwoPow raw (e + 52) = true) :
    divRoundEven (raw * 2 ^ (-e).toNat) (P18 * 2 ^ e.toNat) * 2 ^ e.toNat * P18 * 2 ^ 53
      ≤ raw * 2 ^ (-e).toNat * (2 ^ 53 + 1) := by
  unfold geTwoPow at hn
  simp only [decide_eq_true_eq] at hn
  have hr2 := divRoundEven_upper (raw * 2 ^ (-e).toNat) (P18 * 2 ^ e.toNat) (Nat.mul_pos (by decide) (Nat.two_pow_pos _))
  -- `hn` scaled by `2^(-(e+52))`; the exponents add up to the same on both sides
  have key : P18 * 2 ^ e.toNat * 2 ^ 52 ≤ raw * 2 ^ (-e).toNat := by
    refine Nat.le_of_mul_le_mul_right (c := 2 ^ (-(e + 52)).toNat) ?_ (Nat.two_pow_pos _)
    calc P18 * 2 ^ e.toNat * 2 ^ 52 * 2 ^ (-(e + 52)).toNat
        = P18 * 2 ^ ((e + 52).toNat + (-e).toNat) := by
          rw [Nat.mul_assoc, Nat.mul_assoc, ← Nat.pow_add, ← Nat.pow_add]; congr 2; omega
      _ = P18 * 2 ^ (e + 52).toNat * 2 ^ (-e).toNat := by rw [Nat.pow_add, Nat.mul_assoc]
      _ ≤ raw * 2 ^ (-(e + 52)).toNat * 2 ^ (-e).toNat := Nat.mul_le_mul_right _ hn
      _ = raw * 2 ^ (-e).toNat * 2 ^ (-(e + 52)).toNat := Nat.mul_right_comm ..
  generalize divRoundEven (raw * 2 ^ (-e).toNat) (P18 * 2 ^ e.toNat) = m at *
  generalize 2 ^ e.toNat = A at *
  generalize 2 ^ (-e).toNat = B at *
  linarith

theorem mapE_get (f : Int → Except String Int) (l rs : List Int) (h : mapE f l = .ok rs) :
    rs.length = l.length ∧ ∀ (i : Nat) (s : Int), l[i]? = some s → ∃ r, rs[i]? = some r ∧ f s = .ok r := by
  induction l generalizing rs with
  | nil => cases h; exact ⟨rfl, nofun⟩
  | cons x xs ih =>
    simp only [mapE] at h
    split at h
    · cases h
    · rename_i y hy
      split at h
      · cases h
      · rename_i ys hys
        cases h
        obtain ⟨hl, hg⟩ := ih ys hys
        refine ⟨congrArg (· + 1) hl, fun i s hi => ?_⟩
        cases i with
        | zero => cases hi; exact ⟨y, rfl, hy⟩
        | succ i => exact hg i s hi

theorem shares_get (f : Int → Except String Int) (l rs : List Int) (hnn : ∀ s ∈ l, 0 ≤ s)
    (h : (if sumL l = 0 then .ok [] else mapE f l) = Except.ok rs)
    (i : Nat) (s r : Int) (hs : l[i]? = some s) (hr : rs[i]? = some r) : 0 < sumL l ∧ f s = .ok r := by
  split_ifs at h with hS
  · cases h; cases hr
  · obtain ⟨r', hr', hf⟩ := (mapE_get f l rs h).2 i s hs
    rw [hr] at hr'; cases hr'
    have := sumL_nonneg l hnn
    exact ⟨by omega, hf⟩

theorem zipMin_map (fs : List Farmer) :
    zipMin (fs.map (fun f => posValue f.master)) (fs.map (fun f => childValue f.children)) = fs.map weight := by
  induction fs with
  | nil => rfl
  | cons f fs ih => simp only [List.map_cons, zipMin, ih, weight]

theorem posValue_nonneg (p : Pos) (ha : 0 ≤ p.amt) (hd : 0 < p.dec) : 0 ≤ posValue p := by
  unfold posValue
  split
  · exact Int.le_refl 0
  · exact Dec.mul_nonneg _ _ (Dec.quo_nonneg _ _ (Dec.mul_nonneg _ _ (Dec.ofInt_nonneg ha) (Dec.ofInt_nonneg (by omega)))
      (Dec.ofInt_pos hd)) (by decide)

theorem childValue_nonneg (ps : List Pos) (h : ∀ p ∈ ps, 0 ≤ p.amt ∧ 0 < p.dec) : 0 ≤ childValue ps :=
  sumL_map_nonneg ps _ fun p hp => posValue_nonneg p (h p hp).1 (h p hp).2

theorem weight_nonneg (f : Farmer) (hm : 0 ≤ f.master.amt ∧ 0 < f.master.dec)
    (hc : ∀ p ∈ f.children, 0 ≤ p.amt ∧ 0 < p.dec) : 0 ≤ weight f :=
  minD_nonneg _ _ (posValue_nonneg _ hm.1 hm.2) (childValue_nonneg _ hc)

end Comdex.Gauge
