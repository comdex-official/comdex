import Comdex.Lemmas.DutchPrice
import Comdex.Lemmas.DutchBank
import Comdex.Lemmas.DutchV2Plan
/-!
Each handler and each operation of the second-generation Dutch auction model inverted once: the new state as an update of the old
one, the new bank as the old one plus transfers `xfer`.  The invariants (`DutchV2`, `DutchV2W`, `DutchBand`) start from these.
At the end: the configuration assumptions `WfEnv` that every theorem about the model carries, and what `iterate` keeps under them.
-/
namespace Comdex.DutchV2
open Comdex.Dec Comdex.DutchPrice

/-- `g`: what really moves (all of `need`, or nothing and no error when the record is too small: D23) -/
theorem withdrawReserve_ok {s s1 : St} {need : Int} (h : withdrawReserve s need = .ok s1) (hn : 0 ≤ need) :
    ∃ (b : Bank) (q g : Int), 0 ≤ g ∧ g ≤ need ∧
      s1 = { s with bank := b, reserve := some q, short := s.short + (need - g), need := s.need + need } ∧
      ∀ x d, b.get x d = s.bank.get x d + xfer .reserve .auction .debt g x d := by
  unfold withdrawReserve at h
  match_ok hres : s.reserve with q at h
  by_cases hq : q - need ≥ 0
  · rw [if_pos hq] at h
    match_ok hb : sendPos s.bank .reserve .auction .debt need with b at h
    cases h
    have d := sendPos_of_nonneg hb hn
    exact ⟨b, q - need, need, hn, Int.le_refl _, by rw [Int.sub_self, Int.add_zero], d⟩
  · rw [if_neg hq] at h
    cases h
    exact ⟨s.bank, q - need, 0, Int.le_refl _, hn, by rw [Int.sub_zero], fun x d => by rw [xfer_zero, Int.add_zero]⟩

theorem cutOf_nonneg (e : Env) (b : Bool) : 0 ≤ cutOf e b := by unfold cutOf; split <;> omega

/-- `bid.go:89-101,161-190` -/
theorem distribute_vault_ok {e : Env} {s s3 : St} (hk : e.kind = .vault) (h : distribute e s = .ok s3) :
    0 ≤ e.target - e.fee ∧ cutOf e e.isKeeper ≤ e.fee ∧
    ∃ b, s3 = { s with bank := b, burned := s.burned + (e.target - e.fee), netFees := s.netFees + (e.fee - cutOf e e.isKeeper) } ∧
      ∀ x d, b.get x d = s.bank.get x d - (if x = Acct.auction ∧ d = Denom.debt then e.target - e.fee else 0)
        + xfer .auction .keeper .debt (cutOf e e.isKeeper) x d + xfer .auction .collector .debt (e.fee - cutOf e e.isKeeper) x d := by
  unfold distribute at h
  obtain ⟨htf, h⟩ := guard_ok h
  rw [hk] at h
  simp only [] at h
  obtain ⟨hpen, h⟩ := guard_ok h
  match_ok hb1 : (if e.target - e.fee > 0 then burn s.bank .auction .debt (e.target - e.fee) else .ok s.bank) with b1 at h
  match_ok hb2 : sendPos b1 .auction .keeper .debt (cutOf e e.isKeeper) with b2 at h
  match_ok hb3 : sendPos b2 .auction .collector .debt (e.fee - cutOf e e.isKeeper) with b3 at h
  cases h
  have d1 := burnPos_ok hb1 (by omega)
  have d2 := sendPos_of_nonneg hb2 (cutOf_nonneg _ _)
  have d3 := sendPos_of_nonneg hb3 (by omega)
  exact ⟨by omega, by omega, b3, rfl, fun x d => by rw [d3, d2, d1]⟩

/-- `bid.go:122-158`; a non-zero keeper incentive makes the close impossible (the transfer to the empty keeper address panics),
hence `cutOf e true = 0` -/
theorem distribute_external_ok {e : Env} {s s3 : St} (hk : e.kind = .external) (h : distribute e s = .ok s3) :
    0 ≤ e.target - e.fee ∧ 0 ≤ e.fee ∧ cutOf e true = 0 ∧
    ∃ b, s3 = { s with bank := b, extFees := s.extFees + e.fee, booked := s.booked + e.fee } ∧
      ∀ x d, b.get x d = s.bank.get x d + xfer .auction .initiator .debt (e.target - e.fee) x d := by
  unfold distribute at h
  obtain ⟨htf, h⟩ := guard_ok h
  rw [hk] at h
  simp only [] at h
  obtain ⟨hpen, h⟩ := guard_ok h
  obtain ⟨hinc, h⟩ := guard_ok h
  have hc0 : cutOf e true = 0 := by have := cutOf_nonneg e true; omega
  rw [hc0, Int.sub_zero] at h
  match_ok hb : send s.bank .auction .initiator .debt (e.target - e.fee) with b at h
  cases h
  exact ⟨by omega, by omega, hc0, b, rfl, (send_xfer hb).2⟩

/-- `MsgCloseDutchAuctionForBorrow`, `liquidate.go:721-813` -/
theorem distribute_lend_ok {e : Env} {s s3 : St} (hk : e.kind = .lend) (h : distribute e s = .ok s3) :
    ∃ b, s3 = { s with bank := b } ∧
      ∀ x d, b.get x d = s.bank.get x d + xfer .auction .pool .debt e.target x d + xfer .pool .lendres .debt e.lendPen x d
        + xfer .pool .lendres .debt (posPart e.lendInt) x d + xfer .pool .poolIn .transit (posPart e.bridged) x d := by
  unfold distribute at h
  obtain ⟨htf, h⟩ := guard_ok h
  rw [hk] at h
  simp only [] at h
  match_ok hb1 : send s.bank .auction .pool .debt e.target with b1 at h
  match_ok hb2 : send b1 .pool .lendres .debt e.lendPen with b2 at h
  match_ok hb3 : sendPos b2 .pool .lendres .debt e.lendInt with b3 at h
  match_ok hb4 : sendPos b3 .pool .poolIn .transit e.bridged with b4 at h
  cases h
  obtain ⟨-, d1⟩ := send_xfer hb1
  obtain ⟨-, d2⟩ := send_xfer hb2
  have d3 := sendPos_xfer hb3
  have d4 := sendPos_xfer hb4
  exact ⟨b4, rfl, fun x d => by rw [d4, d3, d2, d1]⟩

def distBank (e : Env) (x : Acct) (d : Denom) : Int :=
  match e.kind with
  | .vault => xfer .auction .keeper .debt (cutOf e e.isKeeper) x d + xfer .auction .collector .debt (e.fee - cutOf e e.isKeeper) x d
      - (if x = Acct.auction ∧ d = Denom.debt then e.target - e.fee else 0)
  | .external => xfer .auction .initiator .debt (e.target - e.fee) x d
  | .lend => xfer .auction .pool .debt e.target x d + xfer .pool .lendres .debt e.lendPen x d
      + xfer .pool .lendres .debt (posPart e.lendInt) x d + xfer .pool .poolIn .transit (posPart e.bridged) x d

def distBurn (e : Env) : Int := match e.kind with | .vault => e.target - e.fee | _ => 0
def distFee (e : Env) : Int := match e.kind with | .vault => e.fee - cutOf e e.isKeeper | _ => 0
def distBooked (e : Env) : Int := match e.kind with | .external => e.fee | _ => 0

/-- the guards an accepted distribution has passed -/
def DistOK (e : Env) : Prop :=
  0 ≤ e.target - e.fee ∧
  match e.kind with
  | .vault => cutOf e e.isKeeper ≤ e.fee
  | .external => 0 ≤ e.fee ∧ cutOf e true = 0
  | .lend => True

theorem distBank_coll (e : Env) (x : Acct) : distBank e x .coll = 0 := by unfold distBank; split <;> simp [xfer]

theorem distBank_bidder (e : Env) (n : Nat) (d : Denom) : distBank e (.bidder n) d = 0 := by unfold distBank; split <;> simp [xfer]

theorem distBank_auction (e : Env) : distBank e .auction .debt = distBooked e - e.target := by
  cases hk : e.kind <;> simp [distBank, distBooked, hk, xfer]
  omega

theorem distBank_sum (e : Env) :
    distBurn e + distBank e .collector .debt + distBank e .keeper .debt + distBank e .initiator .debt + distBank e .pool .debt
      + distBank e .lendres .debt + distBooked e = e.target := by
  cases hk : e.kind <;> simp [distBank, distBurn, distBooked, hk, xfer]
  omega

/-- what the closing distribution moves and books is a function of the auction's static data alone -/
theorem distribute_effect {e : Env} {s s3 : St} (h : distribute e s = .ok s3) :
    DistOK e ∧ ∃ b, (∀ x d, b.get x d = s.bank.get x d + distBank e x d) ∧
      s3 = { s with bank := b, burned := s.burned + distBurn e, netFees := s.netFees + distFee e,
                    extFees := s.extFees + distBooked e, booked := s.booked + distBooked e } := by
  cases hk : e.kind with
  | vault =>
    obtain ⟨h1, h2, b, rfl, hb⟩ := distribute_vault_ok hk h
    refine ⟨⟨h1, by rw [hk]; exact h2⟩, b, fun x d => by rw [hb]; simp only [distBank, hk]; omega, ?_⟩
    simp only [distBurn, distFee, distBooked, hk, Int.add_zero]
  | external =>
    obtain ⟨h1, h2, h3, b, rfl, hb⟩ := distribute_external_ok hk h
    refine ⟨⟨h1, by rw [hk]; exact ⟨h2, h3⟩⟩, b, fun x d => by rw [hb]; simp only [distBank, hk], ?_⟩
    simp only [distBurn, distFee, distBooked, hk, Int.add_zero]
  | lend =>
    obtain ⟨b, rfl, hb⟩ := distribute_lend_ok hk h
    have h1 : 0 ≤ e.target - e.fee := by
      unfold distribute at h
      exact Int.not_lt.mp (guard_ok h).1
    refine ⟨⟨h1, by rw [hk]; trivial⟩, b, fun x d => by rw [hb]; simp only [distBank, hk]; omega, ?_⟩
    simp only [distBurn, distFee, distBooked, hk, Int.add_zero]

/-- the kind-independent part, as the invariants use it -/
theorem distribute_frame {e : Env} {s s3 : St} (h : distribute e s = .ok s3) :
    s3 = { s with bank := s3.bank, burned := s3.burned, netFees := s3.netFees, extFees := s3.extFees, booked := s3.booked } ∧
    s.booked ≤ s3.booked ∧ (∀ x, s3.bank.get x .coll = s.bank.get x .coll) ∧
    s3.bank.get .auction .debt + e.target = s.bank.get .auction .debt + (s3.booked - s.booked) := by
  obtain ⟨⟨-, hok⟩, b, hb, rfl⟩ := distribute_effect h
  refine ⟨rfl, ?_, fun x => by rw [hb, distBank_coll, Int.add_zero], ?_⟩
  · show s.booked ≤ s.booked + distBooked e
    cases hk : e.kind <;> simp only [distBooked, hk, Int.add_zero, Int.le_refl]
    rw [hk] at hok
    exact Int.le_add_of_nonneg_right hok.1
  · rw [hb, distBank_auction]
    show _ = _ + (s.booked + distBooked e - s.booked)
    omega

/-- `auctions.go:487-533` -/
theorem triggerEsm_ok {e : Env} {s s' : St} {a : Auc} (h : triggerEsm e s a = .ok s') :
    ∃ (b : Bank) (toBurn fee : Int), 0 ≤ toBurn ∧ 0 ≤ fee ∧ toBurn + fee = e.target - a.debt ∧
      (∀ x d, b.get x d = s.bank.get x d - (if x = Acct.auction ∧ d = Denom.debt then toBurn else 0)
        + xfer .auction .collector .debt fee x d) ∧
      s' = { s with bank := b, burned := s.burned + toBurn, netFees := s.netFees + fee, esmOut := s.esmOut + toBurn + fee } := by
  unfold triggerEsm at h
  simp only [] at h
  obtain ⟨hneg, h⟩ := guard_ok h
  obtain ⟨hfee, h⟩ := guard_ok h
  match_ok hb1 : (if (if e.target - a.debt > e.fee then e.target - a.debt - e.fee else 0) > 0 then _ else _) with b1 at h
  match_ok hb2 : sendPos b1 .auction .collector .debt _ with b2 at h
  cases h
  have hb0 : 0 ≤ (if e.target - a.debt > e.fee then e.target - a.debt - e.fee else 0) := by split <;> omega
  have d1 := burnPos_ok hb1 hb0
  have d2 := sendPos_of_nonneg hb2 (by omega)
  exact ⟨b2, _, _, hb0, by omega, by split <;> omega, fun x d => by rw [d2, d1], rfl⟩

/-- `isSome`, not `= some a`: `apply` never compares the stored record with the value `a` it is handed — which is what lets a
stale `a` through (D7).  `auto`: a limit fill, whose deposit is in the module account already. -/
theorem apply_shape {e : Env} {s s' : St} {a : Auc} {who : Nat} {p : Plan} {auto : Bool}
    (h : apply e s a who p auto = .ok s') :
    s.auc.isSome = true ∧ ∃ (s1 : St) (b1 b2 : Bank),
      (if p.clipped then withdrawReserve s p.need else .ok s) = .ok s1 ∧
      (if auto then .ok s1.bank else sendPos s1.bank (.bidder who) .auction .debt p.pay) = .ok b1 ∧
      sendPos b1 .auction (.bidder who) .coll p.total = .ok b2 ∧
      ∃ s2 : St, s2 = { s1 with bank := b2, paid := s1.paid + p.pay, recv := s1.recv + p.total,
                                otherD := if auto then s1.otherD - p.pay else s1.otherD } ∧
        if p.close then
          ∃ s3 b4, distribute e s2 = .ok s3 ∧ sendPos s3.bank .auction .owner .coll (a.coll - p.total) = .ok b4 ∧
            s' = { s3 with bank := b4, auc := none }
        else s' = { s2 with auc := some { a with coll := a.coll - p.total, debt := a.debt - p.pay, bonus := a.bonus - p.share } } := by
  unfold apply at h
  obtain ⟨hopen, h⟩ := guard_ok h
  refine ⟨by cases hs : s.auc <;> simp [hs] at hopen ⊢, ?_⟩
  match_ok hs1 : (if p.clipped then withdrawReserve s p.need else .ok s) with s1 at h
  match_ok hb1 : (if auto then Except.ok s1.bank else sendPos s1.bank (.bidder who) .auction .debt p.pay) with b1 at h
  match_ok hb2 : sendPos b1 .auction (.bidder who) .coll p.total with b2 at h
  refine ⟨s1, b1, b2, rfl, hb1, hb2, _, rfl, ?_⟩
  by_cases hcl : p.close = true
  · rw [if_pos hcl] at h ⊢
    match_ok hs3 : distribute e _ with s3 at h
    match_ok hb4 : sendPos s3.bank .auction .owner .coll (a.coll - p.total) with b4 at h
    cases h
    exact ⟨s3, b4, rfl, hb4, rfl⟩
  · rw [if_neg hcl] at h ⊢
    cases h
    rfl

/-- `g`: what the reserve really delivered (`withdrawReserve_ok`); `s2`: the state after the three transfers -/
theorem apply_ok {e : Env} {s s' : St} {a : Auc} {who : Nat} {p : Plan} {auto : Bool}
    (hp : PlanOK a p) (h : apply e s a who p auto = .ok s') :
    ∃ (b2 : Bank) (r : Option Int) (g : Int), 0 ≤ g ∧ g ≤ (if p.clipped then p.need else 0) ∧
      (∀ x d, b2.get x d = s.bank.get x d + xfer .reserve .auction .debt g x d
          + xfer (.bidder who) .auction .debt (if auto then 0 else p.pay) x d + xfer .auction (.bidder who) .coll p.total x d) ∧
      ∃ s2 : St, s2 = { s with bank := b2, reserve := r, short := s.short + ((if p.clipped then p.need else 0) - g),
                               need := s.need + (if p.clipped then p.need else 0), paid := s.paid + p.pay,
                               recv := s.recv + p.total, otherD := if auto then s.otherD - p.pay else s.otherD } ∧
        ((p.close = true ∧ ∃ s3 b4, distribute e s2 = .ok s3 ∧
          (∀ x d, b4.get x d = s3.bank.get x d + xfer .auction .owner .coll (a.coll - p.total) x d) ∧
          s' = { s2 with bank := b4, auc := none, burned := s3.burned, netFees := s3.netFees, extFees := s3.extFees,
                         booked := s3.booked }) ∨
         p.close = false ∧
          s' = { s2 with auc := some { a with coll := a.coll - p.total, debt := a.debt - p.pay, bonus := a.bonus - p.share } }) := by
  obtain ⟨-, s1, b1, b2, hs1, hb1, hb2, s2, rfl, hcl⟩ := apply_shape h
  obtain ⟨b, r, g, hg0, hgN, rfl, hb⟩ : ∃ (b : Bank) (r : Option Int) (g : Int), 0 ≤ g ∧ g ≤ (if p.clipped then p.need else 0) ∧
      s1 = { s with bank := b, reserve := r, short := s.short + ((if p.clipped then p.need else 0) - g),
                    need := s.need + (if p.clipped then p.need else 0) } ∧
      ∀ x d, b.get x d = s.bank.get x d + xfer .reserve .auction .debt g x d := by
    by_cases hc : p.clipped = true
    · rw [if_pos hc] at hs1 ⊢
      have hn : 0 ≤ p.need := by have := (hp.clipped_close hc).2.1; have := hp.pay_le; omega
      obtain ⟨b, q, g, hg0, hgN, rfl, hb⟩ := withdrawReserve_ok hs1 hn
      exact ⟨b, _, g, hg0, hgN, rfl, hb⟩
    · rw [if_neg hc] at hs1 ⊢
      cases hs1
      exact ⟨s.bank, s.reserve, 0, Int.le_refl _, Int.le_refl _, by rw [Int.sub_self, Int.add_zero, Int.add_zero],
        fun x d => by rw [xfer_zero, Int.add_zero]⟩
  have d1 : ∀ x d, b1.get x d = b.get x d + xfer (.bidder who) .auction .debt (if auto then 0 else p.pay) x d := by
    cases auto with
    | true => cases hb1; exact fun x d => by simp [xfer_zero]
    | false =>
      exact sendPos_of_nonneg hb1 hp.pay_nonneg
  have d2 := sendPos_of_nonneg hb2 hp.total_nonneg
  refine ⟨b2, r, g, hg0, hgN, fun x d => by rw [d2, d1, hb], _, rfl, ?_⟩
  by_cases hc : p.close = true
  · rw [if_pos hc] at hcl
    obtain ⟨s3, b4, hs3, hb4, rfl⟩ := hcl
    have d4 := sendPos_of_nonneg hb4 (Int.sub_nonneg.mpr hp.total_le)
    exact .inl ⟨hc, s3, b4, hs3, d4, by rw [(distribute_frame hs3).1]⟩
  · rw [if_neg hc] at hcl
    exact .inr ⟨by simpa using hc, hcl⟩

theorem placeBid_ok {e : Env} {s s' : St} {a : Auc} {who : Nat} {amt dt : Int} {auto : Bool}
    (h : placeBid e s a who amt dt auto = .ok s') :
    ∃ p, plan e a amt (debtPrice e dt) = .ok p ∧ apply e s a who p auto = .ok s' := by
  unfold placeBid at h
  cases hp : plan e a amt (debtPrice e dt) with
  | error _ => rw [hp] at h; cases h
  | ok p => rw [hp] at h; exact ⟨p, rfl, h⟩

theorem bidE_ok {e : Env} {s s' : St} {who : Nat} {amt dt : Int} (h : bidE e s who amt dt = .ok s') :
    ∃ a, s.auc = some a ∧ placeBid e s a who amt dt false = .ok s' := by
  unfold bidE at h
  obtain ⟨-, h⟩ := guard_ok h
  cases ha : s.auc with
  | none => rw [ha] at h; cases h
  | some a => rw [ha] at h; exact ⟨a, rfl, h⟩

theorem fillLoop_nil {e : Env} {a : Auc} {dt : Int} {s s' : St} (h : fillLoop e a dt s [] = .ok s') : s' = s := by
  cases h; rfl

/-- every round places its bid with the value `a` read before the loop (D7) -/
theorem fillLoop_cons {e : Env} {a : Auc} {dt : Int} {s s' : St} {pr : Int} {who : Nat} {amt : Int} {l : List LBid}
    (h : fillLoop e a dt s ((pr, who, amt) :: l) = .ok s') :
    ∃ s1, placeBid e s a who amt dt true = .ok s1 ∧ (s' = s1 ∨ fillLoop e a dt s1 l = .ok s') := by
  unfold fillLoop at h
  obtain ⟨s1, hs1, h⟩ := bind_ok h
  by_cases hx : amt ≥ a.debt ∧ amt = a.debt
  · rw [if_pos hx] at h; exact ⟨s1, hs1, Or.inl (Except.ok.inj h).symm⟩
  · rw [if_neg hx] at h; exact ⟨s1, hs1, Or.inr h⟩

theorem fill_ok {e : Env} {s s' : St} {dt : Int} {lbids : List LBid} (h : fill e s dt lbids = .ok s') :
    s' = s ∨ ∃ a k, s.auc = some a ∧ fillLoop e a dt s (lbids.filter (fun l => l.1 = k)) = .ok s' := by
  unfold fill at h
  cases ha : s.auc with
  | none => rw [ha] at h; cases h; exact Or.inl rfl
  | some a =>
    rw [ha] at h
    obtain ⟨ob, -, h⟩ := bind_ok h
    cases ob with
    | none => cases h; exact Or.inl rfl
    | some k => exact Or.inr ⟨a, k, rfl, h⟩

theorem tickIter_cases (e : Env) (s : St) (now twaC : Int) (actC : Bool) (twaD : Int) (actD : Bool) :
    tickIter e s now twaC actC twaD actD = s ∨
    ∃ a a', s.auc = some a ∧ iterate e a now twaC actC twaD actD = .ok a' ∧
      tickIter e s now twaC actC twaD actD = { s with auc := some a' } := by
  cases ha : s.auc with
  | none => exact Or.inl (by simp only [tickIter, ha])
  | some a =>
    cases hit : iterate e a now twaC actC twaD actD with
    | error _ => exact Or.inl (by simp only [tickIter, ha, hit])
    | ok a' => exact Or.inr ⟨a, a', rfl, hit, by simp only [tickIter, ha, hit]⟩

/-- `auctions.go:160-173`: past the window only a vault-initiated auction is handed to `TriggerEsm` -/
theorem tickIterEsm_cases (e : Env) (s : St) (now twaC : Int) (actC : Bool) (twaD : Int) (actD : Bool) :
    tickIterEsm e s now twaC actC twaD actD = s ∨
    tickIterEsm e s now twaC actC twaD actD = tickIter e s now twaC actC twaD actD ∨
    ∃ a s', s.auc = some a ∧ e.kind = .vault ∧ triggerEsm e s a = .ok s' ∧ tickIterEsm e s now twaC actC twaD actD = s' := by
  cases ha : s.auc with
  | none => exact Or.inl (by simp only [tickIterEsm, ha])
  | some a =>
    by_cases hn : now > a.end_
    · cases hk : e.kind with
      | vault =>
        cases ht : triggerEsm e s a with
        | error _ => exact Or.inl (by simp only [tickIterEsm, ha, if_pos hn, hk, ht, orElse])
        | ok s' => exact Or.inr (Or.inr ⟨a, s', rfl, rfl, ht, by simp only [tickIterEsm, ha, if_pos hn, hk, ht, orElse]⟩)
      | lend => exact Or.inl (by simp only [tickIterEsm, ha, if_pos hn, hk])
      | external => exact Or.inl (by simp only [tickIterEsm, ha, if_pos hn, hk])
    · exact Or.inr (Or.inl (by simp only [tickIterEsm, tickIter, ha, if_neg hn]))

theorem step_reserve (e : Env) (s : St) (who : Nat) (amt : Int) :
    step e s (.reserve who amt) = s ∨ ∃ b r, (∀ x d, b.get x d = s.bank.get x d + xfer (.bidder who) .reserve .debt amt x d) ∧
      step e s (.reserve who amt) = { s with bank := b, reserve := r } := by
  show (if amt ≤ 0 then s else _) = s ∨ _
  by_cases h0 : amt ≤ 0
  · rw [if_pos h0]; exact Or.inl rfl
  rw [if_neg h0]
  cases hb : send s.bank (.bidder who) .reserve .debt amt with
  | error _ => exact Or.inl rfl
  | ok b => exact Or.inr ⟨b, _, (send_xfer hb).2, by
      show (if amt ≤ 0 then s else _) = _
      rw [if_neg h0, hb]⟩

/-- `Did e op s s'`: one accepted piece of the operation `op`.  `step e s op` is at most two pieces in a row (`step_did`: the
iterator half of a block, then the limit-bid fill), so "every operation keeps `P`" is one `cases` for each invariant.  The index lets
`WfOp` / `WfOpW` (defined by `match` on the operation) hand each arm its hypothesis. -/
inductive Did (e : Env) : Op → St → St → Prop
  | skip {op s} : Did e op s s
  | bid {s s' a who amt dt} : s.auc = some a → placeBid e s a who amt dt false = .ok s' → Did e (.bid who amt dt) s s'
  | update {s a a' now twaC actC twaD actD lbids} : s.auc = some a → iterate e a now twaC actC twaD actD = .ok a' →
      Did e (.tick now twaC actC twaD actD lbids) s { s with auc := some a' }
  | updateEsm {s a a' now twaC actC twaD actD lbids} : s.auc = some a → iterate e a now twaC actC twaD actD = .ok a' →
      Did e (.tickEsm now twaC actC twaD actD lbids) s { s with auc := some a' }
  | esm {s s' a now twaC actC twaD actD lbids} : s.auc = some a → e.kind = .vault → triggerEsm e s a = .ok s' →
      Did e (.tickEsm now twaC actC twaD actD lbids) s s'
  | fill {s s' a k now twaC actC twaD actD lbids} : s.auc = some a →
      fillLoop e a twaD s (lbids.filter fun l => l.1 = k) = .ok s' → Did e (.tick now twaC actC twaD actD lbids) s s'
  | fillEsm {s s' a k now twaC actC twaD actD lbids} : s.auc = some a →
      fillLoop e a twaD s (lbids.filter fun l => l.1 = k) = .ok s' → Did e (.tickEsm now twaC actC twaD actD lbids) s s'
  | deposit {s b who amt} (dst : Acct) (r : Option Int) (k : Int) :
      (∀ x d, b.get x d = s.bank.get x d + xfer (.bidder who) dst .debt amt x d) →
      (dst = .reserve ∧ k = 0 ∨ dst = .auction ∧ k = amt) → (op : Op) →
      Did e op s { s with bank := b, reserve := r, otherD := s.otherD + k }

theorem orElse_cases (s : St) (r : Except Unit St) : orElse s r = s ∨ r = .ok (orElse s r) := by
  cases r with
  | error _ => exact .inl rfl
  | ok s' => exact .inr rfl

theorem orElse_fill (e : Env) (s : St) (dt : Int) (lbids : List LBid) :
    orElse s (fill e s dt lbids) = s ∨
    ∃ a k, s.auc = some a ∧ fillLoop e a dt s (lbids.filter fun l => l.1 = k) = .ok (orElse s (fill e s dt lbids)) := by
  rcases orElse_cases s (fill e s dt lbids) with h | h
  · exact .inl h
  · exact fill_ok h

theorem tickIter_did (e : Env) (s : St) (now twaC : Int) (actC : Bool) (twaD : Int) (actD : Bool) (lbids : List LBid) :
    Did e (.tick now twaC actC twaD actD lbids) s (tickIter e s now twaC actC twaD actD) := by
  rcases tickIter_cases e s now twaC actC twaD actD with h | ⟨a, a', ha, hit, h⟩ <;> rw [h]
  exacts [.skip, .update ha hit]

theorem tickIterEsm_did (e : Env) (s : St) (now twaC : Int) (actC : Bool) (twaD : Int) (actD : Bool) (lbids : List LBid) :
    Did e (.tickEsm now twaC actC twaD actD lbids) s (tickIterEsm e s now twaC actC twaD actD) := by
  rcases tickIterEsm_cases e s now twaC actC twaD actD with h | h | ⟨a, s', ha, hk, ht, h⟩ <;> rw [h]
  · exact .skip
  · rcases tickIter_cases e s now twaC actC twaD actD with h | ⟨a, a', ha, hit, h⟩ <;> rw [h]
    exacts [.skip, .updateEsm ha hit]
  · exact .esm ha hk ht

theorem step_did (e : Env) (s : St) (op : Op) : ∃ s1, Did e op s s1 ∧ Did e op s1 (step e s op) := by
  cases op with
  | bid who amt dt =>
    refine ⟨s, .skip, ?_⟩
    show Did e _ s (orElse s (bidE e s who amt dt))
    rcases orElse_cases s (bidE e s who amt dt) with h | h
    · rw [h]; exact .skip
    · obtain ⟨a, ha, h⟩ := bidE_ok h
      exact .bid ha h
  | tick now twaC actC twaD actD lbids =>
    refine ⟨_, tickIter_did e s now twaC actC twaD actD lbids, ?_⟩
    show Did e _ _ (orElse _ (fill e _ twaD lbids))
    rcases orElse_fill e (tickIter e s now twaC actC twaD actD) twaD lbids with h | ⟨a, k, ha, h⟩
    · rw [h]; exact .skip
    · exact .fill ha h
  | tickEsm now twaC actC twaD actD lbids =>
    refine ⟨_, tickIterEsm_did e s now twaC actC twaD actD lbids, ?_⟩
    show Did e _ _ (orElse _ (fill e _ twaD lbids))
    rcases orElse_fill e (tickIterEsm e s now twaC actC twaD actD) twaD lbids with h | ⟨a, k, ha, h⟩
    · rw [h]; exact .skip
    · exact .fillEsm ha h
  | reserve who amt =>
    refine ⟨s, .skip, ?_⟩
    rcases step_reserve e s who amt with h | ⟨b, r, hb, h⟩ <;> rw [h]
    · exact .skip
    · have := Did.deposit (e := e) .reserve r 0 hb (.inl ⟨rfl, rfl⟩) (.reserve who amt)
      rwa [show s.otherD + 0 = s.otherD from Int.add_zero _] at this
  | limit who prem amt =>
    refine ⟨s, .skip, ?_⟩
    -- 30: `types.MaxPremiumDiscount` (`x/auctionsV2/types/keys.go:24`), checked by `DepositLimitAuctionBid` (`bid.go:503`)
    show Did e _ s (if amt ≤ 0 ∨ prem > 30 then s else _)
    split
    · exact .skip
    · split
      · next b hb => exact .deposit .auction s.reserve amt (send_xfer hb).2 (.inr ⟨rfl, rfl⟩) _
      · exact .skip

/-- configuration assumptions: positive decimals, premium ≥ 0, 0 ≤ discount ≤ 1, window ≥ 0 -/
structure WfEnv (e : Env) : Prop where
  decC_pos : 0 < e.decC
  decD_pos : 0 < e.decD
  premium_nonneg : (0 : Int) ≤ e.premium
  discount_nonneg : (0 : Int) ≤ e.discount
  discount_le_one : (e.discount : Int) ≤ P
  T_nonneg : 0 ≤ e.T

theorem debtPrice_nonneg (e : Env) (dt : Int) (h : 0 ≤ dt) : (0 : Int) ≤ debtPrice e dt := by
  unfold debtPrice Dec.ofInt
  split
  · decide
  · exact Int.mul_nonneg h (Int.le_of_lt Dec.P_pos)

theorem discount_gap {e : Env} {top : Dec} (hw : WfEnv e) (htop : (0 : Int) ≤ top)
    (hne : Dec.sub top (Dec.mul top e.discount) ≠ 0) :
    (0 : Int) ≤ Dec.mul top e.discount ∧ (0 : Int) < (top : Int) - (Dec.mul top e.discount : Int) :=
  ⟨Dec.mul_nonneg top e.discount htop hw.discount_nonneg,
   Int.sub_pos.mpr (lt_of_le_of_ne (Dec.mul_le_left top e.discount htop hw.discount_le_one) fun heq =>
      hne (show (top : Int) - Dec.mul top e.discount = 0 by rw [heq]; exact Int.sub_self _))⟩

theorem priceV2_update {e : Env} {top : Dec} {dur : Int} {p : Dec} (hw : WfEnv e) (htop : (0 : Int) ≤ top)
    (h : priceV2 top e.discount e.T dur = .ok p) :
    (0 : Int) ≤ Dec.mul top e.discount ∧ (0 : Int) < (top : Int) - (Dec.mul top e.discount : Int) ∧
    0 < e.T ∧ e.T ≤ tauVal top (Dec.mul top e.discount) e.T ∧
    p = linearVal top (tauVal top (Dec.mul top e.discount) e.T) dur := by
  obtain ⟨ep, htau, hden⟩ := priceV1_ok (priceV2_priceV1 h)
  obtain ⟨he0, hD⟩ := discount_gap hw htop hden
  have hT : 0 < e.T := by
    refine lt_of_le_of_ne hw.T_nonneg fun h0 => htau ?_
    rw [← h0, tauVal_zero]
  exact ⟨he0, hD, hT, tauVal_ge_T top _ e.T he0 hD hw.T_nonneg, ep⟩

/-- `auctions.go:240-335`: past the window the auction restarts at the oracle price times the premium, inside it the posted price is
updated; `iterate` is never handed an elapsed time beyond the window -/
theorem iterate_cases {e : Env} {a a' : Auc} {now twaC twaD : Int} {actC actD : Bool}
    (h : iterate e a now twaC actC twaD actD = .ok a') :
    (a.end_ < now ∧ ∃ p0, startPrice twaC e.premium = .ok p0 ∧
      a' = { a with price := p0, init := p0, orc := Dec.ofInt twaC, ord := Dec.ofInt (if e.cmst then 1000000 else twaD),
                    start := now, end_ := now + e.T }) ∨
    (now ≤ a.end_ ∧ ∃ p, priceV2 a.init e.discount e.T (now - a.start) = .ok p ∧
      a' = { a with price := p, orc := Dec.ofInt twaC, ord := Dec.ofInt (if e.cmst then 1000000 else twaD) }) := by
  unfold iterate at h
  obtain ⟨-, h⟩ := throwIf_ok h
  by_cases hnow : now > a.end_
  · rw [if_pos hnow] at h
    obtain ⟨p0, hp0, h⟩ := bind_ok h
    cases h
    exact .inl ⟨hnow, p0, hp0, rfl⟩
  · rw [if_neg hnow] at h
    obtain ⟨p, hp, h⟩ := bind_ok h
    cases h
    exact .inr ⟨Int.not_lt.mp hnow, p, hp, rfl⟩

theorem iterate_ok {e : Env} {a a' : Auc} {now twaC twaD : Int} {actC actD : Bool}
    (hw : WfEnv e) (h : iterate e a now twaC actC twaD actD = .ok a') (htw : 0 ≤ twaC)
    (hinit : (0 : Int) ≤ a.init) (hend : a.end_ = a.start + e.T) :
    a'.coll = a.coll ∧ a'.debt = a.debt ∧ a'.bonus = a.bonus ∧ (0 : Int) ≤ a'.price ∧ (0 : Int) ≤ a'.init ∧
    a'.end_ = a'.start + e.T := by
  rcases iterate_cases h with ⟨-, p0, hp0, rfl⟩ | ⟨hnow, p, hp, rfl⟩
  · have hp : (0 : Int) ≤ p0 := by rw [startPrice_ok hp0]; exact Int.mul_nonneg hw.premium_nonneg htw
    exact ⟨rfl, rfl, rfl, hp, hp, rfl⟩
  · obtain ⟨-, -, hT, hTt, ep⟩ := priceV2_update hw hinit hp
    have hp0 : (0 : Int) ≤ p := by
      rw [ep]; exact linearVal_nonneg _ _ _ hinit (by omega) (by omega)
    exact ⟨rfl, rfl, rfl, hp0, hinit, hend⟩

end Comdex.DutchV2
