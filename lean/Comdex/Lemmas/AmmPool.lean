import Comdex.Model.AmmPool
import Comdex.Lemmas.AmmMatch
/-!
The basic pool's side of a batch (`Model/AmmPool.lean`; uses the rounding arithmetic of `AmmMatch`).  `BuyAmountOver` /
`SellAmountUnder` stay on the pool's curve and within its reserves; the tick loops of `PoolBuyOrders` / `PoolSellOrders` only
place such orders.  What the basic and the ranged pool share is proved once, with the model's terms as variables: the guard ladders
of the amount functions (`sellShape`, `buyShape`), the state a loop starts from (`firstShape`), the loop (`TickLoop`); each model
function is an instance by unification.
-/
namespace Comdex.Amm

/-- the four sell-amount functions (`SellAmountUnder`, `SellAmountTo`; basic and ranged pool): `p` the clamped order price, `z` a
further panic test (ranged: division by 0), `A` the amount the curve gives -/
theorem sellShape {price : Option Int} {p A a : Int} {z : Prop} [Decidable z] {Q : Int → Prop}
    (h : (match price with
      | none => none
      | some pp => if p ≤ pp then some 0 else if z then none else some (if A > 0 then A else 0)) = some a)
    (key : ∀ pp, price = some pp → pp < p → ¬ z → 0 < A → Q A) : 0 ≤ a ∧ (0 < a → Q a) := by
  have zero : (0 : Int) ≤ 0 ∧ ((0 : Int) < 0 → Q 0) := ⟨Int.le_refl _, fun h0 => absurd h0 (by decide)⟩
  cases price with
  | none => cases h
  | some pp =>
    simp only at h
    split at h
    · cases h; exact zero
    · rename_i hlt
      split at h
      · cases h
      · rename_i hz
        simp only [Option.some.injEq] at h
        split at h
        · rename_i hpos
          subst h
          exact ⟨Int.le_of_lt hpos, fun _ => key pp rfl (Int.not_le.mp hlt) hz hpos⟩
        · subst h; exact zero

/-- the four buy-amount functions (`BuyAmountOver`, `BuyAmountTo`): `D` the quote coin the curve leaves to spend, `dx` that capped by
the real reserve (ranged pool), `z` a further panic test -/
theorem buyShape {price : Option Int} {p D dx t a : Int} {z : Prop} [Decidable z] {Q : Int → Prop}
    (h : (match price with
      | none => none
      | some pp => if p ≥ pp then some 0 else if D ≤ 0 then some 0 else if z then none else
        some (if Dec.truncateInt (Dec.quoTruncate dx t) > maxCoinAmount then maxCoinAmount
          else Dec.truncateInt (Dec.quoTruncate dx t))) = some a)
    (ht : 0 < t) (hdx : ¬ D ≤ 0 → 0 ≤ dx)
    (key : ∀ b, ¬ D ≤ 0 → b ≤ Dec.truncateInt (Dec.quoTruncate dx t) → 0 < b → Q b) : 0 ≤ a ∧ (0 < a → Q a) := by
  have zero : (0 : Int) ≤ 0 ∧ ((0 : Int) < 0 → Q 0) := ⟨Int.le_refl _, fun h0 => absurd h0 (by decide)⟩
  cases price with
  | none => cases h
  | some pp =>
    simp only at h
    by_cases hp : p ≥ pp
    · rw [if_pos hp] at h; cases h; exact zero
    · by_cases hD : D ≤ 0
      · rw [if_neg hp, if_pos hD] at h; cases h; exact zero
      · by_cases hz : z
        · rw [if_neg hp, if_neg hD, if_pos hz] at h; cases h
        · rw [if_neg hp, if_neg hD, if_neg hz] at h
          have hnn := Dec.truncQuo_nonneg dx t (hdx hD) (Int.le_of_lt ht)
          simp only [Option.some.injEq] at h
          split at h
          · subst h
            exact ⟨by decide, key _ hD (by omega)⟩
          · subst h
            exact ⟨hnn, key _ hD (Int.le_refl _)⟩

/-- the state a tick loop starts from (`first` in `poolBuyOrders` / `poolSellOrders`, `rBuyFirst` / `rSellFirst`) -/
theorem firstShape {σ : Type} {c : Prop} [Decidable c] {amountTo : Option Int} {ok : Int → Prop} [DecidablePred ok]
    {pl : σ} {next : Int → Option (σ × List (Int × Int))} {r : σ × List (Int × Int)}
    (hf : (if c then
        match amountTo with
        | none => none
        | some amt => if ok amt then next amt else some (pl, [])
      else some (pl, [])) = some r) :
    r = (pl, []) ∨ ∃ amt, amountTo = some amt ∧ ok amt ∧ next amt = some r := by
  split at hf
  · cases amountTo with
    | none => cases hf
    | some amt =>
      simp only at hf
      split at hf
      · rename_i hok; exact Or.inr ⟨amt, rfl, hok, hf⟩
      · cases hf; exact Or.inl rfl
  · cases hf; exact Or.inl rfl

theorem buyAmountOver_spec (pl : BPool) (t a : Int) (hry : 0 ≤ pl.ry) (ht : minPoolPrice ≤ t)
    (h : pl.buyAmountOver t = some a) :
    0 ≤ a ∧ (0 < a → quoteCeil t a ≤ pl.rx ∧ t * (pl.ry + a) ≤ pl.rx * Dec.P) := by
  have ht0 : 0 < t := by unfold minPoolPrice at ht; omega
  refine buyShape (z := False) (Q := fun b => quoteCeil t b ≤ pl.rx ∧ t * (pl.ry + b) ≤ pl.rx * Dec.P) h ht0
    (fun hD => Int.le_of_lt (Int.not_le.mp hD)) fun b hD hb hb0 => ?_
  rw [if_neg (by omega : ¬ t < minPoolPrice)] at hD hb
  have hs := Dec.truncQuo_spec _ t b (Int.le_of_lt (Int.not_le.mp hD)) ht0 hb
  unfold Dec.ofInt Dec.mulInt at hs
  have htry : 0 ≤ t * pl.ry := Int.mul_nonneg (by omega) hry
  rw [Int.mul_add]
  exact ⟨quoteCeil_le_iff.2 (by omega), by omega⟩

/-- an amount `0 < b ≤ ⌊Y − QuoRoundUp(X, p)⌋` leaves `X/p ≤ Y − b`, up to less than `p·10⁻³⁶` -/
theorem quoRoundUp_spec (X Y p b : Int) (hX : 0 ≤ X) (hp0 : 0 < p) (hb0 : 0 < b)
    (hb : b ≤ Dec.truncateInt (Y - Dec.quoRoundUp X p)) :
    0 ≤ Y - b * Dec.P ∧ X * Dec.PP < p * (Y - b * Dec.P) * Dec.P + p := by
  have hc := Dec.quoRoundUp_nonneg hX hp0
  -- a positive `b` under the floor makes `Y − c` non-negative
  have hd : 0 ≤ Y - Dec.quoRoundUp X p := by
    refine Int.not_lt.1 fun hn => ?_
    have := Dec.truncateInt_nonpos (Int.le_of_lt hn)
    omega
  have h1 := (Dec.le_truncateInt_iff hd).1 hb
  have h2 := (Dec.quoRoundUp_le_iff (k := Y - b * Dec.P) hX hp0).1 (by show @LE.le Int _ _ _; omega)
  refine ⟨by omega, ?_⟩
  rwa [Int.add_mul, Int.one_mul, Int.mul_comm _ p, ← Int.mul_assoc] at h2

/-- `t ≤ 10³⁶ = Dec.PP`: the roundings of `QuoRoundUp` lose less than `t·10⁻³⁶`
(`quoRoundUp_spec`), then less than one raw unit of an inequality between integers -/
theorem sellAmountUnder_spec (pl : BPool) (t a : Int) (hrx : 0 ≤ pl.rx) (ht0 : 0 < t) (ht : t ≤ Dec.PP)
    (h : pl.sellAmountUnder t = some a) :
    0 ≤ a ∧ (0 < a → a ≤ pl.ry ∧ pl.rx * Dec.P ≤ t * (pl.ry - a)) := by
  refine sellShape (z := False) (Q := fun a => a ≤ pl.ry ∧ pl.rx * Dec.P ≤ t * (pl.ry - a)) h fun pp _ _ _ h0 => ?_
  have hnot : ¬ t > maxPoolPrice := by
    have : Dec.PP ≤ maxPoolPrice := by decide
    omega
  rw [if_neg hnot] at h0 ⊢
  obtain ⟨c1, c2⟩ := quoRoundUp_spec (Dec.ofInt pl.rx) (Dec.ofInt pl.ry) t _ (Dec.ofInt_nonneg hrx) ht0 h0 (Int.le_refl _)
  generalize Dec.truncateInt (Dec.ofInt pl.ry - Dec.quoRoundUp (Dec.ofInt pl.rx) t) = a at *
  unfold Dec.ofInt at c1 c2
  have hP := Dec.P_pos
  have e : t * (pl.ry * Dec.P - a * Dec.P) * Dec.P = t * (pl.ry - a) * Dec.PP := by
    have hPP : Dec.PP = Dec.P * Dec.P := rfl
    rw [hPP]; ring
  rw [e] at c2
  have hary : a ≤ pl.ry := by
    have : 0 ≤ (pl.ry - a) * Dec.P := by rw [Int.sub_mul]; exact c1
    have := Int.nonneg_of_mul_nonneg_left this hP
    omega
  refine ⟨hary, ?_⟩
  by_contra hn
  have h5 : (t * (pl.ry - a) + 1) * Dec.PP ≤ pl.rx * Dec.P * Dec.PP :=
    Int.mul_le_mul_of_nonneg_right (by omega) (by decide)
  rw [Int.add_mul, Int.one_mul] at h5
  omega

theorem price_nonneg (pl : BPool) (pp : Int) (hrx : 0 ≤ pl.rx) (hry : 0 ≤ pl.ry) (h : pl.price = some pp) : 0 ≤ pp := by
  unfold BPool.price at h
  split at h
  · cases h
  · cases h
    exact Dec.quo_nonneg_of_nonneg _ _ (Dec.ofInt_nonneg hrx) (Dec.ofInt_nonneg hry)

theorem sellAmountUnder_pos_price (pl : BPool) (t a : Int) (hrx : 0 ≤ pl.rx) (hry : 0 ≤ pl.ry)
    (h : pl.sellAmountUnder t = some a) (ha : 0 < a) : 0 < t :=
  (sellShape (z := False) (Q := fun _ => 0 < t) h fun pp hp hlt _ _ => by
    have := price_nonneg pl pp hrx hry hp
    have : (0 : Int) < maxPoolPrice := by decide
    split at hlt <;> omega).2 ha

/-- the four tick loops of `PoolBuyOrders` / `PoolSellOrders` (basic and ranged pool): at `tick`, stop beyond the limit; ask the pool for
an amount (`none` = panic); skip a too small one; else place the order, update the reserves, go on unless the pool is drained.
Each model loop is an instance by two `rfl`s. -/
structure TickLoop {σ : Type} (stop : Int → Prop) [DecidablePred stop] (amount : σ → Int → Option Int)
    (skip : Int → Int → Prop) [∀ t a, Decidable (skip t a)] (upd : σ → Int → Int → σ)
    (brk : σ → Prop) [DecidablePred brk] (skipTo placeTo : Int → Int)
    (loop : Nat → σ → Int → List (Int × Int) → Option (List (Int × Int))) : Prop where
  zero : ∀ s t acc, loop 0 s t acc = some acc
  succ : ∀ f s t acc, loop (f + 1) s t acc =
    if stop t then some acc else
    match amount s t with
    | none => none
    | some amt =>
      if skip t amt then loop f s (skipTo t) acc
      else if brk (upd s t amt) then some (acc ++ [(t, amt)])
      else loop f (upd s t amt) (placeTo t) (acc ++ [(t, amt)])

/-- the one induction: if every placed order is acceptable to the replay monitor `mon` on the state it was computed from (`step`,
under a loop invariant `Inv` on the pool state), the orders the loop adds pass `mon` from the state it starts in.  The fuel, the next
tick and the break condition play no part: with no fuel left the loop returns what it has placed, and that the fuel the callers pass
is never used up is not shown -/
theorem TickLoop.ok {σ : Type} {stop : Int → Prop} [DecidablePred stop] {amount : σ → Int → Option Int}
    {skip : Int → Int → Prop} [∀ t a, Decidable (skip t a)] {upd : σ → Int → Int → σ}
    {brk : σ → Prop} [DecidablePred brk] {skipTo placeTo : Int → Int}
    {loop : Nat → σ → Int → List (Int × Int) → Option (List (Int × Int))}
    (hl : TickLoop stop amount skip upd brk skipTo placeTo loop)
    (mon : σ → List (Int × Int) → Bool) (Inv : σ → Prop) (mon_nil : ∀ s, mon s [] = true)
    (step : ∀ s t a, Inv s → ¬ stop t → amount s t = some a → ¬ skip t a →
      Inv (upd s t a) ∧ ∀ rest, mon (upd s t a) rest = true → mon s ((t, a) :: rest) = true)
    (fuel : Nat) (s : σ) (t : Int) (acc os : List (Int × Int)) (h : loop fuel s t acc = some os) :
    ∃ new, os = acc ++ new ∧ (Inv s → mon s new = true) := by
  have done : ∀ (s : σ) (acc : List (Int × Int)), ∃ new, acc = acc ++ new ∧ (Inv s → mon s new = true) :=
    fun s _ => ⟨[], by simp, fun _ => mon_nil s⟩
  induction fuel generalizing s t acc with
  | zero => rw [hl.zero] at h; cases h; exact done s _
  | succ fuel ih =>
    rw [hl.succ] at h
    split at h
    · cases h; exact done s _
    · rename_i hst
      split at h
      · cases h
      · rename_i amt ham
        split at h
        · exact ih s _ acc h
        · rename_i hsk
          have hstep := step s t amt
          split at h
          · cases h
            exact ⟨[(t, amt)], rfl, fun hi => (hstep hi hst ham hsk).2 [] (mon_nil _)⟩
          · obtain ⟨new, hn1, hn2⟩ := ih _ _ _ h
            exact ⟨(t, amt) :: new, by rw [hn1]; simp, fun hi => (hstep hi hst ham hsk).2 new (hn2 (hstep hi hst ham hsk).1)⟩

theorem buyLoop_tickLoop (pp lowest : Int) (prec : Nat) :
    TickLoop (· < lowest) BPool.buyAmountOver (fun _ a => a < minCoinAmount)
      (fun s t a => ⟨s.rx - quoteCeil t a, s.ry + a⟩) (fun s => ¬ s.rx > 0) (downTick · prec)
      (fun t => priceToDownTick (Dec.mul t (Dec.one - gapRatio pp t)) prec)
      (fun f s t acc => buyLoop f s pp lowest t prec acc) :=
  ⟨fun _ _ _ => rfl, fun _ _ _ _ => rfl⟩

theorem sellLoop_tickLoop (pp highest : Int) (prec : Nat) :
    TickLoop (· > highest) BPool.sellAmountUnder (fun t a => a < minCoinAmount ∨ quoteFloor t a = 0)
      (fun s t a => ⟨s.rx + quoteFloor t a, s.ry - a⟩) (fun s => ¬ s.ry > minCoinAmount) (upTick · prec)
      (fun t => priceToUpTick (Dec.mul t (Dec.one + gapRatio pp t)) prec)
      (fun f s t acc => sellLoop f s pp highest t prec acc) :=
  ⟨fun _ _ _ => rfl, fun _ _ _ _ => rfl⟩

theorem buyLoop_ok (fuel : Nat) (pl : BPool) (pp lowest tick : Int) (prec : Nat) (acc os : List (Int × Int))
    (hry : 0 ≤ pl.ry) (hlow : minPoolPrice ≤ lowest) (h : buyLoop fuel pl pp lowest tick prec acc = some os) :
    ∃ new, os = acc ++ new ∧ monPoolBuys pl new = true := by
  obtain ⟨new, h1, h2⟩ := (buyLoop_tickLoop pp lowest prec).ok monPoolBuys (0 ≤ ·.ry) (fun _ => rfl)
    (fun s t a hry hst ham hsk => by
      have ha : 0 < a := by unfold minCoinAmount at hsk; omega
      obtain ⟨s1, s2⟩ := (buyAmountOver_spec s t a hry (by omega) ham).2 ha
      exact ⟨by simp only; omega, fun rest hr => by unfold monPoolBuys; simp [ha, s1, s2, hr]⟩)
    fuel pl tick acc os h
  exact ⟨new, h1, h2 hry⟩

theorem sellLoop_ok (fuel : Nat) (pl : BPool) (pp highest tick : Int) (prec : Nat) (acc os : List (Int × Int))
    (hrx : 0 ≤ pl.rx) (hry : 0 ≤ pl.ry) (hhigh : highest ≤ Dec.PP)
    (h : sellLoop fuel pl pp highest tick prec acc = some os) :
    ∃ new, os = acc ++ new ∧ monPoolSells pl new = true := by
  obtain ⟨new, h1, h2⟩ := (sellLoop_tickLoop pp highest prec).ok monPoolSells (fun s => 0 ≤ s.rx ∧ 0 ≤ s.ry) (fun _ => rfl)
    (fun s t a hr hst ham hsk => by
      have ha : 0 < a := by unfold minCoinAmount at hsk; omega
      have ht0 := sellAmountUnder_pos_price s t a hr.1 hr.2 ham ha
      obtain ⟨s1, s2⟩ := (sellAmountUnder_spec s t a hr.1 ht0 (by omega) ham).2 ha
      have hq := quoteFloor_nonneg t a (by omega) (by omega)
      exact ⟨by simp only; omega, fun rest hr => by unfold monPoolSells; simp [ha, s1, s2, hr]⟩)
    fuel pl tick acc os h
  exact ⟨new, h1, h2 ⟨hrx, hry⟩⟩

/-- orders replayed on running reserves, each covered by what is left of one reserve: together they are covered by it.  `∨ l = []`
because nothing says the reserve is non-negative when no order is placed -/
theorem covered_total {σ : Type} (res : σ → Int) (cost : Int × Int → Int) (next : σ → Int × Int → σ)
    (mon : σ → List (Int × Int) → Bool)
    (hmon : ∀ s x rest, mon s (x :: rest) = true →
      cost x ≤ res s ∧ res (next s x) = res s - cost x ∧ mon (next s x) rest = true) :
    ∀ (s : σ) (l : List (Int × Int)), mon s l = true → sumInt (l.map cost) ≤ res s ∨ l = [] := by
  intro s l
  induction l generalizing s with
  | nil => exact fun _ => Or.inr rfl
  | cons x rest ih =>
    intro h
    obtain ⟨h1, h2, h3⟩ := hmon s x rest h
    left
    simp only [List.map_cons, sumInt]
    rcases ih _ h3 with h5 | h5
    · omega
    · subst h5; simp only [List.map_nil, sumInt]; omega

theorem sellAmountTo_le (pl : BPool) (t a : Int) (hry : 0 ≤ pl.ry) (h : pl.sellAmountTo t = some a) : a ≤ pl.ry := by
  by_cases ha : 0 < a
  · refine (sellShape (z := False) (Q := (· ≤ pl.ry)) h fun pp _ _ _ _ => ?_).2 ha
    have hQ : (0 : Int) ≤ Dec.quo (Dec.mul (Dec.approxSqrt (Dec.ofInt pl.rx)) (Dec.approxSqrt (Dec.ofInt pl.ry)))
        (Dec.approxSqrt (if t > maxPoolPrice then maxPoolPrice else t)) :=
      Dec.quo_nonneg_of_nonneg _ _ (Dec.mul_nonneg _ _ (Dec.approxSqrt_nonneg _) (Dec.approxSqrt_nonneg _)) (Dec.approxSqrt_nonneg _)
    exact Int.le_trans (Int.tdiv_le_tdiv Dec.P_pos (by omega)) (Int.le_of_eq (Dec.truncateInt_ofInt pl.ry))
  · omega

/-- what `PoolBuyOrders` must satisfy: apart from the one order at the upper price limit that `BuyAmountTo` contributes when
the pool price is above the limit (`first`; its amount comes from approximate square roots and is only monitored), every
order is covered by the running quote reserve and not above the pool's curve -/
def BuysOk (pl : BPool) (highest : Int) (l : List (Int × Int)) : Prop :=
  ∃ first rest pl1, l = first ++ rest ∧ monPoolBuys pl1 rest = true ∧
    ((first = [] ∧ pl1 = pl) ∨
     (∃ amt, pl.buyAmountTo highest = some amt ∧ minCoinAmount ≤ amt ∧
        first = [(highest, amt)] ∧ pl1 = ⟨pl.rx - quoteCeil highest amt, pl.ry + amt⟩))

theorem poolBuyOrders_ok (pl : BPool) (lowest highest : Int) (prec : Nat) (hry : 0 ≤ pl.ry) (hlow : minPoolPrice ≤ lowest) :
    BuysOk pl highest (poolBuyOrders pl lowest highest prec) := by
  have triv : BuysOk pl highest [] := ⟨[], [], pl, rfl, rfl, Or.inl ⟨rfl, rfl⟩⟩
  unfold poolBuyOrders
  cases hp : pl.price with
  | none => exact triv
  | some pp =>
    simp only
    by_cases h1 : pp ≤ lowest
    · rw [if_pos h1]; exact triv
    · rw [if_neg h1]
      generalize hf : (if pp > highest then _ else _ : Option (BPool × List (Int × Int))) = first
      cases first with
      | none => exact triv
      | some r =>
        obtain ⟨pl1, acc⟩ := r
        have hs := firstShape hf
        have hry1 : 0 ≤ pl1.ry := by
          rcases hs with h | ⟨amt, -, h3, h⟩ <;> cases h
          · exact hry
          · unfold minCoinAmount at h3
            simp only
            omega
        simp only
        cases hp1 : pl1.price with
        | none => exact triv
        | some p1 =>
          simp only
          cases hl : buyLoop _ pl1 pp lowest (priceToDownTick (if highest < p1 then highest else p1) prec) prec acc with
          | none => exact triv
          | some os =>
            obtain ⟨rest, hr1, hr2⟩ := buyLoop_ok _ pl1 pp lowest _ prec acc os hry1 hlow hl
            refine ⟨acc, rest, pl1, hr1, hr2, ?_⟩
            rcases hs with h | ⟨amt, hbt, h3, h⟩ <;> cases h
            · exact Or.inl ⟨rfl, rfl⟩
            · exact Or.inr ⟨amt, hbt, h3, rfl, rfl⟩

/-- the same for `PoolSellOrders`: the `first` order, from `SellAmountTo` at the lower price limit, is in addition covered by the base
reserve (`sellAmountTo_le`) -/
def SellsOk (pl : BPool) (lowest : Int) (l : List (Int × Int)) : Prop :=
  ∃ first rest pl1, l = first ++ rest ∧ monPoolSells pl1 rest = true ∧
    ((first = [] ∧ pl1 = pl) ∨
     (∃ amt, pl.sellAmountTo lowest = some amt ∧ minCoinAmount ≤ amt ∧ amt ≤ pl.ry ∧
        first = [(lowest, amt)] ∧ pl1 = ⟨pl.rx + quoteFloor lowest amt, pl.ry - amt⟩))

theorem poolSellOrders_ok (pl : BPool) (lowest highest : Int) (prec : Nat) (hrx : 0 ≤ pl.rx) (hry : 0 ≤ pl.ry)
    (hhigh : highest ≤ Dec.PP) :
    SellsOk pl lowest (poolSellOrders pl lowest highest prec) := by
  have triv : SellsOk pl lowest [] := ⟨[], [], pl, rfl, rfl, Or.inl ⟨rfl, rfl⟩⟩
  unfold poolSellOrders
  cases hp : pl.price with
  | none => exact triv
  | some pp =>
    simp only
    by_cases h1 : pp ≥ highest
    · rw [if_pos h1]; exact triv
    · rw [if_neg h1]
      generalize hf : (if pp < lowest then _ else _ : Option (BPool × List (Int × Int))) = first
      cases first with
      | none => exact triv
      | some r =>
        obtain ⟨pl1, acc⟩ := r
        have hs := firstShape hf
        have hcov := fun amt => sellAmountTo_le pl lowest amt hry
        have hr1 : 0 ≤ pl1.rx ∧ 0 ≤ pl1.ry := by
          rcases hs with h | ⟨amt, hbt, h3, h⟩ <;> cases h
          · exact ⟨hrx, hry⟩
          · have := hcov amt hbt
            exact ⟨by simp only; omega, by simp only; omega⟩
        simp only
        cases hp1 : pl1.price with
        | none => exact triv
        | some p1 =>
          simp only
          cases hl : sellLoop _ pl1 pp highest (priceToUpTick (if lowest > p1 then lowest else p1) prec) prec acc with
          | none => exact triv
          | some os =>
            obtain ⟨rest, hn1, hn2⟩ := sellLoop_ok _ pl1 pp highest _ prec acc os hr1.1 hr1.2 hhigh hl
            refine ⟨acc, rest, pl1, hn1, hn2, ?_⟩
            rcases hs with h | ⟨amt, hbt, h3, h⟩ <;> cases h
            · exact Or.inl ⟨rfl, rfl⟩
            · exact Or.inr ⟨amt, hbt, h3.1, hcov amt hbt, rfl, rfl⟩

end Comdex.Amm
