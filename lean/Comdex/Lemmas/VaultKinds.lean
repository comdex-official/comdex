import Comdex.Lemmas.Vault
/-! The ledger invariant of the vault books (`InvG`: C01 custody / count / totals, C02 supply, C03 limits; here with the limits as
parameters, `InvB`) and what each kind of record update does to it. The equations are linear in the records, so an update keeps them
as soon as balances, supply and totals move by what the changed record contributes (`inv_of_deltas`). No handler is unfolded here.
First the side conditions of the step and history theorems (`Msg.userOk`, `Msg.notSettle`, `Msg.esmRegular`, `Within`) and the shifted
offsets (`Gaps.afterSettle`, `Gaps.afterEsmStable`). -/
namespace Comdex.Vault

variable {cfg : Nat → Option Product} {lo hi : Nat → Product → Int} {G : Gaps} {s s1 s' : State} {p : Product}

/-- messages are signed by user accounts, never by the vault module account -/
def Msg.userOk : Msg → Prop
  | .create f .. | .deposit f .. | .withdraw f .. | .draw f .. | .repay f .. | .close f .. | .depositAndDraw f ..
  | .stableCreate f .. | .stableDeposit f .. | .stableWithdraw f .. | .donate f .. => f ≠ vm
  | _ => True

/-- every message but the SECOND-generation auction settlement (`settle`, auctionsV2), which takes more than the principal off
the minted total (finding D13, `settle_inv`); the first-generation settlement `settle1` keeps the equations exact -/
def Msg.notSettle : Msg → Prop
  | .settle _ => False
  | _ => True

instance (m : Msg) : Decidable m.notSettle := by cases m <;> unfold Msg.notSettle <;> infer_instance

/-- the emergency-shutdown steps that stay inside the invariant. Three do not: `esmStable` leaves the stable-mint vault's record behind
(finding D29: the ledger equations shift, `esmStable_inv`); `esmReturn1`, the wind-down of a first-generation auction that collected
less than the principal, re-creates a vault that may lie below the debt floor (`esmReturn1_inv`: every ledger equation kept, under a
floor premise); `esmReturn2` (auctionsV2 `TriggerEsm`) records collateral that never reaches custody (finding D39:
`C01.trigger_esm_counterexample`, `C01.trigger_esm_effect`) -/
def Msg.esmRegular : Msg → Prop
  | .esmStable _ => False
  | .esmReturn1 .. => False
  | .esmReturn2 .. => False
  | _ => True

instance (m : Msg) : Decidable m.esmRegular := by cases m <;> unfold Msg.esmRegular <;> infer_instance

/-- the offsets after the second-generation close of seized vault `l` of product `p`: interest and closing fee are burnt, and taken off
the minted total, on top of the principal (finding D13) -/
def Gaps.afterSettle (G : Gaps) (p : Product) (l : LockedRec) : Gaps :=
  { G with mint := fun k => G.mint k - (if k = l.product then l.debt - l.amountOut else 0),
           sup := fun d => G.sup d - (if d = p.denomOut then l.debt - l.amountOut else 0) }

/-- the offsets after the emergency redemption of stable-mint vault `r` of product `p`: custody and the published totals
fall, the records do not -/
def Gaps.afterEsmStable (G : Gaps) (p : Product) (r : StableRec) : Gaps :=
  { G with cus := fun d => G.cus d - (if d = p.denomIn then (if r.amountIn > 0 then r.amountIn else 0) else 0),
           coll := fun k => G.coll k - (if k = p.id then r.amountIn else 0),
           mint := fun k => G.mint k - (if k = p.id then r.amountOut else 0) }

/-! What C03 says once the configuration has changed is about bounds other than the configured ones, so the invariant takes the
bounds as parameters: `lo` below every open vault's principal, `hi` above every minted total. `InvG cfg G s` unfolds to
`InvB cfg cfgFloor cfgCeil G s`: a hypothesis of the one is accepted where the other is expected, but the bounds have to be named
there (unification does not find them). -/

def LimB (cfg : Nat → Option Product) (lo hi : Nat → Product → Int) (s : State) : Prop :=
  (∀ v ∈ s.vaults, ∀ p, cfg v.product = some p → lo v.product p ≤ v.amountOut) ∧
  (∀ k p, cfg k = some p → s.minted k ≤ hi k p)

def InvB (cfg : Nat → Option Product) (lo hi : Nat → Product → Int) (G : Gaps) (s : State) : Prop :=
  Wf cfg s ∧ CountOkG G s ∧ (∀ d, CustodyAtG cfg G s d) ∧ (∀ p, TotalsAtG G s p) ∧ (∀ d, SupplyAtG cfg G s d) ∧ LimB cfg lo hi s

abbrev cfgFloor : Nat → Product → Int := fun _ p => p.debtFloor
abbrev cfgCeil : Nat → Product → Int := fun _ p => p.debtCeiling

/-- bounds no stricter than the configured limits: every floor / ceiling guard of a handler implies them -/
structure Within (cfg : Nat → Option Product) (lo hi : Nat → Product → Int) : Prop where
  floor : ∀ {k p}, cfg k = some p → lo k p ≤ p.debtFloor
  ceil : ∀ {k p}, cfg k = some p → p.debtCeiling ≤ hi k p

theorem Within.refl (cfg : Nat → Option Product) : Within cfg cfgFloor cfgCeil :=
  ⟨fun _ => Int.le_refl _, fun _ => Int.le_refl _⟩

theorem InvB.wf (h : InvB cfg lo hi G s) : Wf cfg s := h.1
theorem InvB.limits (h : InvB cfg lo hi G s) : LimB cfg lo hi s := h.2.2.2.2.2
theorem LimB.floor (h : LimB cfg lo hi s) {v : VaultRec} (hv : v ∈ s.vaults) {p : Product} (hp : cfg v.product = some p) :
    lo v.product p ≤ v.amountOut := h.1 v hv p hp
theorem LimB.ceil (h : LimB cfg lo hi s) {k : Nat} {p : Product} (hp : cfg k = some p) : s.minted k ≤ hi k p := h.2 k p hp
theorem InvG.custody (h : InvG cfg G s) : ∀ d, CustodyAtG cfg G s d := h.2.2.1
theorem InvG.totals (h : InvG cfg G s) : ∀ k, TotalsAtG G s k := h.2.2.2.1
theorem InvG.supply (h : InvG cfg G s) : ∀ d, SupplyAtG cfg G s d := h.2.2.2.2.1
theorem InvG.limits (h : InvG cfg G s) : Limits cfg s := h.2.2.2.2.2

theorem Inv.totals (h : Inv cfg s) : ∀ k, TotalsAt s k := h.2.2.2.1
theorem Inv.supply (h : Inv cfg s) : ∀ d, SupplyAt cfg s d := h.2.2.2.2.1

section
variable (h : Wf cfg s)
include h
theorem Wf.nodupV : (s.vaults.map (·.id)).Nodup := h.1
theorem Wf.vault_id_le {v : VaultRec} (hv : v ∈ s.vaults) : v.id ≤ s.nextVault := (h.2.1 v hv).1
theorem Wf.vault_configured {v : VaultRec} (hv : v ∈ s.vaults) : (cfg v.product).isSome := (h.2.1 v hv).2.1
theorem Wf.vault_nonneg {v : VaultRec} (hv : v ∈ s.vaults) : v.Nonneg :=
  let ⟨_, _, a, b, c, d⟩ := h.2.1 v hv
  ⟨a, b, c, d⟩
theorem Wf.lockedRec {l : LockedRec} (hl : l ∈ s.locked) : (cfg l.product).isSome ∧ 0 ≤ l.amountOut ∧ l.amountOut ≤ l.debt :=
  h.2.2.2.2 l hl
end

theorem denomIn_of {pr : Nat} (hp : cfg pr = some p) (d : Nat) : (denomInOf cfg pr = some d) = (d = p.denomIn) := by
  simp only [denomInOf, hp, Option.map_some, Option.some.injEq]; exact propext ⟨Eq.symm, Eq.symm⟩

theorem denomOut_of {pr : Nat} (hp : cfg pr = some p) (d : Nat) : (denomOutOf cfg pr = some d) = (d = p.denomOut) := by
  simp only [denomOutOf, hp, Option.map_some, Option.some.injEq]; exact propext ⟨Eq.symm, Eq.symm⟩

theorem inv_of_deltas {dv ds Δc Δm Δu Δe : Nat → Int} {Δlen : Int}
    (hinv : InvB cfg lo hi G s) (hwf : Wf cfg s')
    (hbal : ∀ d, s'.bal vm d = s.bal vm d + dv d) (hsupply : ∀ d, s'.supply d = s.supply d + ds d)
    (hcoll : ∀ k, s'.coll k = s.coll k + Δc k) (hmint : ∀ k, s'.minted k = s.minted k + Δm k)
    (hlen : s'.length = s.length + Δlen) (hcount : (s'.vaults.length : Int) = s.vaults.length + Δlen)
    (hun : ∀ d, s'.unsolicited d = s.unsolicited d + Δu d) (hex : ∀ d, s'.extSupply d = s.extSupply d + Δe d)
    (hCollRec : ∀ d, collRecorded cfg s' d = collRecorded cfg s d + dv d - Δu d)
    (hCollOf : ∀ k, collOfProduct s' k = collOfProduct s k + Δc k)
    (hMintOf : ∀ k, mintedOfProduct s' k = mintedOfProduct s k + Δm k)
    (hPrinRec : ∀ d, principalRecorded cfg s' d = principalRecorded cfg s d + ds d - Δe d)
    (hlim : LimB cfg lo hi s') : InvB cfg lo hi G s' := by
  obtain ⟨_, hcnt, hcus, htot, hsup, _⟩ := hinv
  refine ⟨hwf, ?_, ?_, ?_, ?_, hlim⟩
  · unfold CountOkG at *; omega
  · intro d; have := hcus d; unfold CustodyAtG at *; rw [hbal, hCollRec, hun]; omega
  · intro k; have := htot k; unfold TotalsAtG at *; rw [hcoll, hmint, hCollOf, hMintOf]; omega
  · intro d; have := hsup d; unfold SupplyAtG at *; rw [hsupply, hPrinRec, hex]; omega

theorem inv_of_deltas0 {dv ds Δc Δm : Nat → Int} {Δlen : Int}
    (hinv : InvB cfg lo hi G s) (hwf : Wf cfg s')
    (hbal : ∀ d, s'.bal vm d = s.bal vm d + dv d) (hsupply : ∀ d, s'.supply d = s.supply d + ds d)
    (hcoll : ∀ k, s'.coll k = s.coll k + Δc k) (hmint : ∀ k, s'.minted k = s.minted k + Δm k)
    (hlen : s'.length = s.length + Δlen) (hcount : (s'.vaults.length : Int) = s.vaults.length + Δlen)
    (hun : s'.unsolicited = s.unsolicited) (hex : s'.extSupply = s.extSupply)
    (hCollRec : ∀ d, collRecorded cfg s' d = collRecorded cfg s d + dv d)
    (hCollOf : ∀ k, collOfProduct s' k = collOfProduct s k + Δc k)
    (hMintOf : ∀ k, mintedOfProduct s' k = mintedOfProduct s k + Δm k)
    (hPrinRec : ∀ d, principalRecorded cfg s' d = principalRecorded cfg s d + ds d)
    (hlim : LimB cfg lo hi s') : InvB cfg lo hi G s' :=
  inv_of_deltas (Δu := fun _ => 0) (Δe := fun _ => 0) hinv hwf hbal hsupply hcoll hmint hlen hcount
    (fun _ => hun ▸ (Int.add_zero _).symm) (fun _ => hex ▸ (Int.add_zero _).symm)
    (fun d => (hCollRec d).trans (Int.sub_zero _).symm) hCollOf hMintOf (fun d => (hPrinRec d).trans (Int.sub_zero _).symm) hlim

-- sums `vaults + stables (+ locked)` with the change `D` of one summand brought to the end, as `inv_of_deltas` asks
theorem sum_first2 {X' X D : Int} (h : X' = X + D) (B : Int) : X' + B = X + B + D := by omega
theorem sum_first3 {X' X D : Int} (h : X' = X + D) (B L : Int) : X' + B + L = X + B + L + D := by omega
theorem sum_second2 {Y' Y D : Int} (h : Y' = Y + D) (A : Int) : A + Y' = A + Y + D := by omega
theorem sum_second3 {Y' Y D : Int} (h : Y' = Y + D) (A L : Int) : A + Y' + L = A + Y + L + D := by omega

theorem ite_set {a a' x : Int} (c : Prop) [Decidable c] (h : a' = a + x) (X : Int) :
    X - (if c then a else 0) + (if c then a' else 0) = X + if c then x else 0 := by subst h; split <;> omega

theorem sum_move (F X B L : Int) : X - F + B + (L + F) = X + B + L + 0 := by omega

theorem ite_del (c : Prop) [Decidable c] (a X : Int) : X - (if c then a else 0) = X + if c then -a else 0 := by
  split <;> omega

theorem ceil_step {M : Nat → Int} {k0 : Nat} {Δ : Int} (hlim : LimB cfg lo hi s)
    (hM : ∀ k, M k = s.minted k + if k = k0 then Δ else 0)
    (hΔ : Δ ≤ 0 ∨ ∀ p, cfg k0 = some p → s.minted k0 + Δ ≤ hi k0 p) :
    ∀ k p, cfg k = some p → M k ≤ hi k p := by
  intro k p hp
  have h0 := hlim.ceil hp
  rw [hM k]
  split
  · next hk => subst hk; rcases hΔ with h | h
               · omega
               · exact h p hp
  · omega

theorem SameRecords.shape (h : SameRecords s s1) : s1 = { s with bal := s1.bal, supply := s1.supply } := by
  obtain ⟨h1, h2, h3, h4, h5, h6, h7, h8, h9, h10, h11, h12⟩ := h
  cases s1; cases s; simp only at *; subst_vars; rfl

section kinds
variable {dv ds : Nat → Int} {C M : Nat → Int} {I : Nat → List Nat}

theorem inv_setVault {v0 : VaultRec} (v : VaultRec) {Δin Δout : Int} (hinv : InvB cfg lo hi G s) (eff : BankEffect s s1 dv ds)
    (hm : v0 ∈ s.vaults) (hp : cfg v0.product = some p) (hid : v.id = v0.id) (hpr : v.product = v0.product)
    (hin : v.amountIn = v0.amountIn + Δin) (hout : v.amountOut = v0.amountOut + Δout)
    (hnn : v.Nonneg)
    (hdv : ∀ d, dv d = if d = p.denomIn then Δin else 0) (hds : ∀ d, ds d = if d = p.denomOut then Δout else 0)
    (hC : ∀ k, C k = s1.coll k + if k = v0.product then Δin else 0)
    (hM : ∀ k, M k = s1.minted k + if k = v0.product then Δout else 0)
    (hfloor : 0 ≤ Δout ∨ lo v0.product p ≤ v.amountOut)
    (hceil : Δout ≤ 0 ∨ s.minted v0.product + Δout ≤ hi v0.product p) :
    InvB cfg lo hi G { s1 with vaults := setVault s1.vaults v, coll := C, minted := M } := by
  obtain ⟨hnd, hvs, hnds, hss, hls⟩ := hinv.wf
  -- with `s1` written as `s` with new balances and supply, its record fields are those of `s` by computation
  have e := eff.same.shape; generalize s1.bal = b at *; generalize s1.supply = u at *; subst e
  dsimp only at hC hM ⊢
  have hsum := fun g => sumBy_setBy (·.id) g s.vaults v0 v hnd hm hid
  refine inv_of_deltas0 (Δlen := 0) hinv ⟨?_, ?_, hnds, hss, hls⟩ eff.vmBal eff.supply
    hC hM (Int.add_zero _).symm (by simp only [setVault, length_setBy]; omega) rfl rfl ?_ ?_ ?_ ?_ ⟨?_, ?_⟩
  · simp only [setVault, setBy, KeyedRecs.map_key_put]; exact hnd
  · intro w hw
    rcases KeyedRecs.mem_put VaultRec.id hw with rfl | ⟨hw', -⟩
    · exact ⟨hid ▸ hinv.wf.vault_id_le hm, hpr ▸ hinv.wf.vault_configured hm, hnn.amountIn, hnn.amountOut, hnn.interest,
        hnn.closingFee⟩
    · exact hvs w hw'
  · intro d; simp only [collRecorded, setVault, hsum, hpr, denomIn_of hp, hdv]; exact sum_first2 (ite_set _ hin _) _
  · intro k; simp only [collOfProduct, setVault, hsum, hpr, @eq_comm _ v0.product]; exact sum_first3 (ite_set _ hin _) _ _
  · intro k; simp only [mintedOfProduct, setVault, hsum, hpr, @eq_comm _ v0.product]; exact sum_first3 (ite_set _ hout _) _ _
  · intro d; simp only [principalRecorded, setVault, hsum, hpr, denomOut_of hp, hds]; exact sum_first3 (ite_set _ hout _) _ _
  · intro w hw q hq
    rcases KeyedRecs.mem_put VaultRec.id hw with rfl | ⟨hw', -⟩
    · rw [hpr, hp] at hq; cases hq
      rw [hpr]
      rcases hfloor with h | h
      · have := hinv.limits.floor hm hp; omega
      · exact h
    · exact hinv.limits.floor hw' hq
  · exact ceil_step hinv.limits hM (hceil.imp id fun h q hq => by rw [hp] at hq; cases hq; exact h)

theorem inv_snocVault (v : VaultRec) (hinv : InvB cfg lo hi G s) (eff : BankEffect s s1 dv ds) (hp : cfg v.product = some p)
    (hid : v.id = s1.nextVault + 1) (hnn : v.Nonneg)
    (hdv : ∀ d, dv d = if d = p.denomIn then v.amountIn else 0) (hds : ∀ d, ds d = if d = p.denomOut then v.amountOut else 0)
    (hC : ∀ k, C k = s1.coll k + if k = v.product then v.amountIn else 0)
    (hM : ∀ k, M k = s1.minted k + if k = v.product then v.amountOut else 0)
    (hfloor : lo v.product p ≤ v.amountOut) (hceil : s.minted v.product + v.amountOut ≤ hi v.product p) :
    InvB cfg lo hi G { s1 with vaults := s1.vaults ++ [v], nextVault := s1.nextVault + 1, length := s1.length + 1, coll := C,
                               minted := M, vaultIds := I } := by
  obtain ⟨hnd, hvs, hnds, hss, hls⟩ := hinv.wf
  have e := eff.same.shape; generalize s1.bal = b at *; generalize s1.supply = u at *; subst e
  dsimp only at hC hM hid ⊢
  refine inv_of_deltas0 (Δlen := 1) hinv ⟨?_, ?_, hnds, hss, hls⟩ eff.vmBal eff.supply
    hC hM rfl (by simp only [List.length_append, List.length_cons, List.length_nil]; omega) rfl rfl ?_ ?_ ?_ ?_ ⟨?_, ?_⟩
  · exact KeyedRecs.nodup_snoc hnd fun w hw => by have := (hvs w hw).1; omega
  · intro w hw
    rcases List.mem_append.mp hw with h | h
    · have := hvs w h; exact ⟨by simp only; omega, this.2⟩
    · rw [List.mem_singleton.mp h]
      exact ⟨by simp only; omega, by rw [hp]; rfl, hnn.amountIn, hnn.amountOut, hnn.interest, hnn.closingFee⟩
  · intro d; simp only [collRecorded, sumBy_snoc, denomIn_of hp, hdv]; exact sum_first2 rfl _
  · intro k; simp only [collOfProduct, sumBy_snoc, @eq_comm _ v.product]; exact sum_first3 rfl _ _
  · intro k; simp only [mintedOfProduct, sumBy_snoc, @eq_comm _ v.product]; exact sum_first3 rfl _ _
  · intro d; simp only [principalRecorded, sumBy_snoc, denomOut_of hp, hds]; exact sum_first3 rfl _ _
  · intro w hw q hq
    rcases List.mem_append.mp hw with h | h
    · exact hinv.limits.floor h hq
    · rw [List.mem_singleton.mp h, hp] at hq; cases hq; rw [List.mem_singleton.mp h]; exact hfloor
  · exact ceil_step hinv.limits hM (Or.inr fun q hq => by rw [hp] at hq; cases hq; exact hceil)

theorem delVault_wf_floor (hinv : InvB cfg lo hi G s) (v0 : VaultRec) :
    ((delVault s.vaults v0.id).map (·.id)).Nodup ∧
    (∀ w ∈ delVault s.vaults v0.id, w.id ≤ s.nextVault ∧ (cfg w.product).isSome ∧ 0 ≤ w.amountIn ∧ 0 ≤ w.amountOut ∧
      0 ≤ w.interest ∧ 0 ≤ w.closingFee) ∧
    ∀ w ∈ delVault s.vaults v0.id, ∀ q, cfg w.product = some q → lo w.product q ≤ w.amountOut :=
  ⟨KeyedRecs.nodup_del VaultRec.id _ _ hinv.wf.nodupV, fun w hw => hinv.wf.2.1 w (KeyedRecs.mem_del VaultRec.id hw).1,
   fun _ hw _ hq => hinv.limits.floor (KeyedRecs.mem_del VaultRec.id hw).1 hq⟩

/-- an open vault leaves the books: its principal is burnt (close, `Δe = 0`) or moves to the supply that no record
backs (emergency redemption, `Δe` = the principal) -/
theorem inv_delVault {v0 : VaultRec} {Δe E : Nat → Int} {R : Nat → Nat → Int} (hinv : InvB cfg lo hi G s) (eff : BankEffect s s1 dv ds)
    (hm : v0 ∈ s.vaults) (hp : cfg v0.product = some p)
    (hdv : ∀ d, dv d = if d = p.denomIn then -v0.amountIn else 0)
    (hds : ∀ d, ds d - Δe d = if d = p.denomOut then -v0.amountOut else 0)
    (hE : ∀ d, E d = s1.extSupply d + Δe d)
    (hC : ∀ k, C k = s1.coll k + if k = v0.product then -v0.amountIn else 0)
    (hM : ∀ k, M k = s1.minted k + if k = v0.product then -v0.amountOut else 0) :
    InvB cfg lo hi G { s1 with vaults := delVault s1.vaults v0.id, length := s1.length - 1, coll := C, minted := M, vaultIds := I,
                               extSupply := E, redeem := R } := by
  obtain ⟨hnd, hvs, hnds, hss, hls⟩ := hinv.wf
  obtain ⟨w1, w2, w3⟩ := delVault_wf_floor hinv v0
  have e := eff.same.shape; generalize s1.bal = b at *; generalize s1.supply = u at *; subst e
  dsimp only at hC hM hE ⊢
  have hsum := fun g => sumBy_delBy (·.id) g s.vaults v0 hnd hm
  have hlen2 : ((delVault s.vaults v0.id).length : Int) = s.vaults.length + -1 :=
    length_delBy (fun w : VaultRec => w.id) s.vaults v0 hnd hm
  refine inv_of_deltas (Δu := fun _ => 0) (Δlen := -1) hinv ⟨w1, w2, hnds, hss, hls⟩ eff.vmBal eff.supply
    hC hM rfl hlen2 (fun _ => (Int.add_zero _).symm) hE ?_ ?_ ?_ ?_
    ⟨w3, ceil_step hinv.limits hM (Or.inl (Int.neg_nonpos_of_nonneg (hinv.wf.vault_nonneg hm).amountOut))⟩
  · intro d; simp only [collRecorded, delVault, hsum, denomIn_of hp, hdv]
    exact (sum_first2 (ite_del _ _ _) _).trans (Int.sub_zero _).symm
  · intro k; simp only [collOfProduct, delVault, hsum, @eq_comm _ v0.product]; exact sum_first3 (ite_del _ _ _) _ _
  · intro k; simp only [mintedOfProduct, delVault, hsum, @eq_comm _ v0.product]; exact sum_first3 (ite_del _ _ _) _ _
  · intro d; simp only [principalRecorded, delVault, hsum, denomOut_of hp, Int.add_sub_assoc, hds]
    exact sum_first3 (ite_del _ _ _) _ _

theorem inv_seizeVault {v0 : VaultRec} (dbt : Int) (hinv : InvB cfg lo hi G s) (eff : BankEffect s s1 dv ds)
    (hm : v0 ∈ s.vaults) (hp : cfg v0.product = some p) (hdbt : v0.amountOut ≤ dbt)
    (hdv : ∀ d, dv d = if d = p.denomIn then -v0.amountIn else 0) (hds : ∀ d, ds d = 0) :
    InvB cfg lo hi G { s1 with vaults := delVault s1.vaults v0.id, length := s1.length - 1,
                               locked := s1.locked ++ [⟨v0.id, v0.product, v0.amountIn, v0.amountOut, dbt⟩], vaultIds := I } := by
  obtain ⟨hnd, hvs, hnds, hss, hls⟩ := hinv.wf
  obtain ⟨w1, w2, w3⟩ := delVault_wf_floor hinv v0
  have e := eff.same.shape; generalize s1.bal = b at *; generalize s1.supply = u at *; subst e
  dsimp only
  have hsum := fun g => sumBy_delBy (·.id) g s.vaults v0 hnd hm
  have hlen2 : ((delVault s.vaults v0.id).length : Int) = s.vaults.length + -1 :=
    length_delBy (fun w : VaultRec => w.id) s.vaults v0 hnd hm
  refine inv_of_deltas0 (Δc := fun _ => 0) (Δm := fun _ => 0) (Δlen := -1) hinv
    ⟨w1, w2, hnds, hss, ?_⟩ eff.vmBal eff.supply (fun _ => (Int.add_zero _).symm) (fun _ => (Int.add_zero _).symm) rfl
    hlen2 rfl rfl ?_ ?_ ?_ ?_ ⟨w3, hinv.limits.2⟩
  · intro w hw
    rcases List.mem_append.mp hw with h | h
    · exact hls w h
    · rw [List.mem_singleton.mp h]; exact ⟨by rw [hp]; rfl, (hinv.wf.vault_nonneg hm).amountOut, hdbt⟩
  · intro d; simp only [collRecorded, delVault, hsum, denomIn_of hp, hdv]; exact sum_first2 (ite_del _ _ _) _
  · intro k; simp only [collOfProduct, delVault, hsum, sumBy_snoc]; exact sum_move ..
  · intro k; simp only [mintedOfProduct, delVault, hsum, sumBy_snoc]; exact sum_move ..
  · intro d; simp only [principalRecorded, delVault, hsum, sumBy_snoc, hds]; exact sum_move ..

theorem inv_snocStable (v : StableRec) (hinv : InvB cfg lo hi G s) (eff : BankEffect s s1 dv ds) (hp : cfg v.product = some p)
    (hid : v.id = s1.nextStable + 1)
    (hdv : ∀ d, dv d = if d = p.denomIn then v.amountIn else 0) (hds : ∀ d, ds d = if d = p.denomOut then v.amountOut else 0)
    (hC : ∀ k, C k = s1.coll k + if k = v.product then v.amountIn else 0)
    (hM : ∀ k, M k = s1.minted k + if k = v.product then v.amountOut else 0)
    (hceil : s.minted v.product + v.amountOut ≤ hi v.product p) :
    InvB cfg lo hi G { s1 with stables := s1.stables ++ [v], nextStable := s1.nextStable + 1, coll := C, minted := M, vaultIds := I } := by
  obtain ⟨hnd, hvs, hnds, hss, hls⟩ := hinv.wf
  have e := eff.same.shape; generalize s1.bal = b at *; generalize s1.supply = u at *; subst e
  dsimp only at hC hM hid ⊢
  refine inv_of_deltas0 (Δlen := 0) hinv ⟨hnd, hvs, ?_, ?_, hls⟩ eff.vmBal eff.supply
    hC hM (Int.add_zero _).symm (Int.add_zero _).symm rfl rfl ?_ ?_ ?_ ?_
    ⟨hinv.limits.1, ceil_step hinv.limits hM (Or.inr fun q hq => by rw [hp] at hq; cases hq; exact hceil)⟩
  · exact KeyedRecs.nodup_snoc hnds fun w hw => by have := (hss w hw).1; omega
  · intro w hw
    rcases List.mem_append.mp hw with h | h
    · have := hss w h; exact ⟨by simp only; omega, this.2⟩
    · rw [List.mem_singleton.mp h]; exact ⟨by simp only; omega, by rw [hp]; rfl⟩
  · intro d; simp only [collRecorded, sumBy_snoc, denomIn_of hp, hdv]; exact sum_second2 rfl _
  · intro k; simp only [collOfProduct, sumBy_snoc, @eq_comm _ v.product]; exact sum_second3 rfl _ _
  · intro k; simp only [mintedOfProduct, sumBy_snoc, @eq_comm _ v.product]; exact sum_second3 rfl _ _
  · intro d; simp only [principalRecorded, sumBy_snoc, denomOut_of hp, hds]; exact sum_second3 rfl _ _

theorem inv_setStable {v0 : StableRec} (v : StableRec) {Δin Δout : Int} (hinv : InvB cfg lo hi G s) (eff : BankEffect s s1 dv ds)
    (hm : v0 ∈ s.stables) (hp : cfg v0.product = some p) (hid : v.id = v0.id) (hpr : v.product = v0.product)
    (hin : v.amountIn = v0.amountIn + Δin) (hout : v.amountOut = v0.amountOut + Δout)
    (hdv : ∀ d, dv d = if d = p.denomIn then Δin else 0) (hds : ∀ d, ds d = if d = p.denomOut then Δout else 0)
    (hC : ∀ k, C k = s1.coll k + if k = v0.product then Δin else 0)
    (hM : ∀ k, M k = s1.minted k + if k = v0.product then Δout else 0)
    (hceil : Δout ≤ 0 ∨ s.minted v0.product + Δout ≤ hi v0.product p) :
    InvB cfg lo hi G { s1 with stables := setStable s1.stables v, coll := C, minted := M } := by
  obtain ⟨hnd, hvs, hnds, hss, hls⟩ := hinv.wf
  have hv0 := hss v0 hm
  have e := eff.same.shape; generalize s1.bal = b at *; generalize s1.supply = u at *; subst e
  dsimp only at hC hM ⊢
  have hsum := fun g => sumBy_setBy (·.id) g s.stables v0 v hnds hm hid
  refine inv_of_deltas0 (Δlen := 0) hinv ⟨hnd, hvs, ?_, ?_, hls⟩ eff.vmBal eff.supply
    hC hM (Int.add_zero _).symm (Int.add_zero _).symm rfl rfl ?_ ?_ ?_ ?_
    ⟨hinv.limits.1, ceil_step hinv.limits hM (hceil.imp id fun h q hq => by rw [hp] at hq; cases hq; exact h)⟩
  · simp only [setStable, setBy, KeyedRecs.map_key_put]; exact hnds
  · intro w hw
    rcases KeyedRecs.mem_put StableRec.id hw with rfl | ⟨hw', -⟩
    · exact ⟨hid ▸ hv0.1, hpr ▸ hv0.2⟩
    · exact hss w hw'
  · intro d; simp only [collRecorded, setStable, hsum, hpr, denomIn_of hp, hdv]; exact sum_second2 (ite_set _ hin _) _
  · intro k; simp only [collOfProduct, setStable, hsum, hpr, @eq_comm _ v0.product]; exact sum_second3 (ite_set _ hin _) _ _
  · intro k; simp only [mintedOfProduct, setStable, hsum, hpr, @eq_comm _ v0.product]; exact sum_second3 (ite_set _ hout _) _ _
  · intro d; simp only [principalRecorded, setStable, hsum, hpr, denomOut_of hp, hds]; exact sum_second3 (ite_set _ hout _) _ _

end kinds

theorem inv_noRecords {dv ds : Nat → Int} (hinv : InvB cfg lo hi G s)
    (hV : s'.vaults = s.vaults) (hS : s'.stables = s.stables) (hL : s'.locked = s.locked) (hnv : s'.nextVault = s.nextVault)
    (hns : s'.nextStable = s.nextStable) (hlen : s'.length = s.length) (hC : s'.coll = s.coll) (hM : s'.minted = s.minted)
    (hbal : ∀ d, s'.bal vm d = s.bal vm d + dv d) (hsup : ∀ d, s'.supply d = s.supply d + ds d)
    (hun : ∀ d, s'.unsolicited d = s.unsolicited d + dv d) (hex : ∀ d, s'.extSupply d = s.extSupply d + ds d) :
    InvB cfg lo hi G s' := by
  refine inv_of_deltas (Δc := fun _ => 0) (Δm := fun _ => 0) (Δlen := 0) hinv ?_ hbal hsup (fun _ => by rw [hC]; omega)
    (fun _ => by rw [hM]; omega) (by rw [hlen]; omega) (by rw [hV]; omega) hun hex ?_ ?_ ?_ ?_ ?_
  · unfold Wf; rw [hV, hS, hL, hnv, hns]; exact hinv.wf
  · intro d; simp only [collRecorded, hV, hS]; omega
  · intro k; simp only [collOfProduct, hV, hS, hL]; omega
  · intro k; simp only [mintedOfProduct, hV, hS, hL]; omega
  · intro d; simp only [principalRecorded, hV, hS, hL]; omega
  · unfold LimB; rw [hV, hM]; exact hinv.limits

theorem inv_burnExt {acct d0 : Nat} {x : Int} (rd : Nat → Nat → Int) (ha : acct ≠ vm) (hinv : InvB cfg lo hi G s) :
    InvB cfg lo hi G { s with bal := upd2 s.bal acct d0 (s.bal acct d0 - x), supply := upd1 s.supply d0 (s.supply d0 - x),
                              extSupply := upd1 s.extSupply d0 (s.extSupply d0 - x), redeem := rd } :=
  inv_noRecords (dv := fun _ => 0) hinv rfl rfl rfl rfl rfl rfl rfl rfl
    (fun d => (upd2_sub ..).trans (by simp only [Ne.symm ha, false_and, if_false]))
    (fun _ => upd1_sub ..) (fun _ => (Int.add_zero _).symm) (fun _ => upd1_sub ..)

theorem inv_eraseLocked {l : LockedRec} (hinv : InvB cfg lo hi G s) (hm : l ∈ s.locked) (hp : cfg l.product = some p) :
    InvB cfg lo hi G { s with locked := s.locked.erase l, supply := upd1 s.supply p.denomOut (s.supply p.denomOut - l.amountOut),
                              coll := upd1 s.coll l.product (s.coll l.product - l.amountIn),
                              minted := upd1 s.minted l.product (s.minted l.product - l.amountOut) } := by
  obtain ⟨hnd, hvs, hnds, hss, hls⟩ := hinv.wf
  have hsum := fun g => sumBy_erase g s.locked l hm
  refine inv_of_deltas0 (dv := fun _ => 0) (Δlen := 0) hinv ⟨hnd, hvs, hnds, hss, fun w hw => hls w (List.mem_of_mem_erase hw)⟩
    (fun _ => (Int.add_zero _).symm) (fun _ => upd1_sub ..) (fun _ => upd1_sub ..) (fun _ => upd1_sub ..) (Int.add_zero _).symm
    (Int.add_zero _).symm rfl rfl (fun _ => (Int.add_zero _).symm) ?_ ?_ ?_
    ⟨hinv.limits.1, ceil_step hinv.limits (fun _ => upd1_sub ..) (Or.inl (Int.neg_nonpos_of_nonneg (hls l hm).2.1))⟩
  · intro k; simp only [collOfProduct, hsum, @eq_comm _ l.product]; rw [← ite_del]; omega
  · intro k; simp only [mintedOfProduct, hsum, @eq_comm _ l.product]; rw [← ite_del]; omega
  · intro d; simp only [principalRecorded, hsum, denomOut_of hp]; rw [← ite_del]; omega

/-- more is burnt, and taken off the minted total, than any record accounts for (finding D13): only the offsets move -/
theorem inv_extraBurn {x : Int} (hx : 0 ≤ x) (k d0 : Nat) (hinv : InvB cfg lo hi G s) :
    InvB cfg lo hi { G with mint := fun k' => G.mint k' - if k' = k then x else 0, sup := fun d => G.sup d - if d = d0 then x else 0 }
      { s with supply := upd1 s.supply d0 (s.supply d0 - x), minted := upd1 s.minted k (s.minted k - x) } := by
  obtain ⟨hwf, hcnt, hcus, htot, hsup, hlim⟩ := hinv
  refine ⟨hwf, hcnt, hcus, fun k' => ⟨(htot k').1, ?_⟩, fun d => ?_, hlim.1, fun k' q hq => ?_⟩
  · have := (htot k').2
    show upd1 s.minted k (s.minted k - x) k' = mintedOfProduct s k' + (G.mint k' - if k' = k then x else 0)
    rw [upd1_sub]; split <;> omega
  · have : s.supply d = _ := hsup d
    show upd1 s.supply d0 (s.supply d0 - x) d = principalRecorded cfg s d + s.extSupply d + (G.sup d - if d = d0 then x else 0)
    rw [upd1_sub]; split <;> omega
  · have := hlim.ceil hq
    show upd1 s.minted k (s.minted k - x) k' ≤ _
    rw [upd1_sub]; split <;> omega

end Comdex.Vault
