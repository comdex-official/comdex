import Comdex.Model.LendRates
import Comdex.Lemmas.DecRound
/-! C18 family (a): the kinked rate function and the index-based accrual of `Model/LendRates.lean`, on the rounding facts of
`Lemmas/DecCore.lean` and `Lemmas/DecRound.lean`. -/
namespace Comdex.LendRates

theorem P_val : Dec.P = 1000000000000000000 := rfl

theorem years_eq (s : Int) (hs : 0 ≤ s) : yearsDec s = s * Dec.P / 31557600 := by
  unfold yearsDec Dec.quoInt Dec.ofInt secondsPerYear
  exact Int.tdiv_eq_ediv_of_nonneg (Dec.ofInt_nonneg hs)

theorem years_nonneg (s : Int) (hs : 0 ≤ s) : 0 ≤ yearsDec s := by
  rw [years_eq s hs, P_val]
  show (0 : Int) ≤ _
  omega

theorem years_zero : yearsDec 0 = 0 := by decide

theorem years_mono (s t : Int) (hs : 0 ≤ s) (h : s ≤ t) : yearsDec s ≤ yearsDec t := by
  rw [years_eq s hs, years_eq t (le_trans hs h), P_val]
  show (_ : Int) ≤ _
  omega

theorem years_superadd (s t : Int) (hs : 0 ≤ s) (ht : 0 ≤ t) : yearsDec s + yearsDec t ≤ yearsDec (s + t) := by
  rw [years_eq s hs, years_eq t ht, years_eq (s + t) (Int.add_nonneg hs ht), P_val]
  show (_ : Int) ≤ _
  omega

def kinkedVal (base s1 s2 uOpt u : Dec) : Dec :=
  if u < uOpt then belowKink base s1 uOpt u else aboveKink base s1 s2 uOpt u

/-- `admissible` (Model/LendRates) for one rate triple -/
structure Kink (base s1 s2 uOpt : Dec) : Prop where
  pos : 0 < uOpt
  lt_one : uOpt < Dec.one
  base : 0 ≤ base
  s1 : 0 ≤ s1
  s2 : 0 ≤ s2

variable {base s1 s2 uOpt : Dec}

theorem kinked_eq_some (k : Kink base s1 s2 uOpt) (u : Dec) :
    kinked base s1 s2 uOpt u = some (kinkedVal base s1 s2 uOpt u) := by
  have e1 : ¬ uOpt = 0 := ne_of_gt k.pos
  have e2 : ¬ Dec.one - uOpt = 0 := sub_ne_zero_of_ne (ne_of_gt k.lt_one)
  unfold kinked kinkedVal
  rw [if_neg e1, if_neg e2]
  split <;> rfl

theorem below_le (k : Kink base s1 s2 uOpt) (u : Dec) (hlt : u < uOpt) :
    belowKink base s1 uOpt u ≤ base + s1 := by
  have hq : Dec.quo u uOpt ≤ Dec.one := Dec.quo_le_one u uOpt (le_of_lt hlt) k.pos
  have := Dec.mul_mono_left _ _ s1 hq k.s1
  rw [Dec.one_mul s1] at this
  exact Int.add_le_add_left this base

theorem above_ge (k : Kink base s1 s2 uOpt) (u : Dec) (hge : uOpt ≤ u) :
    base + s1 ≤ aboveKink base s1 s2 uOpt u :=
  Int.le_add_of_nonneg_right
    (Dec.mul_nonneg _ s2 (Dec.quo_nonneg _ _ (Int.sub_nonneg_of_le hge) (Int.sub_pos_of_lt k.lt_one)) k.s2)

theorem kinkedVal_mono (k : Kink base s1 s2 uOpt) (u1 u2 : Dec) (h12 : u1 ≤ u2) :
    kinkedVal base s1 s2 uOpt u1 ≤ kinkedVal base s1 s2 uOpt u2 := by
  unfold kinkedVal
  by_cases c1 : u1 < uOpt <;> by_cases c2 : u2 < uOpt
  · rw [if_pos c1, if_pos c2]
    exact Int.add_le_add_left (Dec.mul_mono_left _ _ s1 (Dec.quo_mono_left u1 u2 uOpt h12 k.pos) k.s1) base
  · rw [if_pos c1, if_neg c2]
    exact le_trans (below_le k u1 c1) (above_ge k u2 (not_lt.mp c2))
  · exact absurd (lt_of_le_of_lt h12 c2) c1
  · rw [if_neg c1, if_neg c2]
    exact Int.add_le_add_left (Dec.mul_mono_left _ _ s2 (Dec.quo_mono_left (u1 - uOpt) (u2 - uOpt) (Dec.one - uOpt)
      (Int.sub_le_sub_right h12 _) (Int.sub_pos_of_lt k.lt_one)) k.s2) _

theorem kinkedVal_zero (k : Kink base s1 s2 uOpt) : kinkedVal base s1 s2 uOpt 0 = base := by
  unfold kinkedVal belowKink
  rw [if_pos k.pos, Dec.quo_zero, Dec.zero_mul]
  exact Int.add_zero base

theorem kinkedVal_at_kink (base s1 s2 uOpt : Dec) : kinkedVal base s1 s2 uOpt uOpt = base + s1 := by
  unfold kinkedVal aboveKink
  rw [if_neg (lt_irrefl _), Int.sub_self, Dec.quo_zero, Dec.zero_mul]
  exact Int.add_zero _

/-- at the kink the two formulas agree -/
theorem below_at_kink (k : Kink base s1 s2 uOpt) : belowKink base s1 uOpt uOpt = base + s1 := by
  unfold belowKink
  rw [Dec.quo_self uOpt k.pos, Dec.one_mul s1]

theorem kinkedVal_nonneg (k : Kink base s1 s2 uOpt) (u : Dec) (hu : 0 ≤ u) : 0 ≤ kinkedVal base s1 s2 uOpt u := by
  have := kinkedVal_mono k 0 u hu
  rw [kinkedVal_zero k] at this
  exact le_trans k.base this

/-- left-continuity at the kink: `gap ≤ slope1·(uOpt−u)/uOpt + slope1·10⁻¹⁸ + 1` raw units (the fall of the line, the rounding of `Quo`
scaled by `slope1`, the rounding of `Mul`), cross-multiplied by `uOpt·10¹⁸` -/
theorem kink_gap (k : Kink base s1 s2 uOpt) (u : Dec) (hlt : u < uOpt) :
    0 ≤ kinkedVal base s1 s2 uOpt uOpt - kinkedVal base s1 s2 uOpt u ∧
    (kinkedVal base s1 s2 uOpt uOpt - kinkedVal base s1 s2 uOpt u - 1) * uOpt * Dec.P
      ≤ s1 * (uOpt - u) * Dec.P + s1 * uOpt := by
  rw [kinkedVal_at_kink]
  have hb := below_le k u hlt
  unfold kinkedVal
  rw [if_pos hlt]
  refine ⟨Int.sub_nonneg_of_le hb, ?_⟩
  unfold belowKink
  -- `q = Quo(u, uOpt)` is above `u/uOpt` minus (half a unit and a bit), `m = Mul(q, s1)` above `q·s1` minus half a unit
  have m2 := Dec.mul_lower (Dec.quo u uOpt) s1
  have q2 := Dec.quo_lower u uOpt k.pos
  generalize Dec.mul (Dec.quo u uOpt) s1 = m at *
  generalize Dec.quo u uOpt = q at *
  have e1 := Int.mul_le_mul_of_nonneg_right (le_of_lt q2) k.s1
  have e2 := Int.mul_le_mul_of_nonneg_right m2 (le_of_lt k.pos)
  have e3 : 0 ≤ s1 * uOpt := Int.mul_nonneg k.s1 (le_of_lt k.pos)
  have h0 := k.pos
  have key : 2 * Dec.P * ((base + s1 - (base + m) - 1) * uOpt * Dec.P)
      ≤ 2 * Dec.P * (s1 * (uOpt - u) * Dec.P + s1 * uOpt) := by
    simp only [Dec.PP, P_val] at *
    linarith
  exact le_of_mul_le_mul_left key (by decide)

/-- `rate · years`, the summand of `factor1` -/
def eff (rate : Dec) (secs : Int) : Dec := Dec.mul rate (yearsDec secs)

theorem eff_zero (r : Dec) : eff r 0 = 0 := by
  unfold eff; rw [years_zero]; exact Dec.mul_zero r

theorem eff_mono_time (r : Dec) (s t : Int) (hr : 0 ≤ r) (hs : 0 ≤ s) (h : s ≤ t) : eff r s ≤ eff r t :=
  Dec.mul_mono_right _ _ _ hr (years_mono s t hs h)

theorem eff_mono_rate (r r' : Dec) (s : Int) (h : r ≤ r') (hs : 0 ≤ s) : eff r s ≤ eff r' s :=
  Dec.mul_mono_left _ _ _ h (years_nonneg s hs)

theorem eff_two_step (r : Dec) (s t : Int) (hr : 0 ≤ r) (hs : 0 ≤ s) (ht : 0 ≤ t) :
    eff r s + eff r t ≤ eff r (s + t) + 1 :=
  Dec.chopRound_two_step r _ _ _ hr (years_superadd s t hs ht)

theorem one_le_factor1 (r : Dec) (s : Int) (hr : 0 ≤ r) (hs : 0 ≤ s) : Dec.one ≤ factor1 r s :=
  Int.le_add_of_nonneg_right (Dec.mul_nonneg _ _ hr (years_nonneg s hs))

theorem indexNext_ge (r gi : Dec) (s : Int) (hr : 0 ≤ r) (hg : 0 < gi) (hs : 0 ≤ s) : gi ≤ indexNext r gi s := by
  have := Dec.mul_mono_right gi Dec.one (factor1 r s) (le_of_lt hg) (one_le_factor1 r s hr hs)
  rwa [Dec.mul_one gi] at this

theorem one_le_factor2 (r gi : Dec) (s : Int) (hr : 0 ≤ r) (hg : 0 < gi) (hs : 0 ≤ s) : Dec.one ≤ factor2 r gi s :=
  by rw [← Dec.quo_self gi hg]; exact Dec.quo_mono_left gi _ gi (indexNext_ge r gi s hr hg hs) hg

theorem indexNext_zero (r gi : Dec) : indexNext r gi 0 = gi := by
  show Dec.mul gi (Dec.one + eff r 0) = gi
  rw [eff_zero, show Dec.one + 0 = Dec.one from Int.add_zero _]
  exact Dec.mul_one gi

theorem factor2_zero (r gi : Dec) (hg : 0 < gi) : factor2 r gi 0 = Dec.one := by
  unfold factor2
  rw [indexNext_zero]
  exact Dec.quo_self gi hg

theorem factor2_mono (r r' gi : Dec) (s s' : Int) (hg : 0 < gi) (h : eff r s ≤ eff r' s') :
    factor2 r gi s ≤ factor2 r' gi s' :=
  Dec.quo_mono_left _ _ gi (Dec.mul_mono_right gi _ _ (le_of_lt hg) (Int.add_le_add_left h _)) hg

theorem indexInterest_eq (n : Int) (r gi : Dec) (s : Int) : indexInterest n r gi s = n * (factor2 r gi s - Dec.one) := by
  unfold indexInterest
  rw [Dec.ofInt_mul]
  unfold Dec.ofInt Dec.one; ring

theorem factor2_bounds (r gi : Dec) (s : Int) (hr : 0 ≤ r) (hg : Dec.one ≤ gi) (hs : 0 ≤ s) :
    Dec.one + eff r s - 1 ≤ factor2 r gi s ∧ factor2 r gi s ≤ Dec.one + eff r s + 1 :=
  Dec.quo_mul_cancel_bounds gi (factor1 r s) hg (le_trans (by decide) (one_le_factor1 r s hr hs))

theorem indexInterest_zero (n : Int) (r gi : Dec) (hg : 0 < gi) : indexInterest n r gi 0 = 0 := by
  rw [indexInterest_eq, factor2_zero r gi hg, Int.sub_self, Int.mul_zero]

theorem stableInterest_eq (n : Int) (r : Dec) (s : Int) : stableInterest n r s = Dec.chopRound (n * r * yearsDec s) := by
  unfold stableInterest
  rw [Dec.ofInt_mul]; rfl

theorem stableInterest_zero (n : Int) (r : Dec) : stableInterest n r 0 = 0 := by
  rw [stableInterest_eq, years_zero, Int.mul_zero]; exact Dec.chopRound_zero

def Params.baseOf (p : Params) (stable : Bool) : Dec := if stable then p.stableBase else p.base
def Params.slope1Of (p : Params) (stable : Bool) : Dec := if stable then p.stableSlope1 else p.slope1
def Params.slope2Of (p : Params) (stable : Bool) : Dec := if stable then p.stableSlope2 else p.slope2

theorem admissible_iff (p : Params) : admissible p = true ↔
    (0 < p.uOpt ∧ p.uOpt < Dec.one ∧ 0 ≤ p.base ∧ 0 ≤ p.slope1 ∧ 0 ≤ p.slope2 ∧
     0 ≤ p.stableBase ∧ 0 ≤ p.stableSlope1 ∧ 0 ≤ p.stableSlope2 ∧ 0 ≤ p.reserveFactor ∧ p.reserveFactor ≤ Dec.one) := by
  simp only [admissible, Bool.and_eq_true, decide_eq_true_eq, and_assoc]

theorem admissible_kink (p : Params) (h : admissible p = true) (st : Bool) :
    Kink (p.baseOf st) (p.slope1Of st) (p.slope2Of st) p.uOpt := by
  obtain ⟨pos, lt_one, b, s1, s2, sb, ss1, ss2, _, _⟩ := (admissible_iff p).mp h
  cases st
  · exact ⟨pos, lt_one, b, s1, s2⟩
  · exact ⟨pos, lt_one, sb, ss1, ss2⟩

theorem admissible_reserve (p : Params) (h : admissible p = true) : 0 ≤ p.reserveFactor ∧ p.reserveFactor ≤ Dec.one :=
  ((admissible_iff p).mp h).2.2.2.2.2.2.2.2

theorem borrowRate_eq (p : Params) (h : admissible p = true) (st : Bool) (u : Dec) :
    borrowRate p st u = some (kinkedVal (p.baseOf st) (p.slope1Of st) (p.slope2Of st) p.uOpt u) := by
  have k := admissible_kink p h st
  cases st <;> exact kinked_eq_some k u

end Comdex.LendRates
