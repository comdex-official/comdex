import Comdex.Model.Feed
import Comdex.Lemmas.Twa
import Comdex.Lemmas.KeyedRecs
/-! The feed pipeline (C17): the sampling loop gives every oracle-priced asset exactly the rate at its rank and keeps the
windows well-formed; the market begin-blocker acts on each window as a short list of single-window ops. -/
namespace Comdex.Feed
open Comdex.Twa

theorem get_nil (id : Nat) : Books.get [] id = none := rfl

theorem get_map (g : Nat × Rec → Nat × Rec) (hg : ∀ x, (g x).1 = x.1) (bk : Books) (id : Nat) :
    Books.get (bk.map g) id = (bk.get id).map fun r => (g (id, r)).2 := by
  unfold Books.get
  rw [KeyedRecs.find?_map Prod.fst (fun _ => decide_eq_true_iff) hg]
  cases h : bk.find? _ with
  | none => rfl
  | some x => cases (KeyedRecs.find?_key Prod.fst h fun _ => decide_eq_true_iff).2; rfl

theorem get_put (bk : Books) (id : Nat) (v : Rec) (id' : Nat) :
    (bk.put id (some v)).get id' = if id = id' then some v else bk.get id' := by
  simp only [Books.put, Books.get]
  rw [KeyedRecs.find?_upsert Prod.fst (fun _ => decide_eq_true_iff) (fun _ => Iff.rfl) (fun _ => decide_eq_true_iff)
    (f := fun _ => (id, v)) (fun _ _ => rfl) rfl bk]
  by_cases e : id = id'
  · rw [if_pos e, if_pos e.symm]; cases bk.find? _ <;> rfl
  · rw [if_neg e, if_neg (Ne.symm e)]

theorem get_clearAll (bk : Books) (id : Nat) : (clearAll bk).get id = discardAll (bk.get id) :=
  get_map (fun x => (x.1, { x.2 with active := false, idx := 0, values := [] })) (fun _ => rfl) bk id

theorem get_switchOff (assets : List (Nat × Bool)) (bk : Books) (id : Nat) :
    (switchOff assets bk).get id = if assets.any (fun a => a.1 = id) then deactivate (bk.get id) else bk.get id := by
  rw [switchOff, get_map _ (fun x => by split <;> rfl)]
  split
  · rfl
  · cases bk.get id <;> rfl

def BooksWf (N : Nat) (bk : Books) : Prop := ∀ x ∈ bk, Wf N x.2

theorem BooksWf.map {N : Nat} {bk : Books} (h : BooksWf N bk) (g : Nat × Rec → Nat × Rec)
    (hg : ∀ x, Wf N x.2 → Wf N (g x).2) : BooksWf N (bk.map g) := fun _ hx =>
  let ⟨y, hy, e⟩ := List.mem_map.mp hx; e ▸ hg y (h y hy)

theorem get_wf (N : Nat) (bk : Books) (h : BooksWf N bk) (id : Nat) : WfO N (bk.get id) := by
  unfold Books.get
  cases hf : bk.find? (fun x => decide (x.1 = id)) with
  | none => trivial
  | some x => exact h x (List.mem_of_find?_eq_some hf)

theorem put_wf (N : Nat) (bk : Books) (id : Nat) (r : Option Rec) (h : BooksWf N bk) (hr : WfO N r) : BooksWf N (bk.put id r) := by
  cases r with
  | none => exact h
  | some v => exact KeyedRecs.forall_upsert (P := fun x : Nat × Rec => Wf N x.2) h (fun _ _ => hr) hr

theorem clearAll_wf (N : Nat) (bk : Books) (h : BooksWf N bk) : BooksWf N (clearAll bk) :=
  h.map _ fun _ => Wf.clear

theorem afterDiscard_wf (N : Nat) (b : Band) (bk : Books) (h : BooksWf N bk) : BooksWf N (afterDiscard b bk).2 := by
  unfold afterDiscard; split
  · exact clearAll_wf N bk h
  · exact h

theorem switchOff_wf (N : Nat) (assets : List (Nat × Bool)) (bk : Books) (hwf : BooksWf N bk) : BooksWf N (switchOff assets bk) :=
  hwf.map _ fun _ w => by
    split
    · exact w.off
    · exact w

/-- Third conjunct: an update never deletes a record (every `.ok` arm of `update (some r)` returns `some _`); `feedLoop` needs it
because `Books.put bk id none` is `bk`. -/
theorem update_ok (N : Nat) (hN : N ≥ 1) (acc height : Int) (hh : height > 0) (s : Option Rec) (rate : Nat) (hwf : WfO N s) :
    ∃ s', update s rate N height acc = .ok s' ∧ WfO N s' ∧ (s' = none → s = none) := by
  obtain ⟨s', h1, h2, -⟩ := step_refines N hN acc s (.sample rate height) hwf (by intro r h e; cases e; exact hh)
  refine ⟨s', h1, h2, ?_⟩
  intro hn; subst hn
  cases s with
  | none => rfl
  | some r =>
    exfalso
    simp only [step, update] at h1
    split at h1
    · cases h1
    · split at h1
      · simp only [Except.map] at h1
        split at h1 <;> cases h1
      · cases h1

theorem fedWith_notin (assets : List (Nat × Bool)) (rates : List Nat) (r id : Nat) (h : id ∉ assets.map (·.1)) :
    fedWith assets rates r id = none := by
  induction assets generalizing r with
  | nil => rfl
  | cons b t ih =>
    obtain ⟨bid, breq⟩ := b
    simp only [List.map_cons, List.mem_cons, not_or] at h
    have hb : ¬ bid = id := fun e => h.1 e.symm
    simp only [fedWith, hb, if_false]
    exact ih _ h.2

/-- **The sampling loop**: never panics, keeps every window well-formed, and changes the window of asset `id` exactly
by one `UpdatePriceList` with the rate at its rank among the oracle-priced assets (or not at all when the asset is not
oracle-priced or the result list is too short). Asset ids distinct. -/
theorem feedLoop_spec (N : Nat) (hN : N ≥ 1) (acc height : Int) (hh : height > 0) (rates : List Nat)
    (assets : List (Nat × Bool)) (hnd : (assets.map (·.1)).Nodup) (rank : Nat) (bk : Books) (hwf : BooksWf N bk) :
    ∃ bk', feedLoop N acc height rates assets rank bk = .ok bk' ∧ BooksWf N bk' ∧
      ∀ id, match fedWith assets rates rank id with
            | some rate => update (bk.get id) rate N height acc = .ok (bk'.get id)
            | none => bk'.get id = bk.get id := by
  induction assets generalizing rank bk with
  | nil => exact ⟨bk, rfl, hwf, fun id => by simp [fedWith]⟩
  | cons a rest ih =>
    obtain ⟨aid, required⟩ := a
    simp only [List.map_cons, List.nodup_cons] at hnd
    obtain ⟨hnotin, hnd'⟩ := hnd
    have hrest : ∀ r, fedWith rest rates r aid = none := fun r => fedWith_notin rest rates r aid hnotin
    have skip : ∀ rank', (if required then rates[rank]? else none) = none → (if required then rank + 1 else rank) = rank' →
        ∀ id, fedWith ((aid, required) :: rest) rates rank id = fedWith rest rates rank' id := by
      intro rank' h0 hr' id
      simp only [fedWith, h0, hr']
      split
      · next e => rw [← e, hrest]
      · rfl
    cases required with
    | false =>
      obtain ⟨bk', h1, h2, h3⟩ := ih hnd' rank bk hwf
      exact ⟨bk', by simp [feedLoop, h1], h2, fun id => by rw [skip rank rfl rfl id]; exact h3 id⟩
    | true =>
      cases hr : rates[rank]? with
      | none =>
        obtain ⟨bk', h1, h2, h3⟩ := ih hnd' (rank + 1) bk hwf
        exact ⟨bk', by simp [feedLoop, hr, h1], h2, fun id => by rw [skip (rank + 1) hr rfl id]; exact h3 id⟩
      | some rate =>
        obtain ⟨s', hu, hwfs, hnone⟩ := update_ok N hN acc height hh (bk.get aid) rate (get_wf N bk hwf aid)
        obtain ⟨bk', h1, h2, h3⟩ := ih hnd' (rank + 1) (bk.put aid s') (put_wf N bk aid s' hwf hwfs)
        refine ⟨bk', by simp [feedLoop, hr, hu, h1, bind, Except.bind], h2, fun id => ?_⟩
        have hput : ∀ id', (bk.put aid s').get id' = if aid = id' then s' else bk.get id' := by
          intro id'
          cases s' with
          | none =>
            split
            · next e => rw [← e]; exact hnone rfl
            · rfl
          | some v => exact get_put bk aid v id'
        have := h3 id
        rw [hput] at this
        by_cases e : aid = id
        · subst e
          rw [hrest] at this
          simp only [fedWith, hr, if_true] at this ⊢
          rw [hu, this]
        · simp only [fedWith, if_neg e, if_true] at this ⊢
          exact this

theorem afterDiscard_get (b : Band) (bk : Books) (id : Nat) :
    (afterDiscard b bk).2.get id = if b.discardBool then discardAll (bk.get id) else bk.get id := by
  unfold afterDiscard
  split
  · exact get_clearAll bk id
  · rfl

theorem afterDiscard_band (b : Band) (bk : Books) :
    (afterDiscard b bk).1.lastBlock = b.lastBlock ∧ (afterDiscard b bk).1.validation = b.validation := by
  unfold afterDiscard; split <;> exact ⟨rfl, rfl⟩

theorem run_switchOff (N : Nat) (acc : Int) (assets : List (Nat × Bool)) (bk : Books) (id : Nat) :
    run N acc (bk.get id) (if assets.any (fun a => a.1 = id) then [Op.deactivate] else []) = .ok ((switchOff assets bk).get id) := by
  rw [get_switchOff]
  by_cases hl : assets.any (fun a => decide (a.1 = id)) = true
  · simp [hl, run, step, bind, Except.bind]
  · simp [hl, run]

theorem marketBegin_unvalidated (b : Band) (N : Nat) (acc height : Int) (assets : List (Nat × Bool)) (bk : Books)
    (hv : b.validation = false) :
    marketBegin b N acc height assets bk = .ok (b, switchOff assets bk) ∧
      ∀ id, run N acc (bk.get id) (marketOps b height assets id) = .ok ((switchOff assets bk).get id) := by
  refine ⟨by simp only [marketBegin, hv, Bool.false_eq_true, if_false], fun id => ?_⟩
  have ho : marketOps b height assets id = (if assets.any (fun a => a.1 = id) then [Op.deactivate] else []) := by
    simp [marketOps, hv]
  rw [ho]; exact run_switchOff N acc assets bk id

theorem marketBegin_window (b : Band) (N : Nat) (hN : N ≥ 1) (acc height : Int) (hh : height > 0)
    (assets : List (Nat × Bool)) (hnd : (assets.map (·.1)).Nodup) (bk : Books) (hwf : BooksWf N bk) :
    ∃ b' bk', marketBegin b N acc height assets bk = .ok (b', bk') ∧ BooksWf N bk' ∧
      b'.lastBlock = b.lastBlock ∧ b'.validation = b.validation ∧
      ∀ id, run N acc (bk.get id) (marketOps b height assets id) = .ok (bk'.get id) := by
  by_cases hv : b.validation = false
  · obtain ⟨hm, hw⟩ := marketBegin_unvalidated b N acc height assets bk hv
    exact ⟨b, _, hm, switchOff_wf N assets bk hwf, rfl, rfl, hw⟩
  replace hv : b.validation = true := by simpa using hv
  by_cases hs : sampling b height = false
  · exact ⟨b, bk, by simp [marketBegin, hv, hs], hwf, rfl, rfl, fun id => by simp [marketOps, hv, hs, run]⟩
  replace hs : sampling b height = true := by simpa using hs
  have hbw := afterDiscard_wf N b bk hwf
  -- a pending discard first, then what the sampling loop feeds this window (`post`)
  suffices h : ∃ (bk' : Books) (post : Nat → List Op), marketBegin b N acc height assets bk = .ok ((afterDiscard b bk).1, bk') ∧
      BooksWf N bk' ∧ (∀ id, marketOps b height assets id = (if b.discardBool then [Op.discardAll] else []) ++ post id) ∧
      ∀ id, run N acc ((afterDiscard b bk).2.get id) (post id) = .ok (bk'.get id) by
    obtain ⟨bk', post, hm, hw, ho, hrun⟩ := h
    refine ⟨_, bk', hm, hw, (afterDiscard_band b bk).1, (afterDiscard_band b bk).2, fun id => ?_⟩
    rw [ho, run_append, ← hrun id, afterDiscard_get]
    split <;> rfl
  cases hr : b.result b.lastId with
  | none =>
    exact ⟨_, fun _ => [], by simp [marketBegin, hv, hs, hr], hbw, fun id => by simp [marketOps, hv, hs, hr], fun _ => rfl⟩
  | some rates =>
    cases rates with
    | nil =>
      exact ⟨_, fun _ => [], by simp [marketBegin, hv, hs, hr], hbw, fun id => by simp [marketOps, hv, hs, hr], fun _ => rfl⟩
    | cons r0 rs =>
      obtain ⟨bk', h1, h2, h3⟩ := feedLoop_spec N hN acc height hh (r0 :: rs) assets hnd 0 _ hbw
      refine ⟨bk', fun id => match fedWith assets (r0 :: rs) 0 id with | some rate => [Op.sample rate height] | none => [],
        by simp [marketBegin, hv, hs, hr, h1, Except.map], h2, fun id => by simp only [marketOps, hv, hs, hr, ↓reduceIte]; rfl,
        fun id => ?_⟩
      have := h3 id
      split at this
      · next hf => simp only [hf, run, step, this, bind, Except.bind]
      · next hf => simp only [hf, run, this]

theorem bandBegin_discardBool (b : Band) (h acc : Int) :
    (bandBegin b h acc).discardBool = true ↔
      b.discardBool = true ∨ (sampling b h = true ∧ b.checkFlag = true ∧ b.lastId ≠ b.tempId ∧ b.discardHeight > 0 ∧
        h - b.discardHeight ≥ acc) := by
  unfold bandBegin
  by_cases hs : sampling b h = true
  case neg => simp [hs]
  by_cases hc : b.checkFlag = true
  case neg => simp [hs, hc]
  simp only [hs, hc, Bool.not_true, Bool.false_eq_true, if_false, true_and]
  -- three arms write `b.discardBool` back, each because one conjunct on the right fails; the fourth writes `true`
  split
  next h1 => exact (or_iff_left fun k => k.1 (by simpa using h1.1)).symm
  split
  next _ h2 =>
    split
    next h3 => exact (or_iff_left fun k => Int.not_le.mpr h3 k.2.2).symm
    next h3 => exact iff_of_true rfl (.inr ⟨h2.1, h2.2, Int.not_lt.mp h3⟩)
  next _ h2 => exact (or_iff_left fun k => h2 ⟨k.1, k.2.1⟩).symm

end Comdex.Feed
