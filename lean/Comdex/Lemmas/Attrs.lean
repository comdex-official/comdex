import Lean.Meta.Tactic.Simp.RegisterCommand
/-! The simp attributes of the development.  An attribute can be used only in modules that import the one registering it. -/

/-- lemmas that turn an unfolded handler, an `if`-chain of rejecting guards around `(runBank …).map …`, into a conjunction;
members in `Lemmas/VaultStep.lean` -/
register_simp_attr accepted

/-- reading a `do` block of the lending model as a conjunction; filled in `Lemmas/LendEffects.lean` -/
register_simp_attr do_ok

/-- what `GoSem.Agrees g m` asks of `m`, for a translated straight-line `g` (`Lemmas/GoSem.lean`) -/
register_simp_attr agrees
