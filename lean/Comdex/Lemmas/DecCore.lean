import Comdex.Base.Dec
/-!
What each rounding mode of `Dec` is, stated about variables; core Lean only, so that every module can use it.  Rounding down is the
right adjoint of scaling, `k ≤ ⌊x⌋ ↔ k·10¹⁸ ≤ x`: lower bound, strict upper bound, sign and monotonicity are its instances at
`k := ⌊x⌋`, `⌊x⌋ + 1`, `0` (`truncateInt_mul_le`, `lt_truncateInt_succ`, `truncateInt_nonneg`) and by transitivity.  Rounding up is the
left adjoint, `⌈x⌉ ≤ k ↔ x ≤ k·10¹⁸`.  Half-even is nearest (`chopRound_near`), hence monotone and exact on multiples of `10¹⁸`.

`omega` reads `x / 10¹⁸` once `P` is a literal (`simp only [P]` first), and takes up a fact only if it is stated at type `Int`:
`0 ≤ Dec.quo a b` elaborates at `Dec` and is ignored.  Hence `(0 : Int) ≤ …` and `@LE.le Int _ x y` in the statements.

Names follow the methods of `LegacyDec` (`mul_…`, `quo_…`, `truncateInt_…`); where the plain name is core's or Mathlib's
(`mul_nonneg`, `mul_one`, …) the lemma is `protected` and is called `Dec.mul_nonneg` also under `open Comdex.Dec`.
-/
namespace Comdex.Dec

protected theorem P_pos : (0 : Int) < P := by decide
protected theorem PP_pos : (0 : Int) < PP := by decide
theorem PP_eq : PP = P * P := rfl

theorem truncateInt_eq {x : Int} (hx : 0 ≤ x) : truncateInt x = x / P := Int.tdiv_eq_ediv_of_nonneg hx

theorem truncateInt_nonneg {x : Int} (hx : 0 ≤ x) : 0 ≤ truncateInt x := Int.tdiv_nonneg hx (Int.le_of_lt Dec.P_pos)

theorem mulTruncate_eq {a b : Int} (h : 0 ≤ a * b) : mulTruncate a b = a * b / P := Int.tdiv_eq_ediv_of_nonneg h

theorem mulTruncate_nonneg {a b : Int} (h : 0 ≤ a * b) : (0 : Int) ≤ mulTruncate a b := truncateInt_nonneg h

theorem quoTruncate_eq {a b : Int} (ha : 0 ≤ a) (hb : 0 < b) : quoTruncate a b = a * PP / (b * P) := by
  have h : 0 ≤ a * PP := Int.mul_nonneg ha (Int.le_of_lt Dec.PP_pos)
  unfold quoTruncate chopTrunc
  rw [Int.tdiv_eq_ediv_of_nonneg h, Int.tdiv_eq_ediv_of_nonneg (Int.ediv_nonneg h (Int.le_of_lt hb)),
    Int.ediv_ediv_of_nonneg (Int.le_of_lt hb)]

theorem le_truncateInt_iff {x k : Int} (hx : 0 ≤ x) : k ≤ truncateInt x ↔ k * P ≤ x := by
  rw [truncateInt_eq hx]; exact Int.le_ediv_iff_mul_le Dec.P_pos

theorem truncateInt_mul_le {x : Int} (hx : 0 ≤ x) : truncateInt x * P ≤ x := (le_truncateInt_iff hx).1 (Int.le_refl _)

theorem le_mulTruncate_iff {a b k : Int} (h : 0 ≤ a * b) : k ≤ mulTruncate a b ↔ k * P ≤ a * b :=
  le_truncateInt_iff h

theorem le_quoTruncate_iff {a b k : Int} (ha : 0 ≤ a) (hb : 0 < b) : k ≤ quoTruncate a b ↔ k * b ≤ a * P := by
  rw [quoTruncate_eq ha hb, Int.le_ediv_iff_mul_le (Int.mul_pos hb Dec.P_pos), PP_eq, ← Int.mul_assoc, ← Int.mul_assoc]
  exact Int.mul_le_mul_right Dec.P_pos

/-- also for the divisor 0, where the model's quotient is 0 and the library's panics -/
theorem quoTruncate_nonneg {a b : Int} (ha : 0 ≤ a) (hb : 0 ≤ b) : (0 : Int) ≤ quoTruncate a b :=
  truncateInt_nonneg (Int.tdiv_nonneg (Int.mul_nonneg ha (Int.le_of_lt Dec.PP_pos)) hb)

theorem le_quoTruncate_ofInt_iff {a b k : Int} (ha : 0 ≤ a) (hb : 0 < b) : k ≤ quoTruncate (ofInt a) (ofInt b) ↔ k * b ≤ a * P := by
  unfold ofInt
  rw [le_quoTruncate_iff (Int.mul_nonneg ha (Int.le_of_lt Dec.P_pos)) (Int.mul_pos hb Dec.P_pos), ← Int.mul_assoc]
  exact Int.mul_le_mul_right Dec.P_pos

theorem quoTruncate_ofInt_mul_le {a b : Int} (ha : 0 ≤ a) (hb : 0 < b) : quoTruncate (ofInt a) (ofInt b) * b ≤ a * P :=
  (le_quoTruncate_ofInt_iff ha hb).1 (Int.le_refl _)

theorem le_truncateInt_quoTruncate_iff {a b k : Int} (ha : 0 ≤ a) (hb : 0 < b) :
    k ≤ truncateInt (quoTruncate a b) ↔ k * b ≤ a := by
  rw [le_truncateInt_iff (quoTruncate_nonneg ha (Int.le_of_lt hb)), le_quoTruncate_iff ha hb, Int.mul_right_comm]
  exact Int.mul_le_mul_right Dec.P_pos

/-- `⌊⌊X/t⌋⌋`, the `QuoTruncate` then `TruncateInt` of the pools and of `MatchableAmount` -/
theorem truncQuo_nonneg (X t : Int) (hX : 0 ≤ X) (ht : 0 ≤ t) : 0 ≤ truncateInt (quoTruncate X t) :=
  truncateInt_nonneg (quoTruncate_nonneg hX ht)

theorem truncQuo_spec (X t a : Int) (hX : 0 ≤ X) (ht : 0 < t)
    (ha : a ≤ truncateInt (quoTruncate X t)) : t * a ≤ X :=
  Int.mul_comm a t ▸ (le_truncateInt_quoTruncate_iff hX ht).1 ha

theorem tdiv_mul_le {n d : Int} (hn : 0 ≤ n) (hd : 0 < d) : n.tdiv d * d ≤ n := by
  rw [Int.tdiv_eq_ediv_of_nonneg hn]; exact Int.ediv_mul_le n (Int.ne_of_gt hd)

theorem tdiv_nonpos {n d : Int} (hn : n ≤ 0) (hd : 0 ≤ d) : n.tdiv d ≤ 0 := by
  have := Int.tdiv_nonneg (Int.neg_nonneg.2 hn) hd
  rw [Int.neg_tdiv] at this; exact Int.neg_nonneg.1 this

theorem truncateInt_nonpos {x : Int} (hx : x ≤ 0) : truncateInt x ≤ 0 := tdiv_nonpos hx (Int.le_of_lt Dec.P_pos)

theorem truncateInt_ofInt (k : Int) : truncateInt (ofInt k) = k := Int.mul_tdiv_cancel k (Int.ne_of_gt Dec.P_pos)

theorem ofInt_eq_zero {i : Int} : ofInt i = 0 ↔ i = 0 := by
  show i * 1000000000000000000 = 0 ↔ i = 0
  omega

theorem ofInt_mulTruncate (k x : Int) : mulTruncate (ofInt k) x = k * x := by
  unfold mulTruncate ofInt
  rw [Int.mul_right_comm]; exact truncateInt_ofInt _

theorem ofInt_nonneg {i : Int} (hi : 0 ≤ i) : (0 : Int) ≤ ofInt i := Int.mul_nonneg hi (Int.le_of_lt Dec.P_pos)

theorem ofInt_pos {i : Int} (hi : 0 < i) : (0 : Int) < ofInt i := Int.mul_pos hi Dec.P_pos

theorem lt_truncateInt_succ (x : Int) : x < (truncateInt x + 1) * P := Int.lt_tdiv_add_one_mul_self x Dec.P_pos

theorem truncateInt_split {t : Int} (h : 0 ≤ t) :
    0 ≤ truncateInt t ∧ 0 ≤ t - ofInt (truncateInt t) ∧ t - ofInt (truncateInt t) < one := by
  rw [truncateInt_eq h]
  simp only [ofInt, one, P]
  omega

theorem chopRoundUp_le_iff {x k : Int} (hx : 0 ≤ x) : chopRoundUp x ≤ k ↔ x ≤ k * P := by
  unfold chopRoundUp
  rw [if_neg (Int.not_lt.2 hx), Int.tdiv_eq_ediv_of_nonneg hx, Int.tmod_eq_emod_of_nonneg hx]
  split <;> simp only [P] at * <;> omega

theorem chopRoundUp_nonneg {x : Int} (hx : 0 ≤ x) : 0 ≤ chopRoundUp x := by
  have := mt (chopRoundUp_le_iff (k := -1) hx).1 (by simp only [P]; omega)
  omega

/-- for every `x`: below zero `tdiv` itself rounds up -/
theorem truncateInt_ceil_le_iff (x k : Int) : truncateInt (ceil x) ≤ k ↔ x ≤ k * P := by
  have c (m : Int) : truncateInt (m * P) = m := truncateInt_ofInt m
  unfold ceil
  by_cases hx : 0 ≤ x
  · simp only [Int.tdiv_eq_ediv_of_nonneg hx, Int.tmod_eq_emod_of_nonneg hx]
    split
    · rw [c]; simp only [P] at *; omega
    · rw [if_neg (by simp only [P]; omega), c]; simp only [P] at *; omega
  · obtain ⟨y, rfl⟩ : ∃ y, x = -y := ⟨-x, (Int.neg_neg x).symm⟩
    have hy : 0 ≤ y := by omega
    simp only [Int.neg_tdiv, Int.neg_tmod, Int.tdiv_eq_ediv_of_nonneg hy, Int.tmod_eq_emod_of_nonneg hy]
    split
    · rw [c]; simp only [P] at *; omega
    · rw [if_pos (by simp only [P] at *; omega), c]; simp only [P] at *; omega

theorem le_truncateInt_ceil_mul (x : Int) : x ≤ truncateInt (ceil x) * P := (truncateInt_ceil_le_iff x _).1 (Int.le_refl _)

/-- `QuoRoundUp` is a ceiling of a floor: exact only up to the inner `⌊a·10³⁶ / b⌋` -/
theorem quoRoundUp_le_iff {a b k : Int} (ha : 0 ≤ a) (hb : 0 < b) : quoRoundUp a b ≤ k ↔ a * PP < (k * P + 1) * b := by
  have h : 0 ≤ a * PP := Int.mul_nonneg ha (Int.le_of_lt Dec.PP_pos)
  unfold quoRoundUp
  rw [Int.tdiv_eq_ediv_of_nonneg h, chopRoundUp_le_iff (Int.ediv_nonneg h (Int.le_of_lt hb)), ← Int.lt_add_one_iff,
    Int.ediv_lt_iff_lt_mul hb]

theorem quoRoundUp_nonneg {a b : Int} (ha : 0 ≤ a) (hb : 0 < b) : (0 : Int) ≤ quoRoundUp a b :=
  chopRoundUp_nonneg (Int.tdiv_nonneg (Int.mul_nonneg ha (Int.le_of_lt Dec.PP_pos)) (Int.le_of_lt hb))

theorem chopRoundNonneg_eq (x : Int) (h : 0 ≤ x) : chopRoundNonneg x =
    (if x % P = 0 then x / P else if x % P < half then x / P else if x % P > half then x / P + 1
     else if (x / P) % 2 = 0 then x / P else x / P + 1) := by
  unfold chopRoundNonneg
  simp only [Int.tdiv_eq_ediv_of_nonneg h, Int.tmod_eq_emod_of_nonneg h]

theorem chopRoundNonneg_near (x : Int) (hx : 0 ≤ x) :
    2 * x - P ≤ 2 * P * chopRoundNonneg x ∧ 2 * P * chopRoundNonneg x ≤ 2 * x + P := by
  rw [chopRoundNonneg_eq x hx]
  split
  · simp only [P] at *; omega
  split
  · simp only [P, half] at *; omega
  split
  · simp only [P, half] at *; omega
  split <;> simp only [P, half] at * <;> omega

theorem chopRound_near (x : Int) : 2 * x - P ≤ 2 * P * chopRound x ∧ 2 * P * chopRound x ≤ 2 * x + P := by
  unfold chopRound
  split
  · have := chopRoundNonneg_near (-x) (by omega); simp only [P] at this ⊢; omega
  · exact chopRoundNonneg_near x (by omega)

theorem chopRound_mono (x y : Int) (hxy : x ≤ y) : chopRound x ≤ chopRound y := by
  have hx := (chopRound_near x).2
  have hy := (chopRound_near y).1
  simp only [P] at hx hy
  -- for `x < y` the two intervals of width `10¹⁸` overlap in less than a unit
  rcases Int.lt_or_eq_of_le hxy with h | h
  · omega
  · rw [h]; exact Int.le_refl _

theorem chopRound_exact (k : Int) : chopRound (k * P) = k := by
  have := chopRound_near (k * P)
  simp only [P] at this ⊢
  omega

theorem le_chopRound {t x : Int} (h : t * P ≤ x) : t ≤ chopRound x := by
  have := chopRound_mono _ _ h; rwa [chopRound_exact] at this

theorem chopRound_le {t x : Int} (h : x ≤ t * P) : chopRound x ≤ t := by
  have := chopRound_mono _ _ h; rwa [chopRound_exact] at this

theorem chopRound_zero : chopRound 0 = 0 := chopRound_exact 0

theorem chopRound_nonneg (x : Int) (hx : 0 ≤ x) : 0 ≤ chopRound x := le_chopRound (by rwa [Int.zero_mul])

theorem chopRound_nonpos (x : Int) (hx : x ≤ 0) : chopRound x ≤ 0 := chopRound_le (by rwa [Int.zero_mul])

theorem chopRound_tdiv_nonneg {n d : Int} (hn : 0 ≤ n) (hd : 0 < d) : 0 ≤ chopRound (n.tdiv d) :=
  chopRound_nonneg _ (Int.tdiv_nonneg hn (Int.le_of_lt hd))

theorem pos_of_chopRound_tdiv_pos {n d : Int} (hd : 0 < d) (h : 0 < chopRound (n.tdiv d)) : 0 < n :=
  Int.not_le.1 fun hn => Int.not_le.2 h (chopRound_nonpos _ (tdiv_nonpos hn (Int.le_of_lt hd)))

theorem mul_lower (a b : Int) : 2 * (a * b) - P ≤ 2 * P * Dec.mul a b := (chopRound_near (a * b)).1

theorem mul_upper (a b : Int) : 2 * P * Dec.mul a b ≤ 2 * (a * b) + P := (chopRound_near (a * b)).2

protected theorem mul_nonneg (a b : Int) (ha : 0 ≤ a) (hb : 0 ≤ b) : (0 : Int) ≤ Dec.mul a b :=
  chopRound_nonneg _ (Int.mul_nonneg ha hb)

theorem mul_mono_left (a a' b : Int) (h : a ≤ a') (hb : 0 ≤ b) : @LE.le Int _ (Dec.mul a b) (Dec.mul a' b) :=
  chopRound_mono _ _ (Int.mul_le_mul_of_nonneg_right h hb)

theorem mul_mono_right (a b b' : Int) (ha : 0 ≤ a) (h : b ≤ b') : @LE.le Int _ (Dec.mul a b) (Dec.mul a b') :=
  chopRound_mono _ _ (Int.mul_le_mul_of_nonneg_left h ha)

theorem mul_ofInt (x k : Int) : Dec.mul x (Dec.ofInt k) = x * k := by
  unfold Dec.mul Dec.ofInt
  rw [← Int.mul_assoc, chopRound_exact]

theorem ofInt_mul (k x : Int) : Dec.mul (Dec.ofInt k) x = k * x := by
  unfold Dec.mul Dec.ofInt
  rw [Int.mul_right_comm, chopRound_exact]

protected theorem mul_le_left (a b : Int) (ha : 0 ≤ a) (hb : b ≤ P) : @LE.le Int _ (Dec.mul a b) a :=
  chopRound_le (Int.mul_le_mul_of_nonneg_left hb ha)

protected theorem mul_one (a : Int) : Dec.mul a one = a := chopRound_exact a

protected theorem one_mul (a : Int) : Dec.mul one a = a := by
  unfold Dec.mul one; rw [Int.mul_comm]; exact chopRound_exact a

protected theorem mul_zero (a : Int) : Dec.mul a 0 = 0 := by
  unfold Dec.mul; rw [Int.mul_zero]; exact chopRound_zero

protected theorem zero_mul (a : Int) : Dec.mul 0 a = 0 := by
  unfold Dec.mul; rw [Int.zero_mul]; exact chopRound_zero

/-- two roundings against one: three half units, and the values are integers -/
theorem chopRound_two_step (k y1 y2 y12 : Int) (hk : 0 ≤ k) (h : y1 + y2 ≤ y12) :
    chopRound (k * y1) + chopRound (k * y2) ≤ chopRound (k * y12) + 1 := by
  have a := (chopRound_near (k * y1)).2
  have b := (chopRound_near (k * y2)).2
  have c := (chopRound_near (k * y12)).1
  have hm : k * y1 + k * y2 ≤ k * y12 := by rw [← Int.mul_add]; exact Int.mul_le_mul_of_nonneg_left h hk
  simp only [P] at a b c
  omega

/-! `Quo a b = chopRound ⌊a·10³⁶ / b⌋`: the inner floor by its adjunction, the outer rounding by the one-sided tests. -/

theorem quo_eq {a b : Int} (ha : 0 ≤ a) : Dec.quo a b = chopRound (a * PP / b) := by
  unfold Dec.quo; rw [Int.tdiv_eq_ediv_of_nonneg (Int.mul_nonneg ha (Int.le_of_lt Dec.PP_pos))]

theorem quo_ofInt (n d : Int) : Dec.quo n (Dec.ofInt d) = chopRound ((n * P).tdiv d) := by
  unfold Dec.quo Dec.ofInt PP
  rw [← Int.mul_assoc, Int.mul_tdiv_mul_of_pos_left _ _ Dec.P_pos]

/-- also for the divisor 0, where the model's `Quo` is 0 and the library's panics -/
theorem quo_nonneg_of_nonneg (a b : Int) (ha : 0 ≤ a) (hb : 0 ≤ b) : (0 : Int) ≤ Dec.quo a b :=
  chopRound_nonneg _ (Int.tdiv_nonneg (Int.mul_nonneg ha (Int.le_of_lt Dec.PP_pos)) hb)

theorem quo_nonneg (a b : Int) (ha : 0 ≤ a) (hb : 0 < b) : (0 : Int) ≤ Dec.quo a b :=
  quo_nonneg_of_nonneg a b ha (Int.le_of_lt hb)

theorem quo_self (b : Int) (hb : 0 < b) : Dec.quo b b = one := by
  unfold Dec.quo; rw [Int.mul_comm, Int.mul_tdiv_cancel _ (Int.ne_of_gt hb)]; exact chopRound_exact P

theorem quo_zero (b : Int) : Dec.quo 0 b = 0 := by
  unfold Dec.quo; rw [Int.zero_mul, Int.zero_tdiv]; exact chopRound_zero

theorem quo_ge_of_ratio_ge (a b t : Int) (ha : 0 ≤ a) (hb : 0 < b) (h : t * b ≤ a * P) : @LE.le Int _ t (Dec.quo a b) := by
  rw [quo_eq ha]
  refine le_chopRound ((Int.le_ediv_iff_mul_le hb).2 ?_)
  rw [Int.mul_right_comm, PP_eq, ← Int.mul_assoc]
  exact Int.mul_le_mul_of_nonneg_right h (Int.le_of_lt Dec.P_pos)

theorem quo_le_of_ratio_le (a b t : Int) (ha : 0 ≤ a) (hb : 0 < b) (h : a * P ≤ t * b) : @LE.le Int _ (Dec.quo a b) t := by
  rw [quo_eq ha]
  refine chopRound_le (Int.ediv_le_of_le_mul hb ?_)
  rw [Int.mul_right_comm, PP_eq, ← Int.mul_assoc]
  exact Int.mul_le_mul_of_nonneg_right h (Int.le_of_lt Dec.P_pos)

theorem quo_mono_left (a a' b : Int) (haa : a ≤ a') (hb : 0 < b) : @LE.le Int _ (Dec.quo a b) (Dec.quo a' b) :=
  chopRound_mono _ _ (Int.tdiv_le_tdiv hb (Int.mul_le_mul_of_nonneg_right haa (Int.le_of_lt Dec.PP_pos)))

theorem quo_le_one (a b : Int) (h : a ≤ b) (hb : 0 < b) : @LE.le Int _ (Dec.quo a b) one := by
  rw [← quo_self b hb]; exact quo_mono_left a b b h hb

theorem quo_anti_right (a b b' : Int) (ha : 0 ≤ a) (hb : 0 < b) (hbb : b ≤ b') :
    @LE.le Int _ (Dec.quo a b') (Dec.quo a b) := by
  have hn : 0 ≤ a * PP := Int.mul_nonneg ha (Int.le_of_lt Dec.PP_pos)
  rw [quo_eq ha, quo_eq ha]
  refine chopRound_mono _ _ ((Int.le_ediv_iff_mul_le hb).2 ?_)
  exact Int.le_trans (Int.mul_le_mul_of_nonneg_left hbb (Int.ediv_nonneg hn (by omega))) (Int.ediv_mul_le _ (by omega))

theorem sqrtLoop_nonneg (fuel : Nat) (d guess delta : Int) (hd : 0 ≤ d) (hg : 0 ≤ guess) :
    0 ≤ Dec.sqrtLoop fuel d guess delta := by
  have key : ∀ q g : Int, 0 ≤ q → 0 ≤ g → 0 ≤ g + (q - g) / 2 := by intro q g hq hg; omega
  induction fuel generalizing guess delta with
  | zero => unfold Dec.sqrtLoop; exact hg
  | succ fuel ih =>
    unfold Dec.sqrtLoop
    split
    · simp only
      apply ih
      have hprev : 0 < (if guess = 0 then 1 else guess) := by split <;> omega
      exact key _ _ (quo_nonneg d _ hd hprev) hg
    · exact hg

theorem approxSqrt_nonneg (d : Int) : 0 ≤ Dec.approxSqrt d := by
  unfold Dec.approxSqrt
  by_cases h1 : d < 0
  · rw [if_pos h1]; exact Int.le_refl _
  · rw [if_neg h1]
    by_cases h2 : d = 0 ∨ d = Dec.one
    · rw [if_pos h2]; rcases h2 with rfl | rfl <;> decide
    · rw [if_neg h2]
      exact sqrtLoop_nonneg 300 d Dec.one Dec.one (by omega) (by decide)

end Comdex.Dec
