import Comdex.Model.Vault
import Comdex.Lemmas.DecRound
/-!
Exact-rational content of the collateralization check (C03).  `calcCR` computes `quo (valueOf amountIn pin decIn) (valueOf debt pout decOut)`
with three 18-digit roundings: two `Quo` by the decimal scales and the final `Quo`, each a truncated big-integer division followed by a
half-even drop of 18 digits.  Each is bounded by integers, so that "the computed ratio is at least `minCr`" becomes an inequality between
the exact products `amountIn·pin`, `debt·pout`, the decimal scales and `minCr`, with half a unit of the 18th digit of slack per rounding;
every statement is multiplied out, no rational numbers.
-/
namespace Comdex.Vault
open Comdex.Dec

/-- `calcCR` with the debt price read through `debtPrice`: both prices, then both values positive -/
theorem calcCR_eq (p : Product) (e : Env) (a b : Int) :
    calcCR p e a b = e.priceIn.bind fun pin => (debtPrice p e).bind fun pout =>
      if valueOf a pin p.decIn ≤ 0 then none else if valueOf b pout p.decOut ≤ 0 then none
      else some (Dec.quo (valueOf a pin p.decIn) (valueOf b pout p.decOut)) := by
  unfold calcCR debtPrice
  cases e.priceIn with
  | none => rfl
  | some pin => cases p.outOracle <;> cases e.priceOut <;> rfl

theorem calcCR_some (p : Product) (e : Env) (a b : Int) (r : Dec) (h : calcCR p e a b = some r) :
    ∃ pin pout, e.priceIn = some pin ∧ debtPrice p e = some pout ∧ 0 < valueOf a pin p.decIn ∧
      0 < valueOf b pout p.decOut ∧ r = Dec.quo (valueOf a pin p.decIn) (valueOf b pout p.decOut) := by
  simp only [calcCR_eq, Option.bind_eq_some_iff, Option.ite_none_left_eq_some, Option.some.injEq, Int.not_le] at h
  obtain ⟨pin, hpi, pout, hpo, h1, h2, rfl⟩ := h
  exact ⟨pin, pout, hpi, hpo, h1, h2, rfl⟩

theorem calcCR_none_of_inactive (p : Product) (e : Env) (a b : Int)
    (h : e.priceIn = none ∨ (p.outOracle = true ∧ e.priceOut = none)) : calcCR p e a b = none := by
  rw [calcCR_eq]
  rcases h with h | ⟨ho, h⟩
  · rw [h]; rfl
  · rw [show debtPrice p e = none by rw [debtPrice, if_pos ho, h]]; cases e.priceIn <;> rfl

theorem valueOf_eq (amt : Int) (price : Nat) (dec : Int) :
    valueOf amt price dec = chopRound ((amt * (price : Int) * P * P).tdiv dec) := by
  unfold valueOf
  rw [mul_ofInt, quo_ofInt]
  unfold Dec.ofInt
  rw [show amt * P * (price : Int) * P = amt * (price : Int) * P * P by ring]

/-- with a decimal scale that divides `10^18` (every `10^k`, `k ≤ 18`) the USD value is exact: no rounding at all -/
theorem valueOf_exact (amt : Int) (price : Nat) (dec : Int) (hd : 0 < dec) (hdiv : dec ∣ P) :
    valueOf amt price dec * dec = amt * (price : Int) * P := by
  obtain ⟨k, hk⟩ := hdiv
  rw [valueOf_eq]
  have e : amt * (price : Int) * P * P = (amt * (price : Int) * k * P) * dec := by rw [hk]; ring
  rw [e, Int.mul_tdiv_cancel _ (by omega : dec ≠ 0), chopRound_exact, hk]
  ring

/-- a value is at most the exact quotient plus half a unit -/
theorem value_upper (n d : Int) (hn : 0 ≤ n) (hd : 0 < d) :
    2 * d * P * chopRound (n.tdiv d) ≤ 2 * n + d * P :=
  chopRound_tdiv_le n d hn hd

/-- a value is at least the exact quotient minus one truncation step and half a unit -/
theorem value_lower (n d : Int) (hn : 0 ≤ n) (hd : 0 < d) :
    2 * n - (P + 2) * d + 2 ≤ 2 * d * P * chopRound (n.tdiv d) :=
  chopRound_tdiv_ge n d hd

/-- the final `Quo`: what `m ≤ quo vin vout` says of the exact quotient -/
theorem quo_ge (vin vout m : Int) (hin : 0 ≤ vin) (hout : 0 < vout) (h : m ≤ Dec.quo vin vout) :
    (2 * m - 1) * vout ≤ 2 * P * vin := by
  have h1 := quo_upper vin vout hin hout
  have h2 := Int.mul_le_mul_of_nonneg_right h (Int.le_of_lt hout)
  linarith

/-- the three roundings chained: the bound of the final `Quo` (`hq`), the collateral value from above (`hup`), the debt value from
below (`hlo`), each scaled so that `vin` and `vout` cancel -/
theorem ratio_chain {m dIn dOut vin vout nin nout : Int} (hm : 0 ≤ 2 * m - 1) (hdi : 0 < dIn) (hdo : 0 < dOut)
    (hq : (2 * m - 1) * vout ≤ 2 * P * vin) (hup : 2 * dIn * P * vin ≤ 2 * nin + dIn * P)
    (hlo : 2 * nout - (P + 2) * dOut + 2 ≤ 2 * dOut * P * vout) :
    (2 * m - 1) * dIn * (2 * nout - (P + 2) * dOut + 2) ≤ 2 * P * dOut * (2 * nin + dIn * P) := by
  have hP := Dec.P_pos
  have h1 := Int.mul_le_mul_of_nonneg_left hq (by positivity : (0 : Int) ≤ 2 * dOut * P * dIn)
  have h2 := Int.mul_le_mul_of_nonneg_left hlo (Int.mul_nonneg hm (Int.le_of_lt hdi))
  have h3 := Int.mul_le_mul_of_nonneg_left hup (by positivity : (0 : Int) ≤ 2 * P * dOut)
  linarith

/-- when both values are exact (`ein`, `eout`) only the bound of the final `Quo` is left, multiplied by `dIn·dOut/P` -/
theorem ratio_of_exact_values {m vin vout dIn dOut A B : Int} (hdi : 0 ≤ dIn) (hdo : 0 ≤ dOut)
    (hq : (2 * m - 1) * vout ≤ 2 * P * vin) (ein : vin * dIn = A * P) (eout : vout * dOut = B * P) :
    (2 * m - 1) * (B * dIn) ≤ 2 * P * (A * dOut) := by
  refine Int.le_of_mul_le_mul_left (a := P) ?_ Dec.P_pos
  calc P * ((2 * m - 1) * (B * dIn)) = dIn * dOut * ((2 * m - 1) * vout) := by
        rw [show P * ((2 * m - 1) * (B * dIn)) = (2 * m - 1) * dIn * (B * P) by ring, ← eout]; ring
    _ ≤ dIn * dOut * (2 * P * vin) := Int.mul_le_mul_of_nonneg_left hq (Int.mul_nonneg hdi hdo)
    _ = P * (2 * P * (A * dOut)) := by
        rw [show dIn * dOut * (2 * P * vin) = 2 * P * dOut * (vin * dIn) by ring, ein]; ring

end Comdex.Vault
