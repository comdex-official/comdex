import Comdex.Lemmas.LendIds
import Comdex.Lemmas.LendReserve
/-!
The books of the lending model (`State.books`: positions, pool-asset records, the two counters, locked vaults) and the relation `Book`:
what an accepted step can do to them. Each book invariant (`Core`, `TL`, `IdsC`, `Own`) is one induction on `Book`. Money (bank, reserve
records) and environment (prices, switches) are not part of the books: a step that moves only those is `Book.refl`. Core Lean only.
-/
namespace Comdex.Lend

structure Books where
  lends : List Lend
  borrows : List Borrow
  stats : List Stats
  lendCtr : Nat
  borrowCtr : Nat
  locked : List Locked

abbrev State.books (s : State) : Books := ⟨s.lends, s.borrows, s.stats, s.lendCtr, s.borrowCtr, s.locked⟩

/-- `clean` is assumed by the one transition that can break the lent total (`handoverDel`), `signed` by the one that needs the signer not to
be the reserve (`lendNew`). The hypotheses with a default hold by `rfl` once the record after the step is known, which it is from the state
the step ends in. -/
inductive Book (cfg : Cfg) (clean signed : Prop) : Books → Books → Prop
  | refl (B : Books) : Book cfg clean signed B B
  | trans {B B1 B2 : Books} (a : Book cfg clean signed B B1) (b : Book cfg clean signed B1 B2) : Book cfg clean signed B B2
  /-- a record changes in what no invariant reads (`totalInterest`) -/
  | stats {B : Books} (p a : Nat) {f : Stats → Stats} (m : Moves f 0 (fun _ => 0) id id) :
      Book cfg clean signed B { B with stats := modStats B.stats p a f }
  /-- a new lend position, counted and listed -/
  | lendNew {B : Books} (l : Lend) (hr : HasRecord B.stats l.pool l.asset) (ho : signed → NotR cfg l) (hid : l.id = B.lendCtr + 1 := by rfl) :
      Book cfg clean signed B
        { B with lendCtr := B.lendCtr + 1, lends := B.lends ++ [l],
                 stats := addLendId (addTotalLend B.stats l.pool l.asset l.avail) l.pool l.asset l.id }
  /-- a lend position's availability and its record's lent total move together -/
  | lendDelta {B : Books} {l l' : Lend} (d : Int) (hg : getLend B.lends l.id = some l) (hl : l'.SameAs l := by exact ⟨rfl, rfl, rfl, rfl⟩)
      (hav : l'.avail = l.avail + d := by rfl) :
      Book cfg clean signed B { B with lends := setLend B.lends l', stats := addTotalLend B.stats l.pool l.asset d }
  /-- a lend position nothing is borrowed against goes with what was available in it -/
  | lendClose {B : Books} {k : Nat} {l : Lend} (hg : getLend B.lends k = some l) (he : (borrowsOfLend B.borrows k).isEmpty = true) :
      Book cfg clean signed B
        { B with lends := delLend B.lends k, stats := delLendId (addTotalLend B.stats l.pool l.asset (-l.avail)) l.pool l.asset k }
  /-- a new borrow: its pledge leaves the position's availability, its principal enters the borrowed total, its id the list -/
  | borrowNew {B : Books} {l l' : Lend} {pair : PairCfg} (b : Borrow) (hgl : getLend B.lends l.id = some l)
      (hpair : cfg.pair? b.pairId = some pair) (hr : HasRecord B.stats pair.outPool pair.assetOut) (hden : b.outDenom = pair.assetOut)
      (hl : l'.SameAs l := by exact ⟨rfl, rfl, rfl, rfl⟩) (hav : l'.avail = l.avail - b.amountIn := by rfl)
      (hid : b.id = B.borrowCtr + 1 := by rfl) (hlid : b.lendingId = l.id := by rfl) (hq : b.liq = false := by rfl) :
      Book cfg clean signed B
        { B with borrowCtr := B.borrowCtr + 1, borrows := B.borrows ++ [b], lends := setLend B.lends l',
                 stats := addBorrowId (addBorrowed B.stats pair.outPool pair.assetOut b.stable b.amountOut) pair.outPool pair.assetOut b.id }
  /-- a borrow changes in what no total reads (interest, trackers, bridged amount) -/
  | borrowTouch {B : Books} {b b' : Borrow} (hg : getBorrow B.borrows b.id = some b) (hb : b'.SameAs b := by exact ⟨rfl, rfl, rfl, rfl, rfl⟩)
      (hq : b'.liq = b.liq := by rfl) (hy : b'.amountOut = b.amountOut := by rfl) (hx : b'.amountIn = b.amountIn := by rfl) :
      Book cfg clean signed B { B with borrows := setBorrow B.borrows b' }
  /-- an open borrow's principal and its record's borrowed total move together -/
  | borrowOut {B : Books} {b b' : Borrow} {pair : PairCfg} (y : Int) (hg : getBorrow B.borrows b.id = some b) (hq : b.liq = false)
      (hpair : cfg.pair? b.pairId = some pair) (hb : b'.SameAs b := by exact ⟨rfl, rfl, rfl, rfl, rfl⟩) (hq' : b'.liq = b.liq := by rfl)
      (hy : b'.amountOut = b.amountOut + y := by rfl) (hx : b'.amountIn = b.amountIn := by rfl) :
      Book cfg clean signed B
        { B with borrows := setBorrow B.borrows b', stats := addBorrowed B.stats pair.outPool pair.assetOut b.stable y }
  /-- availability becomes pledge of an open borrow of the position: no total moves -/
  | borrowPledge {B : Books} {b b' : Borrow} {l l' : Lend} (x : Int) (hg : getBorrow B.borrows b.id = some b) (hq : b.liq = false)
      (hgl : getLend B.lends b.lendingId = some l) (hb : b'.SameAs b := by exact ⟨rfl, rfl, rfl, rfl, rfl⟩) (hq' : b'.liq = b.liq := by rfl)
      (hy : b'.amountOut = b.amountOut := by rfl) (hx : b'.amountIn = b.amountIn + x := by rfl)
      (hl : l'.SameAs l := by exact ⟨rfl, rfl, rfl, rfl⟩) (hav : l'.avail = l.avail - x := by rfl) :
      Book cfg clean signed B { B with lends := setLend B.lends l', borrows := setBorrow B.borrows b' }
  /-- an open borrow goes: its pledge returns to the position's availability, its principal leaves the borrowed total, its id the list -/
  | borrowClose {B : Books} {k : Nat} {b : Borrow} {l l' : Lend} {pair : PairCfg} (hg : getBorrow B.borrows k = some b)
      (hq : b.liq = false) (hpair : cfg.pair? b.pairId = some pair) (hgl : getLend B.lends b.lendingId = some l)
      (hl : l'.SameAs l := by exact ⟨rfl, rfl, rfl, rfl⟩) (hav : l'.avail = l.avail + b.amountIn := by rfl) :
      Book cfg clean signed B
        { B with lends := setLend B.lends l', borrows := delBorrow B.borrows k,
                 stats := delBorrowId (addBorrowed B.stats pair.outPool pair.assetOut b.stable (-b.amountOut)) pair.outPool pair.assetOut k }
  /-- hand-over of an open borrow whose lend position stays: pledge and principal leave the totals, a locked vault is created -/
  | handoverKeep {B : Books} {b b' : Borrow} {l l' : Lend} {pair : PairCfg} {lk : Locked} (hg : getBorrow B.borrows b.id = some b)
      (hq : b.liq = false) (hpair : cfg.pair? b.pairId = some pair) (hgl : getLend B.lends b.lendingId = some l)
      (hb : b'.SameAs b := by exact ⟨rfl, rfl, rfl, rfl, rfl⟩) (hq' : b'.liq = true := by rfl)
      (hl : l'.SameAs l := by exact ⟨rfl, rfl, rfl, rfl⟩) (hav : l'.avail = l.avail := by rfl) (hlk : lk.owner = l.owner := by rfl) :
      Book cfg clean signed B
        { B with borrows := setBorrow B.borrows b', lends := setLend B.lends l', locked := B.locked ++ [lk],
                 stats := addTotalLend (addBorrowed B.stats pair.outPool pair.assetOut b.stable (-b.amountOut)) l.pool l.asset (-b.amountIn) }
  /-- hand-over that deletes the lend position: the lent total stays right only if nothing else was left in it -/
  | handoverDel {B : Books} {b b' : Borrow} {l : Lend} {pair : PairCfg} {lk : Locked} (hg : getBorrow B.borrows b.id = some b)
      (hq : b.liq = false) (hpair : cfg.pair? b.pairId = some pair) (hgl : getLend B.lends b.lendingId = some l)
      (hc : clean → l.avail + pledgedOf B.borrows l.id = b.amountIn)
      (hb : b'.SameAs b := by exact ⟨rfl, rfl, rfl, rfl, rfl⟩) (hq' : b'.liq = true := by rfl) (hlk : lk.owner = l.owner := by rfl) :
      Book cfg clean signed B
        { B with borrows := setBorrow B.borrows b', lends := delLend B.lends l.id, locked := B.locked ++ [lk],
                 stats := delLendId (addTotalLend (addBorrowed B.stats pair.outPool pair.assetOut b.stable (-b.amountOut)) l.pool l.asset
                   (-b.amountIn)) l.pool l.asset l.id }
  /-- a handed-over borrow goes with its locked vault and its id: it was in no sum -/
  | borrowDelLiq {B : Books} {k : Nat} {b : Borrow} {pair : PairCfg} (hg : getBorrow B.borrows k = some b) (hq : b.liq = true)
      (hpair : cfg.pair? b.pairId = some pair) :
      Book cfg clean signed B
        { B with borrows := delBorrow B.borrows k, locked := delLocked B.locked k,
                 stats := delBorrowId B.stats pair.outPool pair.assetOut k }

variable {cfg : Cfg} {clean signed : Prop} {B B' : Books}

theorem Book.interest (B : Books) (p a : Nat) (x : Int) : Book cfg clean signed B { B with stats := bookInterest B.stats p a x } := by
  unfold bookInterest; split
  · exact .stats p a (moves_totalInterest x)
  · exact .refl _

theorem Book.core (h : Book cfg clean signed B B') (c : Core cfg B.lends B.borrows B.stats B.lendCtr B.borrowCtr) :
    Core cfg B'.lends B'.borrows B'.stats B'.lendCtr B'.borrowCtr := by
  induction h with
  | refl => exact c
  | trans _ _ iha ihb => exact ihb (iha c)
  | stats p a m => exact c.modStats p a m
  | lendNew l _ _ hid =>
    refine Core.modStats ?_ _ _ (moves_lendIds (· ++ [_]))
    exact { lendAsc := asc_new lendKey l c.lendAsc fun x hx => by have := c.lendLe x hx; simp only [lendKey]; omega,
            lendLe := all_append _ (fun x hx => Nat.le_succ_of_le (c.lendLe x hx)) (Nat.le_of_eq hid),
            borrowAsc := c.borrowAsc, borrowLe := c.borrowLe, refLe := fun b hb => Nat.le_succ_of_le (c.refLe b hb),
            borrowed := c.borrowed.mod0 (moves_totalLend _) fun _ _ _ => rfl }
  | lendDelta d hg hl => exact core_lendDelta c hg d hl.id
  | lendClose => exact (core_delLend c _ _ _ _).modStats _ _ (moves_lendIds (delId · _))
  | borrowNew b hgl hpair _ _ hl _ hid hlid hq =>
    refine Core.modStats ?_ _ _ (moves_borrowIds (· ++ [_]))
    exact { core_setLend c hgl hl.id with
      borrowAsc := asc_new borrowKey b c.borrowAsc fun x hx => by have := c.borrowLe x hx; simp only [borrowKey]; omega
      borrowLe := all_append _ (fun x hx => Nat.le_succ_of_le (c.borrowLe x hx)) (Nat.le_of_eq hid)
      refLe := all_append _ c.refLe (hlid ▸ c.lendLe _ (getLend_mem hgl).1)
      borrowed := c.borrowed.mod (moves_borrowed _ _) fun sf p' a' => by rw [borrowed_append, owedIn_open hpair hq] }
  | borrowTouch hg hb hq hy => exact core_borrowSet c hg hb hq hy
  | borrowOut y hg hq hpair hb hq' hy =>
    exact core_setBorrow c hg (c.borrowed.mod (moves_borrowed _ _) fun sf p' a' => by
      rw [borrowed_put cfg _ _ _ c.borrowUniq hg hb.id, owedIn_open hpair hq, owedIn_open (hb.pairId ▸ hpair) (hq' ▸ hq), hb.stable, hy]
      repeat' split
      all_goals omega) hb.id hb.lendingId
  | borrowPledge x hg _ hgl hb hq' hy _ hl => exact core_borrowSet (core_setLend c (getLend_id hgl) hl.id) hg hb hq' hy
  | borrowClose hg hq hpair hgl hl =>
    obtain ⟨-, rfl⟩ := getBorrow_mem hg
    exact (core_delBorrow (core_setLend c (getLend_id hgl) hl.id) _ <| c.borrowed.mod (moves_borrowed _ _) fun sf p' a' => by
      rw [borrowed_del cfg _ _ c.borrowUniq hg, owedIn_open hpair hq]
      repeat' split
      all_goals omega).modStats _ _ (moves_borrowIds (delId · _))
  | handoverKeep hg hq hpair hgl hb hq' hl => exact core_lendDelta (core_borrowLiq c hg hq hpair hb hq') (getLend_id hgl) _ hl.id
  | handoverDel hg hq hpair _ _ hb hq' =>
    exact (core_delLend (core_borrowLiq c hg hq hpair hb hq') _ _ _ _).modStats _ _ (moves_lendIds (delId · _))
  | borrowDelLiq hg hq =>
    obtain ⟨-, rfl⟩ := getBorrow_mem hg
    exact (core_delBorrow c _ (c.borrowed.congr fun sf p' a' => by
      rw [borrowed_del cfg _ _ c.borrowUniq hg, owedIn_liq hq]; omega)).modStats _ _ (moves_borrowIds (delId · _))

theorem Book.tl (h : Book cfg clean signed B B') (c : Core cfg B.lends B.borrows B.stats B.lendCtr B.borrowCtr) (k : clean)
    (t : TL B.lends B.borrows B.stats) : TL B'.lends B'.borrows B'.stats := by
  induction h with
  | refl => exact t
  | trans a _ iha ihb => exact ihb (a.core c) (iha c t)
  | stats p a m => exact t.modStats p a m
  | lendNew l _ _ hid =>
    exact (t.mod (moves_totalLend _) fun p' a' => lendSum_append _ _ l p' a'
      (pledged_none _ l.id fun b hb => by have := c.refLe b hb; omega)).modStats _ _ (moves_lendIds (· ++ [_]))
  | lendDelta d hg hl hav =>
    exact t.mod (moves_totalLend d) (lendSum_set 0 c.lendUniq hg hl (fun j => by simp) (by omega))
  | lendClose hg he =>
    obtain ⟨-, rfl⟩ := getLend_mem hg
    refine (t.mod (moves_totalLend _) fun p' a' => ?_).modStats _ _ (moves_lendIds (delId · _))
    dsimp only
    rw [lendSum_del _ _ _ c.lendUniq hg p' a', pledged_none _ _ (borrowsOfLend_empty he)]
    split <;> omega
  | borrowNew b hgl _ _ _ hl hav _ hlid hq =>
    exact (t.mod0 (moves_borrowed _ _) (lendSum_set0 b.amountIn c.lendUniq hgl hl
      (fun j => by rw [pledged_append, hlid, pledge_open hq]) (by omega))).modStats _ _ (moves_borrowIds (· ++ [_]))
  | borrowTouch hg hb hq _ hx => exact tl_borrowTouch c t hg hb hq hx
  | borrowOut y hg _ _ hb hq' _ hx => exact (tl_borrowTouch c t hg hb hq' hx).modStats _ _ (moves_borrowed _ _)
  | @borrowPledge B b b' l l' x hg hq hgl hb hq' _ hx hl hav =>
    have hlk : l.id = b.lendingId := (getLend_mem hgl).2
    exact t.congr (lendSum_set0 x c.lendUniq (getLend_id hgl) hl
      (fun j => by rw [pledged_put _ b b' c.borrowUniq hg hb j, pledge_open hq, pledge_open (hq' ▸ hq), hx, hlk]; split <;> omega) (by omega))
  | @borrowClose B k b l l' pair hg hq _ hgl hl hav =>
    obtain ⟨-, rfl⟩ := getBorrow_mem hg
    have hlk : l.id = b.lendingId := (getLend_mem hgl).2
    exact ((t.congr (lendSum_set0 (-b.amountIn) c.lendUniq (getLend_id hgl) hl
      (fun j => by rw [pledged_del _ b c.borrowUniq hg j, pledge_open hq, hlk]) (by omega))).modStats _ _ (moves_borrowed _ _)).modStats _ _
      (moves_borrowIds (delId · _))
  | @handoverKeep B b b' l l' pair lk hg hq _ hgl hb hq' hl hav =>
    have hlk : l.id = b.lendingId := (getLend_mem hgl).2
    exact (t.modStats _ _ (moves_borrowed _ _)).mod (moves_totalLend _) (lendSum_set (-b.amountIn) c.lendUniq
      (getLend_id hgl) hl (hlk ▸ pledged_liq c hg hb hq hq') (by omega))
  | @handoverDel B b b' l pair lk hg hq _ hgl hc hb hq' =>
    have hlk : l.id = b.lendingId := (getLend_mem hgl).2
    have hpl := pledged_liq c hg hb hq hq'
    have hclean := hc k
    refine ((t.modStats _ _ (moves_borrowed _ _)).mod (moves_totalLend _) fun p' a' => ?_).modStats _ _ (moves_lendIds (delId · _))
    dsimp only
    rw [lendSum_del B.lends (setBorrow B.borrows b') l c.lendUniq (getLend_id hgl) p' a',
      lendSum_shift B.lends B.borrows (setBorrow B.borrows b') (-b.amountIn) c.lendUniq hgl hpl p' a', hpl l.id, if_pos hlk]
    show _ + (if l.pool = p' ∧ l.asset = a' then -b.amountIn else 0) - _ = _
    split <;> omega
  | borrowDelLiq hg hq =>
    obtain ⟨-, rfl⟩ := getBorrow_mem hg
    exact (t.congr <| lendSum_congr _ fun j => by
      rw [pledged_del _ _ c.borrowUniq hg j, pledge_liq hq]; simp).modStats _ _ (moves_borrowIds (delId · _))

theorem Book.ids (h : Book cfg clean signed B B') (c : Core cfg B.lends B.borrows B.stats B.lendCtr B.borrowCtr)
    (i : IdsC cfg B.lends B.borrows B.stats) : IdsC cfg B'.lends B'.borrows B'.stats := by
  induction h with
  | refl => exact i
  | trans a _ iha ihb => exact ihb (a.core c) (iha c i)
  | stats p a m => exact ids_stats i p a m
  | lendNew l hr => exact ids_lendNew (ids_addTotalLend i _ _ _) l (hr.mod _ _ (moves_totalLend _).key)
  | lendDelta d hg hl => exact ids_addTotalLend (ids_setLend i c.lendAsc hg hl) _ _ _
  | lendClose hg => exact ids_lendDel (ids_addTotalLend i _ _ _) c.lendAsc hg
  | borrowNew b hgl hpair hr _ hl =>
    exact ids_borrowNew (ids_addBorrowed (ids_setLend i c.lendAsc hgl hl) _ _ _ _) b (pairOut_of_pair hpair)
      (hr.mod _ _ (moves_borrowed _ _).key)
  | borrowTouch hg hb => exact ids_setBorrow i c.borrowAsc hg hb
  | borrowOut y hg _ _ hb => exact ids_addBorrowed (ids_setBorrow i c.borrowAsc hg hb) _ _ _ _
  | borrowPledge x hg _ hgl hb _ _ _ hl => exact ids_setBorrow (ids_setLend i c.lendAsc (getLend_id hgl) hl) c.borrowAsc hg hb
  | borrowClose hg _ hpair hgl hl =>
    exact ids_borrowDel (ids_addBorrowed (ids_setLend i c.lendAsc (getLend_id hgl) hl) _ _ _ _) c.borrowAsc hg (pairOut_of_pair hpair)
  | handoverKeep hg _ _ hgl hb _ hl =>
    exact ids_setLend (ids_addTotalLend (ids_addBorrowed (ids_setBorrow i c.borrowAsc hg hb) _ _ _ _) _ _ _) c.lendAsc (getLend_id hgl) hl
  | handoverDel hg _ _ hgl _ hb =>
    exact ids_lendDel (ids_addTotalLend (ids_addBorrowed (ids_setBorrow i c.borrowAsc hg hb) _ _ _ _) _ _ _) c.lendAsc (getLend_id hgl)
  | borrowDelLiq hg _ hpair => exact ids_borrowDel i c.borrowAsc hg (pairOut_of_pair hpair)

theorem Book.own (h : Book cfg clean signed B B') (hs : signed) (o : Own cfg B.lends B.borrows B.locked) :
    Own cfg B'.lends B'.borrows B'.locked := by
  induction h with
  | refl => exact o
  | trans _ _ iha ihb => exact ihb (iha o)
  | stats => exact o
  | lendNew l _ ho => exact o.addLend (ho hs)
  | lendDelta d hg hl => exact o.setLend (o.lends _ (getLend_mem hg).1) hl
  | lendClose => exact o.delLend _
  | borrowNew b hgl hpair _ hden hl =>
    exact (o.setLend (o.lends _ (getLend_mem hgl).1) hl).addBorrow fun _ hpr => Option.some.inj (hpair.symm.trans hpr) ▸ hden
  | borrowTouch hg hb => exact o.setBorrow (o.denoms _ (getBorrow_mem hg).1) hb
  | borrowOut y hg _ _ hb => exact o.setBorrow (o.denoms _ (getBorrow_mem hg).1) hb
  | borrowPledge x hg _ hgl hb _ _ _ hl => exact (o.setLend (o.lends _ (getLend_mem hgl).1) hl).setBorrow (o.denoms _ (getBorrow_mem hg).1) hb
  | borrowClose _ _ _ hgl hl => exact (o.setLend (o.lends _ (getLend_mem hgl).1) hl).delBorrow _
  | handoverKeep hg _ _ hgl hb _ hl _ hlk =>
    exact ((o.setBorrow (o.denoms _ (getBorrow_mem hg).1) hb).addLocked fun e => o.lends _ (getLend_mem hgl).1 (hlk.symm.trans e)).setLend
      (o.lends _ (getLend_mem hgl).1) hl
  | handoverDel hg _ _ hgl _ hb _ hlk =>
    exact ((o.setBorrow (o.denoms _ (getBorrow_mem hg).1) hb).addLocked fun e => o.lends _ (getLend_mem hgl).1 (hlk.symm.trans e)).delLend _
  | borrowDelLiq => exact (o.delBorrow _).delLocked _

end Comdex.Lend
