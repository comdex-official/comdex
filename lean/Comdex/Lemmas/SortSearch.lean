import Comdex.Model.Lend
import Comdex.Model.AmmTick
/-!
Go's `sort.Search`: `Lend.sortSearch` and `Amm.searchLoop` are the same loop, written with the branches of the `if` in the other order.
What it guarantees is proved once, for any predicate and any fuel that is enough for the range. Core Lean only.
-/
namespace Comdex

theorem Amm.searchLoop_eq (f : Nat → Bool) (fuel i j : Nat) : Amm.searchLoop f fuel i j = Lend.sortSearch f fuel i j := by
  induction fuel generalizing i j with
  | zero => rfl
  | succ fuel ih =>
    simp only [Amm.searchLoop, Lend.sortSearch, ih]
    split
    · cases f ((i + j) / 2) <;> simp
    · rfl

/-- each round at least halves `j - i`, so `j - i` rounds are enough -/
theorem Lend.sortSearch_any (f : Nat → Bool) (fuel i j : Nat) (hij : i ≤ j) (hf : j - i ≤ fuel) :
    i ≤ sortSearch f fuel i j ∧ sortSearch f fuel i j ≤ j ∧ (sortSearch f fuel i j < j → f (sortSearch f fuel i j) = true) ∧
      (i < sortSearch f fuel i j → f (sortSearch f fuel i j - 1) = false) := by
  induction fuel generalizing i j with
  | zero => exact ⟨Nat.le_refl _, hij, fun h => absurd h (by unfold sortSearch; omega), fun h => absurd h (Nat.lt_irrefl _)⟩
  | succ fuel ih =>
    unfold sortSearch
    by_cases hlt : i < j
    · simp only [hlt, if_true]
      cases hfh : f ((i + j) / 2) with
      | true =>
        simp only [if_true]
        obtain ⟨a1, a2, a3, a4⟩ := ih i ((i + j) / 2) (by omega) (by omega)
        refine ⟨a1, by omega, fun _ => ?_, a4⟩
        by_cases he : sortSearch f fuel i ((i + j) / 2) < (i + j) / 2
        · exact a3 he
        · rw [show sortSearch f fuel i ((i + j) / 2) = (i + j) / 2 by omega]; exact hfh
      | false =>
        simp only [Bool.false_eq_true, if_false]
        obtain ⟨a1, a2, a3, a4⟩ := ih ((i + j) / 2 + 1) j (by omega) (by omega)
        refine ⟨by omega, a2, a3, fun _ => ?_⟩
        by_cases he : (i + j) / 2 + 1 < sortSearch f fuel ((i + j) / 2 + 1) j
        · exact a4 he
        · rw [show sortSearch f fuel ((i + j) / 2 + 1) j = (i + j) / 2 + 1 by omega]; exact hfh
    · simp only [hlt, if_false]
      exact ⟨Nat.le_refl _, hij, fun h => h.elim, fun h => absurd h (Nat.lt_irrefl _)⟩

/-- for a monotone predicate: false below the result, true from it on, result ≤ `n` -/
theorem Lend.sortSearch_mono (f : Nat → Bool) (n : Nat) (mono : ∀ a b, a ≤ b → b < n → f a = true → f b = true) :
    (∀ k, k < sortSearch f n 0 n → f k = false) ∧ (∀ k, sortSearch f n 0 n ≤ k → k < n → f k = true) ∧ sortSearch f n 0 n ≤ n := by
  obtain ⟨-, a2, a3, a4⟩ := sortSearch_any f n 0 n (Nat.zero_le _) (Nat.le_refl _)
  refine ⟨fun k hk => ?_, fun k hk hkn => mono _ k hk hkn (a3 (by omega)), a2⟩
  cases hfk : f k with
  | false => rfl
  | true => have := mono k (sortSearch f n 0 n - 1) (by omega) (by omega) hfk; rw [a4 (by omega)] at this; cases this

end Comdex
