import Comdex.Model.ExtReward
import Comdex.Lemmas.Gauge
import Comdex.Lemmas.DecRound
/-! C19, the external reward programmes: rounding of the share and lend arithmetic, the lend accumulator, a programme's life. -/
namespace Comdex.ExtReward
open Comdex.Gauge

theorem posPart_eq (r : Int) (h : 0 ≤ r) : posPart r = r := by
  unfold posPart; split <;> omega

theorem posPart_nonneg (r : Int) : 0 ≤ posPart r := by
  unfold posPart; split <;> omega

theorem pay_bound (x c : Dec) (hx : 0 ≤ x) (hc : 0 ≤ c) :
    2 * Dec.P * Dec.P * posPart (Dec.truncateInt (Dec.mul x c)) ≤ 2 * c * x + Dec.P := by
  have h0 := Dec.mul_nonneg x c hx hc
  have h1 := Dec.mul_upper x c
  have h2 := Int.mul_le_mul_of_nonneg_right (Dec.truncateInt_mul_le h0) Dec.P_pos.le
  rw [posPart_eq _ (Dec.truncateInt_nonneg h0)]
  linarith

/-- `Dec(a).Quo(Dec(b))`: the share of a position and the epoch allocation are both of this form -/
theorem quo_ofInt_ofInt_bounds (a b : Int) (ha : 0 ≤ a) (hb : 0 < b) :
    0 ≤ Dec.quo (Dec.ofInt a) (Dec.ofInt b) ∧ 2 * Dec.quo (Dec.ofInt a) (Dec.ofInt b) * b ≤ 2 * a * Dec.P + b :=
  ⟨Dec.quo_nonneg _ _ (Dec.ofInt_nonneg ha) (Dec.ofInt_pos hb), by
    rw [Int.mul_assoc 2 a]; exact Dec.quo_ofInt_upper (Dec.ofInt a) b (Dec.ofInt_nonneg ha) hb⟩

/-- `Dec(net).Quo(Dec(totalShare))` -/
def shareOf (total amt : Int) : Dec := Dec.quo (Dec.ofInt amt) (Dec.ofInt total)

theorem extShare_eq (p : Prog) (total amt : Int) :
    extShare p.avail p.daysLeft total amt = Dec.truncateInt (Dec.mul (shareOf total amt) (epochRewards p)) := rfl

theorem shareOf_bounds (total amt : Int) (ht : 0 < total) (ha : 0 ≤ amt) :
    0 ≤ shareOf total amt ∧ 2 * shareOf total amt * total ≤ 2 * amt * Dec.P + total :=
  quo_ofInt_ofInt_bounds amt total ha ht

theorem daysLeft_pos (p : Prog) (h : (p.count : Int) < p.days) : 0 < p.daysLeft := by
  unfold Prog.daysLeft; omega

theorem epochRewards_bounds (p : Prog) (ha : 0 ≤ p.avail) (hd : 0 < p.daysLeft) :
    0 ≤ epochRewards p ∧ 2 * epochRewards p * p.daysLeft ≤ 2 * p.avail * Dec.P + p.daysLeft :=
  quo_ofInt_ofInt_bounds p.avail p.daysLeft ha hd

theorem shareBoundOk_iff (p : Prog) (n : Nat) (paid : Int) : shareBoundOk p n paid = true ↔
    paid * (2 * Dec.P * Dec.P) ≤ epochRewards p * (2 * Dec.P + n) + n * Dec.P := by
  unfold shareBoundOk; exact decide_eq_true_iff

theorem sumL_userPay (p : Prog) (now total : Int) (users : List User) :
    sumL (users.map (userPay p now total)) = sumL ((users.filter (eligible p now)).map fun u =>
      posPart (Dec.truncateInt (Dec.mul (shareOf total u.amt) (epochRewards p)))) := by
  simp only [← extShare_eq]
  exact (sumL_map_filter _ _ _).symm

theorem userPay_nonneg (p : Prog) (now total : Int) (u : User) : 0 ≤ userPay p now total u := by
  unfold userPay; split
  · exact posPart_nonneg _
  · exact Int.le_refl 0

theorem share_bound (p : Prog) (total : Int) (el : List User)
    (ha : 0 ≤ p.avail) (hd : 0 < p.daysLeft) (ht : 0 < total) (hu : ∀ u ∈ el, 0 ≤ u.amt)
    (hsum : sumL (el.map (·.amt)) ≤ total) :
    shareBoundOk p el.length
      (sumL (el.map fun u => posPart (Dec.truncateInt (Dec.mul (shareOf total u.amt) (epochRewards p))))) = true := by
  have hP := Dec.P_pos
  obtain ⟨hE0, _⟩ := epochRewards_bounds p ha hd
  have h3 := sumL_map_affine_le el
    (fun u => posPart (Dec.truncateInt (Dec.mul (shareOf total u.amt) (epochRewards p)))) (fun u => shareOf total u.amt)
    (2 * Dec.P * Dec.P) (2 * epochRewards p) Dec.P
    (fun u hu' => pay_bound _ _ (shareOf_bounds total u.amt ht (hu u hu')).1 hE0)
  have h4 := sumL_map_affine_le el (fun u => shareOf total u.amt) (·.amt) (2 * total) (2 * Dec.P) total
    (fun u hu' => by linarith [(shareOf_bounds total u.amt ht (hu u hu')).2])
  rw [shareBoundOk_iff]
  generalize sumL (el.map fun u => posPart (Dec.truncateInt (Dec.mul (shareOf total u.amt) (epochRewards p)))) = paid at *
  generalize sumL (el.map fun u => shareOf total u.amt) = S at *
  generalize sumL (el.map (·.amt)) = A at *
  generalize (el.length : Int) = n at *
  generalize epochRewards p = E at *
  -- 2·S·total ≤ 2·A·P + n·total ≤ (2P + n)·total  ⇒  2·S ≤ 2P + n
  have h5 := Int.mul_le_mul_of_nonneg_left hsum (Int.mul_nonneg (by decide : (0:Int) ≤ 2) hP.le)
  have h6 : 2 * S ≤ 2 * Dec.P + n := Int.le_of_mul_le_mul_left (a := total) (by linarith) ht
  have h7 := Int.mul_le_mul_of_nonneg_right h6 hE0
  linarith

theorem lendBoundOk_iff (ws : List Dec) (tot : Int) (daily : Dec) (paid : Int) : lendBoundOk ws tot daily paid = true ↔
    paid * (2 * Dec.P * Dec.P * tot) ≤ (2 * daily + tot) * sumL ws + (ws.length : Int) * Dec.P * tot := by
  unfold lendBoundOk; exact decide_eq_true_iff

theorem lend_bound (ws : List Dec) (tot : Int) (daily : Dec) (hw : ∀ w ∈ ws, 0 ≤ w) (ht : 0 < tot) (hd : 0 ≤ daily) :
    (∀ r ∈ lendPays ws tot daily, 0 ≤ r) ∧ lendBoundOk ws tot daily (sumL (lendPays ws tot daily)) = true := by
  have ha0 := Dec.quo_nonneg daily _ hd (Dec.ofInt_pos ht)
  have ha1 := Dec.quo_ofInt_upper daily tot hd ht
  have h2 := sumL_map_affine_le ws (fun w => posPart (Dec.truncateInt (Dec.mul w (Dec.quo daily (Dec.ofInt tot))))) id
    (2 * Dec.P * Dec.P) (2 * Dec.quo daily (Dec.ofInt tot)) Dec.P (fun w hw' => pay_bound w _ (hw w hw') ha0)
  rw [List.map_id] at h2
  have hs0 := sumL_nonneg ws hw
  refine ⟨fun r hr => ?_, ?_⟩
  · obtain ⟨w, _, rfl⟩ := List.mem_map.mp hr
    exact posPart_nonneg _
  rw [lendBoundOk_iff]
  unfold lendPays
  generalize sumL (ws.map fun w => posPart (Dec.truncateInt (Dec.mul w (Dec.quo daily (Dec.ofInt tot))))) = paid at *
  generalize Dec.quo daily (Dec.ofInt tot) = apr at *
  have e1 := Int.mul_le_mul_of_nonneg_right h2 ht.le
  have e2 := Int.mul_le_mul_of_nonneg_right ha1 hs0
  linarith

def PriceOk (pr : Price) : Prop := 0 ≤ pr.twa ∧ 0 < pr.dec

theorem value_nonneg (pr : Price) (amt : Int) (v : Dec) (hp : PriceOk pr) (ha : 0 ≤ amt) (h : value pr amt = some v) : 0 ≤ v := by
  unfold value at h
  split_ifs at h
  cases h
  exact Dec.quo_nonneg _ _ (Dec.mul_nonneg _ _ (Dec.ofInt_nonneg ha) (Dec.ofInt_nonneg hp.1)) (Dec.ofInt_pos hp.2)

/-- assumed of the inputs of one lend programme: no negative price, amount or position, positive decimals -/
def EnvOk (e : LendEnv) : Prop :=
  PriceOk e.asset ∧ PriceOk e.quote ∧ PriceOk e.base ∧ PriceOk e.reward ∧ ∀ b ∈ e.borrowers, 0 ≤ b.amt ∧ 0 ≤ b.x ∧ 0 ≤ b.y

theorem EnvOk.reward {e : LendEnv} (h : EnvOk e) : PriceOk e.reward := h.2.2.2.1

theorem EnvOk.borrowers {e : LendEnv} (h : EnvOk e) : ∀ b ∈ e.borrowers, 0 ≤ b.amt ∧ 0 ≤ b.x ∧ 0 ≤ b.y := h.2.2.2.2

theorem borrowerWeight_nonneg (e : LendEnv) (b : Borrower) (w : Dec) (he : EnvOk e) (hb : 0 ≤ b.amt ∧ 0 ≤ b.x ∧ 0 ≤ b.y)
    (h : borrowerWeight e b = some w) : 0 ≤ w := by
  obtain ⟨ha, hq, hbs, _, _⟩ := he
  unfold borrowerWeight at h
  split at h
  · cases h
  · split at h
    · cases h
    · rename_i bv hbv
      split at h
      · cases h
      · split at h
        · rename_i q s hq' hs'
          cases h
          exact minD_nonneg _ _ (Int.add_nonneg (value_nonneg _ _ _ hq hb.2.1 hq') (value_nonneg _ _ _ hbs hb.2.2 hs'))
            (value_nonneg _ _ _ ha hb.1 hbv)
        · cases h

def Acc.Consistent (a : Acc) : Prop := a.tot = sumL (a.ws.map Dec.truncateInt) ∧ ∀ w ∈ a.ws, 0 ≤ w

theorem accOk_iff (a : Acc) : accOk a = true ↔ Acc.Consistent a := by
  unfold accOk Acc.Consistent
  simp [List.all_eq_true]

theorem consistent_empty : Acc.Consistent Acc.empty := ⟨rfl, nofun⟩

theorem consistent_push (a : Acc) (w : Dec) (ha : Acc.Consistent a) (hw : 0 ≤ w) : Acc.Consistent (a.push w) := by
  obtain ⟨h1, h2⟩ := ha
  refine ⟨?_, fun v hv => ?_⟩
  · show a.tot + Dec.truncateInt w = sumL ((a.ws ++ [w]).map Dec.truncateInt)
    rw [sumL_map_concat, h1]
  · rcases List.mem_append.mp hv with hv | hv
    · exact h2 v hv
    · cases List.mem_singleton.mp hv; exact hw

theorem consistent_pushAll (e : LendEnv) (he : EnvOk e) (bs : List Borrower) (hbs : ∀ b ∈ bs, 0 ≤ b.amt ∧ 0 ≤ b.x ∧ 0 ≤ b.y)
    (a : Acc) (ha : Acc.Consistent a) : Acc.Consistent (Acc.pushAll e a bs) := by
  induction bs generalizing a with
  | nil => exact ha
  | cons b bs ih =>
    have hbs' := fun c hc => hbs c (List.mem_cons_of_mem _ hc)
    simp only [Acc.pushAll]
    split
    · rename_i w hw
      exact ih hbs' _ (consistent_push a w ha (borrowerWeight_nonneg e b w he (hbs b (List.mem_cons_self ..)) hw))
    · exact ih hbs' _ ha

theorem lendOne_cases (p : Prog) (now : Int) (e : LendEnv) (a : Acc) :
    (∃ b, lendOne p now e a = (a, .skip, b)) ∨
    (lendOne p now e a = (a, .off, false) ∧ p.active = true ∧ p.start < now ∧ ¬ (p.count : Int) < p.days) ∨
    lendOne p now e a = (Acc.pushAll e a e.borrowers, .skip, false) ∨
    (∃ tr, lendOne p now e a = (Acc.pushAll e a e.borrowers,
        .pay (lendPays (Acc.pushAll e a e.borrowers).ws (Acc.pushAll e a e.borrowers).tot (lendDaily p tr)), false) ∧
      p.active = true ∧ p.start < now ∧ (p.count : Int) < p.days ∧ value e.reward p.avail = some tr ∧
      0 < (Acc.pushAll e a e.borrowers).tot) := by
  generalize hr : lendOne p now e a = r
  unfold lendOne at hr
  rcases ite_eq_iff.mp hr with ⟨_, hr⟩ | ⟨_, hr⟩
  · exact Or.inl ⟨_, hr.symm⟩
  rcases ite_eq_iff.mp hr with ⟨_, hr⟩ | ⟨h2, hr⟩
  · exact Or.inl ⟨_, hr.symm⟩
  rcases ite_eq_iff.mp hr with ⟨_, hr⟩ | ⟨h3, hr⟩
  · exact Or.inl ⟨_, hr.symm⟩
  have h2' : p.active = true := Bool.not_eq_false _ ▸ h2
  have h3' : p.start < now := not_not.mp h3
  rcases ite_eq_iff.mp hr with ⟨h4, hr⟩ | ⟨h4, hr⟩
  · exact Or.inr (Or.inl ⟨hr.symm, h2', h3', h4⟩)
  rcases ite_eq_iff.mp hr with ⟨_, hr⟩ | ⟨_, hr⟩
  · exact Or.inl ⟨_, hr.symm⟩
  rcases ite_eq_iff.mp hr with ⟨_, hr⟩ | ⟨_, hr⟩
  · exact Or.inr (Or.inr (Or.inl hr.symm))
  cases htr : value e.reward p.avail with
  | none => rw [htr] at hr; exact Or.inr (Or.inr (Or.inl hr.symm))
  | some tr =>
    rw [htr] at hr
    rcases ite_eq_iff.mp hr with ⟨_, hr⟩ | ⟨h7, hr⟩
    · exact Or.inr (Or.inr (Or.inl hr.symm))
    exact Or.inr (Or.inr (Or.inr ⟨tr, hr.symm, h2', h3', not_not.mp h4, rfl, by omega⟩))

/-- what a paying outcome says: the programme was due with epochs left, and the payments are `lendPays` of the WHOLE accumulator
`a` (the entries of earlier programmes of the block included) at the daily value of this programme's own `AvailableRewards` -/
def LendPaid (p : Prog) (e : LendEnv) (now : Int) (a : Acc) (o : Outcome) : Prop :=
  ∀ pays, o = .pay pays → p.active = true ∧ p.start < now ∧ (p.count : Int) < p.days ∧ 0 < a.tot ∧
    ∃ tr, value e.reward p.avail = some tr ∧ pays = lendPays a.ws a.tot (lendDaily p tr)

theorem lendOne_spec (p : Prog) (now : Int) (e : LendEnv) (a : Acc) (he : EnvOk e) (ha : Acc.Consistent a) :
    Acc.Consistent (lendOne p now e a).1 ∧ LendPaid p e now (lendOne p now e a).1 (lendOne p now e a).2.1 := by
  have hpush := consistent_pushAll e he e.borrowers he.borrowers a ha
  rcases lendOne_cases p now e a with ⟨b, h⟩ | ⟨h, _⟩ | h | ⟨tr, h, h1, h2, h3, h4, h5⟩ <;> rw [h]
  · exact ⟨ha, nofun⟩
  · exact ⟨ha, nofun⟩
  · exact ⟨hpush, nofun⟩
  · exact ⟨hpush, fun pays hp => by cases hp; exact ⟨h1, h2, h3, h5, tr, h4, rfl⟩⟩

/-- one entry per programme, in order: the `i`-th entry is what the `i`-th programme did -/
theorem lendBlock_get (now : Int) (pes : List (Prog × LendEnv)) (a0 : Acc) (ha0 : Acc.Consistent a0)
    (he : ∀ pe ∈ pes, EnvOk pe.2) (i : Nat) (ao : Acc × Outcome) (hao : (lendBlock now pes a0)[i]? = some ao) :
    ∃ pe, pes[i]? = some pe ∧ Acc.Consistent ao.1 ∧ LendPaid pe.1 pe.2 now ao.1 ao.2 := by
  induction pes generalizing a0 i with
  | nil => cases hao
  | cons q rest ih =>
    obtain ⟨p, e⟩ := q
    obtain ⟨hacc, hpaid⟩ := lendOne_spec p now e a0 (he (p, e) (List.mem_cons_self ..)) ha0
    simp only [lendBlock] at hao
    split at hao <;> rename_i a' o heq <;> rw [heq] at hacc hpaid
    · -- the function returned: the remaining programmes are skipped
      cases i with
      | zero => cases hao; exact ⟨_, rfl, hacc, hpaid⟩
      | succ i =>
        rw [List.getElem?_cons_succ, List.getElem?_map] at hao
        obtain ⟨q, hq, rfl⟩ := Option.map_eq_some_iff.mp hao
        exact ⟨q, hq, hacc, nofun⟩
    · cases i with
      | zero => cases hao; exact ⟨_, rfl, hacc, hpaid⟩
      | succ i => exact ih a' hacc (fun q hq => he q (List.mem_cons_of_mem _ hq)) _ hao

/-- a visit as the distribution functions can produce it -/
def ValidVisit (p : Prog) (now : Int) : Outcome → Prop
  | .skip => True
  | .off => p.active = true ∧ p.start < now ∧ ¬ (p.count : Int) < p.days
  | .pay pays => p.active = true ∧ p.start < now ∧ (p.count : Int) < p.days ∧ ∀ r ∈ pays, 0 ≤ r

def ValidHist : Prog → List (Int × Outcome) → Prop
  | _, [] => True
  | p, (now, o) :: rest => ValidVisit p now o ∧ ValidHist (p.apply now o) rest

theorem shareOutcome_visit (p : Prog) (now total : Int) (users : List User) (o : Outcome)
    (h : shareOutcome p now total users = .ok o) :
    ValidVisit p now o ∧ ∀ pays, o = .pay pays → pays = users.map (userPay p now total) := by
  unfold shareOutcome at h
  rcases ite_eq_iff.mp h with ⟨_, h⟩ | ⟨h1, h⟩
  · cases h; exact ⟨trivial, nofun⟩
  rcases ite_eq_iff.mp h with ⟨_, h⟩ | ⟨h2, h⟩
  · cases h; exact ⟨trivial, nofun⟩
  have h1' : p.active = true := Bool.not_eq_false _ ▸ h1
  have h2' : p.start < now := not_not.mp h2
  rcases ite_eq_iff.mp h with ⟨h3, h⟩ | ⟨h3, h⟩
  · cases h; exact ⟨⟨h1', h2', h3⟩, nofun⟩
  rcases ite_eq_iff.mp h with ⟨_, h⟩ | ⟨_, h⟩
  · cases h
  cases h
  refine ⟨⟨h1', h2', not_not.mp h3, fun r hr => ?_⟩, fun _ hp => by cases hp; rfl⟩
  obtain ⟨u, _, rfl⟩ := List.mem_map.mp hr
  exact userPay_nonneg p now total u

theorem runProg_fields (p : Prog) (hist : List (Int × Outcome)) :
    (runProg p hist).avail = p.avail - paidTotal hist ∧ (runProg p hist).total = p.total ∧ (runProg p hist).days = p.days := by
  induction hist generalizing p with
  | nil => exact ⟨(Int.sub_zero _).symm, rfl, rfl⟩
  | cons v rest ih =>
    obtain ⟨now, o⟩ := v
    obtain ⟨h1, h2, h3⟩ := ih (p.apply now o)
    simp only [runProg]
    rw [h1, h2, h3]
    cases o with
    | skip => exact ⟨rfl, rfl, rfl⟩
    | off => exact ⟨rfl, rfl, rfl⟩
    | pay pays => exact ⟨by simp only [Prog.apply, paidTotal]; omega, rfl, rfl⟩

theorem runProg_count (p : Prog) (hist : List (Int × Outcome)) (hv : ValidHist p hist) (hc : (p.count : Int) ≤ p.days) :
    ((runProg p hist).count : Int) ≤ p.days ∧ p.count ≤ (runProg p hist).count := by
  induction hist generalizing p with
  | nil => exact ⟨hc, Nat.le_refl _⟩
  | cons v rest ih =>
    obtain ⟨now, o⟩ := v
    obtain ⟨hv1, hv2⟩ := hv
    simp only [runProg]
    cases o with
    | skip => exact ih p hv2 hc
    | off => exact ih _ hv2 hc
    | pay pays =>
      obtain ⟨_, _, h3, _⟩ := hv1
      have := ih _ hv2 (by simp only [Prog.apply]; push_cast; omega)
      simp only [Prog.apply] at this ⊢
      exact ⟨this.1, by omega⟩

theorem sumL_nonneg' (l : List Int) (h : ∀ x ∈ l, 0 ≤ x) : 0 ≤ sumL l := sumL_nonneg l h

/-- every paid epoch of the history respects `capOk`, the clause as worded (`paid ≤ avail / daysLeft`); the code does not check it -/
def CapHist : Prog → List (Int × Outcome) → Prop
  | _, [] => True
  | p, (now, .pay pays) :: rest => capOk p (sumL pays) = true ∧ CapHist (p.apply now (.pay pays)) rest
  | p, (now, o) :: rest => CapHist (p.apply now o) rest

theorem capOk_keeps_nonneg (p : Prog) (paid : Int) (ha : 0 ≤ p.avail) (hd : 1 ≤ p.daysLeft) (h : capOk p paid = true) :
    0 ≤ p.avail - paid ∧ paid ≤ p.avail := by
  unfold capOk at h
  simp only [Bool.or_eq_true, Bool.and_eq_true, decide_eq_true_eq] at h
  rcases h with rfl | ⟨h0, h1⟩
  · omega
  · have : paid * 1 ≤ paid * p.daysLeft := Int.mul_le_mul_of_nonneg_left hd h0
    omega

theorem runProg_nonneg (p : Prog) (hist : List (Int × Outcome)) (hv : ValidHist p hist) (hcap : CapHist p hist)
    (ha : 0 ≤ p.avail) : 0 ≤ (runProg p hist).avail := by
  induction hist generalizing p with
  | nil => exact ha
  | cons v rest ih =>
    obtain ⟨now, o⟩ := v
    obtain ⟨hv1, hv2⟩ := hv
    simp only [runProg]
    cases o with
    | skip => exact ih p hv2 hcap ha
    | off => exact ih _ hv2 hcap ha
    | pay pays =>
      obtain ⟨hc1, hc2⟩ := hcap
      obtain ⟨_, _, h3, _⟩ := hv1
      exact ih _ hv2 hc2 (capOk_keeps_nonneg p _ ha (daysLeft_pos p h3) hc1).1

theorem capOk_of_le (p : Prog) (paid : Int) (h0 : 0 ≤ paid) (h : paid * p.daysLeft ≤ p.avail) : capOk p paid = true := by
  unfold capOk
  simp only [Bool.or_eq_true, Bool.and_eq_true, decide_eq_true_eq]
  exact Or.inr ⟨h0, h⟩

/-- locker / vault: over the denominator `4·P²·daysLeft` the excess `paid·daysLeft − avail` is below one unit -/
theorem share_cap_arith (paid E n dl av : Int) (hn : 0 ≤ n) (ha : 0 ≤ av) (hd : 0 < dl)
    (hb : paid * (2 * Dec.P * Dec.P) ≤ E * (2 * Dec.P + n) + n * Dec.P)
    (hE : 2 * E * dl ≤ 2 * av * Dec.P + dl) (hsmall : (av + 2 * dl) * (n + 1) < Dec.P) : paid * dl ≤ av := by
  have hP := Dec.P_pos
  have e1 := Int.mul_le_mul_of_nonneg_right hb (show 0 ≤ 2 * dl by omega)
  have e2 := Int.mul_le_mul_of_nonneg_right hE (show 0 ≤ 2 * Dec.P + n by omega)
  have e3 : n * dl ≤ Dec.P * (n * dl) := le_mul_of_one_le_left (Int.mul_nonneg hn hd.le) hP
  have e4 := Int.mul_lt_mul_of_pos_left hsmall hP
  have h1 := Int.mul_nonneg ha hP.le
  have h2 := Int.mul_nonneg (Int.mul_nonneg hd.le hn) hP.le
  have h3 := Int.mul_nonneg hd.le hP.le
  have h4 := Int.mul_nonneg hP.le hP.le
  have : (paid * dl - av) * (4 * Dec.P * Dec.P) < 1 * (4 * Dec.P * Dec.P) := by linarith
  have := Int.lt_of_mul_lt_mul_right this (by linarith)
  omega

/-- lend: the same over `2·P·daysLeft` -/
theorem lend_cap_arith (paid D tot n dl av : Int) (hd : 0 < dl) (ht : 0 < tot)
    (hb : paid * (2 * Dec.P * Dec.P * tot) ≤ (2 * D + tot) * (tot * Dec.P) + n * Dec.P * tot)
    (hD : 2 * D * dl ≤ 2 * (av * Dec.P) + dl) (hsmall : (tot + n + 1) * dl < 2 * Dec.P) : paid * dl ≤ av := by
  have hP := Dec.P_pos
  have e1 : paid * (2 * Dec.P) ≤ 2 * D + tot + n :=
    Int.le_of_mul_le_mul_left (a := Dec.P * tot) (by linarith) (Int.mul_pos hP ht)
  have e2 := Int.mul_le_mul_of_nonneg_right e1 hd.le
  have : (paid * dl - av) * (2 * Dec.P) < 1 * (2 * Dec.P) := by linarith
  have := Int.lt_of_mul_lt_mul_right this (by linarith)
  omega

end Comdex.ExtReward
