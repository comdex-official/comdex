import Comdex.Lemmas.LiqAtom
/-!
Pool-coin supply, exactly (C04 clause "pool-coin supply changes only by pool creation and by deposits and withdrawals executed
against that pool"): in every step of the model the recorded supply of pool `(a, pl)` changes by exactly the pool coins minted by
the deposit requests of THAT pool that newly succeeded in the step, minus the pool coins burnt by its withdrawal requests that newly
succeeded (`SupplyEq`) — whether a request is executed in a later batch or inside its message (`MsgDepositAndFarm`,
`MsgUnfarmAndWithdraw`), and also when it fails (refunded, nothing minted or burnt).
-/
namespace Comdex.LiqLedger

/-- recorded pool-coin supply of pool (a, pl); 0 if the pool does not exist -/
def supply (s : State) (a pl : Nat) : Nat := ((s.pool? a pl).map (·.ps)).getD 0

/-- the operations that may change the supply of pool (a, pl): creation of a pool of that app, the batch
execution of that app (executed deposits / withdrawals), and deposit-and-farm / unfarm-and-withdraw on that pool -/
def touchesSupply (a pl : Nat) : Op → Prop
  | .createPool a' .. => a' = a
  | .endBlock a' .. => a' = a
  | .depositAndFarm a' _ pl' .. => a' = a ∧ pl' = pl
  | .unfarmAndWithdraw a' _ pl' .. => a' = a ∧ pl' = pl
  | _ => False

theorem supply_of_pools {s s' : State} (h : s'.pools = s.pools) (a pl : Nat) : supply s' a pl = supply s a pl := by
  simp [supply, State.pool?, h]

theorem isPool_mod_last (a p : Nat) (x : Pool) (n : Nat) : isPool a p { x with lastDep := n } = isPool a p x := rfl

theorem supply_modPool (s : State) (a0 p0 : Nat) (g : Pool → Pool) (hk : ∀ x a p, isPool a p (g x) = isPool a p x) (a pl : Nat) :
    supply (s.modPool a0 p0 g) a pl = if a0 = a ∧ p0 = pl then ((s.pool? a pl).map fun q => (g q).ps).getD 0 else supply s a pl := by
  simp only [supply, State.pool?, State.modPool]
  split
  · rename_i he
    obtain ⟨rfl, rfl⟩ := he
    rw [findBy_modBy_same (fun x => hk x a0 p0), Option.map_map]; rfl
  · rename_i he
    rw [findBy_modBy_other (fun x => hk x a pl)]
    intro x hx
    obtain ⟨h1, h2⟩ := isPool_true hx
    cases hq : isPool a pl x with
    | false => rfl
    | true => obtain ⟨g1, g2⟩ := isPool_true hq; exact absurd ⟨h1.symm.trans g1, h2.symm.trans g2⟩ he

theorem supply_modPool_same (s : State) (a0 p0 : Nat) (g : Pool → Pool) (hk : ∀ x a p, isPool a p (g x) = isPool a p x)
    (hps : ∀ x, (g x).ps = x.ps) (a pl : Nat) : supply (s.modPool a0 p0 g) a pl = supply s a pl := by
  rw [supply_modPool s a0 p0 g hk, ite_eq_right_iff]
  intro _; simp only [hps]; rfl

theorem supply_eq_of_pool? {s : State} {a pl : Nat} {q : Pool} (hq : s.pool? a pl = some q) : supply s a pl = q.ps := by
  simp [supply, hq]

theorem findBy_map_ps (p : Pool → Bool) (g : Pool → Pool) (hk : ∀ x, p (g x) = p x) (hps : ∀ x, (g x).ps = x.ps) (l : List Pool) :
    (findBy p (l.map g)).map (·.ps) = (findBy p l).map (·.ps) := by
  rw [findBy_eq_find?, findBy_eq_find?, List.find?_map, Option.map_map, (funext hk : p ∘ g = p)]
  exact congrArg (Option.map · _) (funext hps)

theorem supply_markDepleted (s : State) (p : Pair) (a pl : Nat) : supply (markDepleted s p) a pl = supply s a pl := by
  simp only [supply, State.pool?, markDepleted]
  have := findBy_map_ps (isPool a pl)
    (fun q => if (q.app == p.app && q.pair == p.id && !q.disabled && depleted s p q) = true then { q with disabled := true } else q)
    (fun x => by split <;> rfl) (fun x => by split <;> rfl) s.pools
  rw [this]

def mintTerm (a pl : Nat) (r : DepReq) : Nat := if r.app = a ∧ r.pool = pl ∧ r.status = .succeeded then r.minted else 0
def burnTerm (a pl : Nat) (r : WdrReq) : Nat := if r.app = a ∧ r.pool = pl ∧ r.status = .succeeded then r.pc else 0

/-- pool coins minted by the succeeded deposit requests of pool `(a, pl)` that are on record -/
def mintedSum (a pl : Nat) (l : List DepReq) : Nat := sumOver (mintTerm a pl) l
/-- pool coins burnt by the succeeded withdrawal requests of pool `(a, pl)` that are on record -/
def burnedSum (a pl : Nat) (l : List WdrReq) : Nat := sumOver (burnTerm a pl) l

/-- supply' − supply = (minted' − minted) − (burnt' − burnt), over ℕ -/
def SupplyEq (a pl : Nat) (s s' : State) : Prop :=
  supply s' a pl + mintedSum a pl s.deps + burnedSum a pl s'.wdrs = supply s a pl + mintedSum a pl s'.deps + burnedSum a pl s.wdrs

theorem SupplyEq.refl (a pl : Nat) (s : State) : SupplyEq a pl s s := by unfold SupplyEq; omega

theorem SupplyEq.trans {a pl : Nat} {s1 s2 s3 : State} (h1 : SupplyEq a pl s1 s2) (h2 : SupplyEq a pl s2 s3) : SupplyEq a pl s1 s3 := by
  unfold SupplyEq at *; omega

theorem SupplyEq.of_same {a pl : Nat} {s s' : State} (hs : supply s' a pl = supply s a pl) (hd : s'.deps = s.deps)
    (hw : s'.wdrs = s.wdrs) : SupplyEq a pl s s' := by
  unfold SupplyEq; rw [hs, hd, hw]

theorem PoolSame.supplyEq {a pl : Nat} {s s' : State} (h : PoolSame s s') : SupplyEq a pl s s' :=
  .of_same (supply_of_pools h.pools a pl) h.deps h.wdrs

theorem supply_mint {s : State} {a' pl' : Nat} {q : Pool} (hq : s.pool? a' pl' = some q) (n a pl : Nat) :
    supply (s.mint a' pl' n) a pl = supply s a pl + if a' = a ∧ pl' = pl then n else 0 := by
  show supply (s.modPool a' pl' fun q => { q with ps := q.ps + n }) a pl = _
  rw [supply_modPool s a' pl' (fun q => { q with ps := q.ps + n }) fun _ _ _ => rfl]
  split
  · rename_i he; obtain ⟨rfl, rfl⟩ := he; rw [hq, supply_eq_of_pool? hq]; rfl
  · rfl

theorem supply_burn {s : State} {a' pl' n : Nat} {q : Pool} (hq : s.pool? a' pl' = some q) (hle : n ≤ q.ps) (a pl : Nat) :
    supply (s.modPool a' pl' fun q => { q with ps := q.ps - n }) a pl + (if a' = a ∧ pl' = pl then n else 0) = supply s a pl := by
  rw [supply_modPool s a' pl' (fun q => { q with ps := q.ps - n }) fun _ _ _ => rfl]
  split
  · rename_i he; obtain ⟨rfl, rfl⟩ := he; rw [hq, supply_eq_of_pool? hq]; exact Nat.sub_add_cancel hle
  · rfl

theorem supply_disable (s : State) (a' pl' a pl : Nat) :
    supply (s.modPool a' pl' fun q => { q with disabled := true }) a pl = supply s a pl :=
  supply_modPool_same s a' pl' (fun q => { q with disabled := true }) (fun _ _ _ => rfl) (fun _ => rfl) a pl

theorem mintedSum_modBy (a pl : Nat) {l : List DepReq} {a' pl' i : Nat} {r : DepReq} (hr : findBy (isDep a' pl' i) l = some r)
    (hp : r.status = .pending) (g : DepReq → DepReq) :
    mintedSum a pl (modBy (isDep a' pl' i) g l) = mintedSum a pl l + mintTerm a pl (g r) :=
  sumOver_modBy_zero _ g hr (by simp [mintTerm, hp])

theorem burnedSum_modBy (a pl : Nat) {l : List WdrReq} {a' pl' i : Nat} {r : WdrReq} (hr : findBy (isWdr a' pl' i) l = some r)
    (hp : r.status = .pending) (g : WdrReq → WdrReq) :
    burnedSum a pl (modBy (isWdr a' pl' i) g l) = burnedSum a pl l + burnTerm a pl (g r) :=
  sumOver_modBy_zero _ g hr (by simp [burnTerm, hp])

theorem mintedSum_snoc (a pl : Nat) (l : List DepReq) (r : DepReq) :
    mintedSum a pl (l ++ [r]) = mintedSum a pl l + mintTerm a pl r := sumOver_snoc _ l r

theorem burnedSum_snoc (a pl : Nat) (l : List WdrReq) (r : WdrReq) :
    burnedSum a pl (l ++ [r]) = burnedSum a pl l + burnTerm a pl r := sumOver_snoc _ l r

theorem failDep_supply (a pl : Nat) {s s' : State} {r : DepReq} (hr : findBy (isDep r.app r.pool r.id) s.deps = some r)
    (hp : r.status = .pending) (h : failDep s r = some s') :
    s'.pools = s.pools ∧ mintedSum a pl s'.deps = mintedSum a pl s.deps ∧ s'.wdrs = s.wdrs := by
  obtain ⟨s1, s2, -, -, rfl⟩ := failDep_eff h
  refine ⟨rfl, ?_, rfl⟩
  show mintedSum a pl (modBy _ _ s.deps) = _
  rw [mintedSum_modBy a pl hr hp]
  simp [mintTerm]

theorem failWdr_supply (a pl : Nat) {s s' : State} {r : WdrReq} (hr : findBy (isWdr r.app r.pool r.id) s.wdrs = some r)
    (hp : r.status = .pending) (h : failWdr s r = some s') :
    s'.pools = s.pools ∧ burnedSum a pl s'.wdrs = burnedSum a pl s.wdrs ∧ s'.deps = s.deps := by
  obtain ⟨s1, -, rfl⟩ := failWdr_eff h
  refine ⟨rfl, ?_, rfl⟩
  show burnedSum a pl (modBy _ _ s.wdrs) = _
  rw [burnedSum_modBy a pl hr hp]
  simp [burnTerm]

/-- the pool of the request gains what the request is recorded to have minted (nothing when it failed), every other pool nothing -/
theorem execDeposit_supply (a pl : Nat) {s s' : State} {a' pl' i ax ay pc : Nat} (h : execDeposit s a' pl' i ax ay pc = some s') :
    ∃ n, supply s' a pl = supply s a pl + (if a' = a ∧ pl' = pl then n else 0) ∧
      mintedSum a pl s'.deps = mintedSum a pl s.deps + (if a' = a ∧ pl' = pl then n else 0) ∧ s'.wdrs = s.wdrs := by
  obtain ⟨r, hr, hx⟩ := execDeposit_exec h
  cases hx with
  | skip _ e => subst e; exact ⟨0, by rw [ite_self]; exact ⟨rfl, rfl, rfl⟩⟩
  | refund hp _ ht hf =>
    rcases ht with rfl | ⟨-, rfl⟩
    · obtain ⟨e1, e2, e3⟩ := failDep_supply a pl (findBy_isDep_self hr) hp hf
      exact ⟨0, by rw [ite_self]; exact ⟨supply_of_pools e1 a pl, e2, e3⟩⟩
    · obtain ⟨e1, e2, e3⟩ :=
        failDep_supply a pl (s := s.modPool a' pl' fun q => { q with disabled := true }) (findBy_isDep_self hr) hp hf
      exact ⟨0, by rw [ite_self]; exact ⟨(supply_of_pools e1 a pl).trans (supply_disable s a' pl' a pl), e2, e3⟩⟩
  | ok hp hq _ _ hok =>
    obtain ⟨-, -, -, s2, s3, s4, s5, s6, -, -, -, -, -, rfl⟩ := hok
    obtain ⟨r1, r2, -⟩ := isDep_true (findBy_some_prop hr).1
    refine ⟨pc, supply_mint hq pc a pl, ?_, rfl⟩
    show mintedSum a pl (modBy _ _ s.deps) = _
    rw [mintedSum_modBy a pl hr hp]
    simp only [mintTerm, r1, r2, and_true]

theorem execWithdraw_supply (a pl : Nat) {s s' : State} {a' pl' i x y : Nat} (h : execWithdraw s a' pl' i x y = some s') :
    ∃ n, supply s' a pl + (if a' = a ∧ pl' = pl then n else 0) = supply s a pl ∧
      burnedSum a pl s'.wdrs = burnedSum a pl s.wdrs + (if a' = a ∧ pl' = pl then n else 0) ∧ s'.deps = s.deps := by
  obtain ⟨r, hr, hx⟩ := execWithdraw_exec h
  cases hx with
  | skip _ e => subst e; exact ⟨0, by rw [ite_self]; exact ⟨rfl, rfl, rfl⟩⟩
  | refund hp _ ht hf =>
    rcases ht with rfl | ⟨-, rfl⟩
    · obtain ⟨e1, e2, e3⟩ := failWdr_supply a pl (findBy_isWdr_self hr) hp hf
      exact ⟨0, by rw [ite_self]; exact ⟨supply_of_pools e1 a pl, e2, e3⟩⟩
    · obtain ⟨e1, e2, e3⟩ :=
        failWdr_supply a pl (s := s.modPool a' pl' fun q => { q with disabled := true }) (findBy_isWdr_self hr) hp hf
      exact ⟨0, by rw [ite_self]; exact ⟨(supply_of_pools e1 a pl).trans (supply_disable s a' pl' a pl), e2, e3⟩⟩
  | @ok hp q _ hq _ _ hok =>
    obtain ⟨s1, s2, s3, s4, -, -, -, -, hps, rfl⟩ := hok
    obtain ⟨r1, r2, -⟩ := isWdr_true (findBy_some_prop hr).1
    refine ⟨r.pc, ?_, ?_, rfl⟩
    · refine Eq.trans (congrArg (· + _) ?_) (supply_burn hq hps a pl)
      show supply ({ s with pools := if r.pc = q.ps then _ else _ } : State) a pl = _
      by_cases hc : r.pc = q.ps
      · rw [if_pos hc]; exact supply_disable (s.modPool a' pl' _) a' pl' a pl
      · rw [if_neg hc]; rfl
    · show burnedSum a pl (modBy _ _ s.wdrs) = _
      rw [burnedSum_modBy a pl hr hp]
      simp only [burnTerm, r1, r2, and_true]

theorem se_execDeposit {a pl : Nat} {s s' : State} {a' pl' i ax ay pc : Nat} (h : execDeposit s a' pl' i ax ay pc = some s') :
    SupplyEq a pl s s' := by
  obtain ⟨n, e1, e2, e3⟩ := execDeposit_supply a pl h
  unfold SupplyEq
  rw [e1, e2, e3]
  omega

theorem se_execWithdraw {a pl : Nat} {s s' : State} {a' pl' i x y : Nat} (h : execWithdraw s a' pl' i x y = some s') :
    SupplyEq a pl s s' := by
  obtain ⟨n, e1, e2, e3⟩ := execWithdraw_supply a pl h
  unfold SupplyEq
  rw [← e1, e2, e3]
  omega

theorem supply_execDeposit_other {s s' : State} {a' pl' i ax ay pc : Nat} (a pl : Nat) (hne : ¬ (a' = a ∧ pl' = pl))
    (h : execDeposit s a' pl' i ax ay pc = some s') : supply s' a pl = supply s a pl := by
  obtain ⟨n, e1, -, -⟩ := execDeposit_supply a pl h
  rwa [if_neg hne] at e1

theorem supply_execWithdraw_other {s s' : State} {a' pl' i x y : Nat} (a pl : Nat) (hne : ¬ (a' = a ∧ pl' = pl))
    (h : execWithdraw s a' pl' i x y = some s') : supply s' a pl = supply s a pl := by
  obtain ⟨n, e1, -, -⟩ := execWithdraw_supply a pl h
  rwa [if_neg hne] at e1

theorem supply_depositReq {cfg : Cfg} {s s1 : State} {a' u p dx dy : Nat} {e : Bool} {id : Nat} (a pl : Nat)
    (hd : depositReq cfg s a' u p dx dy e = some (s1, id)) : supply s1 a pl = supply s a pl := by
  obtain ⟨q, pp, t1, t2, -, -, -, -, rfl⟩ := depositReq_eff hd
  exact supply_modPool_same s a' p (fun q => { q with lastDep := id }) (fun _ _ _ => rfl) (fun _ => rfl) a pl

theorem supply_withdrawReq {cfg : Cfg} {s s1 : State} {a' u p pc : Nat} {e : Bool} {id : Nat} (a pl : Nat)
    (hd : withdrawReq cfg s a' u p pc e = some (s1, id)) : supply s1 a pl = supply s a pl := by
  obtain ⟨q, t1, -, -, rfl⟩ := withdrawReq_eff hd
  exact supply_modPool_same s a' p (fun q => { q with lastWdr := id }) (fun _ _ _ => rfl) (fun _ => rfl) a pl

theorem Atom.supplySame {cfg : Cfg} (a pl : Nat) {k : Kind} {s s' : State} (h : Atom cfg k s s') (he : k ≠ .exec a pl)
    (hc : k ≠ .create a) : supply s' a pl = supply s a pl := by
  cases k with
  | order => exact supply_of_pools h.orderStep.pool.pools a pl
  | batch => exact supply_of_pools h.poolSame.pools a pl
  | prune => cases h; rfl
  | migrate =>
    cases h with
    | migrate h =>
      obtain ⟨-, rfl⟩ := migrate_eff h
      unfold supply State.pool?
      show (Option.map _ (findBy (isPool a pl) (s.pools.map _))).getD 0 = _
      rw [findBy_map_ps]
      · intro x; split <;> rfl
      · intro x; split <;> rfl
  | exec a' pl' =>
    have hne : ¬ (a' = a ∧ pl' = pl) := fun e => he (by rw [e.1, e.2])
    cases h with
    | execDeposit h => exact supply_execDeposit_other a pl hne h
    | execWithdraw h => exact supply_execWithdraw_other a pl hne h
  | create a' =>
    cases h with
    | createPool h =>
      obtain ⟨ac, pp, s1, s2, s3, s4, q, -, -, hqd, -, -, -, -, rfl⟩ := createPool_eff h
      simp only [supply, State.pool?]
      show ((findBy (isPool a pl) (s.pools ++ [q])).map _).getD 0 = _
      rw [findBy_append]
      cases hx : findBy (isPool a pl) s.pools with
      | some x => rfl
      | none =>
        have : ¬ (a' = a ∧ q.id = pl) := fun hh => hc (by rw [hh.1])
        rw [hqd] at this
        simp [findBy, isPool, hqd, this]
  | pool =>
    cases h with
    | markDepleted => exact supply_markDepleted _ _ a pl
    | processQueued => rfl
    | depositReq h => exact supply_depositReq a pl h
    | withdrawReq h => exact supply_withdrawReq a pl h
    | farm h => obtain ⟨s1, -, -, rfl⟩ := farm_eff h; rfl
    | unfarm h => obtain ⟨f, s1, -, -, -, -, rfl⟩ := unfarm_eff h; rfl

/-- the operations after which request records may have been pruned or a brand-new pool (without any request) exists -/
def prunesOrCreates : Op → Bool
  | .beginBlock _ => true
  | .createPool .. => true
  | _ => false

theorem Atom.supplyEq {cfg : Cfg} (a pl : Nat) {k : Kind} {s s' : State} (h : Atom cfg k s s') (hp : k ≠ .prune) (hc : ∀ a', k ≠ .create a') :
    SupplyEq a pl s s' := by
  cases k with
  | order => exact h.orderStep.pool.supplyEq
  | batch => exact h.poolSame.supplyEq
  | prune => exact absurd rfl hp
  | create a' => exact absurd rfl (hc a')
  | exec =>
    cases h with
    | execDeposit h => exact se_execDeposit h
    | execWithdraw h => exact se_execWithdraw h
  | migrate =>
    have hs := h.supplySame a pl nofun nofun
    cases h with | migrate h => obtain ⟨-, rfl⟩ := migrate_eff h; exact .of_same hs rfl rfl
  | pool =>
    have hs := h.supplySame a pl nofun nofun
    cases h with
    | markDepleted | processQueued => exact .of_same hs rfl rfl
    | farm h => obtain ⟨s1, -, -, rfl⟩ := farm_eff h; exact .of_same hs rfl rfl
    | unfarm h => obtain ⟨f, s1, -, -, -, -, rfl⟩ := unfarm_eff h; exact .of_same hs rfl rfl
    | depositReq h =>
      obtain ⟨q, p, s1, s2, -, -, -, -, rfl⟩ := depositReq_eff h
      unfold SupplyEq
      show _ + _ + burnedSum a pl s.wdrs = _ + mintedSum a pl (s.deps ++ _) + _
      rw [hs, mintedSum_snoc]
      simp [mintTerm]
    | withdrawReq h =>
      obtain ⟨q, s1, -, -, rfl⟩ := withdrawReq_eff h
      unfold SupplyEq
      show _ + _ + burnedSum a pl (s.wdrs ++ _) = _ + mintedSum a pl s.deps + _
      rw [hs, burnedSum_snoc]
      simp [burnTerm]

theorem Op.has_prunesOrCreates {op : Op} (h : op.has .prune ∨ ∃ a, op.has (.create a)) : prunesOrCreates op = true := by
  obtain ⟨_, rfl⟩ | ⟨_, _, _, _, _, _, _, _, rfl⟩ := h <;> rfl

/-- **Supply, exactly, for every operation**: the recorded pool-coin supply of pool `(a, pl)` moves by exactly what the deposit
requests of that pool that newly succeeded in the step minted, minus what the newly succeeded withdrawal requests of that pool
burnt.  (Begin-block pruning only deletes records and `MsgCreatePool` only adds a new pool: see `supply_frame`.) -/
theorem step_supplyEq {cfg : Cfg} {s s' : State} {op : Op} (a pl : Nat) (hop : prunesOrCreates op = false)
    (h : step cfg s op = some s') : SupplyEq a pl s s' := by
  exact step_rel (SupplyEq.refl a pl) SupplyEq.trans (fun hk at' => at'.supplyEq a pl
    (fun e => by rw [Op.has_prunesOrCreates (.inl (e ▸ hk))] at hop; cases hop)
    (fun a' e => by rw [Op.has_prunesOrCreates (.inr ⟨a', e ▸ hk⟩)] at hop; cases hop)) h

theorem Op.touches_of_has {op : Op} {a pl : Nat} (h : op.has (.exec a pl) ∨ op.has (.create a)) : touchesSupply a pl op := by
  obtain (⟨_, _, _, rfl⟩ | ⟨_, _, _, _, _, _, _, rfl⟩ | ⟨_, _, _, _, _, rfl⟩) | ⟨_, _, _, _, _, _, _, rfl⟩ := h
  · exact rfl
  · exact ⟨rfl, rfl⟩
  · exact ⟨rfl, rfl⟩
  · exact rfl

/-- Pool-coin supply changes only by pool creation and by deposits / withdrawals executed against that pool:
every other message and block hook leaves the recorded supply of every pool untouched. -/
theorem supply_frame {cfg : Cfg} {s s' : State} {op : Op} (a pl : Nat) (h : step cfg s op = some s')
    (hn : ¬ touchesSupply a pl op) : supply s' a pl = supply s a pl :=
  step_rel (R := fun s s' => supply s' a pl = supply s a pl) (fun _ => rfl) (fun h1 h2 => h2.trans h1)
    (fun hk at' => at'.supplySame a pl (fun e => hn (Op.touches_of_has (.inl (e ▸ hk)))) (fun e => hn (Op.touches_of_has (.inr (e ▸ hk))))) h

/-- `MsgCreatePool` / `MsgCreateRangedPool`: exactly one pool record is added (with a positive supply, `CfgOk`); every existing
pool record — in particular its supply — is as it was -/
theorem createPool_pools {cfg : Cfg} {s s' : State} {app creator pair : Nat} {ranged : Bool} {dx dy ammPs : Nat} {ext : Bool}
    (h : createPool cfg s app creator pair ranged dx dy ammPs ext = some s') :
    ∃ ac q, cfg.app? app = some ac ∧ s'.pools = s.pools ++ [q] ∧ q.app = app ∧ q.ranged = ranged ∧ q.ps = max ammPs ac.minInitSupply ∧
      s'.deps = s.deps ∧ s'.wdrs = s.wdrs := by
  obtain ⟨ac, p, s1, s2, s3, s4, q, hac, -, hqd, -, -, -, -, rfl⟩ := createPool_eff h
  exact ⟨ac, q, hac, rfl, by rw [hqd], by rw [hqd], by rw [hqd], rfl, rfl⟩

theorem supply_append_existing (s : State) (l : List Pool) (a pl : Nat) (q : Pool) (hq : findBy (isPool a pl) s.pools = some q)
    (s' : State) (h : s'.pools = s.pools ++ l) : supply s' a pl = supply s a pl := by
  unfold supply State.pool?
  rw [h, findBy_append, hq]

end Comdex.LiqLedger
