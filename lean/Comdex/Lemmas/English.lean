import Comdex.Model.English
import Comdex.Lemmas.Fold
import Comdex.Lemmas.Inversion
import Comdex.Lemmas.DecCore
/-! The English-auction model: what each handler does (`_spec`, `_accepted`), what an accepted step is (`AucOp`, `step_op`), and the
ledger every step keeps (`Keeps`: custody = standing bids, every user's balance + stakes − gains constant).  Core Lean only.
`findAuc`/`setAuc`/`delAuc` are first-match recursions whose lemmas need no unique ids: not `KeyedRecs`' `map`/`filter`.

The balance equations of the effect lemmas carry the `if … then x else 0` terms of `held`, `stakeOf`, `gainOf` (`omega` atoms). -/
namespace Comdex.English

/-- for `simp only` -/
theorem ne_flip {x y : Acct} (h : y ≠ x) : (x = y) = False := eq_false (Ne.symm h)

theorem some_ne {x y : Acct} (h : some x ≠ some y) : (x = y) = False := eq_false fun c => h (c ▸ rfl)

@[simp] theorem bal_nil (a : Acct) (d : Denom) : bal [] a d = 0 := rfl

theorem bal_credit (b : Bank) (a : Acct) (d : Denom) (x : Int) (a' : Acct) (d' : Denom) :
    bal (credit b a d x) a' d' = bal b a' d' + (if a = a' ∧ d = d' then x else 0) := by
  simp only [credit, bal]
  split
  · next h => rw [h.1, h.2]
  · omega

theorem send_bal {b b' : Bank} {s t : Acct} {d : Denom} {x : Int} (h : send b s t d x = some b')
    (a : Acct) (e : Denom) :
    bal b' a e = bal b a e - (if s = a ∧ d = e then x else 0) + (if t = a ∧ d = e then x else 0) := by
  simp only [send, Option.ite_none_left_eq_some] at h
  split at h
  · next hx => cases h.2; simp only [hx, ite_self]; omega
  · simp only [Option.ite_none_left_eq_some] at h
    cases h.2.2; rw [bal_credit, bal_credit]; split <;> omega

theorem send_nonneg {b b' : Bank} {s t : Acct} {d : Denom} {x : Int} (h : send b s t d x = some b') : 0 ≤ x := by
  simp only [send, Option.ite_none_left_eq_some] at h
  omega

theorem burn_bal {b b' : Bank} {s : Acct} {d : Denom} {x : Int} (h : burn b s d x = some b')
    (a : Acct) (e : Denom) :
    bal b' a e = bal b a e - (if s = a ∧ d = e then x else 0) := by
  simp only [burn, Option.ite_none_left_eq_some] at h
  cases h.2.2; rw [bal_credit]; split <;> omega

theorem sendAway_bal {b b' : Bank} {s : Acct} {d : Denom} {x : Int} (h : sendAway b s d x = some b')
    (a : Acct) (e : Denom) :
    bal b' a e = bal b a e - (if s = a ∧ d = e then x else 0) := by
  simp only [sendAway, Option.ite_none_left_eq_some] at h
  split at h
  · next hx => cases h.2; simp only [hx, ite_self]; omega
  · simp only [Option.ite_none_left_eq_some] at h
    cases h.2.2; rw [bal_credit]; split <;> omega

theorem mint_bal (b : Bank) (t : Acct) (d : Denom) (x : Int) (a : Acct) (e : Denom) :
    bal (mint b t d x) a e = bal b a e + (if t = a ∧ d = e then (if x > 0 then x else 0) else 0) := by
  unfold mint
  split
  · rw [bal_credit]
  · split <;> omega

theorem findAuc_mem {l : List Auction} {id : Nat} {a : Auction} (h : findAuc l id = some a) :
    a ∈ l ∧ a.id = id := by
  induction l with
  | nil => cases h
  | cons b t ih =>
    simp only [findAuc] at h
    split at h
    · cases h; exact ⟨List.mem_cons_self, ‹_›⟩
    · exact ⟨List.mem_cons_of_mem _ (ih h).1, (ih h).2⟩

theorem sumBy_setAuc (f : Auction → Int) {l : List Auction} {a a' : Auction}
    (h : findAuc l a'.id = some a) : sumBy f (setAuc l a') = sumBy f l - f a + f a' := by
  induction l with
  | nil => cases h
  | cons b t ih =>
    simp only [findAuc, setAuc] at h ⊢
    split at h
    · next hb => cases h; simp only [if_pos hb, sumBy]; omega
    · next hb => simp only [if_neg hb, sumBy, ih h]; omega

theorem sumBy_delAuc (f : Auction → Int) {l : List Auction} {id : Nat} {a : Auction}
    (h : findAuc l id = some a) : sumBy f (delAuc l id) = sumBy f l - f a := by
  induction l with
  | nil => cases h
  | cons b t ih =>
    simp only [findAuc, delAuc] at h ⊢
    split at h
    · next hb => cases h; simp only [if_pos hb, sumBy]; omega
    · next hb => simp only [if_neg hb, sumBy, ih h]; omega

theorem forall_setAuc {P : Auction → Prop} {l : List Auction} {a' : Auction} (h : ∀ x ∈ l, P x) (hv : P a') :
    ∀ x ∈ setAuc l a', P x := by
  induction l with
  | nil => exact h
  | cons b t ih =>
    rw [List.forall_mem_cons] at h
    simp only [setAuc]
    split <;> rw [List.forall_mem_cons]
    · exact ⟨hv, h.2⟩
    · exact ⟨h.1, ih h.2⟩

theorem forall_delAuc {P : Auction → Prop} {l : List Auction} {id : Nat} (h : ∀ x ∈ l, P x) : ∀ x ∈ delAuc l id, P x := by
  induction l with
  | nil => exact h
  | cons b t ih =>
    rw [List.forall_mem_cons] at h
    simp only [delAuc]
    split
    · exact h.2
    · exact List.forall_mem_cons.mpr ⟨h.1, ih h.2⟩

theorem findAuc_setAuc_self {l : List Auction} {a a' : Auction} (h : findAuc l a'.id = some a) :
    findAuc (setAuc l a') a'.id = some a' := by
  induction l with
  | nil => cases h
  | cons b t ih =>
    simp only [findAuc, setAuc] at h ⊢
    split at h
    · next hb => simp only [if_pos hb, findAuc, ↓reduceIte]
    · next hb => simp only [if_neg hb, findAuc, ih h]

theorem sumBy_zero (f : Auction → Int) (l : List Auction) (h : ∀ a ∈ l, f a = 0) : sumBy f l = 0 := by
  induction l with
  | nil => rfl
  | cons b t ih => rw [sumBy, h b List.mem_cons_self, ih fun a ha => h a (List.mem_cons_of_mem _ ha)]; rfl

theorem accept_spec {s s' : State} {a a' : Auction} {who : Acct} {payIn : Int}
    (h : accept s a who a' payIn = some s') :
    ∃ b, s' = { s with bank := b, live := setAuc s.live a' } ∧
      (∀ y e, y ≠ s.cust → bal b y e = bal s.bank y e
          - (if who = y ∧ a.payDenom = e then payIn else 0) + (if a.bidder = some y ∧ a.payDenom = e then a.pay else 0)) ∧
      (who ≠ s.cust → a.bidder ≠ some s.cust → ∀ e, bal b s.cust e = bal s.bank s.cust e
          + (if a.payDenom = e then payIn else 0) - (if a.bidder.isSome ∧ a.payDenom = e then a.pay else 0)) := by
  unfold accept at h
  match_ok h1 : send s.bank who s.cust a.payDenom payIn with b1 at h
  cases hb : a.bidder with
  | none =>
    simp only [hb] at h
    cases h
    refine ⟨b1, rfl, fun y e hy => ?_, fun hw _ e => ?_⟩ <;> rw [send_bal h1]
    · simp only [reduceCtorEq, ne_flip hy, false_and, ↓reduceIte]
    · simp only [Option.isSome_none, Bool.false_eq_true, eq_false hw, false_and, true_and, ↓reduceIte, Int.sub_zero]
  | some p =>
    simp only [hb] at h
    match_ok h2 : send b1 s.cust p a.payDenom a.pay with b2 at h
    cases h
    refine ⟨b2, rfl, fun y e hy => ?_, fun hw hp e => ?_⟩ <;> rw [send_bal h2, send_bal h1]
    · simp only [Option.some.injEq, ne_flip hy, false_and, ↓reduceIte, Int.sub_zero, Int.add_zero]
    · simp only [Option.isSome_some, eq_false hw, some_ne hp, true_and, false_and, ↓reduceIte, Int.sub_zero, Int.add_zero]

/-- `amt` is what the message names (the payment for an increasing kind, the lot asked for a decreasing one), `payIn` what
the bidder pays into custody -/
structure Upd (a a' : Auction) (who : Acct) (payIn amt : Int) : Prop where
  id : a'.id = a.id
  kind : a'.kind = a.kind
  payDenom : a'.payDenom = a.payDenom
  lotDenom : a'.lotDenom = a.lotDenom
  bidder : a'.bidder = some who
  pay : a'.pay = payIn
  inc : a.kind.increasing = true → amt = payIn ∧ a'.lot = a.lot ∧ (∀ p, a.bidder = some p → amt ≥ minNext a)
  dec : a.kind.increasing = false → payIn = a.pay ∧ a'.lot = amt ∧ (∀ p, a.bidder = some p → amt ≤ maxNext a)

theorem tooLow_false {a : Auction} {amt : Int} {b : Bool} (h : ¬ tooLow a amt b = true) :
    ∀ p, a.bidder = some p → amt ≥ minNext a := by
  intro p hp
  simp only [tooLow, hp, decide_eq_true_eq] at h
  omega

theorem tooHigh_false {a : Auction} {amt cap : Int} (h : ¬ tooHigh a amt cap = true) :
    ∀ p, a.bidder = some p → amt ≤ maxNext a := by
  intro p hp
  simp only [tooHigh, hp, decide_eq_true_eq] at h
  omega

theorem bid_accepted {s s' : State} {who : Acct} {app mapping id : Nat} {denom : Denom} {amt : Int}
    (h : bidStep s who app mapping id denom amt = some s') :
    ∃ a a' payIn, findAuc s.live id = some a ∧ accept s a who a' payIn = some s' ∧ Upd a a' who payIn amt ∧
      (a.kind.increasing = false → a.kind = .debtV2 ∧ 0 < amt) := by
  unfold bidStep at h
  cases ha : findAuc s.live id with
  | none => simp only [ha] at h; cases h
  | some a =>
    simp only [ha, Option.ite_none_left_eq_some] at h
    cases hk : a.kind <;> simp only [hk, Option.ite_none_left_eq_some, reduceCtorEq, and_false] at h
    case debtV2 =>
      obtain ⟨-, hpos, -, hhigh, h⟩ := h
      exact ⟨a, _, _, rfl, h, ⟨rfl, hk.symm, rfl, rfl, rfl, rfl, fun hi => by simp [hk, Kind.increasing] at hi,
        fun _ => ⟨rfl, rfl, tooHigh_false hhigh⟩⟩, fun _ => ⟨hk, by omega⟩⟩
    case surplusV1 | surplusV2 =>
      obtain ⟨-, -, -, hlow, h⟩ := h
      exact ⟨a, _, _, rfl, h, ⟨rfl, hk.symm, rfl, rfl, rfl, rfl, fun _ => ⟨rfl, rfl, tooLow_false hlow⟩,
        fun hi => by simp [hk, Kind.increasing] at hi⟩, fun hi => by simp [hk, Kind.increasing] at hi⟩

theorem dbid_accepted {s s' : State} {who : Acct} {app mapping id : Nat} {denom : Denom} {amt : Int}
    {ed : Denom} {ea : Int} (h : dbidStep s who app mapping id denom amt ed ea = some s') :
    ∃ a a' payIn, findAuc s.live id = some a ∧ accept s a who a' payIn = some s' ∧ Upd a a' who payIn amt ∧
      a.kind = .debtV1 ∧ (∀ fl, s.debtFloor = some fl → fl ≤ amt) := by
  unfold dbidStep at h
  cases ha : findAuc s.live id with
  | none => simp only [ha] at h; cases h
  | some a =>
    simp only [ha, Option.ite_none_left_eq_some] at h
    cases hk : a.kind <;> simp only [hk, Option.ite_none_left_eq_some, reduceCtorEq, and_false] at h
    obtain ⟨-, hfl, -, -, -, hl, h⟩ := h
    refine ⟨a, _, _, rfl, h, ⟨rfl, hk.symm, rfl, rfl, rfl, rfl, fun hi => by simp [hk, Kind.increasing] at hi,
      fun _ => ⟨rfl, rfl, tooHigh_false hl⟩⟩, hk, fun fl hf => ?_⟩
    simp only [belowFloor, hf, decide_eq_true_eq] at hfl
    omega

def Op.Places (op : Op) (who : Acct) (id : Nat) (amt : Int) : Prop :=
  (∃ app mp dn, op = .bid who app mp id dn amt) ∨ (∃ app mp dn ed ea, op = .dbid who app mp id dn amt ed ea)

theorem Op.Places.sender {op : Op} {who : Acct} {id : Nat} {amt : Int} (h : op.Places who id amt) :
    op.sender? = some who := by
  rcases h with ⟨_, _, _, rfl⟩ | ⟨_, _, _, _, _, rfl⟩ <;> rfl

/-- last clause: `ValidateBasic` demands a positive amount of `bid`, and of `dbid` the configured floor -/
theorem placed_accepted {s s' : State} {op : Op} (h : step s op = some s') {who : Acct} {id : Nat} {amt : Int}
    (hop : op.Places who id amt) :
    ∃ a a' payIn, findAuc s.live id = some a ∧ accept s a who a' payIn = some s' ∧ Upd a a' who payIn amt ∧
      (a.kind.increasing = false → ∀ fl, s.debtFloor = some fl → 0 ≤ fl → 0 ≤ amt) := by
  rcases hop with ⟨app, mp, dn, rfl⟩ | ⟨app, mp, dn, ed, ea, rfl⟩
  · obtain ⟨a, a', p, hf, ha, u, hpos⟩ := bid_accepted h
    exact ⟨a, a', p, hf, ha, u, fun hk _ _ _ => Int.le_of_lt (hpos hk).2⟩
  · obtain ⟨a, a', p, hf, ha, u, -, hfl⟩ := dbid_accepted h
    exact ⟨a, a', p, hf, ha, u, fun _ fl hf h0 => Int.le_trans h0 (hfl fl hf)⟩

theorem settle_spec {s s' : State} {id : Nat} (h : settleStep s id = some s') :
    ∃ a, findAuc s.live id = some a ∧
      ((emergency s a = true ∧ ∃ b, esmBank s a = some b ∧ s' = { s with bank := b, live := delAuc s.live id }) ∨
       (emergency s a = false ∧ due s.now a = true ∧
        ((a.bidder = none ∧ s' = { s with live := setAuc s.live (restartRec s.now a) }) ∨
         (∃ w b, a.bidder = some w ∧ closeBank s a w = some b ∧
            s' = { s with bank := b, live := delAuc s.live id, closed := a :: s.closed })))) := by
  unfold settleStep at h
  cases ha : findAuc s.live id with
  | none => simp only [ha] at h; cases h
  | some a =>
    refine ⟨a, rfl, ?_⟩
    simp only [ha] at h
    split at h
    · next he =>
      split at h
      · cases h
      · next b hb => cases h; exact .inl ⟨he, b, hb, rfl⟩
    · next he =>
      simp only [Option.ite_none_left_eq_some, Decidable.not_not] at h
      refine .inr ⟨by simpa using he, h.1, ?_⟩
      have h := h.2
      split at h
      · next hb => cases h; exact .inl ⟨hb, rfl⟩
      · next w hb =>
        split at h
        · cases h
        · next b hc => cases h; exact .inr ⟨w, b, hb, hc, rfl⟩

theorem esmBank_spec {s : State} {a : Auction} {b : Bank} (h : esmBank s a = some b) :
    (∀ y e, y ≠ s.cust → y ≠ s.coll →
      bal b y e = bal s.bank y e + (if a.bidder = some y ∧ a.payDenom = e then a.pay else 0)) ∧
    (a.bidder ≠ some s.cust → s.cust ≠ s.coll → ∀ e, bal b s.cust e = bal s.bank s.cust e - held e a) := by
  unfold esmBank at h
  unfold held
  cases hk : a.kind <;> simp only [hk, reduceCtorEq] at h
  all_goals cases hb : a.bidder <;> simp only [hb] at h
  case surplusV1.none =>
    refine ⟨fun y e h1 h2 => ?_, fun _ hc e => ?_⟩ <;> rw [send_bal h]
    · simp only [ne_flip h1, ne_flip h2, reduceCtorEq, false_and, ↓reduceIte, Int.sub_zero, Int.add_zero]
    · simp only [ne_flip hc, Option.isSome_none, Bool.false_eq_true, true_and, false_and, ↓reduceIte, Int.add_zero, Int.zero_add]
  case surplusV1.some w =>
    split at h
    · cases h
    next b1 hb1 =>
    refine ⟨fun y e h1 h2 => ?_, fun hw hc e => ?_⟩ <;> rw [send_bal h, send_bal hb1]
    · simp only [ne_flip h1, ne_flip h2, Option.some.injEq, false_and, ↓reduceIte, Int.sub_zero, Int.add_zero]
    · simp only [ne_flip hc, some_ne hw, Option.isSome_some, true_and, false_and, ↓reduceIte, Int.add_zero]; omega
  case debtV1.none =>
    cases h
    exact ⟨fun y e _ _ => by simp, fun _ _ e => by simp⟩
  case debtV1.some w =>
    refine ⟨fun y e h1 h2 => ?_, fun hw hc e => ?_⟩ <;> rw [send_bal h]
    · simp only [ne_flip h1, Option.some.injEq, false_and, ↓reduceIte, Int.sub_zero]
    · simp only [some_ne hw, Option.isSome_some, reduceCtorEq, true_and, false_and, ↓reduceIte, Int.add_zero]

theorem closeBank_spec {s : State} {a : Auction} {w : Acct} {b : Bank} (h : closeBank s a w = some b) :
    (∀ y e, y ≠ s.cust → y ≠ s.coll →
      bal b y e = bal s.bank y e + (if w = y ∧ a.lotDenom = e then payout a else 0)) ∧
    (a.bidder = some w → w ≠ s.cust → s.cust ≠ s.coll → ∀ e, bal b s.cust e = bal s.bank s.cust e - held e a) := by
  unfold closeBank at h
  unfold held payout
  cases hk : a.kind <;> simp only [hk] at h
  case debtV1 | debtV2 =>
    refine ⟨fun y e hy1 hy2 => ?_, fun hb hw hc e => ?_⟩ <;> rw [send_bal h, mint_bal]
    · simp only [ne_flip hy1, ne_flip hy2, Kind.increasing, Bool.false_eq_true, false_and, ↓reduceIte, Int.sub_zero, Int.add_zero]
    · simp only [hb, eq_false hw, ne_flip hc, Option.isSome_some, reduceCtorEq, true_and, false_and, ↓reduceIte, Int.add_zero]
  case surplusV1 =>
    split at h
    · cases h
    next b1 h1 =>
    refine ⟨fun y e hy1 hy2 => ?_, fun hb hw hc e => ?_⟩ <;> rw [burn_bal h, send_bal h1]
    · simp only [ne_flip hy1, Kind.increasing, false_and, ↓reduceIte, Int.sub_zero]
    · simp only [hb, eq_false hw, Option.isSome_some, true_and, false_and, ↓reduceIte, Int.add_zero]; omega
  case surplusV2 =>
    split at h
    · cases h
    next b1 h1 =>
    split at h
    · cases h
    next b2 h2 =>
    refine ⟨fun y e hy1 hy2 => ?_, fun hb hw hc e => ?_⟩ <;> rw [burn_bal h, send_bal h2, send_bal h1]
    · simp only [ne_flip hy1, ne_flip hy2, Kind.increasing, false_and, ↓reduceIte, Int.sub_zero, Int.add_zero]
    · simp only [hb, eq_false hw, ne_flip hc, Option.isSome_some, reduceCtorEq, true_and, false_and, ↓reduceIte, Int.sub_zero, Int.add_zero]; omega

theorem start_spec {s s' : State} {a : Auction} (h : startStep s a = some s') :
    a.bidder = none ∧ ∃ b, s' = { s with bank := b, live := a :: s.live } ∧
      ∀ y e, bal b y e = bal s.bank y e
        - (if (a.kind = .surplusV1 ∨ a.kind = .surplusV2) ∧ s.coll = y ∧ a.lotDenom = e then a.lot else 0)
        + (if a.kind = .surplusV1 ∧ s.cust = y ∧ a.lotDenom = e then a.lot else 0) := by
  simp only [startStep, Option.ite_none_left_eq_some] at h
  refine ⟨by simpa using h.1, ?_⟩
  have h := h.2.2.2
  cases hk : a.kind <;> simp only [hk] at h
  case surplusV1 =>
    split at h
    · cases h
    · next b h1 => cases h; exact ⟨b, rfl, fun y e => by rw [send_bal h1]; simp⟩
  case surplusV2 =>
    split at h
    · cases h
    · next b h1 => cases h; exact ⟨b, rfl, fun y e => by rw [sendAway_bal h1]; simp⟩
  case debtV1 | debtV2 => cases h; exact ⟨_, rfl, fun y e => by simp⟩

theorem restartRec_eq (now : Int) (a : Auction) :
    restartRec now a =
      { a with pay := if a.kind = .surplusV1 then 0 else a.pay, endT := now + a.dur, bidEndT := now + a.dur } := by
  unfold restartRec
  cases hk : a.kind <;> simp only [reduceCtorEq, ↓reduceIte]

inductive AucOp (s : State) : Op → State → Prop
  | start {a : Auction} {b : Bank} (hb : a.bidder = none)
      (hbal : ∀ y e, bal b y e = bal s.bank y e
        - (if (a.kind = .surplusV1 ∨ a.kind = .surplusV2) ∧ s.coll = y ∧ a.lotDenom = e then a.lot else 0)
        + (if a.kind = .surplusV1 ∧ s.cust = y ∧ a.lotDenom = e then a.lot else 0)) :
      AucOp s (.start a) { s with bank := b, live := a :: s.live }
  | place {op : Op} {who : Acct} {id : Nat} {amt payIn : Int} {a a' : Auction} {b : Bank} (hop : op.Places who id amt)
      (hf : findAuc s.live id = some a) (u : Upd a a' who payIn amt)
      (hlow : a.kind.increasing = false → ∀ fl, s.debtFloor = some fl → 0 ≤ fl → 0 ≤ amt)
      (hu : ∀ y e, y ≠ s.cust → bal b y e = bal s.bank y e
          - (if who = y ∧ a.payDenom = e then payIn else 0) + (if a.bidder = some y ∧ a.payDenom = e then a.pay else 0))
      (hc : who ≠ s.cust → a.bidder ≠ some s.cust → ∀ e, bal b s.cust e = bal s.bank s.cust e
          + (if a.payDenom = e then payIn else 0) - (if a.bidder.isSome ∧ a.payDenom = e then a.pay else 0)) :
      AucOp s op { s with bank := b, live := setAuc s.live a' }
  | refund {id : Nat} {a : Auction} {b : Bank} (hf : findAuc s.live id = some a) (hb : esmBank s a = some b) :
      AucOp s (.settle id) { s with bank := b, live := delAuc s.live id }
  | restart {id : Nat} {a : Auction} (hf : findAuc s.live id = some a) (hb : a.bidder = none) :
      AucOp s (.settle id) { s with live := setAuc s.live (restartRec s.now a) }
  | close {id : Nat} {a : Auction} {w : Acct} {b : Bank} (hf : findAuc s.live id = some a) (hb : a.bidder = some w)
      (hcb : closeBank s a w = some b) : AucOp s (.settle id) { s with bank := b, live := delAuc s.live id, closed := a :: s.closed }
  | quiet {op : Op} (now : Int) (esm : Bool) : AucOp s op { s with now := now, esm := esm }

theorem step_op {s s' : State} {op : Op} (h : step s op = some s') : AucOp s op s' := by
  have place {who id amt} (hop : op.Places who id amt) : AucOp s op s' := by
    obtain ⟨a, a', p, hf, ha, u, hlow⟩ := placed_accepted h hop
    obtain ⟨b, rfl, hu, hc⟩ := accept_spec ha
    exact .place hop hf u hlow hu hc
  cases op with
  | start a => obtain ⟨hb, b, rfl, hbal⟩ := start_spec (show startStep s a = some s' from h); exact .start hb hbal
  | bid who app mapping id denom amt => exact place (.inl ⟨_, _, _, rfl⟩)
  | dbid who app mapping id denom amt ed ea => exact place (.inr ⟨_, _, _, _, _, rfl⟩)
  | tick now =>
    simp only [step, Option.ite_none_left_eq_some, Option.some.injEq] at h
    rw [← h.2]; exact .quiet now s.esm
  | settle id =>
    obtain ⟨a, hf, hr⟩ := settle_spec (show settleStep s id = some s' from h)
    rcases hr with ⟨-, b, heb, rfl⟩ | ⟨-, -, ⟨hb, rfl⟩ | ⟨w, b, hb, hcb, rfl⟩⟩
    · exact .refund hf heb
    · exact .restart hf hb
    · exact .close hf hb hcb
  | esm on => cases h; exact .quiet s.now on

/-- the custody account is not the collector and never bids -/
def Good (s : State) : Prop := s.cust ≠ s.coll ∧ ∀ a ∈ s.live, a.bidder ≠ some s.cust

theorem Good.of_empty {s : State} (hc : s.cust ≠ s.coll) (h0 : s.live = []) : Good s :=
  ⟨hc, by rw [h0]; exact fun _ h => nomatch h⟩

/-- user messages are signed by users: the custody module account `cust` has no key -/
def SenderOk (cust : Acct) (op : Op) : Prop := ∀ who, op.sender? = some who → who ≠ cust

/-- custody balance not accounted for by live auctions -/
def custGap (s : State) (d : Denom) : Int := bal s.bank s.cust d - sumBy (held d) s.live

/-- a user's balance, plus what it has locked as standing bids, minus what it won -/
def userNet (s : State) (x : Acct) (d : Denom) : Int :=
  bal s.bank x d + sumBy (stakeOf x d) s.live - sumBy (gainOf x d) s.closed

structure Keeps (s s' : State) : Prop where
  good : Good s'
  cust : s'.cust = s.cust
  coll : s'.coll = s.coll
  gap : ∀ d, custGap s' d = custGap s d
  net : ∀ x d, x ≠ s.cust → x ≠ s.coll → userNet s' x d = userNet s x d

theorem Keeps.quiet {s : State} (g : Good s) (now : Int) (esm : Bool) : Keeps s { s with now := now, esm := esm } :=
  ⟨g, rfl, rfl, fun _ => rfl, fun _ _ _ _ => rfl⟩

theorem Keeps.refl {s : State} (g : Good s) : Keeps s s := .quiet g s.now s.esm

theorem Keeps.trans {s s1 s2 : State} (h1 : Keeps s s1) (h2 : Keeps s1 s2) : Keeps s s2 :=
  ⟨h2.good, h2.cust.trans h1.cust, h2.coll.trans h1.coll, fun d => (h2.gap d).trans (h1.gap d),
   fun x d hx hy => (h2.net x d (h1.cust ▸ hx) (h1.coll ▸ hy)).trans (h1.net x d hx hy)⟩

theorem held_upd {a a' : Auction} {who : Acct} {payIn amt : Int} (u : Upd a a' who payIn amt) (d : Denom) :
    held d a' - held d a =
      (if a.payDenom = d then payIn else 0) - (if a.bidder.isSome ∧ a.payDenom = d then a.pay else 0) := by
  unfold held
  rw [u.bidder, u.payDenom, u.pay, u.kind, u.lotDenom]
  simp only [Option.isSome_some, true_and]
  by_cases hk : a.kind = .surplusV1
  · rw [(u.inc (by rw [hk]; rfl)).2.1]; omega
  · simp only [hk, false_and, ↓reduceIte, Int.add_zero]

theorem stake_upd {a a' : Auction} {who : Acct} {payIn amt : Int} (u : Upd a a' who payIn amt)
    (x : Acct) (d : Denom) :
    stakeOf x d a' - stakeOf x d a =
      (if who = x ∧ a.payDenom = d then payIn else 0) - (if a.bidder = some x ∧ a.payDenom = d then a.pay else 0) := by
  unfold stakeOf
  simp only [u.bidder, u.payDenom, u.pay, Option.some.injEq]

theorem step_keeps {s s' : State} {op : Op} (h : step s op = some s') (g : Good s) (so : SenderOk s.cust op) :
    Keeps s s' := by
  cases step_op h with
  | @start a b hb hbal =>
    refine ⟨⟨g.1, List.forall_mem_cons.mpr ⟨?_, g.2⟩⟩, rfl, rfl, fun d => ?_, fun x d h1 h2 => ?_⟩
    · rw [hb]; exact nofun
    · simp only [custGap, sumBy, held, hbal, hb, ne_flip g.1, Option.isSome_none, Bool.false_eq_true, false_and, and_false,
        true_and, ↓reduceIte]
      omega
    · simp only [userNet, sumBy, stakeOf, hbal, hb, ne_flip h1, ne_flip h2, reduceCtorEq, false_and, and_false, ↓reduceIte]
      omega
  | @place _ who id amt payIn a a' b hop hf u _ hu hc =>
    have hw := so who hop.sender
    have hm := findAuc_mem hf
    have hf' : findAuc s.live a'.id = some a := by rw [u.id, hm.2]; exact hf
    refine ⟨⟨g.1, forall_setAuc g.2 ?_⟩, rfl, rfl, fun d => ?_, fun x d hx _ => ?_⟩
    · rw [u.bidder]; exact fun c => hw (Option.some.inj c)
    · have := held_upd u d
      simp only [custGap]
      rw [sumBy_setAuc _ hf', hc hw (g.2 a hm.1)]; omega
    · have := stake_upd u x d
      simp only [userNet]
      rw [sumBy_setAuc _ hf', hu x d hx]; omega
  | @refund id a b hf heb =>
    have hm := findAuc_mem hf
    obtain ⟨hu, hc⟩ := esmBank_spec heb
    refine ⟨⟨g.1, forall_delAuc g.2⟩, rfl, rfl, fun d => ?_, fun x d h1 h2 => ?_⟩
    · simp only [custGap]; rw [sumBy_delAuc _ hf, hc (g.2 a hm.1) g.1]; omega
    · simp only [userNet]; rw [sumBy_delAuc _ hf, hu x d h1 h2]; unfold stakeOf; omega
  | @restart id a hf hb =>
    have hm := findAuc_mem hf
    have hf' : findAuc s.live (restartRec s.now a).id = some a := by rw [restartRec_eq, hm.2]; exact hf
    refine ⟨⟨g.1, forall_setAuc g.2 ?_⟩, rfl, rfl, fun d => ?_, fun x d _ _ => ?_⟩
    · rw [restartRec_eq, hb]; exact nofun
    · simp only [custGap]; rw [sumBy_setAuc _ hf']
      simp only [restartRec_eq, held, hb, Option.isSome_none, Bool.false_eq_true, false_and, ↓reduceIte, Int.zero_add]; omega
    · simp only [userNet]; rw [sumBy_setAuc _ hf']
      simp only [restartRec_eq, stakeOf, hb, reduceCtorEq, false_and, ↓reduceIte, Int.sub_zero, Int.add_zero]
  | @close id a w b hf hb hcb =>
    have hm := findAuc_mem hf
    obtain ⟨hu, hc⟩ := closeBank_spec hcb
    have hw : w ≠ s.cust := fun c => g.2 a hm.1 (by rw [hb, c])
    refine ⟨⟨g.1, forall_delAuc g.2⟩, rfl, rfl, fun d => ?_, fun x d h1 h2 => ?_⟩
    · simp only [custGap]; rw [sumBy_delAuc _ hf, hc hb hw g.1]; omega
    · simp only [userNet, sumBy]; rw [sumBy_delAuc _ hf, hu x d h1 h2]
      simp only [stakeOf, gainOf, hb, Option.some.injEq]
      by_cases hwx : w = x <;> simp only [hwx, true_and, false_and, ↓reduceIte] <;> omega
  | quiet now esm => exact .quiet g now esm

theorem step_fixed {s s' : State} {op : Op} (h : step s op = some s') :
    s'.cust = s.cust ∧ s'.coll = s.coll ∧ s'.debtFloor = s.debtFloor := by
  cases step_op h <;> exact ⟨rfl, rfl, rfl⟩

def UsersOnly (cust : Acct) (ops : List Op) : Prop := ∀ op ∈ ops, ∀ who, op.sender? = some who → who ≠ cust

theorem apply_eq (s : State) (op : Op) : apply s op = (step s op).getD s := by
  unfold apply
  cases step s op <;> rfl

theorem apply_skips : Skips apply fun s op s' => step s op = some s' :=
  (funext fun s => funext (apply_eq s) : apply = _) ▸ skips_getD step

theorem run_keeps (s : State) (ops : List Op) (g : Good s) (hu : UsersOnly s.cust ops) : Keeps s (run s ops) :=
  foldl_skips apply_skips (P := Keeps s) (Q := SenderOk s.cust) (fun k q h => k.trans (step_keeps h k.good (k.cust ▸ q))) (.refl g) hu

theorem closed_have_winner (s : State) (ops : List Op) (h0 : ∀ c ∈ s.closed, c.bidder.isSome) :
    ∀ c ∈ (run s ops).closed, c.bidder.isSome := by
  refine foldl_skips apply_skips (P := fun s => ∀ c ∈ s.closed, c.bidder.isSome) (Q := fun _ => True) ?_ h0 fun _ _ => trivial
  intro s op s' h0 _ h
  cases step_op h with
  | close _ hb =>
    intro c hc
    rcases List.mem_cons.mp hc with rfl | hc
    · rw [hb]; rfl
    · exact h0 c hc
  | _ => exact h0

/-- `⌈f·x⌉` is the least integer `k` with `f·x ≤ k·10¹⁸` -/
theorem ceilChange_bounds (f : Dec) (x : Int) :
    ceilChange f x * Dec.P ≥ f * x ∧ (0 ≤ f * x → ceilChange f x * Dec.P < f * x + Dec.P) := by
  refine ⟨Dec.le_truncateInt_ceil_mul _, fun _ => ?_⟩
  have := mt (Dec.truncateInt_ceil_le_iff (f * x) (ceilChange f x - 1)).2 (by show ¬ ceilChange f x ≤ _; omega)
  rw [Int.sub_mul] at this
  omega

theorem ceilChange_nonneg (f : Dec) (x : Int) (hf : 0 ≤ f) (hx : 0 ≤ x) : 0 ≤ ceilChange f x := by
  have h := Int.le_trans (Int.mul_nonneg hf hx) (ceilChange_bounds f x).1
  simp only [Dec.P] at h
  omega

/-- every decreasing-bid auction has a non-negative standing lot -/
def LotsOk (s : State) : Prop := ∀ a ∈ s.live, a.kind.increasing = false → 0 ≤ a.lot

theorem step_lotsOk {s s' : State} {op : Op} (h : step s op = some s') (hl : LotsOk s)
    (fl : Int) (hfl : s.debtFloor = some fl) (h0 : 0 ≤ fl) (hst : ∀ a, op = .start a → 0 ≤ a.lot) : LotsOk s' := by
  cases step_op h with
  | start => exact List.forall_mem_cons.mpr ⟨fun _ => hst _ rfl, hl⟩
  | place _ _ u hlow =>
    refine forall_setAuc hl fun hk => ?_
    rw [u.kind] at hk; rw [(u.dec hk).2.1]; exact hlow hk fl hfl h0
  | @restart _ a hf =>
    refine forall_setAuc hl fun hk => ?_
    rw [restartRec_eq] at hk ⊢; exact hl a (findAuc_mem hf).1 hk
  | refund | close => exact forall_delAuc hl
  | quiet => exact hl

theorem run_lotsOk (s : State) (ops : List Op) (hl : LotsOk s) (fl : Int) (hfl : s.debtFloor = some fl) (h0 : 0 ≤ fl)
    (hst : ∀ op ∈ ops, ∀ a, op = .start a → 0 ≤ a.lot) : LotsOk (run s ops) :=
  (foldl_skips apply_skips (P := fun s => LotsOk s ∧ s.debtFloor = some fl)
    (fun p q h => ⟨step_lotsOk h p.1 fl p.2 h0 q, (step_fixed h).2.2.trans p.2⟩) ⟨hl, hfl⟩ hst).1

end Comdex.English
