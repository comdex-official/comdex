import Comdex.Model.DutchV2
/-! The bank of the Dutch models: what `send`, `sendPos` and `burn` do to every balance. -/
namespace Comdex.DutchV2

theorem get_set (b : Bank) (a : Acct) (d : Denom) (v : Int) (a' : Acct) (d' : Denom) :
    (b.set a d v).get a' d' = if a' = a ∧ d' = d then v else b.get a' d' := by
  unfold Bank.get Bank.set
  rw [List.lookup_cons]
  by_cases h : a' = a ∧ d' = d
  · obtain ⟨rfl, rfl⟩ := h; simp
  · have : ((a', d') == (a, d)) = false := beq_eq_false_iff_ne.mpr fun e => h (Prod.mk.inj e)
    rw [this, if_neg h]

theorem get_set_add (b : Bank) (a : Acct) (d : Denom) (v : Int) (a' : Acct) (d' : Denom) :
    (b.set a d (b.get a d + v)).get a' d' = b.get a' d' + if a' = a ∧ d' = d then v else 0 := by
  rw [get_set]
  split
  · next h => rw [h.1, h.2]
  · rw [Int.add_zero]

/-- the transferred amount of the `if amt > 0 { send }` idiom -/
def posPart (x : Int) : Int := if x > 0 then x else 0

theorem posPart_nonneg (x : Int) : 0 ≤ posPart x := by unfold posPart; split <;> omega
theorem posPart_eq {x : Int} (h : 0 ≤ x) : posPart x = x := by unfold posPart; split <;> omega

/-- the fixed `send` (callers: `send_xfer`); if `frm = dst` the writes cancel -/
theorem send_ok {b b' : Bank} {frm dst : Acct} {d : Denom} {amt : Int} (h : send b frm dst d amt = .ok b') :
    0 ≤ amt ∧ amt ≤ b.get frm d ∧
    ∀ a' d', b'.get a' d' = b.get a' d' + (if a' = dst ∧ d' = d then amt else 0) - (if a' = frm ∧ d' = d then amt else 0) := by
  unfold send at h
  split at h
  · cases h
  · split at h
    · cases h
    · cases h
      refine ⟨by omega, by omega, fun a' d' => ?_⟩
      rw [get_set_add, Int.sub_eq_add_neg (a := b.get frm d) (b := amt), get_set_add]
      split <;> omega

theorem burn_ok {b b' : Bank} {a : Acct} {d : Denom} {amt : Int} (h : burn b a d amt = .ok b') :
    0 ≤ amt ∧ ∀ a' d', b'.get a' d' = b.get a' d' - (if a' = a ∧ d' = d then amt else 0) := by
  unfold burn at h
  split at h
  · cases h
  · split at h
    · cases h
    · cases h
      refine ⟨by omega, fun a' d' => ?_⟩
      rw [Int.sub_eq_add_neg (a := b.get a d) (b := amt), get_set_add]
      split <;> omega

/-- what a transfer of `amt` from `frm` to `dst` adds to the balance of `(x, d)` -/
def xfer (frm dst : Acct) (dn : Denom) (amt : Int) (x : Acct) (d : Denom) : Int :=
  (if x = dst ∧ d = dn then amt else 0) - (if x = frm ∧ d = dn then amt else 0)

theorem xfer_zero (frm dst : Acct) (dn : Denom) (x : Acct) (d : Denom) : xfer frm dst dn 0 x d = 0 := by
  unfold xfer; split <;> split <;> rfl

theorem send_xfer {b b' : Bank} {frm dst : Acct} {d : Denom} {amt : Int} (h : send b frm dst d amt = .ok b') :
    0 ≤ amt ∧ ∀ x d', b'.get x d' = b.get x d' + xfer frm dst d amt x d' :=
  have ⟨h0, _, hb⟩ := send_ok h
  ⟨h0, fun x d' => (hb x d').trans (Int.add_sub_assoc ..)⟩

theorem sendPos_xfer {b b' : Bank} {frm dst : Acct} {d : Denom} {amt : Int} (h : sendPos b frm dst d amt = .ok b') :
    ∀ x d', b'.get x d' = b.get x d' + xfer frm dst d (posPart amt) x d' := by
  unfold sendPos at h
  by_cases hp : amt > 0
  · rw [if_pos hp] at h
    rw [show posPart amt = amt from if_pos hp]
    exact (send_xfer h).2
  · rw [if_neg hp] at h
    cases h
    rw [show posPart amt = 0 from if_neg hp]
    exact fun x d' => by rw [xfer_zero, Int.add_zero]

theorem sendPos_of_nonneg {b b' : Bank} {frm dst : Acct} {d : Denom} {amt : Int} (h : sendPos b frm dst d amt = .ok b')
    (h0 : 0 ≤ amt) : ∀ x d', b'.get x d' = b.get x d' + xfer frm dst d amt x d' :=
  posPart_eq h0 ▸ sendPos_xfer h

theorem burnPos_ok {b b' : Bank} {a : Acct} {d : Denom} {amt : Int}
    (h : (if amt > 0 then burn b a d amt else .ok b) = .ok b') (h0 : 0 ≤ amt) :
    ∀ a' d', b'.get a' d' = b.get a' d' - (if a' = a ∧ d' = d then amt else 0) := by
  by_cases hp : amt > 0
  · rw [if_pos hp] at h; exact (burn_ok h).2
  · rw [if_neg hp] at h
    cases h
    intro a' d'
    rw [show amt = 0 by omega]; simp

end Comdex.DutchV2
