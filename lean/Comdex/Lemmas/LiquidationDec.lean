import Comdex.Model.Liquidation
import Comdex.Lemmas.DecRound
/-! The collateralisation ratio is antitone in the debt (for the accrual theorems of C09).  The proofs here need only
`Lemmas/DecCore.lean`.  Mathlib enters the C09 chain only through this import of `Lemmas/DecRound.lean`, and has to: two statements
of `Props/C09.lean` (`panic_reachable_if_counter_gt_length`, `pass_follows_abstract_sweep`) write `2 ^ 63` on `Nat`, and that power is
found through `Monoid.toNPow Nat` when Mathlib is loaded and through core's `instPowNat` when it is not. -/
namespace Comdex.Liquidation

theorem assetValue_mono (amt amt' price dec : Int) (h : amt ≤ amt') (hp : 0 ≤ price) (hd : 0 < dec) :
    assetValue amt price dec ≤ assetValue amt' price dec := by
  unfold assetValue
  rw [Dec.mul_ofInt, Dec.mul_ofInt]
  exact Dec.quo_mono_left _ _ _
    (Int.mul_le_mul_of_nonneg_right (Int.mul_le_mul_of_nonneg_right h (Int.le_of_lt Dec.P_pos)) hp) (Dec.ofInt_pos hd)

/-- prices and decimals are non-negative (they are `uint64` / positive `sdk.Int`s in the stores) -/
def EnvNonneg (e : Env) (p : Product) : Prop :=
  0 ≤ p.outFixed ∧ ∀ a, a ∈ e.assets → 0 ≤ a.decimals ∧ ∀ pr, a.price = some pr → 0 ≤ pr

theorem valueOf_mono (e : Env) (hn : ∀ a, a ∈ e.assets → 0 ≤ a.decimals ∧ ∀ pr, a.price = some pr → 0 ≤ pr)
    (id : Nat) (d d' x x' : Int) (hdd : d ≤ d')
    (h : e.valueOf id d = some x) (h' : e.valueOf id d' = some x') : x ≤ x' := by
  unfold Env.valueOf at h h'
  split at h
  · cases h
  next a ha =>
  simp only [ha] at h'
  split at h
  · cases h
  next pr hp =>
  simp only [hp] at h'
  obtain ⟨hd, h⟩ := Option.ite_none_left_eq_some.1 h
  obtain ⟨_, h'⟩ := Option.ite_none_left_eq_some.1 h'
  cases h; cases h'
  have := hn a (List.mem_of_find?_eq_some ha)
  exact assetValue_mono d d' pr a.decimals hdd (this.2 pr hp) (by omega)

/-- the inner `let vout?` of `vaultCR` -/
def debtValue (e : Env) (p : Product) (d : Int) : Option Dec :=
  if p.outOracle then e.valueOf p.assetOut d
  else match e.asset? p.assetOut with
    | some ao => if ao.decimals = 0 then none else some (assetValue d p.outFixed ao.decimals)
    | none => none

theorem vaultCR_spec {e : Env} {p : Product} {a d : Int} {cr : Dec} (h : vaultCR e p a d = some cr) :
    ∃ vin vout, e.valueOf p.assetIn a = some vin ∧ debtValue e p d = some vout ∧ 0 < vin ∧ 0 < vout ∧ cr = Dec.quo vin vout := by
  unfold vaultCR at h
  split at h
  next _ ao _ hao =>
    split at h
    · cases h
    next vin hvin =>
    have hd : debtValue e p d = (if p.outOracle then e.valueOf p.assetOut d
        else if ao.decimals = 0 then none else some (assetValue d p.outFixed ao.decimals)) := by
      unfold debtValue; rw [hao]
    simp only at h
    rw [← hd] at h
    split at h
    · cases h
    next vout hvout =>
    obtain ⟨h1, h⟩ := Option.ite_none_left_eq_some.1 h
    obtain ⟨h2, h⟩ := Option.ite_none_left_eq_some.1 h
    exact ⟨vin, vout, hvin, hvout, Int.not_le.1 h1, Int.not_le.1 h2, (Option.some.inj h).symm⟩
  · cases h

theorem debtValue_mono {e : Env} {p : Product} (hn : EnvNonneg e p) {d d' : Int} {vo vo' : Dec} (hdd : d ≤ d')
    (h : debtValue e p d = some vo) (h' : debtValue e p d' = some vo') : vo ≤ vo' := by
  unfold debtValue at h h'
  split at h
  · next ho =>
    rw [if_pos ho] at h'
    exact valueOf_mono e hn.2 p.assetOut d d' vo vo' hdd h h'
  · next ho =>
    rw [if_neg ho] at h'
    split at h
    next ao hao =>
      rw [hao] at h'
      obtain ⟨hdec, h⟩ := Option.ite_none_left_eq_some.1 h
      obtain ⟨_, h'⟩ := Option.ite_none_left_eq_some.1 h'
      cases h; cases h'
      have := (hn.2 ao (List.mem_of_find?_eq_some hao)).1
      exact assetValue_mono d d' p.outFixed ao.decimals hdd hn.1 (by omega)
    · cases h

theorem vaultCR_anti_debt (e : Env) (p : Product) (amountIn d d' : Int) (cr cr' : Dec) (hn : EnvNonneg e p)
    (hdd : d ≤ d') (h : vaultCR e p amountIn d = some cr) (h' : vaultCR e p amountIn d' = some cr') : cr' ≤ cr := by
  obtain ⟨vin, vo, hvin, hvo, hin, hpos, rfl⟩ := vaultCR_spec h
  obtain ⟨vin', vo', hvin', hvo', _, _, rfl⟩ := vaultCR_spec h'
  cases hvin.symm.trans hvin'
  exact Dec.quo_anti_right vin vo vo' (Int.le_of_lt hin) hpos (debtValue_mono hn hdd hvo hvo')

end Comdex.Liquidation
