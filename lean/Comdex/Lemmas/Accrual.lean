import Comdex.Model.Accrual
import Comdex.Lemmas.LendRates
import Mathlib.Tactic.Linarith
import Mathlib.Tactic.Ring
/-! The exact model of the IEEE-754 roundings around `math.Pow` (`Model/Accrual.lean`, C18) is monotone; what one tracker step pays and carries. -/
namespace Comdex.Accrual

theorem rhe_spec (p q : Nat) (hq : 0 < q) :
    2 * (rhe p q * q) ≤ 2 * p + q ∧ 2 * p ≤ 2 * (rhe p q * q) + q := by
  have h1 := Nat.div_add_mod p q
  have h2 := Nat.mod_lt p hq
  rw [Nat.mul_comm (rhe p q)]
  unfold rhe
  generalize p / q = f at *
  generalize p % q = r at *
  simp only []
  split_ifs <;> (try rw [Nat.mul_add_one]) <;> omega

/-- monotone: two arguments whose roundings were out of order would both sit on the same half-way point, hence be equal -/
theorem rhe_mono (p p' q : Nat) (hq : 0 < q) (h : p ≤ p') : rhe p q ≤ rhe p' q := by
  by_contra hc
  have a := (rhe_spec p q hq).1
  have b := (rhe_spec p' q hq).2
  have c : (rhe p' q + 1) * q ≤ rhe p q * q := Nat.mul_le_mul_right q (by omega)
  rw [Nat.add_one_mul] at c
  have : p = p' := by omega
  subst this
  omega

theorem rhe_mul_exact (n q : Nat) (hq : 0 < q) : rhe (n * q) q = n := by
  unfold rhe
  simp only [Nat.mul_div_cancel n hq, Nat.mul_mod_left]
  simp [hq]

theorem rhe_zero (q : Nat) (hq : 0 < q) : rhe 0 q = 0 := by
  simpa using rhe_mul_exact 0 q hq

/-! ### binades: a double keeps 53 bits, so an integer part of `53 + k` bits (`k = expo`) lies in `[2^(52+k), 2^(53+k))` -/
theorem expo_mono (f f' : Nat) (h : f ≤ f') : expo f ≤ expo f' := by
  unfold expo
  have : Nat.log2 f ≤ Nat.log2 f' := by
    rcases Nat.eq_zero_or_pos f with h0 | h0
    · subst h0; simp
    · have hf' : f' ≠ 0 := by omega
      have := Nat.log2_self_le (Nat.pos_iff_ne_zero.mp h0)
      by_contra hc
      have hc : Nat.log2 f' < Nat.log2 f := by omega
      have := (Nat.log2_lt hf').mp hc
      omega
  omega

theorem lt_binade_top (f : Nat) : f < 2 ^ (53 + expo f) := by
  have h := @Nat.lt_log2_self f
  unfold expo
  rcases Nat.lt_or_ge (Nat.log2 f + 1) 53 with hlt | hge
  · have : Nat.log2 f + 1 - 53 = 0 := by omega
    rw [this]
    exact lt_of_lt_of_le h (Nat.pow_le_pow_right (by decide) (by omega))
  · have : 53 + (Nat.log2 f + 1 - 53) = Nat.log2 f + 1 := by omega
    rw [this]; exact h

theorem binade_bottom_le (f : Nat) (hk : 0 < expo f) : 2 ^ (52 + expo f) ≤ f := by
  unfold expo at hk ⊢
  have hf : f ≠ 0 := by
    intro h; subst h; simp at hk
  have := Nat.log2_self_le hf
  have e : 52 + (Nat.log2 f + 1 - 53) = Nat.log2 f := by omega
  rw [e]; exact this

theorem roundNat_le_top (p q : Nat) (hq : 0 < q) : roundNat p q ≤ 2 ^ (53 + expo (p / q)) := by
  unfold roundNat
  simp only []
  generalize hk : expo (p / q) = k
  have hq' : 0 < q * 2 ^ k := Nat.mul_pos hq (Nat.pow_pos (by decide))
  have hlt : p / q < 2 ^ (53 + k) := by rw [← hk]; exact lt_binade_top _
  have hp : p < q * 2 ^ (53 + k) := by
    have := (Nat.div_lt_iff_lt_mul hq).mp hlt
    rw [Nat.mul_comm]; exact this
  have hp' : p ≤ 2 ^ 53 * (q * 2 ^ k) := by
    have : q * 2 ^ (53 + k) = 2 ^ 53 * (q * 2 ^ k) := by rw [Nat.pow_add]; ring
    omega
  have := rhe_mono p _ _ hq' hp'
  rw [rhe_mul_exact _ _ hq'] at this
  calc rhe p (q * 2 ^ k) * 2 ^ k ≤ 2 ^ 53 * 2 ^ k := Nat.mul_le_mul_right _ this
    _ = 2 ^ (53 + k) := by rw [Nat.pow_add]

theorem roundNat_ge_bottom (p q : Nat) (hq : 0 < q) (hk : 0 < expo (p / q)) :
    2 ^ (52 + expo (p / q)) ≤ roundNat p q := by
  unfold roundNat
  simp only []
  have hb := binade_bottom_le (p / q) hk
  generalize expo (p / q) = k at *
  have hq' : 0 < q * 2 ^ k := Nat.mul_pos hq (Nat.pow_pos (by decide))
  have hp : 2 ^ 52 * (q * 2 ^ k) ≤ p := by
    have h1 : 2 ^ (52 + k) * q ≤ p := by
      calc 2 ^ (52 + k) * q ≤ (p / q) * q := Nat.mul_le_mul_right _ hb
        _ ≤ p := Nat.div_mul_le_self p q
    have : 2 ^ 52 * (q * 2 ^ k) = 2 ^ (52 + k) * q := by rw [Nat.pow_add]; ring
    omega
  have := rhe_mono _ p _ hq' hp
  rw [rhe_mul_exact _ _ hq'] at this
  calc 2 ^ (52 + k) = 2 ^ 52 * 2 ^ k := by rw [Nat.pow_add]
    _ ≤ rhe p (q * 2 ^ k) * 2 ^ k := Nat.mul_le_mul_right _ this

/-- within a binade `rhe_mono`; across binades the lower one ends where the upper one begins -/
theorem roundNat_mono (p p' q : Nat) (hq : 0 < q) (h : p ≤ p') : roundNat p q ≤ roundNat p' q := by
  have hf : p / q ≤ p' / q := Nat.div_le_div_right h
  have hk := expo_mono _ _ hf
  rcases Nat.lt_or_ge (expo (p / q)) (expo (p' / q)) with hlt | hge
  · have h1 := roundNat_le_top p q hq
    have h2 := roundNat_ge_bottom p' q hq (by omega)
    have : 2 ^ (53 + expo (p / q)) ≤ 2 ^ (52 + expo (p' / q)) := Nat.pow_le_pow_right (by decide) (by omega)
    omega
  · have e : expo (p / q) = expo (p' / q) := le_antisymm hk hge
    unfold roundNat
    simp only [e]
    exact Nat.mul_le_mul_right _ (rhe_mono p p' _ (Nat.mul_pos hq (Nat.pow_pos (by decide))) h)

theorem roundNat_zero (q : Nat) (hq : 0 < q) : roundNat 0 q = 0 := by
  unfold roundNat
  simp [expo, rhe_zero q hq]

theorem U_pos : 0 < U := by unfold U; apply Nat.pow_pos; decide
theorem P18_pos : 0 < P18 := by unfold P18; exact Nat.pow_pos (by decide)

theorem fround_of_nonneg (p : Int) (q : Nat) (hp : 0 ≤ p) : fround p q = (roundNat p.toNat q : Int) := by
  unfold fround; simp [not_lt.mpr hp]

theorem fround_nonneg (p : Int) (q : Nat) (hp : 0 ≤ p) : 0 ≤ fround p q := by
  rw [fround_of_nonneg p q hp]; exact Int.natCast_nonneg _

theorem fround_mono (p p' : Int) (q : Nat) (hq : 0 < q) (hp : 0 ≤ p) (h : p ≤ p') : fround p q ≤ fround p' q := by
  rw [fround_of_nonneg p q hp, fround_of_nonneg p' q (le_trans hp h)]
  exact Int.ofNat_le.mpr (roundNat_mono _ _ q hq (Int.toNat_le_toNat h))

theorem fround_zero (q : Nat) (hq : 0 < q) : fround 0 q = 0 := by
  rw [fround_of_nonneg 0 q (le_refl _)]; simp [roundNat_zero q hq]

theorem fsub_nonneg (a b : Int) (h : b ≤ a) : 0 ≤ fsub a b := fround_nonneg _ _ (by omega)
theorem fsub_self (a : Int) : fsub a a = 0 := by unfold fsub; rw [Int.sub_self]; exact fround_zero 1 (by decide)
theorem fsub_mono (a a' b : Int) (hb : b ≤ a) (h : a ≤ a') : fsub a b ≤ fsub a' b :=
  fround_mono _ _ 1 (by decide) (by omega) (by omega)

theorem fmul_nonneg (a b : Int) (ha : 0 ≤ a) (hb : 0 ≤ b) : 0 ≤ fmul a b :=
  fround_nonneg _ _ (Int.mul_nonneg ha hb)
theorem fmul_zero_left (b : Int) : fmul 0 b = 0 := by unfold fmul; rw [Int.zero_mul]; exact fround_zero U U_pos
theorem fmul_mono_left (a a' b : Int) (ha : 0 ≤ a) (h : a ≤ a') (hb : 0 ≤ b) : fmul a b ≤ fmul a' b :=
  fround_mono _ _ U U_pos (Int.mul_nonneg ha hb) (Int.mul_le_mul_of_nonneg_right h hb)
theorem fmul_mono_right (a b b' : Int) (ha : 0 ≤ a) (hb : 0 ≤ b) (h : b ≤ b') : fmul a b ≤ fmul a b' :=
  fround_mono _ _ U U_pos (Int.mul_nonneg ha hb) (Int.mul_le_mul_of_nonneg_left h ha)

theorem ofDec_nonneg (r : Int) (hr : 0 ≤ r) : 0 ≤ ofDec r :=
  fround_nonneg _ _ (Int.mul_nonneg hr (Int.natCast_nonneg _))
theorem ofDec_mono (r r' : Int) (hr : 0 ≤ r) (h : r ≤ r') : ofDec r ≤ ofDec r' :=
  fround_mono _ _ P18 P18_pos (Int.mul_nonneg hr (Int.natCast_nonneg _))
    (Int.mul_le_mul_of_nonneg_right h (Int.natCast_nonneg _))

theorem fmt18_of_nonneg (x : Int) (hx : 0 ≤ x) : fmt18 x = (rhe (x.toNat * P18) U : Int) := by
  unfold fmt18; simp [not_lt.mpr hx]
theorem fmt18_nonneg (x : Int) (hx : 0 ≤ x) : 0 ≤ fmt18 x := by
  rw [fmt18_of_nonneg x hx]; exact Int.natCast_nonneg _
theorem fmt18_zero : fmt18 0 = 0 := by
  rw [fmt18_of_nonneg 0 (le_refl _)]; simp [rhe_zero U U_pos]
theorem fmt18_mono (x x' : Int) (hx : 0 ≤ x) (h : x ≤ x') : fmt18 x ≤ fmt18 x' := by
  rw [fmt18_of_nonneg x hx, fmt18_of_nonneg x' (le_trans hx h)]
  exact Int.ofNat_le.mpr (rhe_mono _ _ U U_pos (Nat.mul_le_mul_right _ (Int.toNat_le_toNat h)))

-- `Accrual.yearsDec` is `LendRates.yearsDec` written a second time
theorem yF_zero : yF 0 = 0 := by
  unfold yF yearsDec Dec.quoInt Dec.ofInt ofDec
  simp [fround_zero P18 P18_pos]

theorem yF_mono (s t : Int) (hs : 0 ≤ s) (h : s ≤ t) : yF s ≤ yF t :=
  ofDec_mono _ _ (LendRates.years_nonneg s hs) (LendRates.years_mono s t hs h)

theorem xF_mono (l l' : Dec) (hl : 0 ≤ l) (h : l ≤ l') : xF l ≤ xF l' :=
  ofDec_mono _ _ (Int.add_nonneg (by decide) hl) (Int.add_le_add_left h _)

theorem aF_nonneg (n : Int) (hn : 0 ≤ n) : 0 ≤ aF n := ofDec_nonneg _ (Int.mul_nonneg hn (by decide))
theorem aF_mono (n n' : Int) (hn : 0 ≤ n) (h : n ≤ n') : aF n ≤ aF n' :=
  ofDec_mono _ _ (Int.mul_nonneg hn (by decide)) (Int.mul_le_mul_of_nonneg_right h (by decide))

theorem interestOfPow_nonneg (p a : Int) (hp : (U : Int) ≤ p) (ha : 0 ≤ a) : 0 ≤ interestOfPow p a :=
  fmt18_nonneg _ (fmul_nonneg _ _ (fsub_nonneg _ _ hp) ha)

theorem interestOfPow_one (a : Int) : interestOfPow (U : Int) a = 0 := by
  unfold interestOfPow productOfPow
  rw [fsub_self, fmul_zero_left, fmt18_zero]

theorem interestOfPow_mono (p p' a a' : Int) (hp : (U : Int) ≤ p) (hpp : p ≤ p') (ha : 0 ≤ a) (haa : a ≤ a') :
    interestOfPow p a ≤ interestOfPow p' a' := by
  unfold interestOfPow productOfPow
  have d0 := fsub_nonneg p (U : Int) hp
  have d1 := fsub_mono p p' (U : Int) hp hpp
  apply fmt18_mono _ _ (fmul_nonneg _ _ d0 ha)
  exact le_trans (fmul_mono_left _ _ a d0 d1 ha) (fmul_mono_right _ a a' (le_trans d0 d1) ha haa)

theorem calcRewards_eq_ok (n : Int) (lsr : Dec) (s : Int) (p : Int) (d : Dec)
    (h : calcRewards n lsr s (some p) = .ok d) : d = interestOfPow p (aF n) ∧ 0 ≤ s := by
  unfold calcRewards at h
  split at h
  · cases h
  · rename_i hs
    split at h
    · cases h
    · simp only [] at h
      split at h
      · cases h
      · split at h
        · cases h; exact ⟨rfl, not_lt.mp hs⟩
        · cases h

theorem trackerStep_of_lt (tr x : Dec) (h : ¬ Dec.one ≤ tr + x) : trackerStep tr x = (0, tr + x) := by
  unfold trackerStep; exact if_neg h

theorem trackerStep_of_ge (tr x : Dec) (h : Dec.one ≤ tr + x) :
    trackerStep tr x = (Dec.truncateInt (tr + x), tr + x - Dec.ofInt (Dec.truncateInt (tr + x))) := by
  unfold trackerStep; exact if_pos h

theorem trackerStep_sum (tr x : Dec) : Dec.ofInt (trackerStep tr x).1 + (trackerStep tr x).2 = tr + x := by
  by_cases h : Dec.one ≤ tr + x
  · rw [trackerStep_of_ge tr x h]; exact add_sub_cancel _ _
  · rw [trackerStep_of_lt tr x h]; show (0 : Int) * Dec.P + _ = _; rw [Int.zero_mul, Int.zero_add]

theorem trackerStep_spec (tr x : Dec) (h : 0 ≤ tr + x) :
    0 ≤ (trackerStep tr x).1 ∧ 0 ≤ (trackerStep tr x).2 ∧ (trackerStep tr x).2 < Dec.one ∧
    (trackerStep tr x).1 * Dec.P + (trackerStep tr x).2 = tr + x := by
  have hs := trackerStep_sum tr x
  by_cases h1 : Dec.one ≤ tr + x
  · rw [trackerStep_of_ge tr x h1] at hs ⊢
    exact ⟨(Dec.truncateInt_split h).1, (Dec.truncateInt_split h).2.1, (Dec.truncateInt_split h).2.2, hs⟩
  · rw [trackerStep_of_lt tr x h1] at hs ⊢
    exact ⟨Int.le_refl 0, h, lt_of_not_ge h1, hs⟩

theorem trackerStep_pay_pos (tr x : Dec) (hge : Dec.one ≤ tr + x) : 1 ≤ (trackerStep tr x).1 := by
  obtain ⟨_, _, h1, hs⟩ := trackerStep_spec tr x (le_trans (by decide) hge)
  simp only [Dec, Dec.one, Dec.P] at *
  omega

theorem calc_into_tracker (ops : FloatOps) (n : Int) (rate : Dec) (secs : Int) (x tr : Dec)
    (hn : 0 ≤ n) (hr : 0 ≤ rate) (htr : 0 ≤ tr)
    (h : calcRewards n rate secs (some (ops.pow (xF rate) (yF secs))) = .ok x) :
    0 ≤ secs ∧ 0 ≤ (trackerStep tr x).1 ∧ 0 ≤ (trackerStep tr x).2 ∧ (trackerStep tr x).2 < Dec.one ∧
      (trackerStep tr x).1 * Dec.P + (trackerStep tr x).2 = tr + interest ops n rate secs := by
  obtain ⟨ex, hsec⟩ := calcRewards_eq_ok _ _ _ _ _ h
  have hx0 : 0 ≤ x := by
    rw [ex]; exact interestOfPow_nonneg _ _ (ops.pow_ge_one _ _ hr hsec) (aF_nonneg n hn)
  have := trackerStep_spec tr x (Int.add_nonneg htr hx0)
  rw [ex] at this ⊢
  exact ⟨hsec, this⟩

end Comdex.Accrual
