import Comdex.Lemmas.LendBook
/-!
Every step of `Model/Lend.lean` against the book invariants (totals, id lists, reserve ledger), bundled as `Keeps`: `H_keeps` per handler,
read off its effect `H_ok` (books: a composition of `Book` transitions; ledger: bank call by bank call), and `step_keeps`; first the side
conditions the C08 statements are written in (`HandoverClean`, `cleanStep`, `Op.signer`, `Op.isBeginBlock`). Core Lean only.
-/
namespace Comdex.Lend

/-- The hand-over of borrow `k` is *clean* when the lend position survives it, or when the handed-over pledge is all that
was left in the position. `UpdateLockedBorrows` deletes the position whenever `AmountIn − pledge ≤ 0` without looking at
`AvailableToBorrow` or at the other borrows (see `C08.totalLend_handover_counterexample`). -/
def HandoverClean (s : State) (k : Nat) : Prop :=
  match getBorrow s.borrows k with
  | none => True
  | some b =>
    match getLend s.lends b.lendingId with
    | none => True
    | some l => l.amountIn - b.amountIn > 0 ∨ l.avail + pledgedOf s.borrows l.id = b.amountIn

instance (s : State) (k : Nat) : Decidable (HandoverClean s k) := by
  unfold HandoverClean; split
  · infer_instance
  · split <;> infer_instance

theorem HandoverClean.use {s : State} {k : Nat} (hc : HandoverClean s k) {b : Borrow} {l : Lend} (hb : getBorrow s.borrows k = some b)
    (hl : getLend s.lends b.lendingId = some l) : l.amountIn - b.amountIn > 0 ∨ l.avail + pledgedOf s.borrows l.id = b.amountIn := by
  unfold HandoverClean at hc
  rw [hb] at hc
  simp only at hc
  rw [hl] at hc
  exact hc

def cleanStep (s : State) : Op → Prop
  | .handover k _ => HandoverClean s k
  | _ => True

instance (s : State) (op : Op) : Decidable (cleanStep s op) := by
  cases op <;> unfold cleanStep <;> infer_instance

def Op.isHandover : Op → Bool
  | .handover .. => true
  | _ => false

def Op.signer : Op → Option Nat
  | .lend u .. => some u
  | .deposit u .. => some u
  | .withdraw u .. => some u
  | .closeLend u .. => some u
  | .borrow u .. => some u
  | .borrowAlternate u .. => some u
  | .depositBorrow u .. => some u
  | .draw u .. => some u
  | .repay u .. => some u
  | .closeBorrow u .. => some u
  | .repayWithdraw u .. => some u
  | .calcAll u .. => some u
  | .fundModule u .. => some u
  | .fundReserve u .. => some u
  | .bid u .. => some u
  | .auctionClose u .. => some u
  | _ => none

def Op.isBeginBlock : Op → Bool
  | .beginBlock => true
  | _ => false

/-- `clean`, `signed` as in `Book`; `signed` also guards the ledger. `tl` and `ids` need the ids distinct, hence `Core` of the state
before, which `run_keeps` has from `core`; `own`, `bal` rest on `Own` alone. -/
structure Keeps (cfg : Cfg) (clean signed : Prop) (s s' : State) : Prop where
  core : CoreS cfg s → CoreS cfg s'
  tl : CoreS cfg s → clean → TL s.lends s.borrows s.stats → TL s'.lends s'.borrows s'.stats
  ids : CoreS cfg s → IdsS cfg s → IdsS cfg s'
  own : signed → OwnS cfg s → OwnS cfg s'
  bal : CfgOk cfg → signed → OwnS cfg s → BalStep cfg s s'

variable {cfg : Cfg} {s s' s1 : State} {clean signed : Prop}

theorem Keeps.refl (s : State) : Keeps cfg clean signed s s := ⟨id, fun _ _ => id, fun _ => id, fun _ => id, fun _ _ _ => .refl _ _⟩

theorem Keeps.trans {s2 : State} (a : Keeps cfg clean signed s s1) (b : Keeps cfg clean signed s1 s2) : Keeps cfg clean signed s s2 :=
  ⟨fun c => b.core (a.core c), fun c k t => b.tl (a.core c) k (a.tl c k t), fun c i => b.ids (a.core c) (a.ids c i),
   fun h o => b.own h (a.own h o), fun ok h o => (a.bal ok h o).trans (b.bal ok h (a.own h o))⟩

theorem Keeps.mono {clean' signed' : Prop} (a : Keeps cfg clean signed s s') (f : clean' → clean) (g : signed' → signed) :
    Keeps cfg clean' signed' s s' :=
  ⟨a.core, fun c k => a.tl c (f k), a.ids, fun h => a.own (g h), fun ok h => a.bal ok (g h)⟩

/-- a user message's condition read off the step's: `Op.signer` of the message is `some u` -/
theorem Keeps.user {u : Nat} {q : Prop} (a : Keeps cfg clean (u ≠ cfg.reserveAcct) s s') :
    Keeps cfg clean (some u ≠ some cfg.reserveAcct ∧ q) s s' :=
  a.mono id (ne_of_apply_ne some ·.1)

theorem Book.keeps (b : Book cfg clean signed s.books s'.books) (bal : CfgOk cfg → signed → OwnS cfg s → BalStep cfg s s') :
    Keeps cfg clean signed s s' :=
  ⟨b.core, b.tl, b.ids, b.own, bal⟩

variable {u k d a po app pid dIn dOut : Nat} {amt r w x y aIn aOut : Int} {ext e1 e2 : ExtB} {stable : Bool}

theorem iterLends_keeps (h : iterLends cfg s k r = .ok s') : Keeps cfg clean signed s s' := by
  obtain ⟨l, hl, ⟨-, pool, hp, rates, -, st, -, ⟨-, -, bk1, h1, bk2, h2, bk3, h3, rfl⟩ | ⟨-, bk1, h1, rfl⟩⟩ | ⟨-, rfl⟩⟩ := iterLends_ok h
  · refine Book.keeps (.lendDelta r (getLend_id hl)) fun ok _ o a => ?_
    have hp := pool_acct_ne ok hp
    dsimp only
    rw [flow_payReward, send_other h3 hp (o.lends l (getLend_mem hl).1), mint_other h2 hp, send_from h1 hp]
    split <;> omega
  · exact Book.keeps (.trans (.stats _ _ (moves_totalInterest _)) (.lendDelta r (getLend_id hl))) fun ok _ o =>
      .of_unchanged (fun a => flow_noteReward ..) (send_other h1 (pool_acct_ne ok hp) (o.lends l (getLend_mem hl).1))
  · exact .refl _

theorem iterBorrow_keeps {e : ExtB} (h : iterBorrow s k e = .ok s') : Keeps cfg clean signed s s' := by
  obtain ⟨dI, dR, b, -, hb, rfl⟩ := iterBorrow_ok h
  exact Book.keeps (.borrowTouch (getBorrow_id hb)) fun _ _ _ => .refl _ _

theorem iterBorrow_get {e : ExtB} {b0 b : Borrow} (h : iterBorrow s k e = .ok s1) (h0 : getBorrow s.borrows k = some b0)
    (h1 : getBorrow s1.borrows k = some b) : ∃ dI dR, e = .val dI dR ∧
      b = { b0 with interest := b0.interest + dI, reserveInt := if dR > 0 then b0.reserveInt + dR else b0.reserveInt } ∧
      s1 = { s with borrows := setBorrow s.borrows b } := by
  obtain ⟨dI, dR, b0', e, h0', e1⟩ := iterBorrow_ok h
  obtain rfl := Option.some.inj (h0.symm.trans h0')
  rw [e1] at h1
  obtain rfl := Option.some.inj ((getBorrow_setBorrow h0 (by rfl)).symm.trans h1)
  exact ⟨dI, dR, e, rfl, e1⟩

section onLend
variable (o : OnLend cfg s k r)
theorem OnLend.keeps : Keeps cfg clean signed s o.s1 := iterLends_keeps o.accrue
theorem OnLend.id : getLend o.s1.lends o.l.id = some o.l := getLend_id o.get
end onLend

section onBorrow
variable (o : OnBorrow s u k ext)
theorem OnBorrow.keeps : Keeps cfg clean signed s o.s1 := iterBorrow_keeps o.accrue
theorem OnBorrow.id : getBorrow o.s1.borrows o.b.id = some o.b := getBorrow_id o.get
theorem OnBorrow.liq : o.b.liq = false := by obtain ⟨_, _, -, e, -⟩ := iterBorrow_get o.accrue o.get0 o.get; rw [e]; exact o.open0
theorem OnBorrow.pairId : o.b.pairId = o.b0.pairId := by obtain ⟨_, _, -, e, -⟩ := iterBorrow_get o.accrue o.get0 o.get; rw [e]
theorem OnBorrow.lend1 : getLend o.s1.lends o.b.lendingId = some o.l := by
  obtain ⟨_, _, -, e, e1⟩ := iterBorrow_get o.accrue o.get0 o.get; rw [e1, e]; exact o.lend
theorem OnBorrow.notR (w : OwnS cfg o.s1) : NotR cfg o.l := w.lends o.l (getLend_mem o.lend1).1
theorem OnBorrow.den (w : OwnS cfg o.s1) : DenOk cfg o.b := w.denoms o.b (getBorrow_mem o.get).1
end onBorrow

theorem deposit_keeps (h : deposit cfg s u k d amt r = .ok s') : Keeps cfg clean (u ≠ cfg.reserveAcct) s s' := by
  obtain ⟨e, rfl⟩ := deposit_ok h
  exact e.keeps.trans <| Book.keeps (.lendDelta amt e.id) fun ok hu _ =>
    .of_unchanged (fun _ => rfl) (Bank.wrap_other e.pay hu (pool_acct_ne ok e.hpool))

theorem lendNew_keeps {pool : PoolCfg} (hp : cfg.pool? po = some pool) (h : lendNew cfg s u a amt pool app = .ok s') :
    Keeps cfg clean (u ≠ cfg.reserveAcct) s s' := by
  obtain ⟨e, rfl⟩ := lendNew_ok h
  obtain ⟨st, hst⟩ := e.record
  exact Book.keeps (.lendNew (newLend s u a amt pool app) (.of_getStats hst) id) fun ok hu _ =>
    .of_unchanged (fun _ => rfl) (Bank.wrap_other e.pay hu (pool_acct_ne ok hp))

theorem lend_keeps (h : lend cfg s u a d amt po app r = .ok s') : Keeps cfg clean (u ≠ cfg.reserveAcct) s s' := by
  obtain ⟨pool, hg, ⟨_, -, h⟩ | ⟨-, h⟩⟩ := lend_ok h
  · exact deposit_keeps h
  · exact lendNew_keeps (lendGuards_ok hg).hpool h

theorem closeLend_keeps (h : closeLend cfg s u k r = .ok s') : Keeps cfg clean (u ≠ cfg.reserveAcct) s s' := by
  obtain ⟨e, rfl⟩ := closeLend_ok h
  exact e.keeps.trans <| Book.keeps (.lendClose e.get e.unborrowed) fun ok hu _ =>
    .of_unchanged (fun _ => rfl) (Bank.unwrap_other e.pay hu (pool_acct_ne ok e.hpool))

theorem withdraw_keeps (h : withdraw cfg s u k d w r = .ok s') : Keeps cfg clean (u ≠ cfg.reserveAcct) s s' := by
  obtain ⟨_, -, -, h⟩ | ⟨e, rfl⟩ := withdraw_ok h
  · exact closeLend_keeps h
  · exact e.keeps.trans <| Book.keeps (.lendDelta (-w) e.id) fun ok hu _ =>
      .of_unchanged (fun _ => rfl) (Bank.unwrap_other e.pay hu (pool_acct_ne ok e.hpool))

theorem draw_keeps (h : draw cfg s u k d y ext = .ok s') : Keeps cfg clean (u ≠ cfg.reserveAcct) s s' := by
  obtain ⟨e, rfl⟩ := draw_ok h
  exact e.keeps.trans <| Book.keeps (.borrowOut y e.id e.liq (e.pairId ▸ e.hpair)) fun ok hu _ =>
    .of_unchanged (fun _ => rfl) (send_other e.pay (pool_acct_ne ok e.hpool) hu)

theorem depositBorrow_keeps (h : depositBorrow cfg s u k d x ext = .ok s') : Keeps cfg clean (u ≠ cfg.reserveAcct) s s' := by
  obtain ⟨e, rfl⟩ := depositBorrow_ok h
  exact e.keeps.trans <| Book.keeps (.borrowPledge x e.id e.liq e.lend1) fun ok hu _ =>
    .of_unchanged (fun _ => rfl) fun a => by
      have hi := pool_acct_ne ok e.hin
      show e.bank.get _ a = _
      obtain ⟨-, -, hb⟩ | ⟨-, v, -, tu, -, h2⟩ := e.bridge
      · rw [hb, send_other e.pay hu hi]
      · rw [send_other h2 hi (pool_acct_ne ok e.hout), send_other e.pay hu hi]

theorem borrowNew_keeps {l : Lend} {pair : PairCfg} {rates : RatesCfg} (hgl : getLend s.lends l.id = some l)
    (hp : cfg.pair? pair.id = some pair) (h : borrowNew cfg s u l pair rates stable dIn aIn dOut aOut = .ok s') :
    Keeps cfg clean (u ≠ cfg.reserveAcct) s s' := by
  obtain ⟨e, rfl⟩ := borrowNew_ok h
  obtain ⟨st, hst⟩ := e.record
  rw [openBorrow_eq]
  exact Book.keeps (.borrowNew (newBorrow s l pair stable dIn aIn dOut aOut e.t e.q) hgl hp (.of_getStats hst) e.denom) fun ok hu _ =>
    .of_unchanged (fun _ => rfl) fun a => by
      have hi := pool_acct_ne ok e.hin
      have ho := pool_acct_ne ok e.hout
      show e.bank.get _ a = _
      rw [send_other e.payout ho hu]
      obtain ⟨-, -, -, hb⟩ | ⟨-, -, v, -, tu, r1, -, r2, -, -, h2⟩ := e.bridge
      · rw [hb, send_other e.pay hu hi]
      · rw [send_other h2 hi ho, send_other e.pay hu hi]

theorem borrow_keeps (h : borrow cfg s u k pid stable dIn aIn dOut aOut e1 e2 = .ok s') : Keeps cfg clean (u ≠ cfg.reserveAcct) s s' := by
  obtain ⟨e, ⟨b, -, s1, h1, h2⟩ | ⟨-, h⟩⟩ := borrow_ok h
  · exact (depositBorrow_keeps h1).trans (draw_keeps h2)
  · exact borrowNew_keeps (getLend_id e.get) ((pair_id e.hpair).symm ▸ e.hpair) h

theorem borrowAlternate_keeps (h : borrowAlternate cfg s u a po d amt pid stable dOut aOut app r e1 e2 = .ok s') :
    Keeps cfg clean (u ≠ cfg.reserveAcct) s s' := by
  obtain ⟨pool, hg, rates, -, s1, k, ⟨l, -, -, h1⟩ | ⟨-, -, h1⟩, h2⟩ := borrowAlternate_ok h
  · exact (deposit_keeps h1).trans (borrow_keeps h2)
  · exact (lendNew_keeps (lendGuards_ok hg).hpool h1).trans (borrow_keeps h2)

theorem closeBorrow_keeps (h : closeBorrow cfg s u k ext = .ok s') : Keeps cfg clean (u ≠ cfg.reserveAcct) s s' := by
  obtain ⟨e, rfl⟩ := closeBorrow_ok h
  refine e.keeps.trans <| Book.keeps
    (.trans (.interest _ _ _ _) (.borrowClose e.get e.liq (e.pairId ▸ e.hpair) e.lend1)) fun ok hu w a => ?_
  -- the whole tokens of the reserve's interest share enter the reserve and its repayment record together
  obtain ⟨bk1, h1, bk2, h2, bk3, h3, bk4, h4, h5⟩ := e.pay
  have hpl := pool_acct_ne ok e.hpool
  have hi := pool_acct_ne ok e.hin
  have hn := e.reserveNonneg
  show e.bank.get _ a - (getResv (bookRepay e.s1.resv e.pair.assetOut e.b.reserveShare) a).flow = _
  rw [flow_bookRepay, send_other h5 hpl hi, mint_other h4 hpl, send_to h3 hpl, send_other h2 hi (e.notR w), send_other h1 hu hpl]
  rw [show posPart e.b.reserveShare = e.b.reserveShare by unfold posPart; split <;> omega]
  split <;> omega

theorem repay_keeps {p : Int} (h : repay cfg s u k d p ext = .ok s') : Keeps cfg clean (u ≠ cfg.reserveAcct) s s' := by
  obtain ⟨_, -, -, -, h⟩ | ⟨e, hs⟩ := repay_ok h
  · exact closeBorrow_keeps h
  have hp := e.pairId ▸ e.hpair
  refine e.keeps.trans ?_
  -- what goes to the reserve is recorded as a repayment inflow of the loan's asset
  have bal : ∀ {bk2 bk3 : Bank} {z : Int} {s' : State}, e.bank1.send e.pool.acct cfg.reserveAcct d z = .ok bk2 →
      (e.pool.acct ≠ cfg.reserveAcct → ∀ a, bk3.get cfg.reserveAcct a = bk2.get cfg.reserveAcct a) → s'.bank = bk3 →
      s'.resv = resvRepay e.s1.resv e.pair.assetOut z → CfgOk cfg → u ≠ cfg.reserveAcct → OwnS cfg e.s1 → BalStep cfg e.s1 s' :=
    fun h2 h3 hb hr ok hu w a => by
      have hpl := pool_acct_ne ok e.hpool
      rw [hb, hr, flow_resvRepay, h3 hpl, send_to h2 hpl, send_other e.pay hu hpl, ← e.denom.symm.trans (e.den w _ hp)]
      split <;> omega
  obtain ⟨-, bk2, h2, rfl⟩ | ⟨-, ⟨-, bk2, h2, -, bk3, h3, rfl⟩ | ⟨-, bk2, h2, -, bk3, h3, -, rfl⟩⟩ := hs
  · exact Book.keeps (.borrowTouch e.id) (bal h2 (fun _ _ => rfl) rfl rfl)
  · exact Book.keeps (.trans (.interest _ _ _ _) (.borrowTouch e.id)) (bal h2 (mint_other h3) rfl rfl)
  · -- `by exact`: elaborated once the goal has fixed the record after the step
    exact Book.keeps (.trans (.interest _ _ _ _) (.borrowOut _ e.id e.liq hp (hy := by exact Int.sub_eq_add_neg ..)))
      (bal h2 (mint_other h3) rfl rfl)

theorem repayWithdraw_keeps (h : repayWithdraw cfg s u k ext r = .ok s') : Keeps cfg clean (u ≠ cfg.reserveAcct) s s' := by
  obtain ⟨b, -, s1, h1, l, -, h2⟩ := repayWithdraw_ok h
  exact (closeBorrow_keeps h1).trans (withdraw_keeps h2)

theorem calcLends_keeps (ls : List (Nat × Int)) {s : State} (h : calcLends cfg s u ls = .ok s') : Keeps cfg clean signed s s' := by
  induction ls generalizing s with
  | nil => cases h; exact .refl _
  | cons x ls ih =>
    obtain ⟨o, -, h⟩ := calcLends_cons_ok h
    exact o.keeps.trans (ih h)

theorem calcMsg_keeps {bs : List (Nat × ExtB)} {ls : List (Nat × Int)} (h : calcMsg cfg s u bs ls = .ok s') : Keeps cfg clean signed s s' := by
  obtain ⟨-, -, -, s1, h1, h2⟩ := calcMsg_ok h
  exact (calcBorrows_induction (R := Keeps cfg clean signed) .refl Keeps.trans iterBorrow_keeps bs h1).trans (calcLends_keeps _ h2)

theorem handover_keeps {ni : Dec} (h : handover cfg s k ni = .ok s') : Keeps cfg (HandoverClean s k) signed s s' := by
  obtain ⟨e, hs⟩ := handover_ok h
  have hg := getBorrow_id e.get
  have bal : ∀ {s'}, s'.resv = s.resv → s'.bank = e.bank → CfgOk cfg → BalStep cfg s s' := fun hr hk ok =>
    .of_unchanged (fun _ => by rw [hr]) fun a => by
      obtain ⟨bk1, h1, h2⟩ := e.pay
      rw [hk, burn_other h2 (pool_acct_ne ok e.hpool), send_other h1 (pool_acct_ne ok e.hpool) ok.auction]
  obtain ⟨hle, rfl⟩ | ⟨-, rfl⟩ := hs
  · exact Book.keeps (.handoverDel hg e.open0 e.hpair e.lend fun hc => (hc.use e.get e.lend).resolve_left (Int.not_lt.mpr hle))
      fun ok _ _ => bal rfl rfl ok
  · exact Book.keeps (.handoverKeep hg e.open0 e.hpair e.lend) fun ok _ _ => bal rfl rfl ok

theorem auctionClose_keeps {paid recv left topUp : Int} (h : auctionClose cfg s u k paid recv left topUp = .ok s') :
    Keeps cfg clean (u ≠ cfg.reserveAcct) s s' := by
  obtain ⟨e, rfl⟩ := auctionClose_ok h
  refine Book.keeps (.trans (.interest _ _ _ _) (.borrowDelLiq e.get e.liq e.hpair)) fun ok hu o a => ?_
  -- penalty and reserve share enter the reserve with their records (`AmountInFromLiqPenalty`, `AmountInFromRepayments`)
  obtain ⟨bk0, h0, bk1, h1, bk2, h2, bk3, h3, bk4, h4, bk5, h5, bk6, h6, h7⟩ := e.pay
  have hlk : e.lk.owner ≠ cfg.reserveAcct := o.locked _ (List.mem_of_find?_eq_some e.vault)
  have hpl := pool_acct_ne ok e.hpool
  have ha := ok.auction
  have e8 : e.bank.get cfg.reserveAcct a = e.bank7.get cfg.reserveAcct a := by
    obtain ⟨-, l, -, inPool, hi, h8⟩ | ⟨-, hb⟩ := e.bridgeBack
    · exact send_other h8 hpl (pool_acct_ne ok hi) a
    · rw [hb]
  show e.bank.get _ a - (getResv (bookRepay (modResv s.resv e.pair.assetOut (·.addPenalty _)) e.pair.assetOut e.b.reserveShare) a).flow = _
  rw [flow_bookRepay, flow_addPenalty, e8, mint_other h7 hpl, send_to h6 hpl, send_to h5 hpl, send_other h4 ha hpl, send_other h3 ha hlk,
    send_other h2 ha hu, send_other h1 hu ha, mint_other h0 ha, o.denoms e.b (getBorrow_mem e.get).1 _ e.hpair]
  split <;> omega

theorem fundModule_keeps (h : fundModule cfg s u po a d amt = .ok s') : Keeps cfg clean (u ≠ cfg.reserveAcct) s s' := by
  obtain ⟨pool, hp, bk1, h1, -, -, rates, -, -, bk2, h2, rfl⟩ := fundModule_ok h
  exact Book.keeps (.refl _) fun ok hu _ => .of_unchanged (fun _ => rfl) fun a => by
    have hp := pool_acct_ne ok hp
    show bk2.get _ a = _; rw [mint_other h2 hp, send_other h1 hu hp]

/-- the one message whose coins enter the reserve with a record of their own (`FundReserveBal`) -/
theorem fundReserve_keeps (h : fundReserve cfg s u a d amt = .ok s') : Keeps cfg clean (u ≠ cfg.reserveAcct) s s' := by
  obtain ⟨-, rfl, bk1, h1, rfl⟩ := fundReserve_ok h
  refine Book.keeps (.refl _) fun _ hu _ x => ?_
  dsimp only
  rw [flow_addFunded, send_to h1 hu]
  split <;> omega

theorem auctionBid_keeps {paid recv : Int} (h : auctionBid cfg s u k paid recv = .ok s') : Keeps cfg clean (u ≠ cfg.reserveAcct) s s' := by
  obtain ⟨b, -, -, -, pair, -, bk1, h1, bk2, h2, rfl⟩ := auctionBid_ok h
  exact Book.keeps (.refl _) fun ok hu _ => .of_unchanged (fun _ => rfl) fun a => by
    show bk2.get _ a = _; rw [send_other h2 ok.auction hu, send_other h1 hu ok.auction]

theorem sweepPool_frame {p : Nat} (h : sweepPool cfg s p = .ok s') :
    s'.books = s.books ∧ s'.depPending = s.depPending ∧ ∀ q, s.delPools.contains q = true → s'.delPools.contains q = true := by
  obtain ⟨-, pool, -, ⟨-, -, -, -, bk1, -, bk2, -, bk3, -, rfl⟩ | ⟨-, rfl⟩⟩ := sweepPool_ok h
  · exact ⟨rfl, rfl, fun q hq => by simp only [List.contains_cons]; rw [hq]; simp⟩
  · exact ⟨rfl, rfl, fun _ => id⟩

theorem sweepPools_books (ps : List Nat) {s : State} (h : sweepPools cfg s ps = .ok s') : s'.books = s.books :=
  sweepPools_induction (R := fun s s' => s'.books = s.books) (fun _ => rfl) (fun a b => b.trans a) (sweepPool_frame · |>.1) ps h

theorem sweepPools_dead (ps : List Nat) {s : State} {p : Nat} (hp : p ∈ ps) (hd : s.delPools.contains p = true) :
    (sweepPools cfg s ps).toBool = false := by
  refine toBool_false fun s' h => ?_
  induction ps generalizing s with
  | nil => cases hp
  | cons q ps ih =>
    obtain ⟨s1, hs, h⟩ := sweepPools_cons_ok h
    rcases List.mem_cons.mp hp with rfl | hp'
    · cases hd.symm.trans (sweepPool_ok hs).1
    · exact ih hp' ((sweepPool_frame hs).2.2 p hd) h

/-- the block hook is excluded from the ledger: it sweeps a deleted pool's funds into the reserve with no flow record -/
theorem step_keeps {op : Op} (h : step cfg s op = .ok s') :
    Keeps cfg (cleanStep s op) (op.signer ≠ some cfg.reserveAcct ∧ op.isBeginBlock = false) s s' := by
  unfold step at h
  split at h
  · cases h
  · cases op with
    | lend => exact (lend_keeps h).user
    | deposit => exact (deposit_keeps h).user
    | withdraw => exact (withdraw_keeps h).user
    | closeLend => exact (closeLend_keeps h).user
    | borrow => exact (borrow_keeps h).user
    | borrowAlternate => exact (borrowAlternate_keeps h).user
    | depositBorrow => exact (depositBorrow_keeps h).user
    | draw => exact (draw_keeps h).user
    | repay => exact (repay_keeps h).user
    | closeBorrow => exact (closeBorrow_keeps h).user
    | repayWithdraw => exact (repayWithdraw_keeps h).user
    | calcAll => exact calcMsg_keeps h
    | fundModule => exact (fundModule_keeps h).user
    | fundReserve => exact (fundReserve_keeps h).user
    | setPrice a t => cases h; cases t <;> exact Book.keeps (.refl _) fun _ _ _ => .refl _ _
    | setKill => cases h; exact Book.keeps (.refl _) fun _ _ _ => .refl _ _
    | setDepreciated => cases h; exact Book.keeps (.refl _) fun _ _ _ => .refl _ _
    | beginBlock => exact Book.keeps (by rw [sweepPools_books _ h]; exact .refl _) fun _ hu => nomatch hu.2
    | handover => exact handover_keeps h
    | bid => exact (auctionBid_keeps h).user
    | auctionClose => exact (auctionClose_keeps h).user

end Comdex.Lend
