import Comdex.Model.LockerAccrual
import Comdex.Lemmas.Accrual
/-! The locker's savings clock (`Model/LockerAccrual.lean`, C18): what the steps write, the time-budget invariant along a history, what
one accrual books. -/
namespace Comdex.LockerAccrual
open Comdex Comdex.Accrual

/-- one shape for both branches of `book`: below one whole unit `(trackerStep …).1 = 0` -/
theorem book_eq (s : St) (l : Locker) (x : Dec) (h t : Int) (s1 : St) (hb : book s l x h t = some s1) :
    s1 = { s with tracker := some (trackerStep (s.tracker.getD 0) x).2, fees := s.fees - (trackerStep (s.tracker.getD 0) x).1,
                  locker := some { net := l.net + (trackerStep (s.tracker.getD 0) x).1,
                                   ret := l.ret + (trackerStep (s.tracker.getD 0) x).1, bh := h, bt := t } } := by
  unfold book at hb
  simp only [] at hb
  split at hb
  · split at hb
    · cases hb
    · cases hb; rfl
  · rename_i hlt
    cases hb
    rw [trackerStep_of_lt _ _ hlt, Int.sub_zero, Int.add_zero, Int.add_zero]

theorem book_some (s : St) (l : Locker) (x : Dec) (h t : Int) (s1 : St) (hb : book s l x h t = some s1) :
    s1.wl = s.wl ∧ s1.coll = s.coll ∧ ∃ l1, s1.locker = some l1 ∧ l1.bh = h ∧ l1.bt = t := by
  rw [book_eq s l x h t s1 hb]
  exact ⟨rfl, rfl, _, rfl, rfl, rfl⟩

theorem book_isSome_stamp (s : St) (l : Locker) (x : Dec) (h t h' t' : Int) :
    (book s l x h t).isSome = (book s l x h' t').isSome := by
  unfold book
  simp only []
  split
  · split <;> rfl
  · rfl

theorem accrue_idle (s : St) (ctx : Ctx) (l : Locker) (pw : Option Int) (h : s.wl = false ∨ s.coll.lsr = 0) :
    accrue s ctx l pw = .ok s := by
  unfold accrue
  rcases h with h | h
  · simp [h]
  · by_cases hw : s.wl = true <;> simp [hw, h]

theorem accrue_ok (s : St) (ctx : Ctx) (l : Locker) (pw : Option Int) (s1 : St) (hw : s.wl = true) (hr : s.coll.lsr ≠ 0)
    (h : accrue s ctx l pw = .ok s1) :
    ∃ x, calcRewards l.net s.coll.lsr (ctx.now - clock s l) pw = .ok x ∧ book s l x ctx.height ctx.now = some s1 := by
  unfold accrue at h
  simp only [hw, Bool.not_true, Bool.false_eq_true, if_false, hr] at h
  split at h
  · rename_i x hx
    split at h
    · rename_i s2 hb
      injection h with h; subst h; exact ⟨x, hx, hb⟩
    · cases h
  · cases h
  · cases h

theorem iter_fine (s : St) (ctx : Ctx) (ct : Bool) (pw : Option Int) (l : Locker) (hl : s.locker = some l)
    (hf : sweepFine s ctx pw = true) :
    ∃ x s1, calcRewards l.net s.coll.lsr (ctx.now - clock s l) pw = .ok x ∧
      iter s ctx s.coll.lsr s.coll.bt ct pw = some s1 ∧ book s l x (if ct then ctx.height else 0) ctx.now = some s1 := by
  unfold sweepFine at hf
  rw [hl] at hf
  simp only [] at hf
  split at hf
  · rename_i x hx
    have hb : (book s l x (if ct then ctx.height else 0) ctx.now).isSome = true := by
      rw [book_isSome_stamp s l x _ _ 0 ctx.now]; exact hf
    obtain ⟨s1, hs1⟩ := Option.isSome_iff_exists.mp hb
    refine ⟨x, s1, hx, ?_, hs1⟩
    unfold iter
    rw [hl]
    simp only []
    unfold clock at hx
    rw [hx]
    simp only [hs1]
  · cases hf

/-! ## the time budget

Two halves. What a step credits at rate `r` (`accTerm`) is `0` or exactly what was pending, so `acc + accTerm ≤ pos` follows from `Inv`
alone, for every operation and both models (`Inv.credit`; no side condition of `goodStep` is used). An operation has to show only that
its accepted outcome leaves the locker with nothing to claim at time `now` (`Fresh`, which mentions neither `r` nor the ghost):
`step_fresh`, `stepFix_fresh`. `inv_res` puts the halves together. -/

/-- invariant carried along a history, for a fixed rate value `r`: the time for which the locker has been credited at rate `r`
plus what it could still claim does not exceed the time the rate HAS BEEN `r`; its clock is not in the future; and while the rate
is zero the locker carries the flag `BlockHeight = 0` (so that the switch-on moves its clock). -/
structure Inv (r : Dec) (s : St) (g : Ghost) : Prop where
  wl : s.wl = true
  rate : 0 ≤ s.coll.lsr
  budget : g.acc + pending r s g.last ≤ g.pos
  stamp : ∀ l, s.locker = some l → (s.coll.lsr ≠ 0 → clock s l ≤ g.last) ∧ (s.coll.lsr = 0 → l.bh = 0)

theorem since_stamped (cbt h t : Int) (hh : h ≠ 0) : since cbt h t = t := by
  unfold since; simp [hh]

theorem since_flag (cbt t : Int) : since cbt 0 t = cbt := by
  unfold since; simp

/-- the part of `Inv` that speaks of the state alone -/
structure Ok (s : St) : Prop where
  wl : s.wl = true
  rate : 0 ≤ s.coll.lsr
  flag : ∀ l, s.locker = some l → s.coll.lsr = 0 → l.bh = 0

/-- at time `t` the locker, if there is one, has nothing to claim: while a rate runs its clock stands at `t`, while the rate is
zero it carries the flag (so that the switch-on moves its clock) -/
structure Fresh (s : St) (t : Int) : Prop where
  ok : Ok s
  clk : ∀ l, s.locker = some l → s.coll.lsr ≠ 0 → clock s l = t

theorem Inv.ok {r : Dec} {s : St} {g : Ghost} (hi : Inv r s g) : Ok s := ⟨hi.wl, hi.rate, fun l hl => (hi.stamp l hl).2⟩

theorem Fresh.none {s : St} {t : Int} (hw : s.wl = true) (h0 : 0 ≤ s.coll.lsr) (hl : s.locker = none) : Fresh s t :=
  ⟨⟨hw, h0, fun l h => by rw [hl] at h; cases h⟩, fun l h => by rw [hl] at h; cases h⟩

theorem Fresh.stamped {s : St} {l : Locker} {h t : Int} (hw : s.wl = true) (h0 : 0 ≤ s.coll.lsr) (hl : s.locker = some l)
    (hb : l.bh = h) (ht : l.bt = t) (hh : s.coll.lsr ≠ 0 → h ≠ 0) (hz : s.coll.lsr = 0 → h = 0) : Fresh s t := by
  refine ⟨⟨hw, h0, fun l' hl' hr => ?_⟩, fun l' hl' hr => ?_⟩ <;> cases hl.symm.trans hl'
  · rw [hb]; exact hz hr
  · unfold clock; rw [hb, ht]; exact since_stamped _ _ _ (hh hr)

theorem Fresh.inv {r : Dec} (hr : r ≠ 0) {s : St} {t pos acc : Int} (hf : Fresh s t) (ha : acc ≤ pos) : Inv r s ⟨t, pos, acc⟩ := by
  refine ⟨hf.ok.wl, hf.ok.rate, ?_, fun l hl => ⟨fun h => le_of_eq (hf.clk l hl h), hf.ok.flag l hl⟩⟩
  show acc + pending r s t ≤ pos
  unfold pending
  cases hl : s.locker with
  | none => simp only []; omega
  | some l =>
    simp only []
    split
    · next h => rw [hf.clk l hl (by rw [h]; exact hr)]; omega
    · omega

/-- the second summand is `accTerm` (and `accTermFix`) for `b` = accepted and accruing -/
theorem Inv.credit {r : Dec} (hr : r ≠ 0) {s : St} {g : Ghost} (hi : Inv r s g) (b : Bool) :
    g.acc + (if (b && decide (s.coll.lsr = r)) = true then (match s.locker with | some l => g.last - clock s l | none => 0) else 0)
      ≤ g.pos := by
  have hb := hi.budget
  unfold pending at hb
  cases hl : s.locker with
  | none => rw [hl] at hb; simp only [] at hb ⊢; split <;> omega
  | some l =>
    rw [hl] at hb
    simp only [] at hb ⊢
    by_cases h : s.coll.lsr = r
    · have := (hi.stamp l hl).1 (by rw [h]; exact hr)
      rw [if_pos h] at hb
      split <;> omega
    · have : (b && decide (s.coll.lsr = r)) = false := by simp [h]
      rw [if_neg h] at hb
      rw [this]; simpa using hb

theorem accTerm_idle (r : Dec) (s : St) (ctx : Ctx) (op : Op) (pw : Option Int) (h : accrues s op = false) :
    accTerm r s ctx op pw = 0 := by
  unfold accTerm; simp [h]

theorem res_getD_err (s : St) : (Res.err).getD s = s := rfl
theorem res_getD_panic (s : St) : (Res.panic).getD s = s := rfl

/-- `x` = `step …` or `stepFix …`, `b` = `accrues s op` -/
theorem inv_res {r : Dec} (hr : r ≠ 0) {s : St} {g : Ghost} (hi : Inv r s g) (x : Res) (b : Bool)
    (hx : ∀ s', x = .ok s' → Fresh s' g.last) :
    Inv r (x.getD s) ⟨g.last, g.pos, g.acc + (if (accepted x && b && decide (s.coll.lsr = r)) = true then
      (match s.locker with | some l => g.last - clock s l | none => 0) else 0)⟩ := by
  cases x with
  | ok s' => rw [Bool.and_assoc]; exact (hx s' rfl).inv hr (hi.credit hr _)
  | err => simpa [accepted, Res.getD] using hi
  | panic => simpa [accepted, Res.getD] using hi

def Op.isMsg : Op → Bool
  | .deposit _ | .withdraw _ | .close | .rewardCalc => true
  | _ => false

def Op.after : Op → Ctx → St → St
  | .deposit a, ctx, s1 => restamp s1 ctx a
  | .withdraw a, ctx, s1 => restamp s1 ctx (-a)
  | .close, _, s1 => { s1 with locker := none, tracker := none }
  | _, _, s1 => s1

theorem map_ok (x : Res) (f : St → St) (s' : St) (h : x.map f = .ok s') : ∃ s1, x = .ok s1 ∧ s' = f s1 := by
  cases x with
  | ok s1 => cases h; exact ⟨s1, rfl, rfl⟩
  | err => cases h
  | panic => cases h

theorem step_msg_ok (s : St) (ctx : Ctx) (op : Op) (pw : Option Int) (s' : St) (hm : op.isMsg = true)
    (h : step s ctx op pw = .ok s') : ∃ l s1, s.locker = some l ∧ accrue s ctx l pw = .ok s1 ∧ s' = op.after ctx s1 := by
  unfold step at h
  cases op <;> try cases hm
  all_goals simp only [] at h
  case deposit amt =>
    split at h
    · cases h
    · split at h
      · cases h
      · obtain ⟨s1, h1, h2⟩ := map_ok _ _ _ h
        exact ⟨_, s1, ‹_›, h1, h2⟩
  case withdraw amt =>
    split at h
    · cases h
    · split at h
      · cases h
      · split at h
        · cases h
        · obtain ⟨s1, h1, h2⟩ := map_ok _ _ _ h
          exact ⟨_, s1, ‹_›, h1, h2⟩
  case close =>
    split at h
    · cases h
    · obtain ⟨s1, h1, h2⟩ := map_ok _ _ _ h
      exact ⟨_, s1, ‹_›, h1, h2⟩
  case rewardCalc =>
    split at h
    · cases h
    · exact ⟨_, s', ‹_›, h, rfl⟩

theorem restamp_some (s1 : St) (ctx : Ctx) (d : Int) (l1 : Locker) (h : s1.locker = some l1) :
    (restamp s1 ctx d).wl = s1.wl ∧ (restamp s1 ctx d).coll = s1.coll ∧
    (restamp s1 ctx d).locker = some { l1 with net := l1.net + d, bh := ctx.height, bt := ctx.now } := by
  unfold restamp; rw [h]; exact ⟨rfl, rfl, rfl⟩

theorem accrue_running (s : St) (ctx : Ctx) (l : Locker) (pw : Option Int) (s1 : St) (hw : s.wl = true) (hne : s.coll.lsr ≠ 0)
    (h : accrue s ctx l pw = .ok s1) :
    s1.wl = s.wl ∧ s1.coll = s.coll ∧ ∃ l1, s1.locker = some l1 ∧ l1.bh = ctx.height ∧ l1.bt = ctx.now := by
  obtain ⟨x, _, hb⟩ := accrue_ok s ctx l pw s1 hw hne h
  exact book_some s l x _ _ s1 hb

theorem fresh_msg (s : St) (ctx : Ctx) (op : Op) (pw : Option Int) (s' : St) (hm : op.isMsg = true) (ho : Ok s)
    (hh : ctx.height ≠ 0) (hz : s.coll.lsr = 0 → op = .close ∨ op = .rewardCalc) (hs : step s ctx op pw = .ok s') :
    Fresh s' ctx.now := by
  obtain ⟨l, s1, hl, ha, e⟩ := step_msg_ok s ctx op pw s' hm hs
  subst e
  by_cases hne : s.coll.lsr = 0
  · rw [accrue_idle s ctx l pw (Or.inr hne)] at ha
    cases ha
    rcases hz hne with e | e <;> subst e
    · exact Fresh.none ho.wl ho.rate rfl
    · exact ⟨ho, fun _ _ h => absurd hne h⟩
  · obtain ⟨w1, c1, l1, hl1, b1, t1⟩ := accrue_running s ctx l pw s1 ho.wl hne ha
    have hw1 : s1.wl = true := w1.trans ho.wl
    have h01 : 0 ≤ s1.coll.lsr := c1 ▸ ho.rate
    have hne1 : s1.coll.lsr = 0 → ctx.height = 0 := fun h => absurd (c1 ▸ h) hne
    cases op <;> try cases hm
    · -- deposit: the accrual's stamp is written again by `restamp`
      obtain ⟨w2, c2, l2⟩ := restamp_some s1 ctx _ l1 hl1
      exact Fresh.stamped (w2.trans hw1) (c2 ▸ h01) l2 rfl rfl (fun _ => hh) (fun h => hne1 (c2 ▸ h))
    · obtain ⟨w2, c2, l2⟩ := restamp_some s1 ctx _ l1 hl1
      exact Fresh.stamped (w2.trans hw1) (c2 ▸ h01) l2 rfl rfl (fun _ => hh) (fun h => hne1 (c2 ▸ h))
    · exact Fresh.none hw1 h01 rfl
    · exact Fresh.stamped hw1 h01 hl1 b1 t1 (fun _ => hh) hne1

theorem fresh_create (s : St) (ctx : Ctx) (amt : Int) (pw : Option Int) (s' : St) (ho : Ok s) (hh : ctx.height ≠ 0)
    (hs : step s ctx (.create amt) pw = .ok s') : Fresh s' ctx.now := by
  unfold step at hs
  simp only [] at hs
  split at hs
  · cases hs
  · split at hs
    · cases hs
    · cases hs
      exact Fresh.stamped ho.wl ho.rate rfl rfl rfl (fun (h : s.coll.lsr ≠ 0) => by rw [if_neg h]; exact hh)
        (fun (h : s.coll.lsr = 0) => if_pos h)

theorem iter_shape (s : St) (ctx : Ctx) (rate : Dec) (cbt : Int) (ct : Bool) (pw : Option Int) (s1 : St)
    (h : iter s ctx rate cbt ct pw = some s1) :
    s1.wl = s.wl ∧ s1.coll = s.coll ∧
    (s1.locker = s.locker ∨ ∃ l1, s1.locker = some l1 ∧ l1.bh = (if ct then ctx.height else 0) ∧ l1.bt = ctx.now) := by
  unfold iter at h
  split at h
  · injection h with h; subst h; exact ⟨rfl, rfl, Or.inl rfl⟩
  · rename_i l hl
    split at h
    · cases h
    · injection h with h; subst h; exact ⟨rfl, rfl, Or.inl rfl⟩
    · rename_i x hx
      split at h
      · rename_i s2 hb
        injection h with h; subst h
        obtain ⟨a, b, l1, c, d, e⟩ := book_some s l x _ _ _ hb
        exact ⟨a, b, Or.inr ⟨l1, c, d, e⟩⟩
      · injection h with h; subst h; exact ⟨rfl, rfl, Or.inl rfl⟩

theorem step_lsr (s : St) (ctx : Ctx) (nr : Dec) (pw : Option Int) (hw : s.wl = true) :
    step s ctx (.lsrUpdate nr) pw =
      if nr = 0 then sweepRes (iter s ctx s.coll.lsr s.coll.bt false pw) ⟨nr, 0, ctx.now⟩
      else if s.coll.lsr = 0 then .ok { s with coll := ⟨nr, ctx.height, ctx.now⟩ }
      else if 0 < s.coll.lsr ∧ 0 < nr then sweepRes (iter s ctx s.coll.lsr s.coll.bt true pw) ⟨nr, ctx.height, ctx.now⟩
      else .ok { s with coll := ⟨nr, s.coll.bh, s.coll.bt⟩ } := by
  unfold step
  simp only [hw, if_true]

/-- a rate update of a whitelisted running rate is the sweep with `changeTypes` = "the new rate is not zero", then the entry -/
theorem step_lsr_running (s : St) (ctx : Ctx) (nr : Dec) (pw : Option Int) (hw : s.wl = true) (h0 : 0 ≤ s.coll.lsr)
    (hne : s.coll.lsr ≠ 0) (hnr : 0 ≤ nr) :
    step s ctx (.lsrUpdate nr) pw = sweepRes (iter s ctx s.coll.lsr s.coll.bt (decide (nr ≠ 0)) pw)
      ⟨nr, if nr = 0 then 0 else ctx.height, ctx.now⟩ := by
  rw [step_lsr s ctx nr pw hw]
  by_cases hn : nr = 0
  · simp [hn]
  · rw [if_neg hn, if_neg hne, if_pos ⟨lt_of_le_of_ne h0 (Ne.symm hne), lt_of_le_of_ne hnr (Ne.symm hn)⟩]
    simp [hn]

theorem fresh_lsr (s : St) (ctx : Ctx) (nr : Dec) (pw : Option Int) (s' : St) (ho : Ok s) (hh : ctx.height ≠ 0) (hnr : 0 ≤ nr)
    (hf : s.coll.lsr = 0 ∨ sweepFine s ctx pw = true) (hs : step s ctx (.lsrUpdate nr) pw = .ok s') : Fresh s' ctx.now := by
  by_cases hz : s.coll.lsr = 0
  · -- the rate is zero: the locker keeps (or gets) the flag, a switch-on moves its clock
    rw [step_lsr s ctx nr pw ho.wl] at hs
    by_cases hn : nr = 0
    · rw [if_pos hn] at hs
      cases hit : iter s ctx s.coll.lsr s.coll.bt false pw with
      | none => rw [hit] at hs; cases hs
      | some s1 =>
        rw [hit] at hs; cases hs
        obtain ⟨w1, c1, lk⟩ := iter_shape s ctx _ _ _ pw s1 hit
        refine ⟨⟨w1.trans ho.wl, hnr, fun l1 (hl1 : s1.locker = some l1) _ => ?_⟩, fun _ _ hne => absurd hn hne⟩
        rcases lk with lk | ⟨l2, e2, b2, _⟩
        · exact ho.flag l1 (lk ▸ hl1) hz
        · cases e2.symm.trans hl1; simpa using b2
    · rw [if_neg hn, if_pos hz] at hs; cases hs
      refine ⟨⟨ho.wl, hnr, fun _ _ h => absurd h hn⟩, fun l (hl : s.locker = some l) _ => ?_⟩
      show since ctx.now l.bh l.bt = ctx.now
      rw [ho.flag l hl hz]; exact since_flag _ _
  · -- a running rate is changed: the sweep settles the locker at the old rate
    rw [step_lsr_running s ctx nr pw ho.wl ho.rate hz hnr] at hs
    cases hl : s.locker with
    | none =>
      have hit : iter s ctx s.coll.lsr s.coll.bt (decide (nr ≠ 0)) pw = some s := by unfold iter; rw [hl]
      rw [hit] at hs; cases hs
      exact Fresh.none ho.wl hnr hl
    | some l =>
      obtain ⟨x, s1, _, hit, hb⟩ := iter_fine s ctx (decide (nr ≠ 0)) pw l hl (hf.resolve_left hz)
      obtain ⟨w1, c1, l1, e1, b1, t1⟩ := book_some s l x _ _ s1 hb
      rw [hit] at hs; cases hs
      exact Fresh.stamped (w1.trans ho.wl) hnr e1 b1 t1 (fun (h : nr ≠ 0) => by simpa [h] using hh)
        (fun (h : nr = 0) => by simp [h])

theorem step_fresh (s : St) (ctx : Ctx) (op : Op) (pw : Option Int) (s' : St) (ho : Ok s) (hh : ctx.height ≠ 0)
    (hop : opCond s ctx op pw = true) (hw : op ≠ .wlOn) (hs : step s ctx op pw = .ok s') : Fresh s' ctx.now := by
  cases op with
  | create amt => exact fresh_create s ctx amt pw s' ho hh hs
  | deposit amt => exact fresh_msg s ctx _ pw s' rfl ho hh (fun h => absurd h (by simpa [opCond] using hop)) hs
  | withdraw amt => exact fresh_msg s ctx _ pw s' rfl ho hh (fun h => absurd h (by simpa [opCond] using hop)) hs
  | close => exact fresh_msg s ctx _ pw s' rfl ho hh (fun _ => Or.inl rfl) hs
  | rewardCalc => exact fresh_msg s ctx _ pw s' rfl ho hh (fun _ => Or.inr rfl) hs
  | lsrUpdate nr =>
    simp only [opCond, Bool.and_eq_true, decide_eq_true_eq, Bool.or_eq_true, beq_iff_eq] at hop
    exact fresh_lsr s ctx nr pw s' ho hh hop.1 hop.2 hs
  | wlOn => exact absurd rfl hw
  | wlOff => simp [opCond] at hop

theorem pending_le (r : Dec) (s : St) (t0 t : Int) (h : t0 ≤ t) :
    pending r s t ≤ pending r s t0 + (if s.coll.lsr = r then t - t0 else 0) := by
  unfold pending
  cases s.locker with
  | none => simp only []; split <;> omega
  | some l => simp only []; split <;> omega

theorem inv_time (r : Dec) (s : St) (g : Ghost) (t : Int) (hi : Inv r s g) (ht : g.last ≤ t) :
    Inv r s ⟨t, g.pos + (if s.coll.lsr = r then t - g.last else 0), g.acc⟩ := by
  obtain ⟨hw, h0, hb, hfl⟩ := hi
  have := pending_le r s g.last t ht
  exact ⟨hw, h0, by show g.acc + pending r s t ≤ g.pos + (if s.coll.lsr = r then t - g.last else 0); omega, fun l hl => ⟨fun h => le_trans ((hfl l hl).1 h) ht, (hfl l hl).2⟩⟩

theorem inv_op_wlOn (r : Dec) (s : St) (g : Ghost) (ctx : Ctx) (pw : Option Int) (hi : Inv r s g) (hlast : g.last = ctx.now) :
    Inv r ((step s ctx .wlOn pw).getD s) ⟨ctx.now, g.pos, g.acc + accTerm r s ctx .wlOn pw⟩ := by
  rw [accTerm_idle r s ctx _ pw (by unfold accrues; simp [Op.accruing]), Int.add_zero]
  obtain ⟨hw, h0, hb, hfl⟩ := hi
  rw [← hlast]
  have e : (step s ctx .wlOn pw).getD s = { s with wl := true } := rfl
  rw [e]
  exact ⟨rfl, h0, by simpa [pending, clock] using hb, hfl⟩

theorem inv_step (r : Dec) (hr : r ≠ 0) (s : St) (g : Ghost) (ctx : Ctx) (op : Op) (pw : Option Int)
    (hi : Inv r s g) (hg : goodStep s g.last ctx op pw = true) :
    Inv r ((step s ctx op pw).getD s) (gstep r s g ctx op pw) := by
  unfold goodStep at hg
  simp only [Bool.and_eq_true, decide_eq_true_eq] at hg
  obtain ⟨⟨ht, hh⟩, hop⟩ := hg
  have hi1 := inv_time r s g ctx.now hi ht
  by_cases hw : op = .wlOn
  · subst hw; exact inv_op_wlOn r s _ ctx pw hi1 rfl
  · exact inv_res hr hi1 (step s ctx op pw) (accrues s op) fun s' => step_fresh s ctx op pw s' hi.ok hh hop hw

theorem inv_run (r : Dec) (hr : r ≠ 0) : ∀ (h : Hist) (s : St) (g : Ghost), Inv r s g → goodHist s g.last h = true →
    Inv r (grun r s g h).1 (grun r s g h).2
  | [], _, _, hi, _ => hi
  | (ctx, op, pw) :: h, s, g, hi, hg => by
    unfold goodHist at hg
    simp only [Bool.and_eq_true] at hg
    unfold grun
    exact inv_run r hr h _ _ (inv_step r hr s g ctx op pw hi hg.1) hg.2

/-- the hypotheses about a state with a live locker that the amount-level theorems share -/
structure Live (s : St) (l : Locker) : Prop where
  wl : s.wl = true
  rate : 0 ≤ s.coll.lsr
  lk : s.locker = some l
  net : 0 ≤ l.net
  tr : 0 ≤ s.tracker.getD 0

/-- what one accrual books (`s` before, `s1` after, `l1` its locker then); what is written into `BlockHeight` and the collector
entry differs from caller to caller and is stated beside it -/
structure Books (ops : FloatOps) (s : St) (l : Locker) (now : Int) (s1 : St) (l1 : Locker) : Prop where
  span : 0 ≤ now - clock s l
  booked : booked s1 = booked s + interest ops l.net s.coll.lsr (now - clock s l)
  wl : s1.wl = s.wl
  tr0 : 0 ≤ s1.tracker.getD 0
  tr1 : s1.tracker.getD 0 < Dec.one
  lk : s1.locker = some l1
  bt : l1.bt = now
  ret : l.ret ≤ l1.ret
  net : l1.net - l.net = l1.ret - l.ret
  fees : s1.fees = s.fees - (l1.ret - l.ret)

theorem powOf_some (ops : FloatOps) (s : St) (ctx : Ctx) (l : Locker) (hl : s.locker = some l) :
    powOf ops s ctx = some (ops.pow (xF s.coll.lsr) (yF (ctx.now - clock s l))) := by
  unfold powOf; rw [hl]

theorem books_of_book (ops : FloatOps) (s : St) (l : Locker) (now h : Int) (x : Dec) (s1 : St) (hv : Live s l)
    (hx : calcRewards l.net s.coll.lsr (now - clock s l) (some (ops.pow (xF s.coll.lsr) (yF (now - clock s l)))) = .ok x)
    (hb : book s l x h now = some s1) :
    ∃ l1, Books ops s l now s1 l1 ∧ l1.bh = h ∧ s1.coll = s.coll := by
  obtain ⟨hsec, p0, t0, t1, sum⟩ := calc_into_tracker ops l.net s.coll.lsr _ x _ hv.net hv.rate hv.tr hx
  rw [book_eq s l x h now s1 hb]
  refine ⟨_, ⟨hsec, ?_, rfl, t0, t1, rfl, rfl, Int.le_add_of_nonneg_right p0, ?_, ?_⟩, rfl, rfl⟩
  · show (l.ret + _) * Dec.P + _ = booked s + interest ops l.net s.coll.lsr (now - clock s l)
    unfold booked
    simp only [hv.lk, Option.getD_some]
    rw [Int.add_mul]
    omega
  · show l.net + _ - l.net = l.ret + _ - l.ret
    omega
  · show s.fees - _ = s.fees - (l.ret + _ - l.ret)
    omega

theorem accrue_books (ops : FloatOps) (s : St) (ctx : Ctx) (l : Locker) (s1 : St) (hv : Live s l) (hne : s.coll.lsr ≠ 0)
    (h : accrue s ctx l (some (ops.pow (xF s.coll.lsr) (yF (ctx.now - clock s l)))) = .ok s1) :
    ∃ l1, Books ops s l ctx.now s1 l1 ∧ l1.bh = ctx.height ∧ s1.coll = s.coll := by
  obtain ⟨x, hx, hb⟩ := accrue_ok s ctx l _ s1 hv.wl hne h
  exact books_of_book ops s l ctx.now ctx.height x s1 hv hx hb

theorem iter_books (ops : FloatOps) (s : St) (ctx : Ctx) (ct : Bool) (l : Locker) (hv : Live s l)
    (hf : sweepFine s ctx (some (ops.pow (xF s.coll.lsr) (yF (ctx.now - clock s l)))) = true) :
    ∃ s1 l1, iter s ctx s.coll.lsr s.coll.bt ct (some (ops.pow (xF s.coll.lsr) (yF (ctx.now - clock s l)))) = some s1 ∧
      Books ops s l ctx.now s1 l1 ∧ l1.bh = (if ct then ctx.height else 0) ∧ s1.coll = s.coll := by
  obtain ⟨x, s1, hx, hit, hb⟩ := iter_fine s ctx ct _ l hv.lk hf
  obtain ⟨l1, b⟩ := books_of_book ops s l ctx.now _ x s1 hv hx hb
  exact ⟨s1, l1, hit, b⟩

/-- every message at a running rate is one accrual into the books, then `op.after` -/
theorem msg_books (ops : FloatOps) (s : St) (ctx : Ctx) (l : Locker) (op : Op) (s' : St) (hv : Live s l) (hne : s.coll.lsr ≠ 0)
    (hm : op.isMsg = true) (h : stepWith ops s ctx op = .ok s') :
    ∃ s1 l1, Books ops s l ctx.now s1 l1 ∧ l1.bh = ctx.height ∧ s1.coll = s.coll ∧ s' = op.after ctx s1 := by
  unfold stepWith at h
  rw [powOf_some ops s ctx l hv.lk] at h
  obtain ⟨l', s1, hl', ha, e⟩ := step_msg_ok s ctx _ _ s' hm h
  cases hv.lk.symm.trans hl'
  obtain ⟨l1, b, hbh, hc⟩ := accrue_books ops s ctx l s1 hv hne ha
  exact ⟨s1, l1, b, hbh, hc, e⟩

theorem calc_books (ops : FloatOps) (s : St) (ctx : Ctx) (l : Locker) (s1 : St) (hv : Live s l) (hne : s.coll.lsr ≠ 0)
    (h : stepWith ops s ctx .rewardCalc = .ok s1) :
    ∃ l1, Books ops s l ctx.now s1 l1 ∧ l1.bh = ctx.height ∧ s1.coll = s.coll := by
  obtain ⟨_, l1, b, hbh, hc, rfl⟩ := msg_books ops s ctx l _ s1 hv hne rfl h
  exact ⟨l1, b, hbh, hc⟩

theorem after_calc (ops : FloatOps) (s s1 : St) (l l1 : Locker) (ctx : Ctx) (hv : Live s l) (hh : ctx.height ≠ 0)
    (b : Books ops s l ctx.now s1 l1) (hbh : l1.bh = ctx.height) (hc : s1.coll = s.coll) :
    Live s1 l1 ∧ clock s1 l1 = ctx.now :=
  ⟨⟨b.wl.trans hv.wl, hc ▸ hv.rate, b.lk, by have := hv.net; have := b.ret; have := b.net; omega, b.tr0⟩,
   by unfold clock; rw [hbh, b.bt]; exact since_stamped _ _ _ hh⟩

theorem lsr_running_books (ops : FloatOps) (s : St) (ctx : Ctx) (nr : Dec) (l : Locker) (hv : Live s l) (hne : s.coll.lsr ≠ 0)
    (hnr : 0 ≤ nr) (hf : sweepFine s ctx (powOf ops s ctx) = true) :
    ∃ s1 l1, stepWith ops s ctx (.lsrUpdate nr) = .ok s1 ∧ Books ops s l ctx.now s1 l1 ∧
      l1.bh = (if nr = 0 then 0 else ctx.height) ∧ s1.coll = ⟨nr, if nr = 0 then 0 else ctx.height, ctx.now⟩ := by
  unfold stepWith
  rw [step_lsr_running s ctx nr _ hv.wl hv.rate hne hnr]
  rw [powOf_some ops s ctx l hv.lk] at hf ⊢
  obtain ⟨s1, l1, hit, b, hbh, _⟩ := iter_books ops s ctx (decide (nr ≠ 0)) l hv hf
  rw [hit]
  exact ⟨_, l1, rfl, ⟨b.span, b.booked, b.wl, b.tr0, b.tr1, b.lk, b.bt, b.ret, b.net, b.fees⟩,
    hbh.trans (by by_cases h : nr = 0 <;> simp [h]), rfl⟩

theorem lsr_switch_on (s : St) (ctx : Ctx) (nr : Dec) (pw : Option Int) (hw : s.wl = true) (hz : s.coll.lsr = 0) (hn : nr ≠ 0) :
    step s ctx (.lsrUpdate nr) pw = .ok { s with coll := ⟨nr, ctx.height, ctx.now⟩ } ∧
    ∀ l, s.locker = some l → l.bh = 0 → clock { s with coll := ⟨nr, ctx.height, ctx.now⟩ } l = ctx.now := by
  have hst := step_lsr s ctx nr pw hw
  rw [if_neg hn, if_pos hz] at hst
  refine ⟨hst, fun l _ hb => ?_⟩
  show since ctx.now l.bh l.bt = ctx.now
  rw [hb]; exact since_flag _ _

theorem rewardCalc_at_zero (s : St) (ctx : Ctx) (pw : Option Int) (hz : s.coll.lsr = 0) :
    (step s ctx .rewardCalc pw).getD s = s := by
  unfold step
  simp only []
  split
  · rfl
  · rename_i l _
    rw [accrue_idle s ctx l pw (Or.inr hz)]; rfl

theorem runWith_calcs_at_zero (ops : FloatOps) : ∀ (w : List (Ctx × Op)) (s : St), s.coll.lsr = 0 →
    (∀ p ∈ w, p.2 = Op.rewardCalc) → runWith ops s w = s
  | [], _, _, _ => rfl
  | (ctx, op) :: w, s, hz, hw => by
    have e : op = .rewardCalc := hw (ctx, op) (by simp)
    subst e
    unfold runWith
    have : (stepWith ops s ctx .rewardCalc).getD s = s := rewardCalc_at_zero s ctx _ hz
    rw [this]
    exact runWith_calcs_at_zero ops w s hz (fun p hp => hw p (by simp [hp]))

theorem booked_restamp (s1 : St) (ctx : Ctx) (d : Int) : booked (restamp s1 ctx d) = booked s1 := by
  unfold restamp booked
  cases h : s1.locker with
  | none => simp [h]
  | some l => simp

/-! ## with the repair of D45 the time budget holds for ALL histories -/

theorem accrue_coll (s : St) (ctx : Ctx) (l : Locker) (pw : Option Int) (s1 : St) (h : accrue s ctx l pw = .ok s1) :
    s1.coll = s.coll ∧ s1.wl = s.wl := by
  by_cases hw : s.wl = true
  · by_cases hz : s.coll.lsr = 0
    · rw [accrue_idle s ctx l pw (Or.inr hz)] at h; injection h with h; subst h; exact ⟨rfl, rfl⟩
    · obtain ⟨a, b, _⟩ := accrue_running s ctx l pw s1 hw hz h; exact ⟨b, a⟩
  · rw [accrue_idle s ctx l pw (Or.inl (by simpa using hw))] at h; injection h with h; subst h; exact ⟨rfl, rfl⟩

theorem restampFix_running (s1 : St) (ctx : Ctx) (d : Int) (h : s1.coll.lsr ≠ 0) : restampFix s1 ctx d = restamp s1 ctx d := by
  unfold restampFix restamp
  cases s1.locker with
  | none => rfl
  | some l => simp [h]

def Op.isMove : Op → Bool
  | .deposit _ | .withdraw _ => true
  | _ => false

theorem movement_cases (s : St) (ctx : Ctx) (op : Op) (pw : Option Int) (hop : op.isMove = true) :
    (stepFix s ctx op pw = .err ∧ step s ctx op pw = .err) ∨
    ∃ l d, s.locker = some l ∧ stepFix s ctx op pw = (accrue s ctx l pw).map (fun s1 => restampFix s1 ctx d) ∧
      step s ctx op pw = (accrue s ctx l pw).map (fun s1 => restamp s1 ctx d) := by
  cases op <;> try cases hop
  all_goals (unfold stepFix step; simp only [])
  case deposit a =>
    split
    · exact Or.inl ⟨rfl, rfl⟩
    · split
      · exact Or.inl ⟨rfl, rfl⟩
      · exact Or.inr ⟨_, a, ‹_›, rfl, rfl⟩
  case withdraw a =>
    split
    · exact Or.inl ⟨rfl, rfl⟩
    · split
      · exact Or.inl ⟨rfl, rfl⟩
      · split
        · exact Or.inl ⟨rfl, rfl⟩
        · exact Or.inr ⟨_, -a, ‹_›, rfl, rfl⟩

theorem stepFix_other (s : St) (ctx : Ctx) (op : Op) (pw : Option Int)
    (h : ∀ a, op ≠ .deposit a ∧ op ≠ .withdraw a) : stepFix s ctx op pw = step s ctx op pw := by
  cases op with
  | deposit a => exact absurd rfl (h a).1
  | withdraw a => exact absurd rfl (h a).2
  | create _ => rfl
  | close => rfl
  | rewardCalc => rfl
  | lsrUpdate _ => rfl
  | wlOn => rfl
  | wlOff => rfl

theorem stepFix_running (s : St) (ctx : Ctx) (op : Op) (pw : Option Int) (h : s.coll.lsr ≠ 0) :
    stepFix s ctx op pw = step s ctx op pw := by
  by_cases hmv : op.isMove = true
  · rcases movement_cases s ctx op pw hmv with ⟨e1, e2⟩ | ⟨l, d, _, e1, e2⟩
    · rw [e1, e2]
    · rw [e1, e2]
      cases ha : accrue s ctx l pw with
      | ok s1 =>
        show Res.ok (restampFix s1 ctx d) = Res.ok (restamp s1 ctx d)
        rw [restampFix_running s1 ctx d (by rw [(accrue_coll s ctx l pw s1 ha).1]; exact h)]
      | err => rfl
      | panic => rfl
  · exact stepFix_other s ctx op pw fun a => ⟨fun e => hmv (e ▸ rfl), fun e => hmv (e ▸ rfl)⟩

theorem fresh_moveFix (s : St) (ctx : Ctx) (op : Op) (pw : Option Int) (s' : St) (ho : Ok s) (hz : s.coll.lsr = 0)
    (hop : op.isMove = true) (hs : stepFix s ctx op pw = .ok s') : Fresh s' ctx.now := by
  rcases movement_cases s ctx op pw hop with ⟨e1, _⟩ | ⟨l, d, hl, e1, _⟩
  · rw [e1] at hs; cases hs
  · rw [e1, accrue_idle s ctx l pw (Or.inr hz)] at hs
    cases hs
    show Fresh (restampFix s ctx d) _
    unfold restampFix
    rw [hl]
    exact Fresh.stamped ho.wl ho.rate rfl rfl rfl (fun h => absurd hz h) (fun _ => if_pos hz)

/-- the same of the repaired model, without the restriction on deposit / withdraw: everything except those two at rate zero is a
step of the unrepaired model that `opCond` allows -/
theorem stepFix_fresh (s : St) (ctx : Ctx) (op : Op) (pw : Option Int) (s' : St) (ho : Ok s) (hh : ctx.height ≠ 0)
    (hop : opCondFix s ctx op pw = true) (hw : op ≠ .wlOn) (hs : stepFix s ctx op pw = .ok s') : Fresh s' ctx.now := by
  by_cases hmv : op.isMove = true
  · by_cases hz : s.coll.lsr = 0
    · exact fresh_moveFix s ctx op pw s' ho hz hmv hs
    · rw [stepFix_running s ctx op pw hz] at hs
      refine step_fresh s ctx op pw s' ho hh ?_ hw hs
      cases op with
      | deposit | withdraw => simpa [opCond] using hz
      | _ => exact Bool.noConfusion hmv
  · rw [stepFix_other s ctx op pw fun a => ⟨fun e => hmv (e ▸ rfl), fun e => hmv (e ▸ rfl)⟩] at hs
    refine step_fresh s ctx op pw s' ho hh ?_ hw hs
    cases op with
    | deposit | withdraw => exact absurd rfl hmv
    | _ => exact hop

theorem inv_stepFix (r : Dec) (hr : r ≠ 0) (s : St) (g : Ghost) (ctx : Ctx) (op : Op) (pw : Option Int)
    (hi : Inv r s g) (hg : goodStepFix s g.last ctx op pw = true) :
    Inv r ((stepFix s ctx op pw).getD s) (gstepFix r s g ctx op pw) := by
  unfold goodStepFix at hg
  simp only [Bool.and_eq_true, decide_eq_true_eq] at hg
  obtain ⟨⟨ht, hh⟩, hop⟩ := hg
  have hi1 := inv_time r s g ctx.now hi ht
  by_cases hw : op = .wlOn
  · subst hw; exact inv_op_wlOn r s _ ctx pw hi1 rfl
  · exact inv_res hr hi1 (stepFix s ctx op pw) (accrues s op) fun s' => stepFix_fresh s ctx op pw s' hi.ok hh hop hw

theorem inv_runFix (r : Dec) (hr : r ≠ 0) : ∀ (h : Hist) (s : St) (g : Ghost), Inv r s g → goodHistFix s g.last h = true →
    Inv r (grunFix r s g h).1 (grunFix r s g h).2
  | [], _, _, hi, _ => hi
  | (ctx, op, pw) :: h, s, g, hi, hg => by
    unfold goodHistFix at hg
    simp only [Bool.and_eq_true] at hg
    unfold grunFix
    exact inv_runFix r hr h _ _ (inv_stepFix r hr s g ctx op pw hi hg.1) hg.2

end Comdex.LockerAccrual
