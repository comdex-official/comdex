import Comdex.Model.LendAccrual
import Comdex.Lemmas.Accrual
/-!
The accrual bookkeeping of `Model/LendAccrual.lean` — the model C08 uses for `IterateLends` / `IterateBorrow`, and C18 for
the positions' clocks: the reward tracker loses nothing, an accrual at zero elapsed time is the identity.
-/
namespace Comdex.Lend
open Comdex.LendRates

/-- the model writes the rule of `Accrual.trackerStep` out again -/
theorem accrueLend_ok (a : AccL) (n : Int) (apr : Dec) (now : Int) (per gi' : Dec)
    (h : lendReward n apr a.gi now a.last = .ok [per, gi']) :
    accrueLend a n apr now =
      { reward := (Accrual.trackerStep a.tracker per).1, gi := gi', tracker := (Accrual.trackerStep a.tracker per).2,
        panicked := false } := by
  unfold accrueLend Accrual.trackerStep
  rw [h]
  simp only
  split <;> rfl

theorem accrueBorrow_variable (a : AccB) (n : Int) (apr rr : Dec) (now : Int) (dI g dR rg : Dec)
    (h : borrowInterest n apr rr a.gi a.rgi now a.last = .ok [dI, g, dR, rg]) :
    accrueBorrow a n false apr (some rr) now = { ext := .val dI dR, gi := g, rgi := rg } := by
  unfold accrueBorrow; simp only [h, Bool.false_eq_true, if_false]

theorem elapsed_self (now : Int) : elapsed now now = 0 := by
  unfold elapsed; split <;> simp

theorem lendReward_ok (n : Int) (r gi : Dec) (now prev : Int) (ht : 0 ≤ elapsed now prev) (hg : gi ≠ 0) :
    lendReward n r gi now prev = .ok [indexInterest n r gi (elapsed now prev), indexNext r gi (elapsed now prev)] := by
  simp [lendReward, not_lt.mpr ht, hg]

theorem stableBorrowInterest_ok (n : Int) (r : Dec) (now prev : Int) (ht : 0 ≤ elapsed now prev) :
    stableBorrowInterest n r now prev = .ok [stableInterest n r (elapsed now prev)] := by
  simp [stableBorrowInterest, not_lt.mpr ht]

theorem borrowInterest_ok (n : Int) (r rr gi rgi : Dec) (now prev : Int) (ht : 0 ≤ elapsed now prev) (hg : gi ≠ 0) (hrg : rgi ≠ 0) :
    borrowInterest n r rr gi rgi now prev =
      .ok [indexInterest n r gi (elapsed now prev), indexNext r gi (elapsed now prev),
           indexInterest n rr rgi (elapsed now prev), indexNext rr rgi (elapsed now prev)] := by
  simp [borrowInterest, not_lt.mpr ht, hg, hrg]

theorem accrueBorrow_span (a : AccB) (n : Int) (apr rr : Dec) (now secs : Int) (e : elapsed now a.last = secs) (hs : 0 ≤ secs)
    (hg : 0 < a.gi) (hrg : 0 < a.rgi) :
    accrueBorrow a n false apr (some rr) now =
      { ext := .val (indexInterest n apr a.gi secs) (indexInterest n rr a.rgi secs),
        gi := indexNext apr a.gi secs, rgi := indexNext rr a.rgi secs } := by
  subst e
  exact accrueBorrow_variable a _ _ _ _ _ _ _ _ (borrowInterest_ok n apr rr _ _ now _ hs (ne_of_gt hg) (ne_of_gt hrg))

/-- **an accrual at zero elapsed time is the identity** (the second `IterateBorrow` of a deposit-and-draw): nothing is charged and the
indices stay, for positive indices -/
theorem accrueBorrow_zero_elapsed (a : AccB) (amountOut : Int) (stable : Bool) (apr rr : Dec) (now : Int)
    (hgi : 0 < a.gi) (hrgi : 0 < a.rgi) (_ham : 0 ≤ amountOut) (_hsr : 0 ≤ a.stableRate) (hnow : elapsed now a.last = 0) :
    accrueBorrow a amountOut stable apr (some rr) now = { ext := .val 0 0, gi := a.gi, rgi := a.rgi } := by
  have bi : borrowInterest amountOut apr rr a.gi a.rgi now a.last = .ok [0, a.gi, 0, a.rgi] := by
    rw [borrowInterest_ok _ _ _ _ _ _ _ (le_of_eq hnow.symm) (ne_of_gt hgi) (ne_of_gt hrgi), hnow,
      indexInterest_zero _ _ _ hgi, indexInterest_zero _ _ _ hrgi, indexNext_zero, indexNext_zero]
  cases stable
  · exact accrueBorrow_variable a _ _ _ _ _ _ _ _ bi
  · have si : stableBorrowInterest amountOut a.stableRate now a.last = .ok [0] := by
      rw [stableBorrowInterest_ok _ _ _ _ (le_of_eq hnow.symm), hnow, stableInterest_zero]
    unfold accrueBorrow
    simp [bi, si]

end Comdex.Lend
