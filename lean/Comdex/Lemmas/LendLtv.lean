import Comdex.Lemmas.VaultRatio
import Comdex.Lemmas.DecRound
import Comdex.Lemmas.LendEffects
/-!
Exact-rational content of the lend LTV check (C08): `collRatio` is `Quo(valueOf debt, valueOf collateral)` with the same `valueOf`
as the vault ratio (`Dec(amt)·Dec(price)/Dec(decimals)`), so the integer bounds of `Lemmas/VaultRatio.lean` apply; here the accept
decision is an UPPER bound on the ratio.  Also what an accepted `calcPrice` and an inter-pool `borrowNew` computed, in terms of
`Vault.valueOf` (on `Lemmas/LendEffects.lean`).  On Mathlib tactics, through `DecRound` (not linked into the driver).
-/
namespace Comdex.Lend
open Comdex.Dec Comdex.Vault

/-- here and not with the other `_ok` lemmas because it speaks of `Vault.valueOf` -/
theorem calcPrice_ok {cfg : Cfg} {prices : List (Nat × Nat)} {id : Nat} {amt : Int} {v : Dec} (h : calcPrice cfg prices id amt = .ok v) :
    ∃ a twa, cfg.asset? id = some a ∧ prices.lookup id = some twa ∧ a.decimals ≠ 0 ∧ v = valueOf amt twa a.decimals := by
  unfold calcPrice at h
  split at h
  · cases h
  · split at h
    · cases h
    · split at h
      · cases h
      · simp only [Except.ok.injEq] at h
        exact ⟨_, _, ‹_›, ‹_›, ‹_›, h.symm⟩

theorem valueOf_pos {amt : Int} {price : Nat} {dec : Int} (ha : 0 ≤ amt) (hd : 0 < dec) (hne : valueOf amt price dec ≠ 0) :
    0 < valueOf amt price dec := by
  rw [valueOf_eq amt] at hne ⊢
  have hP := Dec.P_pos
  exact lt_of_le_of_ne (chopRound_tdiv_nonneg (by positivity) hd) (Ne.symm hne)

/-- the three roundings chained: `L ≤ 2·dOut·P·vout` (debt value from below), `2·dIn·P·vin ≤ U` (collateral value from above),
`2·vout·P² < A·vin` (the final quotient) -/
theorem ltv_chain {L U A vout vin dIn dOut : Int} (hdi : 0 < dIn) (hdo : 0 < dOut) (hA : 0 ≤ A)
    (hlo : L ≤ 2 * dOut * P * vout) (hup : 2 * dIn * P * vin ≤ U) (hq : 2 * (vout * PP) < A * vin) :
    L * dIn * (2 * PP) < A * U * dOut := by
  have hP := Dec.P_pos
  have hPP : (0 : Int) < PP := Int.mul_pos hP hP
  have h1 := Int.mul_le_mul_of_nonneg_right hlo (show 0 ≤ dIn * (2 * PP) by positivity)
  have h2 := Int.mul_lt_mul_of_pos_right hq (show 0 < 2 * dOut * P * dIn by positivity)
  have h3 := Int.mul_le_mul_of_nonneg_right (Int.mul_le_mul_of_nonneg_left hup hA) (Int.le_of_lt hdo)
  linarith

theorem exactLtv_of_ratio (ltv coll debt : Int) (pin pout : Nat) (dIn dOut : Int) (hdi : 0 < dIn) (hdo : 0 < dOut)
    (hc : 0 ≤ coll) (hd : 0 ≤ debt) (hl : 0 ≤ ltv) (hne : valueOf coll pin dIn ≠ 0)
    (h : Dec.quo (valueOf debt pout dOut) (valueOf coll pin dIn) ≤ ltv) :
    ExactLtv ltv coll pin dIn debt pout dOut := by
  have hP := Dec.P_pos
  have hq := lt_of_quo_le _ _ ltv (valueOf_pos hc hdi hne) h
  rw [valueOf_eq coll, valueOf_eq debt] at hq
  exact ltv_chain hdi hdo (by positivity) (value_lower _ _ (by positivity) hdo) (value_upper _ _ (by positivity) hdi) hq

/-- **with decimal scales dividing `10^18`** only the final division rounds -/
theorem exactLtvScales_of_ratio (ltv coll debt : Int) (pin pout : Nat) (dIn dOut : Int) (hdi : 0 < dIn) (hdo : 0 < dOut)
    (hsi : dIn ∣ P) (hso : dOut ∣ P) (hc : 0 ≤ coll) (hne : valueOf coll pin dIn ≠ 0)
    (h : Dec.quo (valueOf debt pout dOut) (valueOf coll pin dIn) ≤ ltv) :
    ExactLtvScales ltv coll pin dIn debt pout dOut := by
  have ein := valueOf_exact coll pin dIn hdi hsi
  have eout := valueOf_exact debt pout dOut hdo hso
  have hq := Int.mul_lt_mul_of_pos_left (lt_of_quo_le _ _ ltv (valueOf_pos hc hdi hne) h) (Int.mul_pos hdi hdo)
  -- times dIn·dOut, exact values in, cancel P
  generalize valueOf coll pin dIn = vin at *
  generalize valueOf debt pout dOut = vout at *
  have e1 : dIn * dOut * (2 * (vout * PP)) = P * (2 * (debt * (pout : Int) * dIn) * PP) := by
    rw [show dIn * dOut * (2 * (vout * PP)) = 2 * (vout * dOut) * dIn * PP by ring, eout]; ring
  have e2 : dIn * dOut * (((2 * ltv + 1) * P + 2) * vin) = P * (((2 * ltv + 1) * P + 2) * (coll * (pin : Int) * dOut)) := by
    rw [show dIn * dOut * (((2 * ltv + 1) * P + 2) * vin) = ((2 * ltv + 1) * P + 2) * (vin * dIn) * dOut by ring, ein]; ring
  rw [e1, e2] at hq
  exact lt_of_mul_lt_mul_left hq (Int.le_of_lt Dec.P_pos)

/-- the bridged quantity is `trunc(Quo(value(trunc(aIn·ltv)), unit value of the transit asset))` -/
theorem borrowNew_inter_shape {cfg : Cfg} {s s' : State} {u : Nat} {l : Lend} {pair : PairCfg} {rates : RatesCfg} {stable : Bool}
    {dIn : Nat} {aIn : Int} {dOut : Nat} {aOut : Int} (h : borrowNew cfg s u l pair rates stable dIn aIn dOut aOut = .ok s')
    (hi : pair.inter = true) :
    ∃ v unit transit rt r brd bank',
      calcPrice cfg s.prices l.asset (Dec.truncateInt (Dec.mul (Dec.ofInt aIn) (C08.ltvOf pair rates))) = .ok v ∧
      calcPrice cfg s.prices transit 1 = .ok unit ∧ unit ≠ 0 ∧ cfg.rates? transit = some rt ∧
      collRatio cfg s.prices (Dec.truncateInt (Dec.quo v unit)) transit aOut pair.assetOut = .ok r ∧ r ≤ rt.ltv ∧
      s' = openBorrow s l pair stable dIn aIn dOut aOut brd (Dec.truncateInt (Dec.quo v unit)) bank' := by
  obtain ⟨e, rfl⟩ := borrowNew_ok h
  obtain ⟨hf, -⟩ | ⟨-, -, v, hv, tu, r1, hr1, r2, hr2, hq, -⟩ := e.bridge
  · cases hi.symm.trans hf
  · obtain ⟨-, hcr, ht, hq⟩ | ⟨-, -, hcr, ht, hq⟩ := hq <;> obtain ⟨r, hr, hle⟩ := verifyCR_ok hcr
    · exact ⟨v, tu.unit1, _, r1, r, _, e.bank, hv, tu.price1, tu.ne1, hr1, hr, hle, by rw [hq]⟩
    · exact ⟨v, tu.unit2, _, r2, r, _, e.bank, hv, tu.price2, tu.ne2, hr2, hr, hle, by rw [hq]⟩

/-- the three roundings between the pledged amount and the bridged quantity, each with its slack:
`tin = ⌊aIn·ltv⌋` (truncation), `v = valueOf tin` (+½u), `q = ⌊Quo(v, unit)⌋` (+½u, truncation) -/
theorem bridged_chain (aIn ltv : Int) (pin : Nat) (dIn unit v : Int) (ha : 0 ≤ aIn) (hl : 0 ≤ ltv) (hdi : 0 < dIn) (hu : 0 < unit)
    (hv : v = valueOf (Dec.truncateInt (Dec.mul (Dec.ofInt aIn) ltv)) pin dIn) :
    let tin := Dec.truncateInt (Dec.mul (Dec.ofInt aIn) ltv)
    let q := Dec.truncateInt (Dec.quo v unit)
    tin * P ≤ aIn * ltv ∧ 2 * dIn * P * v ≤ 2 * (tin * (pin : Int) * P * P) + dIn * P ∧ 0 ≤ q ∧ 2 * unit * P * q ≤ 2 * P * v + unit := by
  intro tin q
  have hal := Int.mul_nonneg ha hl
  have htin : tin = Dec.truncateInt (aIn * ltv) := by
    show Dec.truncateInt (Dec.mul (Dec.ofInt aIn) ltv) = _
    rw [Dec.ofInt_mul]
  have h0 : 0 ≤ tin := htin ▸ truncateInt_nonneg hal
  have hP := Int.le_of_lt Dec.P_pos
  have hn : (0 : Int) ≤ tin * (pin : Int) * P * P := Int.mul_nonneg (Int.mul_nonneg (Int.mul_nonneg h0 (Int.natCast_nonneg pin)) hP) hP
  rw [valueOf_eq _ pin dIn] at hv
  have hv0 : 0 ≤ v := hv ▸ chopRound_tdiv_nonneg hn hdi
  have hq0 := Dec.quo_nonneg v unit hv0 hu
  -- `q·10¹⁸ ≤ Quo(v, unit)`, times `2·unit`, under `quo_upper`
  have hq := Int.mul_le_mul_of_nonneg_left (truncateInt_mul_le hq0) (Int.le_of_lt (Int.mul_pos (by decide : (0 : Int) < 2) hu))
  exact ⟨htin ▸ truncateInt_mul_le hal, hv ▸ value_upper _ _ hn hdi, truncateInt_nonneg hq0,
    by linarith [Dec.quo_upper v unit hv0 hu]⟩

end Comdex.Lend
