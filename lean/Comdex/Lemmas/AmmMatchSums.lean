import Comdex.Lemmas.AmmMatch
/-!
Sums over the orders of a tick and the ticks of a side between two states (base coin `filledOf`, quote coin `quoteOf`, fills
`fillsOf`), and the rounding law of the quote coin (`RoundedIn`: one additive statement for buyers and sellers) with the dust
bound of both sides (`DustBound`).
-/
namespace Comdex.Amm

/-! ## sums over two lists, position by position -/

theorem zsum_self {α : Type} {f : α → α → Int} (hf : ∀ a, f a a = 0) (l : List α) : sumInt (List.zipWith f l l) = 0 := by
  induction l with
  | nil => rfl
  | cons a as ih => simp only [List.zipWith_cons_cons, sumInt, hf, ih]; rfl

theorem zsum_congr {α β : Type} {R : α → β → Prop} {f g : α → β → Int} (hfg : ∀ x y, R x y → f x y = g x y)
    {a : List α} {b : List β} (h : All2 R a b) : sumInt (List.zipWith f a b) = sumInt (List.zipWith g a b) := by
  fun_induction All2 R a b with
  | case1 => rfl
  | case2 x as y bs ih => simp only [List.zipWith_cons_cons, sumInt, ih h.2, hfg x y h.1]
  | case3 => exact h.elim

/-- a quantity that telescopes along `R` then `S` adds up over the lists -/
theorem zsum_trans {α : Type} {R S : α → α → Prop} {f : α → α → Int}
    (hf : ∀ x y z, R x y → S y z → f x z = f x y + f y z) {a b c : List α} (h₁ : All2 R a b) (h₂ : All2 S b c) :
    sumInt (List.zipWith f a c) = sumInt (List.zipWith f a b) + sumInt (List.zipWith f b c) := by
  fun_induction All2 R a b generalizing c with
  | case1 => cases c with
    | nil => rfl
    | cons _ _ => exact h₂.elim
  | case2 x as y bs ih => cases c with
    | nil => exact h₂.elim
    | cons z cs =>
      simp only [List.zipWith_cons_cons, sumInt, ih h₁.2 h₂.2, hf x y z h₁.1 h₂.1]; omega
  | case3 => exact h₁.elim

theorem zsum_append {α β : Type} (f : α → β → Int) {a a' : List α} {b b' : List β} (h : a.length = b.length) :
    sumInt (List.zipWith f (a ++ a') (b ++ b')) = sumInt (List.zipWith f a b) + sumInt (List.zipWith f a' b') := by
  rw [List.zipWith_append h, sumInt_append]

theorem zsum_sub {α β : Type} (f g : α → β → Int) (a : List α) (b : List β) :
    sumInt (List.zipWith f a b) - sumInt (List.zipWith g a b) = sumInt (List.zipWith (fun x y => f x y - g x y) a b) := by
  induction a generalizing b with
  | nil => rfl
  | cons x xs ih => cases b with
    | nil => rfl
    | cons y ys => simp only [List.zipWith_cons_cons, sumInt, ← ih]; omega

theorem zsum_map {α : Type} (g : α → α → Int) (f : α → α) (l : List α) :
    sumInt (List.zipWith g l (l.map f)) = sumInt (l.map fun a => g a (f a)) := by
  rw [List.zipWith_map_right, List.zipWith_self]

theorem zsum_zero {α β : Type} (a : List α) (b : List β) : sumInt (List.zipWith (fun _ _ => (0 : Int)) a b) = 0 := by
  induction a generalizing b with
  | nil => rfl
  | cons x xs ih => cases b with
    | nil => rfl
    | cons y ys => simp only [List.zipWith_cons_cons, sumInt, ih]; rfl

theorem zsum_zip (g : Order × Order → Int) (a b : List Order) :
    sumInt ((a.zip b).map g) = sumInt (List.zipWith (fun o o' => g (o, o')) a b) := by
  rw [List.zip_eq_zipWith, List.map_zipWith]

/-! ## what the orders of a list, and the ticks of a side, moved between two states -/

/-- base coin that went through the orders of a list between two states -/
def filledOf (os os' : List Order) : Int := sumInt (List.zipWith (fun o o' => o.opn - o'.opn) os os')

/-- quote coin paid by the buyers minus quote coin received by the sellers of a list between two states -/
def quoteOf (os os' : List Order) : Int :=
  sumInt (List.zipWith (fun o o' => if o.dir = .buy then o'.paid - o.paid else o.received - o'.received) os os')

/-- number of `FillOrder` calls that touched the orders of a list between two states (ghost) -/
def fillsOf (os os' : List Order) : Int := sumInt (List.zipWith (fun o o' => (o'.fills : Int) - o.fills) os os')

def ticksFilled (ts ts' : List Tick) : Int := sumInt (List.zipWith (fun t t' => filledOf t.orders t'.orders) ts ts')
def ticksQuote (ts ts' : List Tick) : Int := sumInt (List.zipWith (fun t t' => quoteOf t.orders t'.orders) ts ts')
def ticksFills (ts ts' : List Tick) : Int := sumInt (List.zipWith (fun t t' => fillsOf t.orders t'.orders) ts ts')

theorem filledOf_self (os : List Order) : filledOf os os = 0 := zsum_self (fun o => Int.sub_self o.opn) os
theorem quoteOf_self (os : List Order) : quoteOf os os = 0 := zsum_self (fun _ => by split <;> omega) os
theorem fillsOf_self (os : List Order) : fillsOf os os = 0 := zsum_self (fun o => Int.sub_self (o.fills : Int)) os

theorem ticksFilled_self (ts : List Tick) : ticksFilled ts ts = 0 :=
  zsum_self (f := fun (t t' : Tick) => filledOf t.orders t'.orders) (fun _ => filledOf_self _) ts
theorem ticksQuote_self (ts : List Tick) : ticksQuote ts ts = 0 :=
  zsum_self (f := fun (t t' : Tick) => quoteOf t.orders t'.orders) (fun _ => quoteOf_self _) ts
theorem ticksFills_self (ts : List Tick) : ticksFills ts ts = 0 :=
  zsum_self (f := fun (t t' : Tick) => fillsOf t.orders t'.orders) (fun _ => fillsOf_self _) ts

theorem ticksFilled_cons (t t' : Tick) (ts ts' : List Tick) :
    ticksFilled (t :: ts) (t' :: ts') = filledOf t.orders t'.orders + ticksFilled ts ts' := rfl

theorem ticksQuote_cons (t t' : Tick) (ts ts' : List Tick) :
    ticksQuote (t :: ts) (t' :: ts') = quoteOf t.orders t'.orders + ticksQuote ts ts' := rfl

theorem ticksFills_cons (t t' : Tick) (ts ts' : List Tick) :
    ticksFills (t :: ts) (t' :: ts') = fillsOf t.orders t'.orders + ticksFills ts ts' := rfl

theorem orders_sums_add {a b c : List Order} (h₁ : All2 Reach a b) (h₂ : All2 Reach b c) :
    filledOf a c = filledOf a b + filledOf b c ∧ quoteOf a c = quoteOf a b + quoteOf b c ∧
    fillsOf a c = fillsOf a b + fillsOf b c := by
  refine ⟨zsum_trans (fun _ _ _ _ _ => by omega) h₁ h₂, zsum_trans ?_ h₁ h₂, zsum_trans (fun _ _ _ _ _ => by omega) h₁ h₂⟩
  intro x y z r _
  simp only [r.dir_eq]
  split <;> omega

theorem ticks_sums_add {a b c : List Tick} (h₁ : All2 TickReach a b) (h₂ : All2 TickReach b c) :
    ticksFilled a c = ticksFilled a b + ticksFilled b c ∧ ticksQuote a c = ticksQuote a b + ticksQuote b c ∧
    ticksFills a c = ticksFills a b + ticksFills b c :=
  ⟨zsum_trans (f := fun (t t' : Tick) => filledOf t.orders t'.orders) (fun _ _ _ r s => (orders_sums_add r.2 s.2).1) h₁ h₂,
   zsum_trans (f := fun (t t' : Tick) => quoteOf t.orders t'.orders) (fun _ _ _ r s => (orders_sums_add r.2 s.2).2.1) h₁ h₂,
   zsum_trans (f := fun (t t' : Tick) => fillsOf t.orders t'.orders) (fun _ _ _ r s => (orders_sums_add r.2 s.2).2.2) h₁ h₂⟩

/-! ## the rounding law

Base and quote coin are counted as signed flows into the batch: a buyer filled for `a` adds base `+a` and quote `+⌈p·a⌉`, a seller
base `−a` and quote `−⌊p·a⌋ = ⌈p·(−a)⌉`.  So every quote flow is its base flow valued at the price and rounded UP, whatever the
direction, and such flows add. -/

/-- `x` is the quote flow of the base flow `F` after `n` roundings up (each adds less than one unit), at prices in `[lo, hi]`: the
value is taken at `lo` below and at `hi` above; at one price `lo = hi` -/
def RoundedIn (lo hi F n x : Int) : Prop := 0 ≤ n ∧ lo * F ≤ x * Dec.P ∧ x * Dec.P ≤ hi * F + n * (Dec.P - 1)

theorem RoundedIn.zero (lo hi : Int) : RoundedIn lo hi 0 0 0 := by simp [RoundedIn]

theorem RoundedIn.add {lo hi F₁ n₁ x₁ F₂ n₂ x₂ : Int} (h₁ : RoundedIn lo hi F₁ n₁ x₁) (h₂ : RoundedIn lo hi F₂ n₂ x₂) :
    RoundedIn lo hi (F₁ + F₂) (n₁ + n₂) (x₁ + x₂) := by
  unfold RoundedIn at *
  simp only [Int.mul_add, Int.add_mul]; omega

theorem RoundedIn.of_zero {lo hi lo' hi' n x : Int} (h : RoundedIn lo hi 0 n x) : RoundedIn lo' hi' 0 n x := by
  unfold RoundedIn at *
  rwa [Int.mul_zero, Int.mul_zero] at *

theorem RoundedIn.congr {lo hi F n x F' n' x' : Int} (h : RoundedIn lo hi F n x) (e1 : F' = F) (e2 : n' = n) (e3 : x' = x) :
    RoundedIn lo hi F' n' x' := by subst e1 e2 e3; exact h

theorem RoundedIn.ceil (p a : Int) : RoundedIn p p a 1 (quoteCeil p a) :=
  ⟨by decide, le_quoteCeil_mul p a, by have := quoteCeil_mul_le p a; omega⟩

theorem RoundedIn.floor {p a : Int} (h : 0 ≤ p * a) : RoundedIn p p (-a) 1 (-quoteFloor p a) := by
  have := quoteFloor_mul_le p a h; have := le_quoteFloor_mul p a h
  unfold RoundedIn
  simp only [Int.mul_neg, Int.neg_mul]; omega

theorem RoundedIn.sum {α : Type} {p : Int} {f r : α → Int} (l : List α) (h : ∀ a ∈ l, RoundedIn p p (f a) 1 (r a)) :
    RoundedIn p p (sumInt (l.map f)) l.length (sumInt (l.map r)) := by
  induction l with
  | nil => exact RoundedIn.zero p p
  | cons a l ih =>
    exact ((h a (by simp)).add (ih fun x hx => h x (by simp [hx]))).congr rfl (by simp; omega) rfl

/-- the dust clause: a flow that moves no base coin on balance is what its roundings added — not negative, less than one unit per
rounding, hence below their number (0 when there is none) -/
theorem RoundedIn.dust {lo hi n x : Int} (h : RoundedIn lo hi 0 n x) :
    0 ≤ x ∧ x * Dec.P ≤ n * (Dec.P - 1) ∧ x < max n 1 := by
  obtain ⟨hn, h1, h2⟩ := h
  simp only [Int.mul_zero, Int.zero_add] at h1 h2
  have hP := Dec.P_pos
  refine ⟨Int.nonneg_of_mul_nonneg_left h1 hP, h2, ?_⟩
  -- otherwise `m = max n 1 ≤ x`, and `m·P ≤ x·P ≤ n·(P−1) ≤ m·(P−1)` with `1 ≤ m`
  by_contra hge
  have h3 : max n 1 * Dec.P ≤ x * Dec.P := Int.mul_le_mul_of_nonneg_right (by omega) (by omega)
  have h4 : n * (Dec.P - 1) ≤ max n 1 * (Dec.P - 1) := Int.mul_le_mul_of_nonneg_right (by omega) (by omega)
  simp only [Int.mul_sub, Int.mul_one] at h2 h4
  omega

/-- the sign of a direction's base flow into the batch -/
def Dir.sign : Dir → Int
  | .buy => 1
  | .sell => -1

/-- what one `FillOrder` adds to `quoteCoinDiff` -/
theorem fillRaw_rounded (o : Order) {a p : Int} (h : 0 ≤ p * a) : RoundedIn p p (o.dir.sign * a) 1 (fillRaw o a p).2 := by
  cases hd : o.dir with
  | buy => rw [fillRaw_buy hd]; exact (RoundedIn.ceil p a).congr (Int.one_mul a) rfl rfl
  | sell => rw [fillRaw_sell hd]; exact (RoundedIn.floor h).congr (by simp [Dir.sign]) rfl rfl

/-- the law of both sides together: `L ≥ 0` = base coin received by buyers − base coin paid by sellers, `n` fills, `q` the quote
difference, all trades at prices in `[lo, hi]` -/
def DustBound (lo hi L n q : Int) : Prop := 0 ≤ L ∧ RoundedIn lo hi L n q

theorem DustBound.zero (lo hi : Int) : DustBound lo hi 0 0 0 := ⟨Int.le_refl _, RoundedIn.zero lo hi⟩

theorem DustBound.add {lo hi L₁ n₁ q₁ L₂ n₂ q₂ : Int} (h₁ : DustBound lo hi L₁ n₁ q₁) (h₂ : DustBound lo hi L₂ n₂ q₂) :
    DustBound lo hi (L₁ + L₂) (n₁ + n₂) (q₁ + q₂) :=
  ⟨Int.add_nonneg h₁.1 h₂.1, h₁.2.add h₂.2⟩

theorem DustBound.widen {lo hi lo' hi' L n q : Int} (h : DustBound lo hi L n q) (h1 : lo' ≤ lo) (h2 : hi ≤ hi') :
    DustBound lo' hi' L n q := by
  obtain ⟨a1, a0, a2, a3⟩ := h
  have e1 : lo' * L ≤ lo * L := Int.mul_le_mul_of_nonneg_right h1 a1
  have e2 : hi * L ≤ hi' * L := Int.mul_le_mul_of_nonneg_right h2 a1
  exact ⟨a1, a0, by omega, by omega⟩

theorem DustBound.of_sides {p Fb nb qb Fs ns qs : Int} (hb : RoundedIn p p (Dir.buy.sign * Fb) nb qb)
    (hs : RoundedIn p p (Dir.sell.sign * Fs) ns qs) (hle : Fs ≤ Fb) : DustBound p p (Fb - Fs) (nb + ns) (qb + qs) :=
  ⟨by omega, (hb.add hs).congr (by simp [Dir.sign]; omega) rfl rfl⟩

theorem DustBound.congr {lo hi L n q L' n' q' : Int} (h : DustBound lo hi L n q) (e1 : L' = L) (e2 : n' = n) (e3 : q' = q) :
    DustBound lo hi L' n' q' := by subst e1 e2 e3; exact h

/-! ## fills at one price -/

/-- dust of one round: buyers `bs` and sellers `ss` (amounts) all filled at price `p` -/
def roundDust (p : Int) (bs ss : List Int) : Int :=
  sumInt (bs.map (quoteCeil p)) - sumInt (ss.map (quoteFloor p))

theorem roundDust_rounded (p : Int) (hp : 0 ≤ p) (bs ss : List Int) (hs : ∀ a ∈ ss, 0 ≤ a) :
    RoundedIn p p (sumInt bs - sumInt ss) ((bs.length : Int) + ss.length) (roundDust p bs ss) := by
  have h1 := RoundedIn.sum (f := fun a => a) (r := quoteCeil p) bs fun a _ => RoundedIn.ceil p a
  have h2 := RoundedIn.sum (f := fun a => -a) (r := fun a => -quoteFloor p a) ss fun a ha =>
    RoundedIn.floor (Int.mul_nonneg hp (hs a ha))
  rw [sumInt_map_neg, sumInt_map_neg (quoteFloor p)] at h2
  rw [List.map_id'] at h1 h2
  exact (h1.add h2).congr (by omega) rfl (by unfold roundDust; omega)

end Comdex.Amm
